import RxProofs.Lemmas.OpsElem
import RxModel.OpsVal
import RxProofs.Lemmas.OpsFbElem
/-!
# C05 — element-wise operators match their list semantics

For every operator `op` below:

    visible (op.run lag raw) = ref_op (elems raw) (fin raw)

for **every** raw input `raw` (conforming or not: emissions after a terminal, several terminals),
every user callback (`α → Except Err β`, raising wherever it likes), and both `lag = false` (the
subscriber's terminal disposes the source subscription at once) and `lag = true` (the disposal never
arrives: handlers keep being called after they emitted a terminal).  `elems raw` / `fin raw` are the
elements before the first terminal and how the sequence ended (the conforming view produced by the
upstream `AutoDetachObserver`).  `ref_op` is the list computation: `List.take`, `List.drop`,
`List.zip`, … directly, or for raising callbacks the reference loop of `RxModel/OpsRef.lean`, which
the `*_pure` theorems identify with `List.map`, `List.filter`, `List.takeWhile`, `List.dropWhile`,
`List.eraseDupsBy`, `List.eraseRepsBy`, `List.find?` for callbacks that do not raise.

Timing: `emitted_at` — what is delivered during the handler call of input `k` is the difference
between the semantics of the prefixes of length `k+1` and `k`; hence each output carries the time of
the input that determines it (the `*_timed` theorems).
-/

open Ops

namespace C05
variable {α β κ : Type}

/-- **run_eq_sem.** Subscriber-visible output = grammar cut of the handler outputs over the
conforming prefix, whatever the raw input and whether or not disposal lags. -/
theorem run_eq_sem (lag : Bool) (op : Op α β) (raw : List (Notif α)) :
    visible (op.run lag raw) = op.sem raw := run_sem lag op raw

/-- **lag_irrelevant.** Lagging disposal never changes what the subscriber sees. -/
theorem lag_irrelevant (op : Op α β) (raw : List (Notif α)) :
    visible (op.run true raw) = visible (op.run false raw) := by rw [run_sem, run_sem]

/-- **pipe_eq.** `source.pipe(a, b)` (with the real observer/disposal chain between the stages)
has the composed semantics. -/
theorem pipe_eq (lag : Bool) (a : Op α β) (b : Op β κ) (raw : List (Notif α)) :
    visible ((a.comp b).run lag raw) = b.sem (a.sem raw) := by rw [run_sem, sem_comp]

/-- what was delivered to the subscriber during the handler call of input `k` -/
def emittedAt (r : List (StepOut β)) (k : Nat) : List (Notif β) := (r[k + 1]?.map (·.vis)).getD []

/-- **timing.** After the handler call of the `k`-th input returned, the subscriber has seen exactly
the semantics of the first `k` inputs: later inputs cannot influence earlier outputs, and an output
cannot be late. -/
theorem timing (lag : Bool) (op : Op α β) (raw : List (Notif α)) (k : Nat) :
    visible ((op.run lag raw).take (k + 1)) = op.sem (raw.take k) := by
  rw [run_take, run_sem]

theorem visible_take_succ (r : List (StepOut β)) (k : Nat) :
    visible (r.take (k + 2)) = visible (r.take (k + 1)) ++ emittedAt r k := by
  unfold emittedAt visible
  by_cases h : k + 1 < r.length
  · have e : r.take (k + 1 + 1) = r.take (k + 1) ++ [r[k + 1]] := by
      rw [List.take_add_one]; simp [h]
    rw [show k + 2 = k + 1 + 1 from rfl, e]
    simp only [List.flatMap_append, List.flatMap_cons, List.flatMap_nil, List.append_nil,
      List.getElem?_eq_getElem h, Option.map_some, Option.getD_some]
  · have h1 : r.take (k + 2) = r := List.take_of_length_le (by omega)
    have h2 : r.take (k + 1) = r := List.take_of_length_le (by omega)
    rw [h1, h2]; simp [List.getElem?_eq_none (Nat.le_of_not_lt h)]

/-- **emitted_at.** The notifications delivered during the handler call of input `k` are exactly the
difference between the semantics of the prefixes of length `k+1` and `k`. -/
theorem emitted_at (lag : Bool) (op : Op α β) (raw : List (Notif α)) (k : Nat) :
    emittedAt (op.run lag raw) k = (op.sem (raw.take (k + 1))).drop (op.sem (raw.take k)).length := by
  have h := visible_take_succ (op.run lag raw) k
  rw [timing, timing] at h
  rw [h]; simp

theorem map_eq (lag : Bool) (f : α → Except Err β) (raw : List (Notif α)) :
    visible ((mapOp f).run lag raw) = refMap f (elems raw) (fin raw) := by rw [run_sem, sem_map]
theorem map_pure (lag : Bool) (g : α → β) (raw : List (Notif α)) :
    visible ((mapOp (fun x => .ok (g x))).run lag raw) = outSeq ((elems raw).map g) (fin raw) := by
  rw [map_eq, refMap_pure]

theorem map_indexed_eq (lag : Bool) (f : α → Nat → Except Err β) (raw : List (Notif α)) :
    visible ((mapIndexedOp f).run lag raw) = refMapIdx f 0 (elems raw) (fin raw) := by
  rw [run_sem, sem_mapIndexed]
theorem map_indexed_pure (lag : Bool) (g : α → Nat → β) (raw : List (Notif α)) :
    visible ((mapIndexedOp (fun x i => .ok (g x i))).run lag raw)
      = outSeq (((elems raw).zipIdx 0).map (fun t => g t.1 t.2)) (fin raw) := by
  rw [map_indexed_eq, refMapIdx_pure]

theorem filter_eq (lag : Bool) (p : α → Except Err Bool) (raw : List (Notif α)) :
    visible ((filterOp p).run lag raw) = refFilter p (elems raw) (fin raw) := by rw [run_sem, sem_filter]
theorem filter_pure (lag : Bool) (q : α → Bool) (raw : List (Notif α)) :
    visible ((filterOp (fun x => .ok (q x))).run lag raw) = outSeq ((elems raw).filter q) (fin raw) := by
  rw [filter_eq, refFilter_pure]

theorem filter_indexed_eq (lag : Bool) (p : α → Nat → Except Err Bool) (raw : List (Notif α)) :
    visible ((filterIndexedOp (some p)).run lag raw) = refFilterIdx p 0 (elems raw) (fin raw) := by
  rw [run_sem, sem_filterIndexed]
theorem filter_indexed_pure (lag : Bool) (q : α → Nat → Bool) (raw : List (Notif α)) :
    visible ((filterIndexedOp (some fun x i => .ok (q x i))).run lag raw)
      = outSeq ((((elems raw).zipIdx 0).filter (fun t => q t.1 t.2)).map (·.1)) (fin raw) := by
  rw [filter_indexed_eq, refFilterIdx_pure]
theorem filter_indexed_none_eq (lag : Bool) (raw : List (Notif α)) :
    visible ((filterIndexedOp (α := α) none).run lag raw) = outSeq (elems raw) (fin raw) := by
  rw [run_sem, sem_filterIndexed_none]

theorem take_eq (lag : Bool) (n : Nat) (raw : List (Notif α)) :
    visible ((takeOp n).run lag raw)
      = outSeq ((elems raw).take n) (if n ≤ (elems raw).length then .completed else fin raw) := by
  rw [run_sem, sem_take]

theorem skip_eq (lag : Bool) (n : Nat) (raw : List (Notif α)) :
    visible ((skipOp n).run lag raw) = outSeq ((elems raw).drop n) (fin raw) := by rw [run_sem, sem_skip]

theorem take_while_eq (lag : Bool) (p : α → Except Err Bool) (incl : Bool) (raw : List (Notif α)) :
    visible ((takeWhileOp p incl).run lag raw) = refTakeWhile p incl (elems raw) (fin raw) := by
  rw [run_sem, sem_takeWhile]
theorem take_while_pure (lag : Bool) (q : α → Bool) (incl : Bool) (raw : List (Notif α)) :
    visible ((takeWhileOp (fun x => .ok (q x)) incl).run lag raw)
      = outSeq ((elems raw).takeWhile q ++ (if incl then ((elems raw).dropWhile q).take 1 else []))
          (if (elems raw).all q then fin raw else .completed) := by
  rw [take_while_eq, refTakeWhile_pure]

theorem take_while_indexed_eq (lag : Bool) (p : α → Nat → Except Err Bool) (incl : Bool) (raw : List (Notif α)) :
    visible ((takeWhileIndexedOp p incl).run lag raw) = refTakeWhileIdx p incl 0 (elems raw) (fin raw) := by
  rw [run_sem, sem_takeWhileIndexed]
theorem take_while_indexed_pure (lag : Bool) (q : α → Nat → Bool) (incl : Bool) (raw : List (Notif α)) :
    visible ((takeWhileIndexedOp (fun x i => .ok (q x i)) incl).run lag raw)
      = outSeq ((((elems raw).zipIdx 0).takeWhile (fun t => q t.1 t.2) ++
            (if incl then (((elems raw).zipIdx 0).dropWhile (fun t => q t.1 t.2)).take 1 else [])).map (·.1))
          (if ((elems raw).zipIdx 0).all (fun t => q t.1 t.2) then fin raw else .completed) := by
  rw [take_while_indexed_eq, refTakeWhileIdx_pure]

theorem skip_while_eq (lag : Bool) (p : α → Except Err Bool) (raw : List (Notif α)) :
    visible ((skipWhileOp p).run lag raw) = refSkipWhile p (elems raw) (fin raw) := by
  rw [run_sem, sem_skipWhile]
theorem skip_while_pure (lag : Bool) (q : α → Bool) (raw : List (Notif α)) :
    visible ((skipWhileOp (fun x => .ok (q x))).run lag raw) = outSeq ((elems raw).dropWhile q) (fin raw) := by
  rw [skip_while_eq, refSkipWhile_pure]

theorem skip_while_indexed_eq (lag : Bool) (p : α → Nat → Except Err Bool) (raw : List (Notif α)) :
    visible ((skipWhileIndexedOp p).run lag raw) = refSkipWhileIdx p 0 (elems raw) (fin raw) := by
  rw [run_sem, sem_skipWhileIndexed]
theorem skip_while_indexed_pure (lag : Bool) (q : α → Nat → Bool) (raw : List (Notif α)) :
    visible ((skipWhileIndexedOp (fun x i => .ok (q x i))).run lag raw)
      = outSeq ((((elems raw).zipIdx 0).dropWhile (fun t => q t.1 t.2)).map (·.1)) (fin raw) := by
  rw [skip_while_indexed_eq, refSkipWhileIdx_pure]

/-- `distinct` with key mapper and comparer that may raise (→ `on_error`, as the code does since the
`fix:` for the comparer). -/
theorem distinct_eq (lag : Bool) (key : α → Except Err κ) (cmp : κ → κ → Except Err Bool) (raw : List (Notif α)) :
    visible ((distinctOp key cmp).run lag raw) = refDistinct key cmp [] (elems raw) (fin raw) := by
  rw [run_sem, sem_distinct]
theorem distinct_pure (lag : Bool) (g : α → κ) (cmp : κ → κ → Bool) (raw : List (Notif α)) :
    visible ((distinctOp (fun x => .ok (g x)) (fun a b => .ok (cmp a b))).run lag raw)
      = outSeq ((elems raw).eraseDupsBy (fun new old => cmp (g old) (g new))) (fin raw) := by
  rw [distinct_eq, refDistinct_pure]

theorem distinct_until_changed_eq (lag : Bool) (key : α → Except Err κ) (cmp : κ → κ → Except Err Bool)
    (raw : List (Notif α)) :
    visible ((distinctUntilChangedOp key cmp).run lag raw) = refDUC key cmp none (elems raw) (fin raw) := by
  rw [run_sem, sem_duc]
theorem distinct_until_changed_pure (lag : Bool) (g : α → κ) (cmp : κ → κ → Bool) (raw : List (Notif α)) :
    visible ((distinctUntilChangedOp (fun x => .ok (g x)) (fun c k => .ok (cmp c k))).run lag raw)
      = outSeq ((elems raw).eraseRepsBy (fun x y => cmp (g x) (g y))) (fin raw) := by
  rw [distinct_until_changed_eq, refDUC_pure]

theorem pairwise_eq (lag : Bool) (raw : List (Notif α)) :
    visible ((pairwiseOp (α := α)).run lag raw) = outSeq ((elems raw).zip (elems raw).tail) (fin raw) := by
  rw [run_sem, sem_pairwise]

theorem start_with_eq (lag : Bool) (args : List α) (raw : List (Notif α)) :
    visible ((startWithOp args).run lag raw) = outSeq (args ++ elems raw) (fin raw) := by
  rw [run_sem, sem_startWith]

theorem default_if_empty_eq (lag : Bool) (d : α) (raw : List (Notif α)) :
    visible ((defaultIfEmptyOp d).run lag raw)
      = outSeq (if (elems raw).isEmpty = true ∧ fin raw = .completed then [d] else elems raw) (fin raw) := by
  rw [run_sem, sem_defaultIfEmpty]

theorem ignore_elements_eq (lag : Bool) (raw : List (Notif α)) :
    visible ((ignoreElementsOp (α := α)).run lag raw) = outSeq [] (fin raw) := by
  rw [run_sem, sem_ignoreElements]

/-- `take_last(count)`: nothing before completion; the last `count` elements at completion. -/
theorem take_last_eq (lag : Bool) (count : Int) (raw : List (Notif α)) :
    visible ((takeLastOp count).run lag raw)
      = outSeq (if fin raw = .completed then lastN count.toNat (elems raw) else []) (fin raw) := by
  rw [run_sem, sem_takeLast]

/-- `skip_last(count)` (**with the proposed fix**): all but the last `count` elements. -/
theorem skip_last_eq (lag : Bool) (count : Int) (raw : List (Notif α)) :
    visible ((skipLastOp count).run lag raw) = outSeq (butLastN count.toNat (elems raw)) (fin raw) := by
  rw [run_sem, sem_skipLast]

theorem take_last_buffer_eq (lag : Bool) (count : Int) (raw : List (Notif α)) :
    visible ((takeLastBufferOp count).run lag raw)
      = outSeq (if fin raw = .completed then [lastN count.toNat (elems raw)] else []) (fin raw) := by
  rw [run_sem, sem_takeLastBuffer]

/-- `element_at(i)` (`dflt = none`) and `element_at_or_default(i, d)` (`dflt = some d`). -/
theorem element_at_eq (lag : Bool) (index : Nat) (dflt : Option α) (raw : List (Notif α)) :
    visible ((elementAtOrDefaultOp index dflt).run lag raw) = refElementAt index dflt (elems raw) (fin raw) := by
  rw [run_sem, sem_elementAt]

theorem find_eq (lag : Bool) (p : α → Nat → Except Err Bool) (raw : List (Notif α)) :
    visible ((findOp p).run lag raw) = refFind p (fun x _ => some x) none 0 (elems raw) (fin raw) := by
  rw [run_sem, findOp, sem_find]
theorem find_index_eq (lag : Bool) (p : α → Nat → Except Err Bool) (raw : List (Notif α)) :
    visible ((findIndexOp p).run lag raw) = refFind p (fun _ i => (i : Int)) (-1) 0 (elems raw) (fin raw) := by
  rw [run_sem, findIndexOp, sem_find]
theorem find_pure (lag : Bool) (q : α → Nat → Bool) (raw : List (Notif α)) :
    visible ((findOp (fun x i => .ok (q x i))).run lag raw)
      = match ((elems raw).zipIdx 0).find? (fun t => q t.1 t.2) with
        | some t => [.next (some t.1), .completed]
        | none => notFound none (fin raw) := by
  rw [find_eq, refFind_pure]
  cases ((elems raw).zipIdx 0).find? (fun t => q t.1 t.2) <;> rfl
theorem find_index_pure (lag : Bool) (q : α → Nat → Bool) (raw : List (Notif α)) :
    visible ((findIndexOp (fun x i => .ok (q x i))).run lag raw)
      = match ((elems raw).zipIdx 0).find? (fun t => q t.1 t.2) with
        | some t => [.next (t.2 : Int), .completed]
        | none => notFound (-1) (fin raw) := by
  rw [find_index_eq, refFind_pure]
  cases ((elems raw).zipIdx 0).find? (fun t => q t.1 t.2) <;> rfl

/-! `starmap(mapper) = map(lambda values: mapper(*values))` and `pluck(key) = map(lambda x: x[key])` with the
argument adapters modelled on the value grammar (`RxModel/OpsVal.lean`). -/

theorem starmap_eq (lag : Bool) (mapper : Option (List Val → Except Err Val)) (raw : List (Notif Val)) :
    visible ((starmapOp mapper).run lag raw) = refMap (starred mapper) (elems raw) (fin raw) :=
  map_eq lag (starred mapper) raw

/-- on tuples `starmap(f)` is `[f(*t) for t in ts]` (stopping at the first raise) -/
theorem starmap_tuples (lag : Bool) (f : List Val → Except Err Val) (raw : List (Notif Val)) (tss : List (List Val))
    (h : elems raw = tss.map Val.tup) :
    visible ((starmapOp (some f)).run lag raw) = refMap f tss (fin raw) := by
  rw [starmap_eq, h]
  clear h
  generalize fin raw = e
  induction tss with
  | nil => rfl
  | cons ts tss ih => simp only [List.map_cons, refMap, starred, starArgs]; cases f ts <;> simp [ih]

/-- `starmap()` without a mapper passes every element through -/
theorem starmap_identity (lag : Bool) (raw : List (Notif Val)) :
    visible ((starmapOp none).run lag raw) = outSeq (elems raw) (fin raw) := by
  rw [starmap_eq]
  have : starred none = fun v => Except.ok (id v) := rfl
  rw [this, refMap_pure]; simp

/-- a value that cannot be unpacked (`None`, a number, a bool) ends the sequence with `TypeError` -/
theorem starmap_not_iterable (f : List Val → Except Err Val) (v : Val)
    (hv : v = .none ∨ (∃ i, v = .int i) ∨ (∃ b, v = .bool b) ∨ (∃ s, v = .flt s)) :
    starred (some f) v = .error "TypeError" := by
  rcases hv with h | ⟨i, h⟩ | ⟨b, h⟩ | ⟨s, h⟩ <;> subst h <;> rfl

theorem pluck_eq (lag : Bool) (key : Val) (raw : List (Notif Val)) :
    visible ((pluckOp key).run lag raw) = refMap (pluckGet key) (elems raw) (fin raw) :=
  map_eq lag (pluckGet key) raw

/-- a dict without the key ends the sequence with `KeyError` … -/
theorem pluck_missing_key (key : Val) (kvs : List (Val × Val)) (hk : key.hashable = true)
    (hm : kvs.find? (fun kv => Val.pyEq kv.1 key) = none) :
    pluckGet key (.dct kvs) = .error "KeyError" := by
  simp [pluckGet, hk, hm]

/-- … and one with the key yields its value, whatever it is (`None`, `0`, `''` … included) -/
theorem pluck_found (key : Val) (kvs : List (Val × Val)) (kv : Val × Val) (hk : key.hashable = true)
    (hm : kvs.find? (fun kv => Val.pyEq kv.1 key) = some kv) :
    pluckGet key (.dct kvs) = .ok kv.2 := by
  simp [pluckGet, hk, hm]

/-- `None` and numbers are not subscriptable -/
theorem pluck_not_subscriptable (key : Val) (v : Val)
    (hv : v = .none ∨ (∃ i, v = .int i) ∨ (∃ b, v = .bool b) ∨ (∃ s, v = .flt s)) :
    pluckGet key v = .error "TypeError" := by
  rcases hv with h | ⟨i, h⟩ | ⟨b, h⟩ | ⟨s, h⟩ <;> subst h <;> rfl

theorem materialize_eq (lag : Bool) (raw : List (Notif α)) :
    visible ((materializeOp (α := α)).run lag raw) = refMaterialize (elems raw) (fin raw) := by
  rw [run_sem, sem_materialize]

theorem dematerialize_eq (lag : Bool) (raw : List (Notif (Notif α))) :
    visible ((dematerializeOp (α := α)).run lag raw) = cut (elems raw ++ (fin raw).toNotifs) := by
  rw [run_sem, sem_dematerialize]

/-- **dematerialize_materialize.** `materialize` followed by `dematerialize` is the identity on what
the subscriber sees, for every raw input. -/
theorem dematerialize_materialize (lag : Bool) (raw : List (Notif α)) :
    visible (((materializeOp (α := α)).comp dematerializeOp).run lag raw) = cut raw := by
  rw [run_sem, sem_dematerialize_materialize]

theorem scan_seed_eq (lag : Bool) (f : β → α → Except Err β) (seed : β) (raw : List (Notif α)) :
    visible ((scanSeedOp f seed).run lag raw) = refScan f seed (elems raw) (fin raw) := by
  rw [run_sem, sem_scanSeed]

theorem take_map_next_append (xs : List α) (rest : List (Notif α)) (k : Nat) (hk : k ≤ xs.length) :
    (xs.map Notif.next ++ rest).take k = (xs.take k).map Notif.next := by
  rw [List.take_append_of_le_length (by simpa using hk), List.map_take]

theorem emitted_at_elem (lag : Bool) (op : Op α β) (xs : List α) (rest : List (Notif α)) (k : Nat) (hk : k < xs.length) :
    emittedAt (op.run lag (xs.map .next ++ rest)) k
      = (op.sem ((xs.take (k + 1)).map .next)).drop (op.sem ((xs.take k).map .next)).length := by
  rw [emitted_at, take_map_next_append xs rest k (by omega), take_map_next_append xs rest (k + 1) (by omega)]

theorem drop_nexts (ys zs : List β) :
    ((ys ++ zs).map Notif.next).drop (ys.map Notif.next).length = zs.map Notif.next := by
  simp

/-- **map_timed.** The `k`-th element's image is delivered during the `k`-th input's handler call. -/
theorem map_timed (lag : Bool) (g : α → β) (xs : List α) (rest : List (Notif α)) (k : Nat) (hk : k < xs.length) :
    emittedAt ((mapOp (fun x => .ok (g x))).run lag (xs.map .next ++ rest)) k = [.next (g xs[k])] := by
  rw [emitted_at_elem _ _ _ _ _ hk, sem_map, sem_map, refMap_pure, refMap_pure]
  simp only [elems_map_next, fin_map_next, outSeq_open]
  rw [← List.take_append_getElem hk, List.map_append, drop_nexts]; rfl

/-- **take_timed.** `take(n)` completes during the handler call of the `n`-th element (not later, not at
the source's own completion). -/
theorem take_timed (lag : Bool) (n : Nat) (xs : List α) (rest : List (Notif α)) (hn : n < xs.length) :
    emittedAt ((takeOp (n + 1)).run lag (xs.map .next ++ rest)) n = [.next xs[n], .completed] := by
  rw [emitted_at_elem _ _ _ _ _ hn, sem_take, sem_take]
  simp only [elems_map_next, fin_map_next, List.length_take]
  rw [if_neg (by omega), if_pos (by omega), List.take_take, List.take_take, Nat.min_eq_right (Nat.le_succ n),
    Nat.min_self, outSeq_open, ← List.take_append_getElem hn, outSeq, List.map_append, List.append_assoc]
  -- the first `n` elements were shown before; what is left is the `n`-th and the completion
  exact List.drop_left' rfl

/-- **filter_timed.** An element that passes the predicate is delivered during its own handler call; one that
does not produces nothing. -/
theorem filter_timed (lag : Bool) (q : α → Bool) (xs : List α) (rest : List (Notif α)) (k : Nat) (hk : k < xs.length) :
    emittedAt ((filterOp (fun x => .ok (q x))).run lag (xs.map .next ++ rest)) k
      = if q xs[k] then [.next xs[k]] else [] := by
  rw [emitted_at_elem _ _ _ _ _ hk, sem_filter, sem_filter, refFilter_pure, refFilter_pure]
  simp only [elems_map_next, fin_map_next, outSeq_open]
  rw [← List.take_append_getElem hk, List.filter_append, drop_nexts]
  cases hq : q xs[k] <;> simp [hq]

/-- **skip_last_timed.** With `skip_last(n)`, the `i`-th output is delivered at the arrival of element
`i+n`: during the handler call of element `k` the element `k-n` is emitted (nothing while `k < n`). -/
theorem skip_last_timed (lag : Bool) (n : Nat) (xs : List α) (rest : List (Notif α)) (k : Nat) (hk : k < xs.length) :
    emittedAt ((skipLastOp (n : Int)).run lag (xs.map .next ++ rest)) k
      = if h : n ≤ k then [.next (xs[k - n]'(by omega))] else [] := by
  rw [emitted_at_elem _ _ _ _ _ hk, sem_skipLast, sem_skipLast]
  simp only [elems_map_next, fin_map_next, outSeq_open, Int.toNat_natCast]
  rw [butLastN_take _ _ _ (by omega), butLastN_take _ _ _ (by omega)]
  split
  · rename_i h
    rw [Nat.succ_sub h, ← List.take_append_getElem (by omega), drop_nexts]; rfl
  · rw [Nat.sub_eq_zero_of_le (by omega), Nat.sub_eq_zero_of_le (by omega)]; rfl

/-- **take_last_timed.** `take_last(n)` delivers nothing while elements arrive and everything during
the handler call of the completion. -/
theorem take_last_timed (lag : Bool) (n : Nat) (xs : List α) (rest : List (Notif α)) :
    (∀ k, k < xs.length →
      emittedAt ((takeLastOp (n : Int)).run lag (xs.map .next ++ .completed :: rest)) k = []) ∧
    emittedAt ((takeLastOp (n : Int)).run lag (xs.map .next ++ .completed :: rest)) xs.length
      = outSeq (lastN n xs) .completed := by
  constructor
  · intro k hk
    rw [emitted_at_elem _ _ _ _ _ hk, sem_takeLast, sem_takeLast]
    simp only [elems_map_next, fin_map_next]
    rfl
  · have e1 := take_map_next_append xs (.completed :: rest) xs.length (by omega)
    have e2 : (xs.map Notif.next ++ Notif.completed :: rest).take (xs.length + 1)
        = outSeq xs .completed := by
      rw [List.take_append]; simp [outSeq, End.toNotifs, List.take_of_length_le]
    rw [emitted_at, e1, e2, sem_takeLast, sem_takeLast]
    simp only [List.take_length, elems_map_next, fin_map_next, elems_outSeq, fin_outSeq]
    rfl

/-! ## Re-entrant feedback sources

The consumer pushes the next pending element into the (Subject) source from inside its own `on_next`, so the
operator's handler is re-entered while it is still inside its downstream call (`ROp.runFb`, `RxModel/OpsFb.lean`:
handlers split at their downstream calls as the code has them; terminals are pushed from the top level).  For every
operator that commits its state before emitting (`ROp.Safe`), for **every input list and every nesting bound**, the
subscriber sees the list reference on the combined arrival sequence.  The composed operators (`map_indexed`,
`skip_while_indexed`) have no split model, hence no `_fb` theorem. -/

/-- **fb_eq_sequential.** state committed before the downstream call ⇒ re-entrant run = sequential run of the arrival order -/
theorem fb_eq_sequential (r : ROp α β) (sf : r.Safe) (bound : Nat) (raw : List (Notif α)) :
    r.runFb bound raw = visible (r.toOp.run false raw) := by
  rw [runFb_eq_sem r sf, run_sem]

theorem map_fb (bound : Nat) (f : α → Except Err β) (raw : List (Notif α)) :
    (mapR f).runFb bound raw = refMap f (elems raw) (fin raw) := by
  rw [(mapR_sound f).runFb_eq, sem_map]
theorem filter_fb (bound : Nat) (p : α → Except Err Bool) (raw : List (Notif α)) :
    (filterR p).runFb bound raw = refFilter p (elems raw) (fin raw) := by
  rw [(filterR_sound p).runFb_eq, sem_filter]
theorem filter_indexed_fb (bound : Nat) (p : α → Nat → Except Err Bool) (raw : List (Notif α)) :
    (filterIndexedR (some p)).runFb bound raw = refFilterIdx p 0 (elems raw) (fin raw) := by
  rw [(filterIndexedR_sound _).runFb_eq, sem_filterIndexed]
/-- `take(n)`: `remaining` is decremented before the element is emitted, so a re-entered handler sees the new count -/
theorem take_fb (bound : Nat) (n : Nat) (raw : List (Notif α)) :
    (takeR n).runFb bound raw
      = outSeq ((elems raw).take n) (if n ≤ (elems raw).length then .completed else fin raw) := by
  rw [(takeR_sound n).runFb_eq, sem_take]
theorem skip_fb (bound : Nat) (n : Nat) (raw : List (Notif α)) :
    (skipR n).runFb bound raw = outSeq ((elems raw).drop n) (fin raw) := by
  rw [(skipR_sound n).runFb_eq, sem_skip]
theorem take_while_fb (bound : Nat) (p : α → Except Err Bool) (incl : Bool) (raw : List (Notif α)) :
    (takeWhileR p incl).runFb bound raw = refTakeWhile p incl (elems raw) (fin raw) := by
  rw [(takeWhileR_sound p incl).runFb_eq, sem_takeWhile]
theorem take_while_indexed_fb (bound : Nat) (p : α → Nat → Except Err Bool) (incl : Bool) (raw : List (Notif α)) :
    (takeWhileIndexedR p incl).runFb bound raw = refTakeWhileIdx p incl 0 (elems raw) (fin raw) := by
  rw [(takeWhileIndexedR_sound p incl).runFb_eq, sem_takeWhileIndexed]
theorem skip_while_fb (bound : Nat) (p : α → Except Err Bool) (raw : List (Notif α)) :
    (skipWhileR p).runFb bound raw = refSkipWhile p (elems raw) (fin raw) := by
  rw [(skipWhileR_sound p).runFb_eq, sem_skipWhile]
theorem distinct_fb (bound : Nat) (key : α → Except Err κ) (cmp : κ → κ → Except Err Bool) (raw : List (Notif α)) :
    (distinctR key cmp).runFb bound raw = refDistinct key cmp [] (elems raw) (fin raw) := by
  rw [(distinctR_sound key cmp).runFb_eq, sem_distinct]
theorem distinct_until_changed_fb (bound : Nat) (key : α → Except Err κ) (cmp : κ → κ → Except Err Bool)
    (raw : List (Notif α)) :
    (distinctUntilChangedR key cmp).runFb bound raw = refDUC key cmp none (elems raw) (fin raw) := by
  rw [(ducR_sound key cmp).runFb_eq, sem_duc]
theorem pairwise_fb (bound : Nat) (raw : List (Notif α)) :
    (pairwiseR (α := α)).runFb bound raw = outSeq ((elems raw).zip (elems raw).tail) (fin raw) := by
  rw [pairwiseR_sound.runFb_eq, sem_pairwise]
theorem start_with_fb (bound : Nat) (args : List α) (raw : List (Notif α)) :
    (startWithR args).runFb bound raw = outSeq (args ++ elems raw) (fin raw) := by
  rw [(startWithR_sound args).runFb_eq, sem_startWith]
theorem default_if_empty_fb (bound : Nat) (d : α) (raw : List (Notif α)) :
    (defaultIfEmptyR d).runFb bound raw
      = outSeq (if (elems raw).isEmpty = true ∧ fin raw = .completed then [d] else elems raw) (fin raw) := by
  rw [(defaultIfEmptyR_sound d).runFb_eq, sem_defaultIfEmpty]
theorem ignore_elements_fb (bound : Nat) (raw : List (Notif α)) :
    (ignoreElementsR (α := α)).runFb bound raw = outSeq [] (fin raw) := by
  rw [ignoreElementsR_sound.runFb_eq, sem_ignoreElements]
theorem take_last_fb (bound : Nat) (count : Int) (raw : List (Notif α)) :
    (takeLastR count).runFb bound raw
      = outSeq (if fin raw = .completed then lastN count.toNat (elems raw) else []) (fin raw) := by
  rw [(takeLastR_sound count).runFb_eq, sem_takeLast]
theorem skip_last_fb (bound : Nat) (count : Int) (raw : List (Notif α)) :
    (skipLastR count).runFb bound raw = outSeq (butLastN count.toNat (elems raw)) (fin raw) := by
  rw [(skipLastR_sound count).runFb_eq, sem_skipLast]
theorem take_last_buffer_fb (bound : Nat) (count : Int) (raw : List (Notif α)) :
    (takeLastBufferR count).runFb bound raw
      = outSeq (if fin raw = .completed then [lastN count.toNat (elems raw)] else []) (fin raw) := by
  rw [(takeLastBufferR_sound count).runFb_eq, sem_takeLastBuffer]
/-- `element_at` (after c373a15): "found" is committed before the element is emitted -/
theorem element_at_fb (bound : Nat) (index : Nat) (dflt : Option α) (raw : List (Notif α)) :
    (elementAtOrDefaultR index dflt).runFb bound raw = refElementAt index dflt (elems raw) (fin raw) := by
  rw [(elementAtR_sound index dflt).runFb_eq, sem_elementAt]
/-- `find` / `find_index` (after 8cbe136) -/
theorem find_fb (bound : Nat) (p : α → Nat → Except Err Bool) (yes : α → Nat → β) (no : β) (raw : List (Notif α)) :
    (findValueR p yes no).runFb bound raw = refFind p yes no 0 (elems raw) (fin raw) := by
  rw [(findValueR_sound p yes no).runFb_eq, sem_find]
theorem materialize_fb (bound : Nat) (raw : List (Notif α)) :
    (materializeR (α := α)).runFb bound raw = refMaterialize (elems raw) (fin raw) := by
  rw [materializeR_sound.runFb_eq, sem_materialize]
theorem dematerialize_fb (bound : Nat) (raw : List (Notif (Notif α))) :
    (dematerializeR (α := α)).runFb bound raw = cut (elems raw ++ (fin raw).toNotifs) := by
  rw [dematerializeR_sound.runFb_eq, sem_dematerialize]
theorem scan_seed_fb (bound : Nat) (f : β → α → Except Err β) (seed : β) (raw : List (Notif α)) :
    (scanSeedR f seed).runFb bound raw = refScan f seed (elems raw) (fin raw) := by
  rw [(scanSeedR_sound f seed).runFb_eq, sem_scanSeed]

/-! ### what goes wrong when the state is committed *after* the downstream call (seeded change C07r2_2; `element_at` and
`find` had that shape before c373a15 / 8cbe136) -/
section Unsafe

/-- `take` whose decrement is not committed before `observer.on_next(value)` (the shape of seeded change C07r2_2; the
late write itself is outside `HOutR`, which has no post-call state write — enough for one feedback chain): the
re-entered handler still sees the old count -/
def takeLateR (count : Nat) : ROp Nat Nat where
  σ := Nat
  init := count
  onNext := fun remaining v =>
    if remaining > 0 then ⟨remaining, [.next v], fun _ => if remaining - 1 = 0 then [.completed] else []⟩
    else remit remaining []
  onError := rpassErr
  onCompleted := rpassDone

/-- on a feedback source `take(1)` written that way lets every fed-back element through … -/
theorem take_late_counter :
    (takeLateR 1).runFb 40 [.next 0, .next 1, .next 2, .completed] = [.next 0, .next 1, .next 2, .completed] := by decide

/-- … whereas the real `take(1)` (decrement first) gives the list semantics -/
example : (takeR (α := Nat) 1).runFb 40 [.next 0, .next 1, .next 2, .completed] = [.next 0, .completed] := by decide

end Unsafe

/-! ## The pinned tree's `skip_last` (before the fix) violates the property

`front = None … if front is not None: observer.on_next(front)` drops every `None` element. -/
section AsIs

instance : PyVal (Option Nat) := ⟨fun o => o.isSome, fun o => o.isNone⟩

/-- as-is behaviour on `of(None, 1, None, 2, 3).pipe(skip_last(1))`: emits `1, 2` — the replay of
DESIGN.md §6 #3. -/
theorem skip_last_asis_drops_none :
    visible ((skipLastAsIsOp (α := Option Nat) 1).run false
      [.next none, .next (some 1), .next none, .next (some 2), .next (some 3), .completed])
      = [.next (some 1), .next (some 2), .completed] := by decide

/-- … whereas the list semantics (and the fixed operator, by `skip_last_eq`) give `None, 1, None, 2`. -/
theorem skip_last_asis_counter :
    visible ((skipLastAsIsOp (α := Option Nat) 1).run false
      [.next none, .next (some 1), .next none, .next (some 2), .next (some 3), .completed])
      ≠ outSeq (butLastN 1 [none, some 1, none, some 2, some 3]) .completed := by decide

end AsIs

/-! ## Non-vacuity: concrete adversarial instances -/

-- a non-conforming input (emission after completion, second terminal), lagging disposal, take(2)
example : visible ((takeOp 2).run true [Notif.next 1, .next 2, .next 3, .completed, .next 4, .error "x"])
    = [.next 1, .next 2, .completed] := by decide
-- a raising predicate: the error replaces the rest
example : visible ((filterOp (fun x : Nat => if x = 3 then .error "boom" else .ok (x % 2 == 0))).run false
      [Notif.next 1, .next 2, .next 3, .next 4, .completed])
    = [.next 2, .error "boom"] := by decide
-- skip_last(2): outputs lag two arrivals behind
example : (List.range 5).map (emittedAt ((skipLastOp (2 : Int)).run false
      [Notif.next 10, .next 11, .next 12, .next 13, .completed]))
    = [[], [], [.next 10], [.next 11], [.completed]] := by decide
-- falsy elements through the fixed skip_last
example : visible ((skipLastOp (α := Option Nat) 1).run false
      [.next none, .next (some 1), .next none, .next (some 2), .next (some 3), .completed])
    = [.next none, .next (some 1), .next none, .next (some 2), .completed] := by decide

end C05
