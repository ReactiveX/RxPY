import RxProofs.Lemmas.WinRel
import RxProofs.Lemmas.WinMachOps
import RxProofs.Lemmas.C02WinGrp
import RxProofs.Lemmas.C02WinFin
/-!
# C02Win — termination / disposal releases every subscription of the window machines (support for C02 / C03)

For every window machine of C18 (`window_with_count_`, `window_(boundaries)`, `window_when_`, `window_toggle_`,
`window_with_time_`, `window_with_time_or_count_`), every tagged event trace (any interleaving, non-conforming
sources, dispose anywhere, timer firings anywhere):

* `terminal_releases_all_*` — in the reached state: once the outer subscriber is stopped (it got a terminal, or
  disposed) AND every window handed out has terminated or its subscriber has unsubscribed (`attachedCount = 0`),
  no source / boundary / closing / opening subscription is live (`live = []`), the `RefCountDisposable`'s
  underlying disposable was disposed, and (timed operators) no timer is armed.  This is exactly C02's proviso.
* `dispose_releases_all_*` — the outer `dispose` event stops the outer observer, and from then on the sources are
  released as soon as the last window subscriber is gone: right after the dispose step if none is attached
  (in particular when the subscriber disposes its window subscriptions too), otherwise in whichever later state
  `attachedCount` reaches 0 (by `terminal_releases_all_*`, whose hypothesis `outerStopped` the dispose establishes).

At the end: the release theorems of `group_by_until_` / `group_by_` (`WinGrp`) and of `using` / `finally_action` / `do_*`
(`WinFin`), under the names C02 / C03 cite.
-/

namespace C02Win
open Win

variable {α : Type}

def Released (b : Base α) : Prop := b.rcDisposed = true ∧ b.live = []

def NoSrcTerminal (evs : List (Nat × Ev α)) : Prop := ∀ te ∈ evs, te.2.notSrcTerminal = true

theorem rel {σ : Type} {closed : Prop} (M : OpsMach σ α closed) (evs : List (Nat × Ev α)) : Rel (M.base (M.run M.s0 evs)) :=
  M.inv_run Rel.inv evs (Rel_empty _)

theorem kept {σ : Type} {closed : Prop} (M : OpsMach σ α closed) (h0 : SrcKept (M.base M.s0)) (evs : List (Nat × Ev α))
    (hns : NoSrcTerminal evs) : SrcKept (M.base (M.run M.s0 evs)) := by
  rw [M.run_eq]; exact M.inv_fold SrcKept.inv evs (fun _ => hns) _ h0

theorem dispose_releases {b : Base α} (w : Bool) (h : Rel b) :
    (b.disposeEv w).outerStopped = true ∧ ((b.disposeEv w).attachedCount = 0 → Released (b.disposeEv w)) :=
  ⟨Base.os_disposeEv _ _, released (Base.Rel_disposeEv b w h) (Base.os_disposeEv _ _)⟩

theorem terminal_releases_all_count (count skip t0 : Nat) (evs : List (Nat × Ev α)) :
    let b := (Cnt.run count skip (Cnt.init t0) evs).b
    b.outerStopped = true → b.attachedCount = 0 → Released b :=
  released (rel (Cnt.opsMach count skip t0) evs)

theorem dispose_releases_all_count (count skip t0 : Nat) (evs : List (Nat × Ev α)) (t : Nat) (w : Bool) :
    let b := ((Cnt.mach count skip).step (Cnt.run count skip (Cnt.init t0) evs) t (.dispose w)).b
    b.outerStopped = true ∧ (b.attachedCount = 0 → Released b) :=
  dispose_releases w (Base.Rel_now _ t (rel (Cnt.opsMach count skip t0) evs))

theorem terminal_releases_all_boundaries (t0 : Nat) (bsync : Option (Notif Unit)) (evs : List (Nat × Ev α)) :
    let b := (Bnd.run (Bnd.init t0 bsync) evs).b
    b.outerStopped = true → b.attachedCount = 0 → Released b :=
  released (rel (Bnd.opsMach t0 bsync) evs)

theorem dispose_releases_all_boundaries (t0 : Nat) (bsync : Option (Notif Unit)) (evs : List (Nat × Ev α)) (t : Nat) (w : Bool) :
    let b := (Bnd.mach.step (Bnd.run (Bnd.init t0 bsync) evs) t (.dispose w)).b
    b.outerStopped = true ∧ (b.attachedCount = 0 → Released b) :=
  dispose_releases w (Base.Rel_now _ t (rel (Bnd.opsMach t0 bsync) evs))

theorem terminal_releases_all_when (raiseAt : Option Nat) (pool t0 : Nat) (sync : List (Option (Option Err))) (evs : List (Nat × Ev α)) :
    let b := (Whn.run raiseAt pool (Whn.init raiseAt pool t0 sync) evs).b
    b.outerStopped = true → b.attachedCount = 0 → Released b :=
  released (rel (Whn.opsMach raiseAt pool t0 sync) evs)

theorem dispose_releases_all_when (raiseAt : Option Nat) (pool t0 : Nat) (sync : List (Option (Option Err))) (evs : List (Nat × Ev α)) (t : Nat) (w : Bool) :
    let b := ((Whn.mach raiseAt pool).step (Whn.run raiseAt pool (Whn.init raiseAt pool t0 sync) evs) t (.dispose w)).b
    b.outerStopped = true ∧ (b.attachedCount = 0 → Released b) :=
  dispose_releases w (Base.Rel_now _ t (rel (Whn.opsMach raiseAt pool t0 sync) evs))

theorem terminal_releases_all_toggle (raiseAt : Option Nat) (pool t0 : Nat) (sync : List (Option (Option Err))) (evs : List (Nat × Ev α)) :
    let b := (Tgl.run raiseAt pool (Tgl.init t0 sync) evs).b
    b.outerStopped = true → b.attachedCount = 0 → Released b :=
  released (rel (Tgl.opsMach raiseAt pool t0 sync) evs)

theorem dispose_releases_all_toggle (raiseAt : Option Nat) (pool t0 : Nat) (sync : List (Option (Option Err))) (evs : List (Nat × Ev α)) (t : Nat) (w : Bool) :
    let b := ((Tgl.mach raiseAt pool).step (Tgl.run raiseAt pool (Tgl.init t0 sync) evs) t (.dispose w)).b
    b.outerStopped = true ∧ (b.attachedCount = 0 → Released b) :=
  dispose_releases w (Base.Rel_now _ t (rel (Tgl.opsMach raiseAt pool t0 sync) evs))

/-! ### window_with_time_, window_with_time_or_count_ (every event list with timer firings anywhere; `Mach.run` follows one of them) -/
theorem terminal_releases_all_time (span shift t0 : Nat) (evs : List (Nat × Ev α)) :
    let s := (Tim.mach shift).fold (Tim.init span shift t0) evs
    s.b.outerStopped = true → s.b.attachedCount = 0 → Released s.b ∧ s.timer = none := by
  intro s ho ha
  have hr := released (rel (Tim.opsMach span shift t0) evs) ho ha
  exact ⟨hr, List.foldl_pres (P := fun s : Tim α => TOk s.b s.timer) _ (fun s te => Tim.tok_step shift s te.1 te.2) evs (Tim.tok_init span shift t0) hr.1⟩

theorem dispose_releases_all_time (span shift t0 : Nat) (evs : List (Nat × Ev α)) (t : Nat) (w : Bool) :
    let s := (Tim.mach shift).fold (Tim.init span shift t0) (evs ++ [(t, .dispose w)])
    s.b.outerStopped = true ∧ (s.b.attachedCount = 0 → Released s.b ∧ s.timer = none) := by
  intro s
  have ho : s.b.outerStopped = true := by
    simp only [s, Mach.fold_append, Mach.fold_cons, Mach.fold_nil, Tim.mach, Tim.step, Tim.sync_b]
    exact Base.os_disposeEv _ _
  exact ⟨ho, fun ha => terminal_releases_all_time span shift t0 _ ho ha⟩

theorem terminal_releases_all_time_or_count (span count t0 : Nat) (evs : List (Nat × Ev α)) :
    let s := (Toc.mach span count).fold (Toc.init span t0) evs
    s.b.outerStopped = true → s.b.attachedCount = 0 → Released s.b ∧ s.timer = none := by
  intro s ho ha
  have hr := released (rel (Toc.opsMach span count t0) evs) ho ha
  exact ⟨hr, List.foldl_pres (P := fun s : Toc α => TOk s.b s.timer) _ (fun s te => Toc.tok_step span count s te.1 te.2) evs (Toc.tok_init span t0) hr.1⟩

theorem dispose_releases_all_time_or_count (span count t0 : Nat) (evs : List (Nat × Ev α)) (t : Nat) (w : Bool) :
    let s := (Toc.mach span count).fold (Toc.init span t0) (evs ++ [(t, .dispose w)])
    s.b.outerStopped = true ∧ (s.b.attachedCount = 0 → Released s.b ∧ s.timer = none) := by
  intro s
  have ho : s.b.outerStopped = true := by
    simp only [s, Mach.fold_append, Mach.fold_cons, Mach.fold_nil, Toc.mach, Toc.step, Toc.sync_b]
    exact Base.os_disposeEv _ _
  exact ⟨ho, fun ha => terminal_releases_all_time_or_count span count t0 _ ho ha⟩

/-! ### the release rule, both directions (window machines)

`release_iff_*`: in every state of every run, the underlying disposable (source / boundary / closing / opening
subscriptions, timers) has been disposed **iff** the outer observer is stopped (terminal or dispose) and no window
subscriber is attached.  `source_subscribed_iff_*`: along every trace that contains no terminal of the windowed source,
the source is still subscribed **iff** it is not the case that the outer observer is stopped and the last window
subscriber is gone — not earlier, not later.  Together with `window_partition_*` (routing holds for every trace, with
`dispose` anywhere, as long as the source is live) and `C18.buffer_eq_window_*` (an attached subscriber has received
exactly what was pushed) this gives: a window subscriber that stays after the outer `dispose` keeps receiving its
window's elements and its terminal. -/

theorem release_iff_count (count skip t0 : Nat) (evs : List (Nat × Ev α)) :
    let b := (Cnt.run count skip (Cnt.init t0) evs).b
    b.rcDisposed = true ↔ (b.outerStopped = true ∧ b.attachedCount = 0) :=
  release_iff_of_rel (rel (Cnt.opsMach count skip t0) evs)

theorem source_subscribed_iff_count (count skip t0 : Nat) (evs : List (Nat × Ev α)) (hns : NoSrcTerminal evs) :
    let b := (Cnt.run count skip (Cnt.init t0) evs).b
    0 ∈ b.live ↔ ¬ (b.outerStopped = true ∧ b.attachedCount = 0) :=
  subscribed_iff_of_rel (rel (Cnt.opsMach count skip t0) evs) (kept (Cnt.opsMach count skip t0) (Cnt.init_b t0 ▸ Base.SK_first t0 : SrcKept (Cnt.init t0).b) evs hns)

theorem release_iff_boundaries (t0 : Nat) (bsync : Option (Notif Unit)) (evs : List (Nat × Ev α)) :
    let b := (Bnd.run (Bnd.init t0 bsync) evs).b
    b.rcDisposed = true ↔ (b.outerStopped = true ∧ b.attachedCount = 0) :=
  release_iff_of_rel (rel (Bnd.opsMach t0 bsync) evs)

theorem source_subscribed_iff_boundaries (t0 : Nat) (bsync : Option (Notif Unit)) (evs : List (Nat × Ev α)) (hns : NoSrcTerminal evs) :
    let b := (Bnd.run (Bnd.init t0 bsync) evs).b
    0 ∈ b.live ↔ ¬ (b.outerStopped = true ∧ b.attachedCount = 0) :=
  subscribed_iff_of_rel (rel (Bnd.opsMach t0 bsync) evs)
    (kept (Bnd.opsMach t0 bsync) ((SrcKept.inv (closed := True)).ops (Bnd.ops_init_first t0 bsync) (Base.SK_first t0)) evs hns)

theorem release_iff_when (raiseAt : Option Nat) (pool t0 : Nat) (sync : List (Option (Option Err))) (evs : List (Nat × Ev α)) :
    let b := (Whn.run raiseAt pool (Whn.init raiseAt pool t0 sync) evs).b
    b.rcDisposed = true ↔ (b.outerStopped = true ∧ b.attachedCount = 0) :=
  release_iff_of_rel (rel (Whn.opsMach raiseAt pool t0 sync) evs)

theorem source_subscribed_iff_when (raiseAt : Option Nat) (pool t0 : Nat) (sync : List (Option (Option Err))) (evs : List (Nat × Ev α)) (hns : NoSrcTerminal evs) :
    let b := (Whn.run raiseAt pool (Whn.init raiseAt pool t0 sync) evs).b
    0 ∈ b.live ↔ ¬ (b.outerStopped = true ∧ b.attachedCount = 0) :=
  subscribed_iff_of_rel (rel (Whn.opsMach raiseAt pool t0 sync) evs)
    (kept (Whn.opsMach raiseAt pool t0 sync) ((SrcKept.inv (closed := True)).ops (Whn.ops_init_first raiseAt pool t0 sync) (Base.SK_first t0)) evs hns)

theorem release_iff_toggle (raiseAt : Option Nat) (pool t0 : Nat) (sync : List (Option (Option Err))) (evs : List (Nat × Ev α)) :
    let b := (Tgl.run raiseAt pool (Tgl.init t0 sync) evs).b
    b.rcDisposed = true ↔ (b.outerStopped = true ∧ b.attachedCount = 0) :=
  release_iff_of_rel (rel (Tgl.opsMach raiseAt pool t0 sync) evs)

theorem source_subscribed_iff_toggle (raiseAt : Option Nat) (pool t0 : Nat) (sync : List (Option (Option Err))) (evs : List (Nat × Ev α)) (hns : NoSrcTerminal evs) :
    let b := (Tgl.run raiseAt pool (Tgl.init t0 sync) evs).b
    0 ∈ b.live ↔ ¬ (b.outerStopped = true ∧ b.attachedCount = 0) :=
  subscribed_iff_of_rel (rel (Tgl.opsMach raiseAt pool t0 sync) evs) (kept (Tgl.opsMach raiseAt pool t0 sync) (Base.SK_subscribe0 _) evs hns)

theorem release_iff_time (span shift t0 : Nat) (evs : List (Nat × Ev α)) :
    let b := ((Tim.mach shift).fold (Tim.init span shift t0) evs).b
    b.rcDisposed = true ↔ (b.outerStopped = true ∧ b.attachedCount = 0) :=
  release_iff_of_rel (rel (Tim.opsMach span shift t0) evs)

theorem source_subscribed_iff_time (span shift t0 : Nat) (evs : List (Nat × Ev α)) (hns : NoSrcTerminal evs) :
    let b := ((Tim.mach shift).fold (Tim.init span shift t0) evs).b
    0 ∈ b.live ↔ ¬ (b.outerStopped = true ∧ b.attachedCount = 0) :=
  subscribed_iff_of_rel (rel (Tim.opsMach span shift t0) evs) (kept (Tim.opsMach span shift t0) (Tim.init_b span shift t0 ▸ Base.SK_first t0 : SrcKept (Tim.init span shift t0).b) evs hns)

theorem release_iff_time_or_count (span count t0 : Nat) (evs : List (Nat × Ev α)) :
    let b := ((Toc.mach span count).fold (Toc.init span t0) evs).b
    b.rcDisposed = true ↔ (b.outerStopped = true ∧ b.attachedCount = 0) :=
  release_iff_of_rel (rel (Toc.opsMach span count t0) evs)

theorem source_subscribed_iff_time_or_count (span count t0 : Nat) (evs : List (Nat × Ev α)) (hns : NoSrcTerminal evs) :
    let b := ((Toc.mach span count).fold (Toc.init span t0) evs).b
    0 ∈ b.live ↔ ¬ (b.outerStopped = true ∧ b.attachedCount = 0) :=
  subscribed_iff_of_rel (rel (Toc.opsMach span count t0) evs) (kept (Toc.opsMach span count t0) (Toc.init_b span t0 ▸ Base.SK_first t0 : SrcKept (Toc.init span t0).b) evs hns)

/-! non-vacuity: an outer dispose with an attached open window keeps the source; the window's end releases it -/
example : (Cnt.run 2 2 (Cnt.init 200) [(210, .src 0 (.next (1 : Nat))), (220, .dispose false)]).b.live = [0] := by decide
example : let b := (Cnt.run 2 2 (Cnt.init 200) [(210, .src 0 (.next (1 : Nat))), (220, .dispose false), (230, .src 0 (.next 2))]).b
    b.outerStopped = true ∧ b.attachedCount = 0 ∧ b.live = [] ∧ b.rcDisposed = true := by decide
example : let b := (Cnt.run 2 2 (Cnt.init 200) [(210, .src 0 (.next (1 : Nat))), (220, .dispose true)]).b
    b.attachedCount = 0 ∧ b.live = [] := by decide

/-! ### group_by_until_ / group_by_ (machine `WinGrp`, C19)

`WinGrp.Released s`: the source subscription is closed and no duration subscription is live. -/

theorem terminal_releases_all_group {α κ β : Type} (cfg : WinGrp.Cfg α κ β) (hrefl : ∀ k, cfg.keyEq k k = true)
    (evs : List (WinGrp.Ev α)) :
    let s := WinGrp.run cfg (WinGrp.init : WinGrp.St κ β) evs
    s.outStopped = true → (∀ r ∈ s.groups, r.holdsRef = false) → WinGrp.Released s :=
  WinGrp.terminal_releases_all cfg hrefl evs

theorem dispose_releases_all_group {α κ β : Type} (cfg : WinGrp.Cfg α κ β) (hrefl : ∀ k, cfg.keyEq k k = true)
    (evs : List (WinGrp.Ev α)) :
    let s := WinGrp.run cfg (WinGrp.init : WinGrp.St κ β) evs
    s.primary = true → s.count = 0 → WinGrp.Released s :=
  WinGrp.dispose_releases_all cfg hrefl evs

/-- while a group subscriber still holds a reference, an outer dispose releases nothing (it only sets the primary flag). -/
theorem group_holder_blocks_release {α κ β : Type} (cfg : WinGrp.Cfg α κ β) (hrefl : ∀ k, cfg.keyEq k k = true)
    (evs : List (WinGrp.Ev α)) (r : WinGrp.Grp κ β) :
    let s := WinGrp.run cfg (WinGrp.init : WinGrp.St κ β) evs
    let s' := WinGrp.step cfg s .disposeOuter
    r ∈ s.groups → r.holdsRef = true →
      s.rcdDisposed = false ∧ 0 < s.count ∧ s'.rcdDisposed = false ∧ s'.primary = true ∧
      s'.srcOpen = s.srcOpen ∧ s'.srcStopped = s.srcStopped ∧ s'.groups = s.groups :=
  WinGrp.holder_blocks_release cfg hrefl evs r

/-! ### using / finally_action / do_finally / do_* (machine `WinFin`, C40)

`u.cur`: the operator still holds the source's subscription; `srcCount`: `dispose()` calls on it; `u.live`: the source's
subscribe body returned one. -/

theorem fin_source_disposed_at_most_once {α : Type} (c : WinFin.Cfg) (sp : WinFin.SyncPhase α) (evs : List (WinFin.Ev α)) :
    WinFin.srcCount (WinFin.run c sp evs).log ≤ 1 ∧
    (WinFin.srcCount (WinFin.run c sp evs).log = 1 ↔ ((WinFin.run c sp evs).u.live = true ∧ (WinFin.run c sp evs).u.cur = false)) ∧
    ((WinFin.run c sp evs).u.cur = true → (WinFin.run c sp evs).u.live = true ∧ (WinFin.run c sp evs).u.sad = false) :=
  WinFin.source_disposed_at_most_once c sp evs

/-- `_partial`: hypothesis `Quiet c` (no operator callback raises, factories succeed, the inner dispose does not raise)
comes from the proof method; its necessity is shown only for `dispose_releases_all_fin` (do_on_dispose / do_finally). -/
theorem terminal_releases_all_fin_partial {α : Type} (c : WinFin.Cfg) (q : WinFin.Quiet c) (sp : WinFin.SyncPhase α)
    (evs : List (WinFin.Ev α)) (ht : WinFin.hasTerm (WinFin.run c sp evs).log = true) :
    (WinFin.run c sp evs).u.cur = false ∧ WinFin.srcCount (WinFin.run c sp evs).log = (WinFin.run c sp evs).u.live.toNat :=
  WinFin.terminal_releases_all_partial c q sp evs ht

theorem dispose_releases_all_fin {α : Type} (c : WinFin.Cfg) (q : WinFin.Quiet c) (sp : WinFin.SyncPhase α)
    (evs : List (WinFin.Ev α)) (hh : (WinFin.subscribePhase c sp : WinFin.St α).d.handle = true)
    (hd : WinFin.hasDispose evs = true) :
    (WinFin.run c sp evs).u.cur = false ∧ WinFin.srcCount (WinFin.run c sp evs).log = (WinFin.run c sp evs).u.live.toNat :=
  WinFin.dispose_releases_all c q sp evs hh hd

theorem using_releases_all {α : Type} (c : WinFin.Cfg) (hc : c.oper = .using) (hsd : c.srcDisposeRaises = false)
    (sp : WinFin.SyncPhase α) (evs : List (WinFin.Ev α)) (hh : (WinFin.subscribePhase c sp : WinFin.St α).d.handle = true)
    (h : WinFin.hasTerm (WinFin.run c sp evs).log = true ∨ WinFin.hasDispose evs = true) :
    (WinFin.run c sp evs).u.cur = false ∧ WinFin.srcCount (WinFin.run c sp evs).log = (WinFin.run c sp evs).u.live.toNat ∧
    WinFin.resCount (WinFin.run c sp evs).log = c.hasRes.toNat :=
  WinFin.using_releases_all c hc hsd sp evs hh h

theorem finally_action_releases_all {α : Type} (c : WinFin.Cfg) (hc : c.oper = .finallyAction)
    (sp : WinFin.SyncPhase α) (evs : List (WinFin.Ev α))
    (h : WinFin.hasTerm (WinFin.run c sp evs).log = true ∨
         ((WinFin.subscribePhase c sp : WinFin.St α).d.handle = true ∧ WinFin.hasDispose evs = true)) :
    (WinFin.run c sp evs).u.cur = false ∧ WinFin.srcCount (WinFin.run c sp evs).log = (WinFin.run c sp evs).u.live.toNat :=
  WinFin.finally_action_releases_all c hc sp evs h

end C02Win
