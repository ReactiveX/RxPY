import RxProofs.Lemmas.DispOnce
/-!
# C25 — a disposable's action runs at most once

`Disp.dStep / bStep / sStep` are the atomic-step models of `Disposable.dispose`,
`BooleanDisposable.dispose` and `ScheduledDisposable.dispose` (+ the scheduled action).  Every theorem
quantifies over the number of threads, the number of `dispose()` calls each thread makes and the schedule
(an arbitrary `List Nat` of thread indices); a call history on one thread is the case of one thread.
A re-entrant `dispose()` from inside the action is the same as a call by another thread interleaved at
that point (the action runs outside the lock), so it is covered by the same theorems.
-/

namespace C25
open Disp

/-- **action_at_most_once.** Any number of threads, any number of `dispose()` calls per thread, any schedule:
the action has run at most once. -/
theorem action_at_most_once (raises : Nat → Bool) (calls : List Nat) (sched : List Nat) :
    ((dInit calls).run (dStep raises) sched).sh.actions ≤ 1 := by
  have h := (dInv_run raises calls sched).1
  have : ((dInit calls).run (dStep raises) sched).sh.isDisposed.toNat ≤ 1 := Bool.toNat_le _
  omega

/-- **is_disposed_after_return.** In every reachable state: once any `dispose()` call has returned,
`is_disposed` is true. -/
theorem is_disposed_after_return (raises : Nat → Bool) (calls : List Nat) (sched : List Nat) :
    0 < ((dInit calls).run (dStep raises) sched).sh.returned → ((dInit calls).run (dStep raises) sched).sh.isDisposed = true :=
  (dInv_run raises calls sched).2

/-- **action_exactly_once_when_quiet.** If some `dispose()` returned and no thread is between the lock block
and the action call, the action has run exactly once (so: not zero times). -/
theorem action_exactly_once_when_quiet (raises : Nat → Bool) (calls : List Nat) (sched : List Nat)
    (hret : 0 < ((dInit calls).run (dStep raises) sched).sh.returned)
    (hquiet : ∀ t ∈ ((dInit calls).run (dStep raises) sched).pcs, t.1 = DPc.idle) :
    ((dInit calls).run (dStep raises) sched).sh.actions = 1 := by
  obtain ⟨h1, h2⟩ := dInv_run raises calls sched
  have hz : wsum dWon ((dInit calls).run (dStep raises) sched).pcs = 0 := by
    apply wsum_eq_zero
    intro a ha
    obtain ⟨pc, n⟩ := a
    have := hquiet _ ha
    simp only at this; subst this; rfl
  rw [hz, h2 hret] at h1
  simpa using h1

/-- **disposable_history.** One thread making `n+1` calls in a row, whether or not the action raises: the action
ran exactly once (during the first call), the flag is set and stays set, every call ended. -/
theorem disposable_history (raises : Nat → Bool) (n : Nat) :
    let s := (dInit [n + 1]).run (dStep raises) (0 :: 0 :: List.replicate n 0)
    s.sh.actions = 1 ∧ s.sh.isDisposed = true ∧ s.sh.returned = n + 1 := by
  have h := d_seq_tail raises { isDisposed := true, actions := 1, returned := 1, log := [.lock 0, .action, if raises 0 then .raised else .ret .unit] } n rfl
  simp only at h
  simp only [dInit, List.map_cons, List.map_nil, Sys.run_cons]
  have h2 : Sys.step (dStep raises) (Sys.step (dStep raises) ⟨{}, [(DPc.idle, n + 1)]⟩ 0) 0
      = ⟨{ isDisposed := true, actions := 1, returned := 1, log := [.lock 0, .action, if raises 0 then .raised else .ret .unit] }, [(.idle, n)]⟩ := by
    simp [Sys.step, dStep]
  rw [h2]
  exact ⟨h.1, h.2.1, by omega⟩

/-- **boolean_only_flag.** `BooleanDisposable.dispose` from any number of threads under any schedule: the flag
is set exactly when some call completed, and nothing else ever happens (no action, no item is disposed:
the event log consists of flag writes and returns only). -/
theorem boolean_only_flag (calls : List Nat) (sched : List Nat) :
    let s := (bInit calls).run bStep sched
    s.sh.isDisposed = decide (0 < s.sh.calls) ∧ ∀ e ∈ s.sh.log, e = Ev.wr ∨ e = Ev.ret .unit :=
  Sys.run_inv bStep BInv bInv_pres _ sched ⟨by simp [bInit], by simp [bInit]⟩

/-- **scheduled_exactly_once_on_scheduler.** `ScheduledDisposable` with any number of client threads calling
`dispose()` any number of times, each scheduled action running on its own scheduler worker at any later
time, any schedule:
* the wrapped resource is disposed at most once;
* every disposal of it is performed by a scheduler worker (never synchronously inside `dispose()`), and only
  after some `dispose()` call scheduled an action;
* as soon as one action has started, `is_disposed` (the inner flag) is true;
* once an action has started and no worker is between the inner lock block and the call-out, the wrapped
  resource has been disposed exactly once. -/
theorem scheduled_exactly_once_on_scheduler (callers : List Nat) (workers : Nat) (sched : List Nat) :
    let s := (sInit callers workers).run sStep sched
    s.sh.cnt ≤ 1 ∧ s.sh.cnt = s.sh.byWorker ∧ (0 < s.sh.cnt → 0 < s.sh.queued) ∧
    (0 < s.sh.started → s.sh.sadDisposed = true) ∧
    (0 < s.sh.started → (∀ t ∈ s.pcs, ∀ i, t ≠ SPc.pend i) → s.sh.cnt = 1) := by
  intro s
  obtain ⟨ha, hb, hc, hd, he⟩ : SInv s := Sys.run_inv sStep SInv sInv_pres _ sched (sInv_init callers workers)
  refine ⟨by omega, hb, ?_, fun h => (hc h).1, ?_⟩
  · intro hpos
    by_cases hcur : s.sh.sadCurrent = none
    · exact (hc (he hcur)).2
    · cases hx : s.sh.sadCurrent with
      | none => exact absurd hx hcur
      | some i => simp [hx] at ha; omega
  · intro hst hq
    have hz : wsum sPend s.pcs = 0 := by
      apply wsum_eq_zero
      intro a ha'
      cases a with
      | pend i => exact absurd rfl (hq _ ha' i)
      | _ => rfl
    have := hd (hc hst).1
    rw [hz, this] at ha
    simpa using ha

/-! Non-vacuity: concrete schedules in which the race is actually contended. -/

/-- the action raises during the first call: the exception leaves `dispose()`, the flag stays set and the two
later calls do not run the action again -/
example : let s := (dInit [3]).run (dStep fun _ => true) [0, 0, 0, 0]
    s.sh.actions = 1 ∧ s.sh.isDisposed = true ∧
    s.sh.log = [.lock 0, .action, .raised, .lock 0, .ret .unit, .lock 0, .ret .unit] := by decide +kernel

/-- three threads; thread 0 wins the flag, threads 1 and 2 go through the lock and return before thread 0
runs the action; thread 0 then runs it and calls again: one action, 4 calls returned -/
example : let s := (dInit [2, 1, 1]).run (dStep fun _ => false) [0, 1, 2, 0, 0]
    s.sh.actions = 1 ∧ s.sh.returned = 4 ∧ s.pcs = [(.idle, 0), (.idle, 0), (.idle, 0)] := by decide +kernel

/-- after thread 1 returned and before thread 0 ran the action, `actions = 0` — "exactly once" needs quiescence -/
example : let s := (dInit [1, 1]).run (dStep fun _ => false) [0, 1]
    s.sh.actions = 0 ∧ s.sh.returned = 1 ∧ s.sh.isDisposed = true := by decide +kernel

/-- two clients call dispose(); worker 1 runs first and swaps the resource out, worker 0 runs its whole action
and returns before worker 1 performs the call-out -/
example : let s := (sInit [1, 1] 2).run sStep [0, 1, 3, 2, 3]
    s.sh.cnt = 1 ∧ s.sh.finished = 2 ∧ s.sh.queued = 2 := by decide +kernel

/-- a worker whose action was not scheduled yet cannot run: nothing is disposed synchronously -/
example : let s := (sInit [1] 1).run sStep [1, 1, 0]
    s.sh.cnt = 0 ∧ s.sh.queued = 1 := by decide +kernel

end C25
