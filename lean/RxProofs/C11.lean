import RxProofs.Lemmas.CombHO
/-!
# C11 — merging keeps each inner order and completes when all complete

Trace machines `maM` (merge_all; also flat_map / flat_map_indexed = map ∘ merge_all and rx.merge) and `mcM maxc`
(merge(max_concurrent); concat_map = map ∘ merge(1)), started with only the outer source (id 0) subscribed and fed
an ARBITRARY event list.  `accepted … es` = the notifications that found their subscription open.
-/
open Comb

namespace C11

/-- **merge_per_inner_order** (merge_all). The values that go out are exactly the elements delivered by the inner
sources, in arrival order, each one emitted by the step that delivers it (hence at its virtual time). Restricting
both sides to one inner gives that inner's elements in their original order. -/
theorem merge_per_inner_order {α} (es : List (Ev (HV α))) :
    outVals (run (maM (α := α)) (hoInit {}) es) = (accepted (maM (α := α)) (hoInit {}) es).filterMap innerVal :=
  outVals_run_filterMap maM innerVal ma_out (fun _ _ => rfl) es _ (WF_of_not_done _ rfl)

/-- the same for merge(max_concurrent) (and concat_map) -/
theorem merge_per_inner_order_maxc {α} (maxc : Nat) (es : List (Ev (HV α))) :
    outVals (run (mcM (α := α) maxc) (hoInit {}) es)
      = (accepted (mcM (α := α) maxc) (hoInit {}) es).filterMap innerVal :=
  outVals_run_filterMap (mcM maxc) innerVal (mc_out maxc) (fun _ _ => rfl) es _ (WF_of_not_done _ rfl)

/-- per-inner reading: for any way of telling which inner an element belongs to (`tag`), the output restricted to
inner `k` is the delivered-elements list restricted to `k`, same order (`merge_per_inner_order` under `List.filter`). -/
theorem merge_per_inner_order_tagged {α} (tag : α → Nat) (k : Nat) (es : List (Ev (HV α))) :
    (outVals (run (maM (α := α)) (hoInit {}) es)).filter (fun v => tag v == k)
      = ((accepted (maM (α := α)) (hoInit {}) es).filterMap innerVal).filter (fun v => tag v == k) := by
  rw [merge_per_inner_order]

/-- **merge_exact_multiset.** Nothing is lost, duplicated or invented (the two lists of `merge_per_inner_order(_maxc)` are equal,
hence permutations of each other). -/
theorem merge_exact_multiset {α} (maxc : Nat) (es : List (Ev (HV α))) :
    (outVals (run (maM (α := α)) (hoInit {}) es)).Perm ((accepted (maM (α := α)) (hoInit {}) es).filterMap innerVal) ∧
    (outVals (run (mcM (α := α) maxc) (hoInit {}) es)).Perm
      ((accepted (mcM (α := α) maxc) (hoInit {}) es).filterMap innerVal) := by
  rw [merge_per_inner_order, merge_per_inner_order_maxc]; exact ⟨List.Perm.refl _, List.Perm.refl _⟩

/-- **merge_maxc_bound.** In every reachable state at most `max_concurrent` inner subscriptions are live
(and `active_count` bounds them). -/
theorem merge_maxc_bound {α} (maxc : Nat) (es : List (Ev (HV α))) :
    ((final (mcM (α := α) maxc) (hoInit {}) es).p.live.filter (· != 0)).length ≤ maxc := by
  have h := final_inv _ (mc_step_inv (α := α) maxc) es _ (mc_init_inv maxc)
  exact Nat.le_trans h.le h.amax

/-- **merge_queue_fifo.** The inners are subscribed in arrival order: the subscribe effects followed by the waiting
queue are exactly the arrivals (so a queued inner starts before every inner that arrived after it). -/
theorem merge_queue_fifo {α} (maxc : Nat) (es : List (Ev (HV α))) :
    subsOf (run (mcM (α := α) maxc) (hoInit {}) es) ++ (final (mcM (α := α) maxc) (hoInit {}) es).s.queue
      = (accepted (mcM (α := α) maxc) (hoInit {}) es).filterMap arrival := by
  have := (run_obs (mcM (α := α) maxc) (McInv maxc) (mc_step_inv maxc)
    (Q := fun s acc _ subs => subs ++ s.queue = acc.filterMap arrival)
    (fun st acc _ subs k n hI _ _ hq => by
      rw [List.append_assoc, show (mcM (α := α) maxc).handler = mcHandler maxc from rfl,
        mc_handler_fifo maxc st.s k n hI.qfull, ← List.append_assoc, hq, List.filterMap_append, filterMap_one])
    (fun _ _ _ _ _ hq => by simpa [mcM, actSubs] using hq)
    es (hoInit {}) [] [] [] (WF_of_not_done _ rfl) (mc_init_inv maxc) (fun _ _ hx => nomatch hx) rfl).1
  simpa using this

/-- **merge_first_error.** The first error delivered by the outer or by any live inner goes out in that step and
nothing follows it. -/
theorem merge_first_error {α} (maxc : Nat) (pre post : List (Ev (HV α))) (k : Nat) (e : Err) :
    (k ∈ (final (maM (α := α)) (hoInit {}) pre).p.live →
      emits (run (maM (α := α)) (hoInit {}) (pre ++ .src k (.error e) :: post))
        = emits (run (maM (α := α)) (hoInit {}) pre) ++ [Notif.error e]) ∧
    (k ∈ (final (mcM (α := α) maxc) (hoInit {}) pre).p.live →
      emits (run (mcM (α := α) maxc) (hoInit {}) (pre ++ .src k (.error e) :: post))
        = emits (run (mcM (α := α) maxc) (hoInit {}) pre) ++ [Notif.error e]) :=
  ⟨first_error_terminates maM (fun _ _ _ => rfl) _ (WF_of_not_done _ rfl) pre post k e,
   first_error_terminates (mcM maxc) (fun _ _ _ => rfl) _ (WF_of_not_done _ rfl) pre post k e⟩

/-- **merge_completes_iff** (merge_all, flat_map, rx.merge). Walk the delivered notifications remembering which arrived inners
have not completed yet (an arrival appends the inner, an inner completion erases it) and whether the outer completed
(`maTStep`). The output completes if and only if at the end of the delivered notifications the outer has completed and no
arrived inner is left uncompleted (`maRule`) — in the very step that makes this true. -/
theorem merge_completes_iff {α} (es : List (Ev (HV α))) :
    Notif.completed ∈ emits (run (maM (α := α)) (hoInit {}) es)
      ↔ maRule ((accepted (maM (α := α)) (hoInit {}) es).foldl maTStep {}) := by
  have h := (maCompletes.run es (hoInit {}) _ (WF_of_not_done _ rfl) trivial rfl (by simp [maRule, maAbs, hoInit])).1
  simpa [maAbs, hoInit] using h

/-- **merge_completes_maxc_state** (merge(max_concurrent), concat_map). If the output completes then, in the final state,
the outer has completed (`is_stopped`), `active_count` is 0, no inner subscription is live and (max_concurrent ≥ 1) the
queue is empty: every arrived inner was started and has been closed (state-level reading; the full iff on the delivered
notifications is `merge_completes_iff_maxc`). -/
theorem merge_completes_maxc_state {α} (maxc : Nat) (hm : 1 ≤ maxc) (es : List (Ev (HV α)))
    (hc : Notif.completed ∈ emits (run (mcM (α := α) maxc) (hoInit {}) es)) :
    let st := final (mcM (α := α) maxc) (hoInit {}) es
    st.s.stopped = true ∧ st.s.active = 0 ∧ st.p.live.filter (· != 0) = [] ∧ st.s.queue = [] := by
  intro st
  have hinv : McInv maxc st := final_inv _ (mc_step_inv maxc) es _ (mc_init_inv maxc)
  have hC := (mcCompletes maxc hm).run es (hoInit {}) {} (WF_of_not_done _ rfl) (mc_init_inv maxc) ⟨rfl, rfl⟩
    (by simp [mcCountRule])
  have hr : mcRule st.s := (hC.2.rule_iff hm hinv.qfull).mp (hC.1.mp hc)
  refine ⟨hr.1, hr.2, ?_, ?_⟩
  · have := hinv.le
    rw [hr.2] at this
    exact List.length_eq_zero_iff.mp (Nat.le_zero.mp this)
  · cases hq : st.s.queue with
    | nil => rfl
    | cons a as =>
      have := hinv.qfull (by simp [hq])
      rw [hr.2] at this; omega

/-- **merge_completes_iff_maxc** (merge(max_concurrent ≥ 1), concat_map) — the full iff on the delivered notifications. Count the
arrivals, the delivered inner completions and note the outer's completion (`mcTStep`). The output completes if and only if, at
the end of the delivered notifications, the outer has completed and as many inner completions were delivered as inners
arrived (`mcCountRule`; a subscription completes at most once, so this is "every arrived inner — started at once or from the
queue — has completed"), in the step that makes it true. `mcT_counts` spells the counters out: `nArr` is the number of
delivered outer elements, `outerDone` is `(0, completed) ∈ accepted`. -/
theorem merge_completes_iff_maxc {α} (maxc : Nat) (hm : 1 ≤ maxc) (es : List (Ev (HV α))) :
    Notif.completed ∈ emits (run (mcM (α := α) maxc) (hoInit {}) es)
      ↔ mcCountRule ((accepted (mcM (α := α) maxc) (hoInit {}) es).foldl mcTStep {}) :=
  ((mcCompletes maxc hm).run es (hoInit {}) {} (WF_of_not_done _ rfl) (mc_init_inv maxc) ⟨rfl, rfl⟩
    (by simp [mcCountRule])).1

/-- **concat_map_ordered** (max_concurrent = 1). In every reachable state the only inner subscription that can be live is the
MOST RECENTLY SUBSCRIBED one: an inner is subscribed only when every earlier inner has been closed. Together with
`merge_queue_fifo` (inners are subscribed in arrival order) and `merge_per_inner_order_maxc` (the output is the
sequence of delivered inner elements) this is the ordered concatenation: the output consists of the elements of the
first arrived inner, then those of the second, … — no interleaving. -/
theorem concat_map_ordered {α} (es : List (Ev (HV α))) (k : Nat)
    (hk : k ∈ (final (mcM (α := α) 1) (hoInit {}) es).p.live) (hk0 : k ≠ 0) :
    (subsOf (run (mcM (α := α) 1) (hoInit {}) es)).getLast? = some k ∧
    (final (mcM (α := α) 1) (hoInit {}) es).p.live.filter (· != 0) = [k] := by
  have h := (blocks_run (α := α) es).o
  refine ⟨h.last k hk hk0, ?_⟩
  have hle : ((final (mcM (α := α) 1) (hoInit {}) es).p.live.filter (· != 0)).length ≤ 1 :=
    Nat.le_trans h.inv.le h.inv.amax
  have hmem : k ∈ (final (mcM (α := α) 1) (hoInit {}) es).p.live.filter (· != 0) :=
    List.mem_filter.mpr ⟨hk, by simpa using hk0⟩
  generalize (final (mcM (α := α) 1) (hoInit {}) es).p.live.filter (· != 0) = l at hle hmem
  match l, hle, hmem with
  | [a], _, hmem => simp at hmem; rw [hmem]
  | a :: b :: r, hle, _ => simp at hle

/-- **concat_map_blocks** — the explicit block decomposition for max_concurrent = 1 (concat_map), every event list: there is a list
of blocks `(inner id, elements)`, one per SUBSCRIBED inner and in subscription order (= arrival order, `merge_queue_fifo`),
such that the sequence of delivered inner elements tagged with their inner is the blocks laid out one after the other, and
the output is exactly the concatenation of the blocks' elements: first everything of the first inner, then everything of the
second, … -/
theorem concat_map_blocks {α} (es : List (Ev (HV α))) :
    ∃ bs : List (Nat × List α),
      bs.map (·.1) = subsOf (run (mcM (α := α) 1) (hoInit {}) es) ∧
      (accepted (mcM (α := α) 1) (hoInit {}) es).filterMap innerKV = expandBlocks bs ∧
      outVals (run (mcM (α := α) 1) (hoInit {}) es) = (bs.map (·.2)).flatten := by
  have h := blocks_run (α := α) es
  obtain ⟨bs, hb1, hb2⟩ := h.blocks
  refine ⟨bs, hb1, hb2, ?_⟩
  rw [merge_per_inner_order_maxc, innerVal_eq_kv, hb2]
  simp [expandBlocks, List.flatMap_def, Function.comp_def]

/-- non-vacuity: max_concurrent = 1, three inners; the second and third wait, start in arrival order; an inner error ends it -/
example :
    run (mcM (α := Nat) 1) (hoInit {})
      [.src 0 (.next (.obs 0)), .src 0 (.next (.obs 1)), .src 1 (.next (.val 7)), .src 0 (.next (.obs 2)),
       .src 2 (.next (.val 9)), .src 1 .completed, .src 2 (.next (.val 8)), .src 2 .completed, .src 3 (.error "e"),
       .src 0 .completed]
      = [.sub 1, .emit (.next 7), .unsub 1, .sub 2, .emit (.next 8), .unsub 2, .sub 3, .emit (.error "e"), .unsub 0, .unsub 3] := by
  decide

/-! ### re-entrant outer emissions
Every theorem above quantifies over ALL event lists. A re-entrant outer emission (the subscriber reacts to an element by
pushing the next inner into the outer subject while an inner is still inside its own `subscribe` call) is just the next
event of the list: the handlers do nothing after the point at which the nested call happens (`subscribe(inner)` is the last
statement of the outer `on_next`, `observer.on_next(x)` the last of the inner one), so the flat list is the faithful trace.
In particular `merge_maxc_bound`, `merge_queue_fifo` and `concat_map_blocks` cover them. -/

/-- non-vacuity with a NESTED emission: max_concurrent = 1; inner 1 emits 7 inside its own subscribe, the consumer reacts by
pushing inner 2 into the outer (4th event, delivered while inner 1 is still subscribing): inner 2 is queued — `active_count`
already counts inner 1 — and started only when inner 1 completes. -/
example :
    run (mcM (α := Nat) 1) (hoInit {})
      [.src 0 (.next (.obs 0)), .src 1 (.next (.val 7)), .src 0 (.next (.obs 1)), .src 1 (.next (.val 8)), .src 1 .completed,
       .src 2 (.next (.val 9))]
      = [.sub 1, .emit (.next 7), .emit (.next 8), .unsub 1, .sub 2, .emit (.next 9)] := by decide

/-- `merge_maxc_bound` at the prefixes of that list (it holds of every list) -/
example : ∀ k, k ≤ 6 →
    ((final (mcM (α := Nat) 1) (hoInit {})
      (([.src 0 (.next (.obs 0)), .src 1 (.next (.val 7)), .src 0 (.next (.obs 1)), .src 1 (.next (.val 8)), .src 1 .completed,
         .src 2 (.next (.val 9))] : List (Ev (HV Nat))).take k)).p.live.filter (· != 0)).length ≤ 1 :=
  fun k _ => merge_maxc_bound 1 _

end C11
