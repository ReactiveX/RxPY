import RxProofs.Lemmas.ThrSO
/-!
# C32 — observe_on / ScheduledObserver: every notification once, in order, serially, no lost wake-up

Model: `RxModel/ThrSO.lean` (atomic-step model of `ScheduledObserver.ensure_active/run` and the
`ObserveOnObserver` producers).  Every theorem below is about `run raises (init progs nc nd) sched`:
ANY number of producer threads with ANY call lists `progs`, ANY number `nc` of scheduler threads
able to execute the scheduled `run` action, ANY behaviour `raises` of the downstream observer
(which deliveries raise) and ANY schedule `sched` (list of thread ids, unbounded).

Several producers: the model's `assign` step does not dispose the previously held run as `SerialDisposable` does, and with two producer
threads the real code can lose a run that way. The theorems hold of the code for ONE producer thread (Rx serialises `on_next`) and of the
model only beyond that (DESIGN.md §8).

"received" = the order of the (atomic, unlocked) `queue.append` steps; "delivered" = the order in
which the downstream callbacks are entered.
-/
namespace C32
open Thr Thr.SO

variable {α : Type}

theorem reach_inv (raises : Nat → Bool) (progs : List (List (Call α))) (nc nd : Nat) (sched : List Tid) :
    SInv (run raises (init progs nc nd) sched) :=
  run_inv raises _ sched (init_inv progs nc nd)

/-- **In order**: at every moment of every interleaving the sequence handed to the downstream
observer is a prefix of the sequence received (so: no reordering, no duplication, no invention). -/
theorem delivered_is_prefix_in_order (raises : Nat → Bool) (progs : List (List (Call α))) (nc nd : Nat)
    (sched : List Tid) :
    (run raises (init progs nc nd) sched).delivered <+: (run raises (init progs nc nd) sched).received :=
  (reach_inv raises progs nc nd sched).pref

/-- **Conservation**: as long as no delivery has raised, every received notification is in exactly one
place — already delivered, popped and about to be delivered, or still queued — in received order. -/
theorem conservation (raises : Nat → Bool) (progs : List (List (Call α))) (nc nd : Nat) (sched : List Tid)
    (h : (run raises (init progs nc nd) sched).raisedG = false) :
    let s := run raises (init progs nc nd) sched
    s.delivered ++ s.cons.flatMap itemsC ++ s.queue = s.received :=
  (reach_inv raises progs nc nd sched).order h

/-- **No lost wake-up**: in every reachable state in which nothing is left to run (all producers
returned, no `run` pending on the scheduler, no `run` executing) the queue is empty, unless the
observer has faulted — or `dispose()` cancelled the pending run (`lostToken`; only possible after the SerialDisposable was
disposed, `lostToken_only_after_dispose`). -/
theorem no_lost_wakeup (raises : Nat → Bool) (progs : List (List (Call α))) (nc nd : Nat) (sched : List Tid)
    (hq : quiescent (run raises (init progs nc nd) sched) = true) :
    (run raises (init progs nc nd) sched).queue = [] ∨ (run raises (init progs nc nd) sched).hasFaulted = true ∨
      (run raises (init progs nc nd) sched).lostToken = true := by
  have inv := reach_inv raises progs nc nd sched
  generalize run raises (init progs nc nd) sched = s at *
  obtain ⟨q1, q2, q3, q4, _⟩ := quiescent_facts s hq
  cases hf : s.hasFaulted
  · cases hl : s.lostToken
    · left
      by_cases hqe : s.queue = []
      · exact hqe
      · exfalso
        rcases inv.wake hqe hf with h | h
        · have := inv.tok; simp [h, hf, hl] at this; omega
        · omega
    · right; right; rfl
  · right; left; rfl

/-- **Exactly once**: when nothing is left to run and no delivery raised, the downstream observer has
been handed exactly the received sequence — every notification once, in order. -/
theorem exactly_once (raises : Nat → Bool) (progs : List (List (Call α))) (nc nd : Nat) (sched : List Tid)
    (hq : quiescent (run raises (init progs nc nd) sched) = true)
    (hf : (run raises (init progs nc nd) sched).hasFaulted = false)
    (hl : (run raises (init progs nc nd) sched).lostToken = false) :
    (run raises (init progs nc nd) sched).delivered = (run raises (init progs nc nd) sched).received := by
  have inv := reach_inv raises progs nc nd sched
  have nl := no_lost_wakeup raises progs nc nd sched hq
  generalize run raises (init progs nc nd) sched = s at *
  obtain ⟨q1, q2, q3, q4, q5⟩ := quiescent_facts s hq
  have hr : s.raisedG = false := by
    cases hr : s.raisedG
    · rfl
    · have := inv.tok; simp [(inv.dead hr).acq, hf, hl] at this; omega
  have ho := inv.order hr
  rcases nl with h | h | h
  · rw [q5, h] at ho; simpa using ho
  · simp [hf] at h
  · simp [hl] at h

/-- the ownership token is lost only once the SerialDisposable has been disposed -/
theorem lostToken_only_after_dispose (raises : Nat → Bool) (progs : List (List (Call α))) (nc nd : Nat) (sched : List Tid)
    (h : (run raises (init progs nc nd) sched).lostToken = true) :
    (run raises (init progs nc nd) sched).serialDisposed = true :=
  (reach_inv raises progs nc nd sched).lt h

/-- **Serial**: at most one `run` is pending on the scheduler or executing, over all scheduler
threads, in every reachable state. -/
theorem at_most_one_run_active (raises : Nat → Bool) (progs : List (List (Call α))) (nc nd : Nat) (sched : List Tid) :
    (run raises (init progs nc nd) sched).pendingRuns + sumBy actC (run raises (init progs nc nd) sched).cons ≤ 1 := by
  have inv := reach_inv raises progs nc nd sched
  have := inv.tok
  have : (run raises (init progs nc nd) sched).isAcquired.toNat ≤ 1 := Bool.toNat_le _
  omega

/-- never two deliveries at once: at most one thread is inside a downstream callback. -/
theorem deliveries_never_overlap (raises : Nat → Bool) (progs : List (List (Call α))) (nc nd : Nat) (sched : List Tid) :
    sumBy delivC (run raises (init progs nc nd) sched).cons ≤ 1 := by
  have := at_most_one_run_active raises progs nc nd sched
  have := deliv_le_busy (run raises (init progs nc nd) sched).cons
  have := busy_le_act (run raises (init progs nc nd) sched).cons
  omega

/-- **After a fault, nothing**: once a delivery has raised, no schedule whatsoever makes the downstream
observer receive anything further. -/
theorem after_fault_nothing (raises : Nat → Bool) (progs : List (List (Call α))) (nc nd : Nat) (sched more : List Tid)
    (hr : (run raises (init progs nc nd) sched).raisedG = true) :
    (run raises (init progs nc nd) (sched ++ more)).delivered = (run raises (init progs nc nd) sched).delivered := by
  rw [run_append]
  exact raised_run raises _ more (reach_inv raises progs nc nd sched) hr

/-- once a delivery has raised, no `run` is pending and no consumer is inside `run` short of the fault block -/
theorem after_fault_no_run (raises : Nat → Bool) (progs : List (List (Call α))) (nc nd : Nat) (sched : List Tid)
    (hr : (run raises (init progs nc nd) sched).raisedG = true) :
    (run raises (init progs nc nd) sched).pendingRuns = 0 ∧ sumBy busyC (run raises (init progs nc nd) sched).cons = 0 :=
  have d := (reach_inv raises progs nc nd sched).dead hr
  ⟨d.pend, d.busy⟩

private def p1 : List (List (Call Nat)) := [[⟨1, false⟩, ⟨2, false⟩, ⟨3, true⟩, ⟨4, false⟩]]
open Tid in
/-- producer emits 1, the scheduler thread starts draining while the producer appends 2 between the
consumer's pop and delivery, the consumer releases the token exactly when 3 is being appended, the
4th call is dropped by `is_stopped`. Ends quiescent with everything delivered. -/
private def sch1 : List Tid :=
  [prod 0, prod 0, prod 0, prod 0, prod 0,   -- check, append 1, ea (owner), schedule(run), store its disposable
   cons 0, cons 0,                      -- run begins, pop 1
   prod 0, prod 0,                      -- check, append 2
   cons 0, cons 0, cons 0,              -- deliver 1 (start, end), re-schedule
   prod 0,                              -- ea: not owner
   cons 0, cons 0, cons 0, cons 0, cons 0,   -- run: pop 2, deliver, re-schedule
   prod 0, prod 0,                      -- check, mark (terminal)
   cons 0, cons 0,                      -- run: queue empty -> release
   prod 0, prod 0, prod 0, prod 0,      -- append 3, ea (owner again), schedule, store
   prod 0,                              -- 4th call skipped
   cons 0, cons 0, cons 0, cons 0, cons 0, cons 0, cons 0]
example : quiescent (run (fun _ => false) (init p1 1) sch1) = true := by decide
example : (run (fun _ => false) (init p1 1) sch1).delivered = [1, 2, 3] := by decide
example : (run (fun _ => false) (init p1 1) sch1).received = [1, 2, 3] := by decide
/-- the second delivery raises: the third notification is received but never delivered. -/
example : (run (fun k => k == 1) (init p1 1) sch1).hasFaulted = true ∧
    (run (fun k => k == 1) (init p1 1) sch1).delivered = [1, 2] ∧
    (run (fun k => k == 1) (init p1 1) sch1).received = [1, 2, 3] ∧
    quiescent (run (fun k => k == 1) (init p1 1) sch1) = true := by decide

/-- dispose() while the run scheduled by ensure_active is still pending: the run is cancelled, the received
notification is never delivered, and the state is quiescent with a non-empty queue — exactly the `lostToken` case. -/
private def schD : List Tid :=
  [Tid.prod 0, Tid.prod 0, Tid.prod 0, Tid.prod 0, Tid.prod 0, Tid.disp 0, Tid.disp 0, Tid.disp 0, Tid.cons 0]
example : let s := run (fun _ => false) (init ([[⟨1, false⟩]] : List (List (Call Nat))) 1 1) schD
    quiescent s = true ∧ s.queue = [1] ∧ s.delivered = [] ∧ s.lostToken = true ∧ s.serialDisposed = true := by decide

end C32
