import RxProofs.Lemmas.SubjThm
import RxProofs.Lemmas.SubjNat
import RxProofs.Lemmas.SubjLate
/-!
# C23 — an AsyncSubject delivers only the final value

Model: `RxModel/Subj.lean` with `kind = .async` (the machine of C20 plus `value` / `has_value`).
Quantification as in C20: every configuration reachable by any history and any reaction scripts.
`lastNext tr` is the value of the last `on_next` the subject accepted (if any).
-/

namespace C23
open Subj
variable {α : Type}

/-- **async_nothing_before_end.**  As long as the subject has neither terminated nor been disposed, no
observer has been handed anything, no delivery is pending, and `on_next` queues nothing. -/
theorem async_nothing_before_end {cfg : Cfg} {v : Option α} (hv : InitOK cfg v) {st : St α} {ag : List (Subj.Task α)}
    (hk : cfg.kind = .async) (h : Reachable cfg v st ag) (hs : st.stopped = false) :
    (∀ i, st.log i = []) ∧ (∀ i, recvs i st.tr = []) ∧ (∀ t ∈ ag, Subj.Task.isDeliver t = false) ∧
    (∀ x, (emit cfg st (.next x)).2 = []) := by
  have hq := async_quiet hk h hs
  have hV := reachable_vinv h
  have hd := (reachable_inv h).1.undisposed hs
  refine ⟨fun i => by rw [hV.log i, hq.1 i]; rfl, hq.1, hq.2, (async_emit_terminal hk h hd hs).2.2.2⟩

/-- **async_last_then_completed** (current subscribers).  On completion with a last value `x`, exactly
the members at that time are queued, in order, each for `x` immediately followed by completion; each of
the two is handed on iff the observer has not been detached when its turn comes (`deliver_turn`). -/
theorem async_last_then_completed {cfg : Cfg} {v : Option α} (hv : InitOK cfg v) {st : St α} {ag : List (Subj.Task α)}
    (hk : cfg.kind = .async) (h : Reachable cfg v st ag) (hd : st.disposed = false) (hs : st.stopped = false)
    (x : α) (hx : lastNext st.tr = some x) :
    (emit cfg st .completed).2 =
        (members st.tr).flatMap (fun i => [Subj.Task.deliver i (.next x), Subj.Task.deliver i .completed]) ∧
    (∀ (st' : St α) (ag' : List (Subj.Task α)) i n, Reachable cfg v st' ag' →
      (detached i st'.tr = true → deliver cfg st' i n = (st', [], false)) ∧
      (detached i st'.tr = false →
        (deliver cfg st' i n).1.log i = if userSees cfg i n then st'.log i ++ [n] else st'.log i)) :=
  ⟨(async_emit_terminal hk h hd hs).1 x hx,
   fun _ _ i n h' => ⟨(deliver_turn h' i n).1, fun hdet => ((deliver_turn h' i n).2.1 hdet).2⟩⟩

/-- **async_last_then_completed** (later subscribers).  A subscriber arriving after completion, when a
last value `x` exists, is queued for `x` then completion (then `subscribe` returns); a fresh observer
is handed `x` first. -/
theorem async_late_last_then_completed {cfg : Cfg} {v : Option α} (hv : InitOK cfg v) {st : St α}
    {rest : List (Subj.Task α)} (hk : cfg.kind = .async) (who : Option Id) (j : Id) (x : α)
    (h : Reachable cfg v st (.act who (.sub j) :: rest))
    (hs : st.stopped = true) (hd : st.disposed = false) (hj : st.seen j = false)
    (hx : lastNext st.tr = some x) (hc : terminated st.tr = some .completed) :
    let r1 := step1 cfg st (.act who (.sub j))
    let r2 := step1 cfg r1.1 (.deliver j (.next x))
    r1.2.1 = [.deliver j (.next x), .deliver j .completed, .finish j (some .noop)] ∧ r1.2.2 = false ∧
    r1.1.log j = [] ∧ r2.1.log j = [.next x] ∧
    Reachable cfg v r2.1 (nextAgenda r2 (.deliver j .completed :: .finish j (some .noop) :: rest)) := by
  intro r1 r2
  have hI := (reachable_inv h).1
  have hr1 : r1 = _ := async_late_step hk who j x h hs hd hj hx hc
  have hst1 : r1.1.adoStopped j = false := by rw [hr1]; exact hI.fresh_ado hj
  have hlog1 : r1.1.log j = [] := by rw [hr1]; exact hI.fresh_log hj
  have hlog2 : r2.1.log j = [.next x] := (deliver_first hst1 hlog1 rfl).1
  have hstep1 : Reachable cfg v r1.1 (nextAgenda r1 rest) := h.step
  have hr1a : nextAgenda r1 rest = .deliver j (.next x) :: .deliver j .completed :: .finish j (some .noop) :: rest := by
    simp [hr1, nextAgenda]
  rw [hr1a] at hstep1
  exact ⟨by rw [hr1], by rw [hr1], hlog1, hlog2, hstep1.step⟩

/-- **async_late_gets_both.**  …and the completion always follows: whatever the reactions of the late
subscriber's own callback to the value do (they run to completion inside `subscribe`, `RunsTo`), they cannot
detach it — it holds no handle before `subscribe` returns — so it is then handed `completed`: its log is
exactly `[x, completed]`. -/
theorem async_late_gets_both {cfg : Cfg} {v : Option α} (hv : InitOK cfg v) {st : St α}
    {rest : List (Subj.Task α)} (hk : cfg.kind = .async) (who : Option Id) (j : Id) (x : α)
    (h : Reachable cfg v st (.act who (.sub j) :: rest))
    (hs : st.stopped = true) (hd : st.disposed = false) (hj : st.seen j = false)
    (hx : lastNext st.tr = some x) (hc : terminated st.tr = some .completed) :
    let r1 := step1 cfg st (.act who (.sub j))
    let r2 := step1 cfg r1.1 (.deliver j (.next x))
    r2.2.2 = false ∧
    ∀ st', RunsTo cfg r2.1 r2.2.1 st' →
      (step1 cfg st' (.deliver j .completed)).1.log j = [.next x, .completed] ∧
      Reachable cfg v st' (.deliver j .completed :: .finish j (some .noop) :: rest) := by
  intro r1 r2
  have base := async_late_last_then_completed hv hk who j x h hs hd hj hx hc
  simp only at base
  obtain ⟨b1, b2, b3, b4, b5⟩ := base
  have hI := (reachable_inv h).1
  have hr1 : r1.1 = { st with seen := upd st.seen j true } :=
    congrArg Prod.fst (async_late_step hk who j x h hs hd hj hx hc)
  have hst1 : r1.1.adoStopped j = false := by rw [hr1]; exact hI.fresh_ado hj
  have hseen1 : r1.1.seen j = true := by rw [hr1]; simp
  have hh1 : r1.1.handle j = false := by rw [hr1]; exact hI.fresh_handle hj
  have hr2 : r2 = (callback r1.1 j (.next x), reactions cfg r1.1 j, false) := deliver_next cfg x hst1
  refine ⟨by rw [hr2], ?_⟩
  intro st' hrun
  have hpre : ∀ t ∈ r2.2.1, NotJ j t := by rw [hr2]; exact notJ_reactions cfg r1.1 j j
  have fr := hrun.frame hpre (by rw [hr2]; simpa [callback] using hseen1) (by rw [hr2]; simpa [callback] using hh1)
  have hlog : st'.log j = [.next x] := by rw [fr.1]; exact b4
  have hado : st'.adoStopped j = false := by rw [fr.2.1, hr2]; simpa [callback] using hst1
  refine ⟨by rw [step1_deliver, deliver_term cfg hado rfl rfl]; simp [callback, hlog], ?_⟩
  have e : nextAgenda r2 (.deliver j .completed :: .finish j (some .noop) :: rest) =
      r2.2.1 ++ (.deliver j .completed :: .finish j (some .noop) :: rest) := by
    simp [nextAgenda, hr2]
  rw [e] at b5
  exact hrun.reachable b5

/-- **async_error_only.**  On error exactly the members are queued for the error and nothing else (no
value, even if one exists); a later subscriber (with a handler) gets only the error, forever. -/
theorem async_error_only {cfg : Cfg} {v : Option α} (hv : InitOK cfg v) {st : St α} {ag : List (Subj.Task α)}
    (hk : cfg.kind = .async) (h : Reachable cfg v st ag) :
    (st.disposed = false → st.stopped = false →
      ∀ e, (emit cfg st (.error e)).2 = (members st.tr).map (Subj.Task.deliver · (.error e))) ∧
    (∀ who j rest e, ag = .act who (.sub j) :: rest → st.stopped = true → st.disposed = false →
      st.seen j = false → st.exception = some e → cfg.hasErr j = true →
      let r1 := step1 cfg st (.act who (.sub j))
      let r2 := step1 cfg r1.1 (.deliver j (.error e))
      terminated st.tr = some (.error e) ∧
      r1.2.1 = [.deliver j (.error e), .finish j (some .noop)] ∧ r2.1.log j = [.error e] ∧
      ∀ st' ag', Reach cfg r2.1 (nextAgenda r2 (.finish j (some .noop) :: rest)) st' ag' → st'.log j = [.error e]) := by
  refine ⟨fun hd hs => (async_emit_terminal hk h hd hs).2.2.1, ?_⟩
  intro who j rest e hag hs hd hj hx he
  subst hag
  have := late_terminal (fun _ => Or.inr (by simp [hx])) who j h hs hd hj (Or.inl he)
  simp only [termOf, hx] at this
  exact ⟨this.1, this.2.1, this.2.2.2.2.1, this.2.2.2.2.2⟩

/-- **async_empty_completes.**  With no value at all, completion queues exactly the members for
`completed` only; a later subscriber gets only `completed`, forever. -/
theorem async_empty_completes {cfg : Cfg} {v : Option α} (hv : InitOK cfg v) {st : St α} {ag : List (Subj.Task α)}
    (hk : cfg.kind = .async) (h : Reachable cfg v st ag) (hd : st.disposed = false) (hn : lastNext st.tr = none) :
    (st.stopped = false →
      (emit cfg st .completed).2 = (members st.tr).map (Subj.Task.deliver · .completed)) ∧
    (∀ who j rest, ag = .act who (.sub j) :: rest → st.stopped = true → st.seen j = false → st.exception = none →
      let r1 := step1 cfg st (.act who (.sub j))
      let r2 := step1 cfg r1.1 (.deliver j .completed)
      r1.2.1 = [.deliver j .completed, .finish j (some .noop)] ∧ r2.1.log j = [.completed] ∧
      ∀ st' ag', Reach cfg r2.1 (nextAgenda r2 (.finish j (some .noop) :: rest)) st' ag' → st'.log j = [.completed]) := by
  refine ⟨fun hs => (async_emit_terminal hk h hd hs).2.1 hn, ?_⟩
  intro who j rest hag hs hj hx
  subst hag
  have hV := reachable_vinv h
  have hhv : st.hasValue = false := by rw [(hV.asy hk hd).2, hn]; rfl
  have := late_terminal (fun _ => Or.inl hhv) who j h hs hd hj (Or.inr hx)
  simp only [termOf, hx] at this
  exact ⟨this.2.1, this.2.2.2.2.1, this.2.2.2.2.2⟩

/-- **async_natural** (C08 for this subject: no value is special).  Renaming every value of a history (and the
initial value) with an arbitrary function `g` renames the notifications every observer sees and changes nothing
else: same exceptions per call, same exceptions caught by reacting callbacks, same observers.  AsyncSubject. -/
theorem async_natural {β : Type} (cfg : Cfg) (g : α → β) (fuel : Nat) (v : Option α) (calls : List (Call α)) (i : Id) :
    (run cfg fuel (init cfg (v.map g)) (calls.map (Call.map g))).1.log i =
      ((run cfg fuel (init cfg v) calls).1.log i).map (Notif.map g) ∧
    (run cfg fuel (init cfg (v.map g)) (calls.map (Call.map g))).2 = (run cfg fuel (init cfg v) calls).2 ∧
    (run cfg fuel (init cfg (v.map g)) (calls.map (Call.map g))).1.xlog = (run cfg fuel (init cfg v) calls).1.xlog ∧
    (run cfg fuel (init cfg (v.map g)) (calls.map (Call.map g))).1.observers = (run cfg fuel (init cfg v) calls).1.observers :=
  run_natural_log cfg g fuel v calls i

theorem run_reachable (cfg : Cfg) (v : Option α) (fuel : Nat) (calls : List (Call α)) :
    Reachable cfg v (run cfg fuel (init cfg v) calls).1 [] :=
  run_reach fuel calls Reach.init

/-! ### Non-vacuity.  Values None-like `0`; observer 1 unsubscribes itself when handed the value (so it does
not see the completion); 2 arrives after completion; 3 on an errored subject. -/
def exCfg : Cfg :=
  { kind := .async
    hasErr := fun _ => true
    react := fun i k => if i = 1 ∧ k = 0 then [.unsub 1] else [] }

def exRun := run exCfg 100 (init exCfg (none : Option Nat)) [.sub 0, .sub 1, .next 4, .next 0, .completed, .sub 2, .next 9]
def exRunErr := run exCfg 100 (init exCfg (none : Option Nat)) [.sub 0, .next 4, .error "boom", .sub 3]
def exRunEmpty := run exCfg 100 (init exCfg (none : Option Nat)) [.sub 0, .completed, .sub 3]

example : exRun.1.log 0 = [.next 0, .completed] := by decide
example : exRun.1.log 1 = [.next 0] := by decide
example : exRun.1.log 2 = [.next 0, .completed] := by decide
example : (run exCfg 100 (init exCfg (none : Option Nat)) [.sub 0, .sub 1, .next 4, .next 0]).1.log 0 = [] := by decide
example : exRunErr.1.log 0 = [.error "boom"] ∧ exRunErr.1.log 3 = [.error "boom"] := by decide
example : exRunEmpty.1.log 0 = [.completed] ∧ exRunEmpty.1.log 3 = [.completed] := by decide

end C23
