import RxProofs.Lemmas.VtsInv
/-!
# C29 — virtual-time runs always finish

Model: `RxModel/Vts.lean`.  `Vts.loop` (the `while True:` loop of `start` and
`advance_to`) is defined by well-founded recursion on the number of pending action-tree nodes; Lean's
acceptance of that definition is the termination proof, for every finite set of scheduled action trees,
however many share a due time, on both clock flavours.  The model is of the REPAIRED code
(`fix: … self._clock += …`); the behaviour of the unfixed tree is kept as `Cfg.spinDeadlock` and shown to
block in the clearly separated section at the end.
-/

namespace C29
open Vts

/-- **start_terminates.** `start()` and `advance_to()` are total functions of the scheduler state — Lean
accepted `Vts.loop` by well-founded recursion on the number of pending action-tree nodes
(`Vts.iter_next_nodes`: every iteration that continues strictly decreases it), however many actions share
a due time and whichever clock flavour (`cfg.bump`).  Explicitly: the loop returns after at most
`nodes + 1` evaluations of its body (it equals the fuel-bounded loop), and on the repaired code
(`spinDeadlock = false`) the calling thread never blocks. -/
theorem start_terminates (cfg : Cfg) (hfix : cfg.spinDeadlock = false) (s : St) :
    (∀ tgt, loop cfg tgt s = loopFuel cfg tgt (s.queue.nodes + 1) s) ∧
    (start cfg s).2 ≠ .stuck ∧ (∀ T, (advanceTo cfg T s).2 ≠ .stuck) ∧
    (∀ tgt x s', iter cfg tgt s = .next x s' → s'.queue.nodes < s.queue.nodes) := by
  refine ⟨fun tgt => loop_eq_loopFuel cfg tgt _ s (by omega), ?_, fun T => ?_, fun tgt x s' h => iter_next_nodes h⟩
  · rw [start_eq]
    split
    · simp
    · exact loop_not_stuck cfg hfix none _
  · rw [advanceTo_eq]
    split
    · simp
    split
    · simp
    · exact loop_not_stuck cfg hfix (some T) _

/-- `CountInv` holds in every state reachable from a fresh scheduler by any script of calls -/
theorem countInv_reachable (cfg : Cfg) (ops : List Op) (c0 : Int) :
    CountInv (runOps cfg { clock := c0 } ops).1 :=
  ((countRun cfg).runOps_inv ops _ (fun _ _ => trivial) (by simp [CountInv]) (qall_any _)).1

/-- **start_runs_all_uncancelled.** If `start()` on a scheduler that is not running returns normally and no
action called `stop()`, then the queue is drained, the scheduler is stopped, and every action ever
scheduled — before the call or by actions during it, at whatever due time — has been executed, except
those dequeued while cancelled: `#executed + #skipped-cancelled = #scheduled`.  (`CountInv` holds in every
reachable state: `countInv_reachable`.) -/
theorem start_runs_all_uncancelled (cfg : Cfg) (s s' : St) (hq : QAll noStop s) (hen : s.enabled = false)
    (hc : CountInv s) (h : start cfg s = (s', .ok)) :
    s'.queue.items = [] ∧ s'.enabled = false ∧ s'.log.length + s'.skipped.length = s'.nsched := by
  obtain ⟨s'', hl, rfl⟩ := start_ok hen h
  have hc'' := (IterInv.loop (countInv_iter cfg none noStop) { s with enabled := true, spin := 0 } hc hq).1
  rw [hl] at hc''
  have hempty : s''.queue.items = [] := by
    rcases loop_ok_drained (s := { s with enabled := true, spin := 0 }) hq rfl hl with h1 | ⟨x, q', _, hpt⟩
    · exact h1
    · simp [pastTarget] at hpt
  refine ⟨hempty, rfl, ?_⟩
  simp only [CountInv, hempty, List.length_nil] at hc''
  simpa using hc''

/-- **restart_after_drain.** A scheduler whose queue drained can be started again: after a `start()` that
returned normally the scheduler is not enabled (so the next `start()` is not the `if self._is_enabled:
return` no-op), and after any further scheduling calls `more` a second `start()` that returns normally has
again executed everything that was not cancelled. -/
theorem restart_after_drain (cfg : Cfg) (s s1 s2 : St) (more : List (Nat × Int × Act × Bool))
    (hq : QAll noStop s) (hmore : ∀ p ∈ more, p.2.2.1.All noStop) (hen : s.enabled = false) (hc : CountInv s)
    (h1 : start cfg s = (s1, .ok))
    (h2 : start cfg (more.foldl (fun st p => st.enqueue p.1 p.2.1 p.2.2.1 p.2.2.2) s1) = (s2, .ok)) :
    s1.enabled = false ∧ s1.queue.items = [] ∧ s2.queue.items = [] ∧ s2.enabled = false ∧
    s2.log.length + s2.skipped.length = s2.nsched ∧ s1.nsched + more.length ≤ s2.nsched := by
  obtain ⟨he1, hen1, hc1⟩ := start_runs_all_uncancelled cfg s s1 hq hen hc h1
  generalize hs1' : more.foldl (fun st p => st.enqueue p.1 p.2.1 p.2.2.1 p.2.2.2) s1 = s1' at h2
  have hn : s1'.nsched = s1.nsched + more.length := by
    rw [← hs1']; exact foldl_count _ St.nsched (fun _ _ => rfl) more s1
  obtain ⟨r1, r2, r3⟩ : QAll noStop s1' ∧ s1'.enabled = false ∧ CountInv s1' := by
    rw [← hs1']
    exact more.foldlRecOn (motive := fun st => QAll noStop st ∧ st.enabled = false ∧ CountInv st) _
      ⟨by intro e he; rw [he1] at he; simp at he, hen1, by simp only [CountInv, he1, List.length_nil]; omega⟩
      fun st h p hp => ⟨qall_enqueue h.1 _ _ _ _ (hmore p hp), h.2.1, countInv_enqueue h.2.2 _ _ _ _⟩
  obtain ⟨a, b, c⟩ := start_runs_all_uncancelled cfg s1' s2 r1 r2 r3 h2
  -- `nsched` never decreases during a run
  obtain ⟨s'', hl, rfl⟩ := start_ok r2 h2
  have hmono := (IterInv.loop (nschedInv cfg none anyStep s1'.nsched) { s1' with enabled := true, spin := 0 }
    (Nat.le_refl _) (qall_any _)).1
  rw [hl] at hmono
  exact ⟨hen1, he1, a, b, c, hn ▸ hmono⟩

/-! ## Non-vacuity -/

private def demo : St :=
  (({ clock := 0 } : St).enqueue 1 0 (.sched .handed .imm 0 3 (.sched .handed .imm 0 4 .done .done) .done) false).enqueue 2 0 .done false

/-- self-rescheduling at the current time (1 → 3 → 4), all at time 0: everything runs, queue drained -/
example : (start {} demo).2 = .ok ∧ (start {} demo).1.log.map (·.id) = [1, 2, 3, 4] ∧
    (start {} demo).1.queue.items = [] ∧ (start {} demo).1.nsched = 4 := by
  rw [start_eq_fuel {} 20 demo (by decide)]
  decide +kernel

/-- re-entrant control calls from inside a running action — `advance_to(later)`, `advance_by(0)`, `start()`, an
out-of-range `advance_to` caught by the action — return at once and change nothing: the outer run still
executes everything queued behind the action (`start_runs_all_uncancelled` applies: `noStop` allows them) -/
private def reent : St :=
  ((({ clock := 3 } : St).enqueue 1 3 (.ctl (.advTo 9 false) (.ctl (.advBy 0 false) (.ctl .start (.ctl (.advTo 1 true) .done)))) false).enqueue 2 3 .done false).enqueue 3 4 .done false

example : (start {} reent).2 = .ok ∧ (start {} reent).1.log.map (fun r => (r.id, r.at_)) = [(1, 3), (2, 3), (3, 4)] ∧
    (start {} reent).1.queue.items = [] := by
  rw [start_eq_fuel {} 20 reent (by decide)]
  decide +kernel

example : QAll noStop reent := by
  intro e he
  simp [reent, St.enqueue, PQ.enqueue] at he
  rcases he with rfl | rfl | rfl <;> simp [Act.All, noStop]

example : QAll noStop demo ∧ demo.enabled = false ∧ CountInv demo := by
  refine ⟨?_, rfl, by simp [CountInv, demo, St.enqueue, PQ.enqueue]⟩
  intro e he
  simp [demo, St.enqueue, PQ.enqueue] at he
  rcases he with rfl | rfl <;> simp [Act.All, noStop]

/-! ## AS-IS behaviour of the unfixed tree (defect #1 of DESIGN §6, repaired by `fix:` C29_historical_spin_deadlock)

On a datetime clock the spin branch of `start` executed `self.clock += timedelta(microseconds=1000)` while
holding the non-reentrant `self._lock`; reading the `clock` property re-acquires that lock, so the thread
blocks forever.  `histAsIs` is that behaviour (`spinDeadlock := true`), `histFixed` the repaired one.
Witness: 102 actions scheduled at the same time — 101 run, then the call never returns.  Replayed on the
real code by `./check C29` (watchdog). -/

/-- `n` no-op actions, all scheduled at the current time of a fresh scheduler with clock 0 -/
def sameTime (n : Nat) : St :=
  (List.range n).foldl (fun s i => s.enqueue i 0 .done false) { clock := 0 }

theorem sameTime_nodes (n : Nat) : (sameTime n).queue.nodes = n := by
  rw [sameTime, foldl_count _ (fun s : St => s.queue.nodes) (fun s i => enqueue_nodes s i 0 .done false), List.length_range]
  exact Nat.zero_add n

/-- datetime flavour as on the UNFIXED tree: bump 1000 µs, and the spin branch blocks -/
def histAsIs : Cfg := { bump := 1000, spinDeadlock := true }

/-- datetime flavour on the repaired tree -/
def histFixed : Cfg := { bump := 1000 }

theorem historical_spin_stuck :
    (start histAsIs (sameTime 102)).2 = .stuck ∧ (start histAsIs (sameTime 102)).1.log.length = 101 := by
  rw [start_eq_fuel histAsIs 103 (sameTime 102) (by rw [sameTime_nodes]; omega)]
  decide +kernel

theorem historical_spin_fixed :
    (start histFixed (sameTime 102)).2 = .ok ∧ (start histFixed (sameTime 102)).1.log.length = 102 ∧
    (start histFixed (sameTime 102)).1.clock = 1000 := by
  rw [start_eq_fuel histFixed 103 (sameTime 102) (by rw [sameTime_nodes]; omega)]
  decide +kernel

end C29
