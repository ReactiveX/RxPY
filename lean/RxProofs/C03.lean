import RxProofs.C02
import RxProofs.Lemmas.PipeProducers
import RxProofs.Lemmas.PipeTramp
/-!
# C03 — unsubscribing silences the subscriber and frees its sources

* `dispose_silences` — after `dispose()` on a subscription nothing is delivered to the subscriber, whatever
  the pipeline upstream still calls (the root `AutoDetachObserver`); the same holds for every stage's own
  `AutoDetachObserver` once it was disposed, so no handler — hence no user callback of the pipeline — runs.
* `dispose_frees_sources` — `dispose(root)` at *any* position of *any* sequence of container calls disposes
  everything reachable from the root through owning edges, at that call (the heap is quiescent when the call
  returns), except behind a RefCountDisposable that still has a live dependent (a group / window subscriber);
  and it stays disposed (`stays_disposed`).
* `fromIterable_polls` — the synchronous producer checks its flag before every pull: if the downstream disposes
  during its k-th `on_next`, exactly k+1 elements were pulled and nothing follows.
* `tramp_dispose_truncates` (single thread, default scheduler) — for cold producers merged on the current-thread trampoline,
  disposing during the k-th notification makes the run exactly the never-disposed run cut right after that notification:
  no later notification, no later user callback of any producer (`tramp_silent_after_dispose`, for every state and fuel);
  `tramp_run_complete` shows the model run is not cut short by its fuel.
Ownership of every acquired subscription by the returned disposable is `Ownership.ownership_ok` (regenerated
table, `decide`).  `dispose_silences`, `dispose_frees_sources`, `stays_disposed`, `late_subscription_disposed`, `fromIterable_*` restate
results of C01, C02 and `Lemmas/PipeProducers` under this property's names.
-/
namespace C03
open Pipe

/-- **dispose_silences.** Once `dispose()` was called on an AutoDetachObserver (the subscriber's, or any
stage's), no call from upstream reaches its callbacks any more — whatever was delivered before stays as is. -/
theorem dispose_silences {α} (raises : Nat → Bool) (before after : List (ObsCall α)) :
    Ado.delivered raises {} (before ++ ObsCall.dispose :: after) = Ado.delivered raises {} before :=
  C01.ado_after_dispose_silent raises {} before after

/-- **dispose_frees_sources.** `dispose(root)` issued after any prefix of container calls frees every
subscription reachable from the root, in that very call. -/
theorem dispose_frees_sources (h0 : Heap) (pre : List Op) (root z : Nat) (nz : Node) :
    let h := (Pipe.apply (run h0 pre) (.dispose root)).1
    C02.Reach h root z → h[z]? = some nz → nz.done = true :=
  C02.pipeline_release h0 pre root z nz

/-- **stays_disposed.** Whatever the pipeline does after the dispose (late timers, late inner subscriptions,
re-entrant calls), nothing that was disposed comes back. -/
theorem stays_disposed (h : Heap) (post : List Op) (i : Nat) (a : Node) (ha : h[i]? = some a) (hd : a.done = true) :
    ∃ b, (run h post)[i]? = some b ∧ b.done = true :=
  C02.disposed_forever h post i a ha hd

/-- **late_subscription_disposed.** A subscription that a handler attaches to the (already disposed) container
after the dispose is disposed at once. -/
theorem late_subscription_disposed (h : Heap) (c x : Nat) (nc nx : Node)
    (hcn : h[c]? = some nc) (hk : nc.kind = .comp) (hd : nc.done = true)
    (hx : (Pipe.apply h (.add c x)).1[x]? = some nx) : nx.done = true :=
  C02.late_attach_disposed h c x nc nx hcn hk hd hx

/-- **fromIterable_polls.** The downstream disposes during its k-th `on_next`: exactly k+1 elements are pulled, nothing follows. -/
theorem fromIterable_polls {α} (dd : Nat → Bool) (xs : List α) (k i : Nat)
    (hk : k < xs.length) (hfirst : ∀ j, j < k → dd (i + j) = false) (hd : dd (i + k) = true) :
    fromIter dd i false xs = ((xs.take (k + 1)).map Notif.next, k + 1) :=
  Pipe.fromIterable_polls dd xs k i hk hfirst hd

/-- **fromIterable_all.** Nobody disposes: every element, then completion. -/
theorem fromIterable_all {α} (dd : Nat → Bool) (xs : List α) (i : Nat) (h : ∀ j, j < xs.length → dd (i + j) = false) :
    fromIter dd i false xs = (xs.map Notif.next ++ [.completed], xs.length + 1) :=
  Pipe.fromIterable_all dd xs i h

/-! ## single thread, default scheduler: producers on the current-thread trampoline (`RxModel/PipeTramp.lean`) -/

/-- **tramp_dispose_truncates.** Any producers (any turns of callbacks / emissions / completions), any `k`: the events of the run
disposed during notification `k` are those of the undisposed run up to and including that notification — nothing after. -/
theorem tramp_dispose_truncates (ps : List Tramp.Producer) (k : Nat) :
    Tramp.run (.during k) ps = Tramp.cut (k + 1) (Tramp.run .never ps) :=
  Tramp.outcome_cut (Tramp.final_outcome ps k)

/-- at most `k+1` notifications are ever delivered -/
theorem tramp_notifications_bounded (ps : List Tramp.Producer) (k : Nat) : Tramp.notifs (Tramp.run (.during k) ps) ≤ k + 1 :=
  Tramp.outcome_notifs (Tramp.final_outcome ps k)

/-- **tramp_silent_after_dispose.** From any state in which the subscription is disposed, whatever is still queued on the
trampoline and however long it runs, no event (callback or notification) is added. -/
theorem tramp_silent_after_dispose (w : Tramp.When) (f : Nat) (s : Tramp.St) (h : s.disposed = true) :
    (Tramp.drain w f s).evs = s.evs :=
  (Tramp.drain_disposed w f s h).1

/-- dispose right after `subscribe()` returned: nothing ever runs -/
theorem tramp_dispose_at_start (ps : List Tramp.Producer) : Tramp.run .atStart ps = [] := by
  unfold Tramp.run Tramp.final
  have hd : (Tramp.init .atStart ps).disposed = true := by simp [Tramp.init]
  have he : (Tramp.init .atStart ps).evs = [] := by simp [Tramp.init]
  rw [(Tramp.drain_disposed _ _ _ hd).1, he]

/-- the model's fuel suffices: the trampoline queue is empty when the run ends -/
theorem tramp_run_complete (w : Tramp.When) (ps : List Tramp.Producer) : (Tramp.final w ps).queue = [] := by
  unfold Tramp.final
  apply Tramp.drain_complete
  have hq : (Tramp.init w ps).queue = Tramp.enumFrom 0 ps := by
    simp only [Tramp.init]
    split <;> simp [Tramp.deliver]
  rw [hq]; exact Nat.le_refl _

/-- **tramp_stale_check_breaks.** The theorem above depends on the trampoline testing cancellation when it *invokes* an item: with
the test moved to the moment the batch is gathered, `merge(of(a, b), generate(...))` disposed during the first notification still
evaluates `generate`'s condition afterwards (the witness of seeded change C03r2_1). -/
theorem tramp_stale_check_breaks :
    Tramp.runStale (.during 0) [Tramp.ofP 2, Tramp.genP 1] = [.next 0 0, .cb 1 1] ∧
    Tramp.runStale (.during 0) [Tramp.ofP 2, Tramp.genP 1] ≠ Tramp.cut 1 (Tramp.runStale .never [Tramp.ofP 2, Tramp.genP 1]) := by
  decide

example : Tramp.run .never [Tramp.ofP 2, Tramp.genP 1] =
    [.next 0 0, .next 0 1, .cb 1 1, .next 1 0, .cb 1 2, .cb 1 1, .completed] := by decide +kernel
example : Tramp.run (.during 0) [Tramp.ofP 2, Tramp.genP 1] = [.next 0 0] := by decide +kernel
example : Tramp.run (.during 2) [Tramp.rangeP 2, Tramp.genP 2] = [.next 0 0, .cb 1 1, .next 1 0, .next 0 1] := by decide +kernel
example : fromIter (fun j => j == 2) 0 false [10, 20, 30, 40, 50] = ([.next 10, .next 20, .next 30], 3) := by decide +kernel
example : Ado.delivered (fun _ => false) {} [ObsCall.next 1, .dispose, .next 2, .completed] = [Notif.next 1] := by decide +kernel

end C03
