import RxProofs.Lemmas.DispComposite
import RxProofs.Lemmas.DispAssign
import RxProofs.Lemmas.DispNest
/-!
# C26 — container disposables dispose each held item exactly once

Models: `Disp.cStep` (CompositeDisposable), `Disp.serStep` (SerialDisposable),
`Disp.madStep` (MultipleAssignmentDisposable), `Disp.sadStep` (SingleAssignmentDisposable **with the fix
`fixes/C26_sad_lock_and_none.patch`**; the as-written class violates the property — see
`RxProofs/Lemmas/DispSadAsIs.lean` for the machine-checked counter-examples).

Every theorem quantifies over: the number of threads, the program (list of calls) of every thread, and the
schedule (`sched : List Nat`, arbitrary).  A call history on one thread is the case `progs = [history]`.
`s.sh.cnt i` is the number of times `item_i.dispose()` was called; an item may be handed over several
times (then it is disposed once per hand-over).
-/

namespace C26
open Disp

/-- **composite_item_disposed_exactly_once.** When all threads have finished, every item has been disposed
exactly once per hand-over (constructor argument or `add`, before *or after* the disposal of the container)
except for the copies the container still holds; and a disposed container holds nothing. -/
theorem composite_item_disposed_exactly_once (init : List Nat) (progs : List (List COp)) (sched : List Nat)
    (i : Nat) (hq : cQuiet ((cInit init progs).run cStep sched)) :
    let s := (cInit init progs).run cStep sched
    s.sh.cnt i + s.sh.items.count i = init.count i + wsum (fun p => p.count (COp.add i)) progs ∧
    (s.sh.isDisposed = true → s.sh.cnt i = init.count i + wsum (fun p => p.count (COp.add i)) progs) := by
  intro s
  have h : CInv init progs s := cInv_run init progs sched
  have hmain := h.quiet hq i
  refine ⟨hmain, fun hd => ?_⟩
  rw [h.flags.held hd] at hmain; simpa using hmain

/-- **composite_never_disposed_while_held.** In *every* reachable state (mid-call states of all threads
included) the disposals of an item never exceed the hand-overs that are no longer held: an item handed
over once and still in the container has not been disposed. -/
theorem composite_never_disposed_while_held (init : List Nat) (progs : List (List COp)) (sched : List Nat) (i : Nat) :
    let s := (cInit init progs).run cStep sched
    s.sh.cnt i + s.sh.items.count i ≤ s.sh.given i ∧
    s.sh.given i ≤ init.count i + wsum (fun p => p.count (COp.add i)) progs := by
  intro s
  have h : CInv init progs s := cInv_run init progs sched
  have a := h.item i; have b := h.adds i
  exact ⟨by omega, by omega⟩

/-- **composite_dispose_takes_effect.** When all threads have finished and some thread called `dispose()`,
the container is disposed and empty. -/
theorem composite_dispose_takes_effect (init : List Nat) (progs : List (List COp)) (sched : List Nat)
    (hq : cQuiet ((cInit init progs).run cStep sched)) (hd : 0 < wsum (fun p => p.count COp.dispose) progs) :
    let s := (cInit init progs).run cStep sched
    s.sh.isDisposed = true ∧ s.sh.items = [] := by
  intro s
  have h : CInv init progs s := cInv_run init progs sched
  have : s.sh.isDisposed = true := h.flags.dcall (by rw [h.quiet_calls hq]; exact hd)
  exact ⟨this, h.flags.held this⟩

/-- **assign_item_disposed_exactly_once.** For each of the three classes, when all threads have finished:
every assignment of item `i` either raised (`rej`, SingleAssignment only), or the item is still held, or it
was replaced without disposal (`dropped`, MultipleAssignment only — as documented), or it has been disposed
exactly once — whether it was assigned before or after the container's disposal. -/
theorem assign_item_disposed_exactly_once (f : ASh → ATh → ASh × ATh) (hf : IsAStep f)
    (progs : List (List AOp)) (sched : List Nat) (i : Nat) (hq : aQuiet ((aInit progs).run f sched)) :
    let s := (aInit progs).run f sched
    s.sh.cnt i + s.sh.current.toList.count i + s.sh.dropped i + s.sh.rej i
      = wsum (fun p => p.count (AOp.set i)) progs ∧
    (s.sh.isDisposed = true → s.sh.cnt i + s.sh.dropped i + s.sh.rej i = wsum (fun p => p.count (AOp.set i)) progs) := by
  intro s
  have h : AInv progs s := aInv_run f hf progs sched
  have hmain := h.quiet hq i
  refine ⟨hmain, fun hd => ?_⟩
  rw [h.flags.held hd] at hmain; simpa using hmain

/-- **serial_sad_never_drop.** Serial and SingleAssignment never let go of an item without disposing it. -/
theorem serial_sad_never_drop (f : ASh → ATh → ASh × ATh) (hf : f = serStep ∨ f = sadStep)
    (progs : List (List AOp)) (sched : List Nat) (i : Nat) : ((aInit progs).run f sched).sh.dropped i = 0 :=
  Sys.run_inv f _ (noDrop_pres f hf) _ sched (fun _ => rfl) i

/-- **serial_mad_never_reject.** Serial and MultipleAssignment never reject an assignment. -/
theorem serial_mad_never_reject (f : ASh → ATh → ASh × ATh) (hf : f = serStep ∨ f = madStep)
    (progs : List (List AOp)) (sched : List Nat) (i : Nat) : ((aInit progs).run f sched).sh.rej i = 0 :=
  Sys.run_inv f _ (noRej_pres f hf) _ sched (fun _ => rfl) i

/-- **assign_never_disposed_while_held.** In every reachable state of each of the three classes, the disposals
of an item never exceed its non-raising assignments that are no longer held. -/
theorem assign_never_disposed_while_held (f : ASh → ATh → ASh × ATh) (hf : IsAStep f)
    (progs : List (List AOp)) (sched : List Nat) (i : Nat) :
    let s := (aInit progs).run f sched
    s.sh.cnt i + s.sh.current.toList.count i ≤ s.sh.given i ∧
    s.sh.given i ≤ wsum (fun p => p.count (AOp.set i)) progs := by
  intro s
  have h : AInv progs s := aInv_run f hf progs sched
  have a := h.item i; have b := h.sets i
  exact ⟨by omega, by omega⟩

/-- **assign_dispose_takes_effect.** When all threads have finished and some thread called `dispose()`, the
container is disposed and holds nothing. -/
theorem assign_dispose_takes_effect (f : ASh → ATh → ASh × ATh) (hf : IsAStep f)
    (progs : List (List AOp)) (sched : List Nat)
    (hq : aQuiet ((aInit progs).run f sched)) (hd : 0 < wsum (fun p => p.count AOp.dispose) progs) :
    let s := (aInit progs).run f sched
    s.sh.isDisposed = true ∧ s.sh.current = none := by
  intro s
  have h : AInv progs s := aInv_run f hf progs sched
  have : s.sh.isDisposed = true := h.flags.dcall (by rw [h.quiet_calls hq]; exact hd)
  exact ⟨this, h.flags.held this⟩

/-- **sad_second_assignment_rejected.** (fixed SingleAssignmentDisposable) Whatever the threads and the schedule,
at most one assignment is ever stored: `accepted ≤ 1`, and more precisely the stored assignment is either
still current or was swapped out by `dispose()`.  Every other assignment raised (container not disposed) or
was made after the disposal and disposed on the spot. -/
theorem sad_second_assignment_rejected (progs : List (List AOp)) (sched : List Nat) :
    let s := (aInit progs).run sadStep sched
    s.sh.accepted ≤ 1 ∧ s.sh.accepted = s.sh.current.isSome.toNat + s.sh.tookSome.toNat := by
  intro s
  have h : SadOnce s.sh :=
    Sys.run_inv sadStep _ sadOnce_pres _ sched ⟨by simp [aInit], by simp [aInit], by simp [aInit]⟩
  refine ⟨?_, h.once⟩
  have h1 := h.once; have h2 := h.took; have h3 := h.held
  cases hc : s.sh.current <;> cases ht : s.sh.tookSome <;> simp_all

/-- **sad_set_when_assigned_raises.** (fixed) One `set` step on an already assigned container:
the call raises and changes neither the held item nor any dispose counter. -/
theorem sad_set_when_assigned_raises (s : ASh) (c v : Nat) (p : List AOp) (hc : s.current = some c) :
    let r := sadStep s (.idle, .set v :: p)
    r.2 = (.idle, p) ∧ r.1.current = some c ∧ r.1.cnt = s.cnt ∧ r.1.log = s.log ++ [.lock 0, .raised] := by
  simp [sadStep, hc]

/-! ## Nested containers under threads: CompositeDisposable ∋ SerialDisposable ∋ leaves (`Disp.nStep`) -/

/-- **nested_leaf_disposed_exactly_once.** Any number of threads calling `composite.dispose()`,
`composite.remove(serial)`, `serial.dispose()` and `serial.disposable = leaf` in any order and under any schedule
(the serial's own `dispose()` runs nested on whichever thread took it out of the composite, outside the composite's
lock).  When all threads have finished and some thread called `composite.dispose()`: the composite is disposed,
it called `serial.dispose()` exactly once, the serial is disposed, and every leaf ever assigned to the serial —
before or after — has been disposed exactly once per assignment. -/
theorem nested_leaf_disposed_exactly_once (progs : List (List NOp)) (sched : List Nat) (i : Nat)
    (hq : nQuiet ((nInit progs).run nStep sched)) (hd : 0 < wsum (fun p => p.count NOp.dispC) progs) :
    let s := (nInit progs).run nStep sched
    s.sh.cDisposed = true ∧ s.sh.viaC = 1 ∧ s.sh.sDisposed = true ∧
    s.sh.cnt i = wsum (fun p => p.count (NOp.setS i)) progs := by
  intro s
  have h : NInv progs s := nInv_run progs sched
  have ho := h.quiet_once hq; have hc := h.quiet_calls hq
  have hcd : s.sh.cDisposed = true := h.flags.ccall (by omega)
  rw [h.flags.cdis hcd] at ho
  have hv : s.sh.viaC = 1 := by simpa using ho
  have hsd := h.flags.via (by omega)
  have hl := h.quiet hq i
  rw [h.flags.sdis hsd] at hl
  exact ⟨hcd, hv, hsd, by simpa using hl⟩

/-- **nested_never_twice.** In every reachable state of the nested system: the composite has called
`serial.dispose()` at most once, and the disposals of a leaf never exceed its assignments that are no longer held. -/
theorem nested_never_twice (progs : List (List NOp)) (sched : List Nat) (i : Nat) :
    let s := (nInit progs).run nStep sched
    s.sh.viaC ≤ 1 ∧ s.sh.cnt i + s.sh.sCurrent.toList.count i ≤ s.sh.given i ∧
    s.sh.given i ≤ wsum (fun p => p.count (NOp.setS i)) progs := by
  intro s
  have h : NInv progs s := nInv_run progs sched
  have a := h.once; have b := h.leaf i; have c := h.sets i
  exact ⟨by omega, by omega, by omega⟩

/-- nested: thread 0 disposes the composite, thread 1 assigns leaf 1 over leaf 0, thread 2 disposes the serial
directly; thread 0's nested `serial.dispose()` arrives last and finds it already disposed -/
example : let s := (nInit [[.dispC], [.setS 0, .setS 1], [.dispS]]).run nStep [1, 0, 0, 1, 2, 1, 2, 0]
    nQuiet s ∧ s.sh.cnt 0 = 1 ∧ s.sh.cnt 1 = 1 ∧ s.sh.viaC = 1 ∧ s.sh.cDisposed = true := by decide +kernel

/-- Composite, three threads: `add 1` races with `dispose` (pre-check passed before the add, lock block after it)
and a `remove 0` that passed its pre-check before the disposal: everything is disposed exactly once. -/
example : let s := (cInit [0] [[.add 1], [.dispose], [.remove 0, .add 2]]).run cStep [2, 1, 0, 1, 2, 1, 1, 2, 2]
    cQuiet s ∧ s.sh.cnt 0 = 1 ∧ s.sh.cnt 1 = 1 ∧ s.sh.cnt 2 = 1 ∧ s.sh.isDisposed = true := by decide +kernel

/-- Serial, one thread (a history): replacement disposes the old item, assignment after dispose disposes the new one -/
example : let s := (aInit [[.set 0, .set 1, .dispose, .set 2]]).run serStep (List.replicate 8 0)
    aQuiet s ∧ s.sh.cnt 0 = 1 ∧ s.sh.cnt 1 = 1 ∧ s.sh.cnt 2 = 1 := by decide +kernel

/-- MultipleAssignment drops the replaced item (documented) -/
example : let s := (aInit [[.set 0, .set 1, .dispose]]).run madStep (List.replicate 4 0)
    aQuiet s ∧ s.sh.cnt 0 = 0 ∧ s.sh.dropped 0 = 1 ∧ s.sh.cnt 1 = 1 := by decide +kernel

/-- fixed SingleAssignment, two racing assigners and a disposer: exactly one assignment is stored, the other raises -/
example : let s := (aInit [[.set 0], [.set 1], [.dispose]]).run sadStep [1, 0, 2, 2]
    aQuiet s ∧ s.sh.cnt 1 = 1 ∧ s.sh.cnt 0 = 0 ∧ s.sh.rej 0 = 1 ∧ s.sh.accepted = 1 := by decide +kernel

end C26
