import RxProofs.Lemmas.CombN
/-!
# C13 — multi-source combinators follow their pairing rules

All statements are about the trace machines of `RxModel/CombN.lean` started in their subscription state (for `phased m` of
`RxModel/CombPhase.lean`: before the subscribe loop, `phasedInit`; no theorem here is about `phasedAmb`) and fed an
ARBITRARY list of tagged events `es` (any interleaving of any per-source sequences, conforming or not, `dispose` anywhere).
`accepted … es` are the notifications that found their subscription open (what each source's `AutoDetachObserver` lets
through); `valsOf … i` the elements delivered by source `i`.
Because the statements hold for every `es` they hold for every prefix of a run: "at every moment".
-/
open Comb

namespace C13

/-- **zip_kth.** For `n` sources and every event list: every output is an `n`-tuple; the `i`-th component of the
`k`-th output is the `k`-th element delivered by source `i`; and the number of outputs is exactly the minimum of
the numbers of delivered elements — at every moment (the statement holds for every prefix), i.e. the `k`-th tuple
is emitted by the very step in which the last source delivers its `k`-th element. -/
theorem zip_kth {α} (n : Nat) (es : List (Ev α)) :
    let outs := outVals (run (zipM n) (zipInit n) es)
    let D := fun i => valsOf (accepted (zipM n) (zipInit n) es) i
    (∀ t, t ∈ outs → t.length = n) ∧
    (∀ i, i < n → ∀ k, k < outs.length → (outs[k]?).bind (fun (t : List α) => t[i]?) = (D i)[k]?) ∧
    (∀ i, i < n → outs.length ≤ (D i).length) ∧
    (n = 0 ∨ ∃ i, i < n ∧ (D i).length = outs.length) := by
  intro outs D
  obtain ⟨hlen, hcol⟩ := zip_columns (α := α) n es
  refine ⟨hlen, ?_, ?_, ?_⟩
  · intro i hi k hk
    obtain ⟨hhist, hl, hget⟩ := hcol i hi
    show ((outs[k]?).bind fun (t : List α) => t[i]?) = (valsOf _ i)[k]?
    rw [hhist, List.getElem?_append_left (by rw [hl]; exact hk)]
    exact (hget k).symm
  · intro i hi
    obtain ⟨hhist, hl, _⟩ := hcol i hi
    show outs.length ≤ (valsOf _ i).length
    rw [hhist, List.length_append, hl]; exact Nat.le_add_right _ _
  · rcases (zip_run_inv (α := α) n es).1.val.emp with h0 | ⟨i, hi, hq⟩
    · exact Or.inl h0
    · obtain ⟨hhist, hl, _⟩ := hcol i hi
      exact Or.inr ⟨i, hi, by show (valsOf _ i).length = _; rw [hhist, hq, List.append_nil, hl]⟩

/-- **zip_completes_when.** (→) If `completed` goes out then some source's completion was delivered and every element that
source delivered has been paired (it has no buffered element left). (←) Conversely, as soon as a source whose completion
was delivered has no buffered element left, the downstream observer is stopped (the output completed — or had already
terminated). Both for every event list, i.e. at every moment. -/
theorem zip_completes_when {α} (n : Nat) (es : List (Ev α)) :
    let outs := outVals (run (zipM n) (zipInit n) es)
    let acc := accepted (zipM (α := α) n) (zipInit n) es
    (Notif.completed ∈ emits (run (zipM n) (zipInit n) es) →
      ∃ i, i < n ∧ (i, Notif.completed) ∈ acc ∧ (valsOf acc i).length = outs.length) ∧
    (∀ i, i < n → (i, Notif.completed) ∈ acc → (valsOf acc i).length = outs.length →
      (final (zipM (α := α) n) (zipInit n) es).p.done = true) := by
  intro outs acc
  obtain ⟨hz, htd⟩ := zip_run_inv (α := α) n es
  have hlen : ∀ i, i < n → (valsOf acc i).length = outs.length + ((final (zipM (α := α) n) (zipInit n) es).s.q i).length := by
    intro i hi
    obtain ⟨hhist, hl, _⟩ := (zip_columns (α := α) n es).2 i hi
    show (valsOf _ i).length = _
    rw [hhist, List.length_append, hl]
  constructor
  · intro hcomp
    obtain ⟨i, hi, hci, hqi⟩ := hz.comp.fin hcomp
    exact ⟨i, hi, (hz.comp.cmp i hi).mp hci, by rw [hlen i hi, hqi]; simp⟩
  · intro i hi hacc hl
    cases hd : (final (zipM (α := α) n) (zipInit n) es).p.done
    · -- not stopped: nothing terminal went out, so the completed source i still has a buffered element
      have hq := hz.comp.nd (htd hd) i hi ((hz.comp.cmp i hi).mpr hacc)
      have := hlen i hi
      have : ((final (zipM (α := α) n) (zipInit n) es).s.q i).length = 0 := by omega
      exact absurd (List.length_eq_zero_iff.mp this) hq
    · rfl

/-- non-vacuity: two sources, interleaved, the second one slower; the pair goes out when the second delivers -/
example :
    outVals (run (zipM 2) (zipInit 2)
      [.src 0 (.next 1), .src 0 (.next 2), .src 1 (.next 10), .src 0 (.completed), .src 1 (.next 20), .src 1 (.next 30)])
      = [[1, 10], [2, 20]] := by decide

/-- **cl_latest.** combine_latest over n ≥ 1 sources obeys, for every event list, the declarative rule `clOut`/`clStep`:
walk the delivered notifications remembering the latest element of every source; an element (of whichever source) goes
out — in the step that delivers it — as the tuple of the latest values, provided every source has one by then; nothing
else ever goes out as a value. -/
theorem cl_latest {α} (n : Nat) (hn : 0 < n) (es : List (Ev α)) :
    outVals (run (clM n) (clInit n) es)
      = specRun clStep (clOut n) (fun _ => none) (accepted (clM (α := α) n) (clInit n) es) :=
  (clRefines n).outVals es _ (WF_of_not_done _ rfl) (cl_init_inv n hn)

/-- **cl_emits_after_all.** As long as some source has not delivered any element, no value goes out. -/
theorem cl_emits_after_all {α} (n : Nat) (hn : 0 < n) (es : List (Ev α)) (i : Nat) (hi : i < n)
    (hnone : valsOf (accepted (clM (α := α) n) (clInit n) es) i = []) :
    outVals (run (clM n) (clInit n) es) = [] := by
  rw [cl_latest n hn es]
  exact cl_spec_silent n i hi _ _ rfl hnone

/-- non-vacuity: nothing before both have a value, then one tuple per element, always the latest values -/
example :
    outVals (run (clM 2) (clInit 2)
      [.src 0 (.next 1), .src 0 (.next 2), .src 1 (.next 10), .src 0 (.next 3), .src 1 .completed, .src 0 (.next 4)])
      = [[2, 10], [3, 10], [4, 10]] := by decide

/-- **wlf_only_primary.** with_latest_from (source 0 = the primary, 1..m the others) obeys the rule `wlfOut`/`wlfStep` for
every event list: a value goes out only in a step that delivers a PRIMARY element, and only if every other source has
delivered a value by then — it is that element followed by the latest values of the others; elements of the other
sources only update what is remembered. Consequently the first components of the outputs form a subsequence of the
primary's delivered elements (each primary element produces at most one output, in order). -/
theorem wlf_only_primary {α} (m : Nat) (es : List (Ev α)) :
    outVals (run (wlfM m) (wlfInit m) es)
      = specRun wlfStep (wlfOut m) (fun _ => none) (accepted (wlfM (α := α) m) (wlfInit m) es) ∧
    ((outVals (run (wlfM m) (wlfInit m) es)).filterMap List.head?).Sublist
      (valsOf (accepted (wlfM (α := α) m) (wlfInit m) es) 0) := by
  have h := (wlfRefines (α := α) m).outVals es (wlfInit m) (WF_of_not_done _ rfl) trivial
  refine ⟨h, ?_⟩
  rw [h]; exact wlf_spec_heads m _ _

/-- non-vacuity: elements of source 1 alone emit nothing; primary elements before source 1 has a value are dropped -/
example :
    outVals (run (wlfM 1) (wlfInit 1)
      [.src 0 (.next 1), .src 1 (.next 10), .src 1 (.next 11), .src 0 (.next 2), .src 1 .completed, .src 0 (.next 3)])
      = [[2, 11], [3, 11]] := by decide

/-- **wlf_eq_reference.** with_latest_from = the self-contained reference `wlfRefRun` for EVERY event list: the reference keeps
only the latest value of every other source, which sources have finished and whether the result has finished (no
subscriptions, no plumbing) and reads the tagged events in order — an element of the primary goes out with the latest values
if every other source has one; the first error, or the primary's completion, finishes the result; notifications of finished
sources, of non-sources, and after the end are ignored. -/
theorem wlf_eq_reference {α} (m : Nat) (es : List (Ev α)) :
    emits (run (wlfM m) (wlfInit m) es) = wlfRefRun m {} es :=
  wlf_ref_run m es {} (wlfInit m) (wlf_init_sim m)

/-- `wlf_eq_reference` at the event list `tlEvents` makes of cold timelines; the statement uses nothing about `tlEvents`. -/
theorem wlf_timeline_reference {α} (m : Nat) (tls : List (Nat × List (Nat × Notif α))) :
    emits (run (wlfM m) (wlfInit m) ((tlEvents tls).map (·.2))) = wlfRefRun m {} ((tlEvents tls).map (·.2)) :=
  wlf_eq_reference m _

/-- **wlf_phased_only_primary.** The same rule with the subscribe LOOP in the trace (`phased`: a `tick` subscribes the next
source, the others first and the primary last, and sources may notify inside their own subscribe call, between two ticks):
whatever is interleaved, a value goes out only for a primary element delivered when every other source already has a value.
So `of(1,2,3).pipe(with_latest_from(of(10)))` pairs every element with 10, because 10 is delivered before the primary is even
subscribed. -/
theorem wlf_phased_only_primary {α} (m : Nat) (es : List (Ev α)) :
    outVals (run (phased (wlfM m)) (phasedInit {} (wlfInitSubs m)) es)
      = specRun wlfStep (wlfOut m) (fun _ => none)
          (accepted (phased (wlfM (α := α) m)) (phasedInit {} (wlfInitSubs m)) es) :=
  (Refines.phased (inv := fun _ => True) rfl (wlfRefines (α := α) m)).outVals es _ (WF_of_not_done _ rfl) trivial

/-- non-vacuity: of(1,2,3).pipe(with_latest_from(of(10))) — ticks are the loop subscribing source 1 (the other), then 0 -/
example :
    outVals (run (phased (wlfM (α := Nat) 1)) (phasedInit {} (wlfInitSubs 1))
      [.tick, .src 1 (.next 10), .src 1 .completed, .tick, .src 0 (.next 1), .src 0 (.next 2), .src 0 (.next 3), .src 0 .completed])
      = [[1, 10], [2, 10], [3, 10]] := by decide

/-- **static_phase_eq_plain.** For every static operator: if no source notifies inside the subscribe loop, the phased machine
is the plain machine preceded by the loop's subscribe effects (so every theorem about the plain machines applies to it). -/
theorem static_phase_eq_plain {σ ι β} (m : Machine σ ι β) (htick : ∀ s d, m.tick s d = (s, [])) (s : σ) (order : List Nat)
    (es : List (Ev ι)) :
    run (phased m) (phasedInit s order) (List.replicate order.length (Ev.tick (ι := ι)) ++ es)
      = order.map Eff.sub ++ run m ⟨s, { done := false, live := order }⟩ es := by
  have h := phased_loop (ι := ι) m s order []
  rw [run_append]
  simp only [phasedInit] at h ⊢
  rw [h.1, h.2, phased_after_loop m htick]
  simp

theorem zip_phase_eq_plain {α} (n : Nat) (es : List (Ev α)) :
    run (phased (zipM (α := α) n)) (phasedInit {} (List.range n)) (List.replicate n (Ev.tick (ι := α)) ++ es)
      = (List.range n).map Eff.sub ++ run (zipM n) (zipInit n) es := by
  simpa [zipInit, startAll] using static_phase_eq_plain (zipM (α := α) n) (fun _ _ => rfl) {} (List.range n) es

/-- **late_subscription_in_loop_closed.** The subscribe loop does not stop when an earlier source has already terminated the
result from inside its own subscribe call: it goes on subscribing the remaining sources — and each of them is closed in the
same step (the known C03 finding "subscribe loop after a synchronous terminal", as the machines show it). -/
theorem late_subscription_in_loop_closed {σ ι β} (m : Machine σ ι β) (s : σ) (k : Nat) (r : List Nat) (p : Plumb)
    (hd : p.done = true) :
    (step (phased m) ⟨⟨s, k :: r⟩, p⟩ (Ev.tick (ι := ι))).2 = [Eff.sub k, Eff.unsub k] := by
  rw [step_eq _ _ .tick (by simp)]; simp [phased, acts_sub_stopped _ hd]

/-- non-vacuity: zip of three, source 0 fails inside its subscribe: the error goes out, 1 and 2 are still subscribed and closed at once -/
example :
    run (phased (zipM (α := Nat) 3)) (phasedInit {} (List.range 3)) [.tick, .src 0 (.error "e"), .tick, .src 1 (.next 5), .tick]
      = [.sub 0, .emit (.error "e"), .unsub 0, .sub 1, .unsub 1, .sub 2, .unsub 2] := by decide

/-- **fork_join_last_values.** fork_join obeys, for every event list, the rule `fjOut`/`fjStep` over the delivered
notifications: remember the last element of every source and which sources completed; the completion that makes ALL
sources complete emits the tuple of the last values (every source has one, else only `completed`) followed by
`completed`; a completion of a source that never delivered an element completes at once; an error goes out; nothing else
is ever emitted (in particular no value before the last completion). -/
theorem fork_join_last_values {α} (n : Nat) (es : List (Ev α)) :
    emits (run (fjM n) (fjInit n) es)
      = specRun fjStep (fjOut n) {} (accepted (fjM (α := α) n) (fjInit n) es) :=
  ((fjRefines n).run (fun _ _ => rfl) es (fjInit n) (WF_of_not_done _ rfl) ⟨fun _ => rfl⟩).1

/-- **fork_join_empty_short_circuit.** If a source completes (while subscribed) without having delivered any element, the
output completes in that very step — whatever the other sources did or will do — and nothing follows. -/
theorem fork_join_empty_short_circuit {α} (n : Nat) (pre post : List (Ev α)) (k : Nat)
    (hk : k ∈ (final (fjM (α := α) n) (fjInit n) pre).p.live)
    (hempty : valsOf (accepted (fjM (α := α) n) (fjInit n) pre) k = []) :
    emits (run (fjM n) (fjInit n) (pre ++ .src k .completed :: post))
      = emits (run (fjM n) (fjInit n) pre) ++ [Notif.completed] := by
  have hsp := (fjRefines (α := α) n).run (fun _ _ => rfl) pre (fjInit n) (WF_of_not_done _ rfl) ⟨fun _ => rfl⟩
  have hinv : FjInv _ := hsp.2.2
  have hlast : (final (fjM (α := α) n) (fjInit n) pre).s.vals k = none := by
    have := congrArg (fun t => t.last k) hsp.2.1
    simp only [fjAbs] at this
    rw [this, fj_fold_last, hempty]; rfl
  have hhas : (final (fjM (α := α) n) (fjInit n) pre).s.has k = false := by rw [hinv.has k, hlast]; rfl
  have key : ∀ s : FjSt α, s.has k = false → actEmits (fjHandler n s k .completed).2 = [Notif.completed] := by
    intro s hs; simp [fjHandler, hs, actEmits]
  have hacts : actEmits ((fjM (α := α) n).handler (final (fjM (α := α) n) (fjInit n) pre).s k .completed).2 = [Notif.completed] :=
    key _ hhas
  rw [(terminal_ends (fjM (α := α) n) _ (WF_of_not_done _ rfl) pre post k .completed hk (by rw [hacts]; rfl)).1, hacts]
  rfl

/-- non-vacuity: last values when both completed; and the short circuit -/
example :
    emits (run (fjM 2) (fjInit 2)
      [.src 0 (.next 1), .src 1 (.next 10), .src 0 (.next 2), .src 0 .completed, .src 1 (.next 11), .src 1 .completed])
      = [.next [2, 11], .completed] := by decide
example :
    emits (run (fjM 2) (fjInit 2) [.src 0 (.next 1), .src 1 .completed, .src 0 (.next 2), .src 0 .completed])
      = [.completed] := by decide

/-- **amb_mirrors_first.** n-ary `rx.amb` (and the binary operator, see `amb2_mirrors_first`): every notification that is
delivered while its source is still subscribed goes out unchanged in the step that delivers it, and all of them come from
ONE source — the first one to notify (everything delivered by the others after that moment is ignored: they are
unsubscribed, `amb_unsub_losers_at_choice`). -/
theorem amb_mirrors_first {α} (n : Nat) (es : List (Ev α)) :
    emits (run (ambM (α := α) n) (ambInit n) es) = (accepted (ambM (α := α) n) (ambInit n) es).map (·.2) ∧
    ∃ w, ∀ kn, kn ∈ accepted (ambM (α := α) n) (ambInit n) es → kn.1 = w :=
  amb_mirrors n es _ (amb_init_inv n)

theorem amb2_mirrors_first {α} (es : List (Ev α)) :
    emits (run (ambM (α := α) 2) amb2Init es) = (accepted (ambM (α := α) 2) amb2Init es).map (·.2) ∧
    ∃ w, ∀ kn, kn ∈ accepted (ambM (α := α) 2) amb2Init es → kn.1 = w :=
  amb_mirrors 2 es _ amb2_init_inv

/-- **amb_unsub_losers_at_choice.** In any reachable state in which no source has been chosen yet, the step in which a live
source `k` notifies unsubscribes every other live source — in the order in which the nested binary operators dispose them
(`k-1, …, 0, k+1, …, n-1`) and BEFORE the notification is forwarded — makes `k` the choice, and leaves `k` as the only
live source (none, if the notification was terminal). -/
theorem amb_unsub_losers_at_choice {α} (n : Nat) (es : List (Ev α)) (k : Nat) (x : Notif α) :
    let st := final (ambM (α := α) n) (ambInit n) es
    k ∈ st.p.live → st.s.choice = none →
    (step (ambM (α := α) n) st (.src k x)).2
      = ((ambLosers n k).filter (fun j => st.p.live.contains j)).map Eff.unsub ++ [Eff.emit x]
        ++ (if x.isTerminal then [Eff.unsub k] else []) ∧
    (step (ambM (α := α) n) st (.src k x)).1.s.choice = some k ∧
    (step (ambM (α := α) n) st (.src k x)).1.p.live = (if x.isTerminal then [] else [k]) := by
  intro st hk hc
  exact amb_choice_step n st k x (final_inv _ (amb_step_inv n) es _ (amb_init_inv n)) hk hc

/-- **amb_nested_eq_flat.** `rx.amb(s0, …, s(n-1))` is built as nested binary operators (`ambNestedM`: level j =
amb(left := sj, right := level j-1), each level with its own `choice`, a notification entering at its level and climbing
through the levels above). For every n and every event list the nested machine and the flattened machine `ambM` used by the
other theorems produce exactly the same effects — the same emissions and the same unsubscriptions in the same order. -/
theorem amb_nested_eq_flat {α} (n : Nat) (es : List (Ev α)) :
    run (ambNestedM (α := α) n) (ambNestedInit n) es = run (ambM (α := α) n) (ambInit n) es :=
  amb_nested_run n es (ambNestedInit n) (ambInit n) rfl (by simp [AmbSim, ambInit, ambNestedInit]) (amb_init_inv n)

/-- non-vacuity: three sources, source 1 notifies first: 0 then 2 are unsubscribed, then the element goes out;
a later element of source 0 is ignored; source 1's completion ends it -/
example :
    run (ambM (α := Nat) 3) (ambInit 3) [.src 1 (.next 5), .src 0 (.next 6), .src 1 .completed]
      = [.unsub 0, .unsub 2, .emit (.next 5), .emit .completed, .unsub 1] := by decide

end C13
