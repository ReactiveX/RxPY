import RxProofs.Lemmas.WinBufJ
import RxProofs.Lemmas.WinPart
import RxProofs.Lemmas.WinEnd
import RxProofs.Lemmas.WinCount
import RxProofs.Lemmas.WinTimeK
/-!
# C18 — windows and buffers partition the source correctly
-/

namespace C18
open Win

variable {α : Type}

/-! ## window_with_count_ : index arithmetic

`Cnt.run count skip (Cnt.init t0) (Cnt.nexts tx)` is the operator after the source delivered the timed
elements `tx` (any times, any values, any length) and nothing else yet. -/

/-- For every `count ≥ 1`, `skip ≥ 1` (skip < count, = count, > count alike) and every
element sequence, window `k` exists as soon as `k·skip` elements arrived and holds exactly the elements
`k·skip … k·skip+count−1` that have arrived so far, in arrival order. -/
theorem wwc_window_k (count skip t0 : Nat) (hc : 0 < count) (hs : 0 < skip) (tx : List (Nat × α)) (k : Nat)
    (hk : k * skip ≤ tx.length) :
    let s := Cnt.run count skip (Cnt.init t0) (Cnt.nexts tx)
    k < s.b.wins.length ∧ s.b.pushedOf k = ((tx.map (·.2)).drop (k * skip)).take count := by
  obtain ⟨a, b, h, -⟩ := Cnt.cinv_of_run hc hs t0 tx
  have hka : k < a := h.lt_a (by simpa using hk)
  exact ⟨by rw [h.len]; exact hka, h.pushed k hka⟩

/-- Exactly `⌊n/skip⌋ + 1` windows have been created after `n` elements. -/
theorem wwc_window_count (count skip t0 : Nat) (hc : 0 < count) (hs : 0 < skip) (tx : List (Nat × α)) :
    (Cnt.run count skip (Cnt.init t0) (Cnt.nexts tx)).b.wins.length = tx.length / skip + 1 := by
  obtain ⟨a, b, h, -⟩ := Cnt.cinv_of_run hc hs t0 tx
  have h1 := h.a_lo; have h2 := h.a_hi; have h3 := h.a_pos
  simp only [List.length_map] at h1 h2
  have : tx.length / skip = a - 1 :=
    Nat.div_eq_of_lt_le h1 (by have : a - 1 + 1 = a := by omega
                               rw [this]; exact h2)
  rw [h.len, this]; omega

/-- Window `k` has been completed (and only completed, never errored) exactly
when its `count`-th element `k·skip+count−1` has arrived; until then it is open. -/
theorem wwc_closes_at_count (count skip t0 : Nat) (hc : 0 < count) (hs : 0 < skip) (tx : List (Nat × α)) (k : Nat)
    (hk : k * skip ≤ tx.length) :
    (Cnt.run count skip (Cnt.init t0) (Cnt.nexts tx)).b.endedOf k =
      if k * skip + count ≤ tx.length then some none else none := by
  obtain ⟨a, b, h, -⟩ := Cnt.cinv_of_run hc hs t0 tx
  rw [h.ended k (h.lt_a (by simpa using hk))]; simp only [h.lt_b_iff k, List.length_map]

/-- The complete picture for count windows: the source delivers the elements `tx`
and then terminates with `e` (`none` = completed, `some err` = error).  Every window `k` that was ever created
has ended: by completion if its `count`-th element arrived, otherwise with exactly the source's terminal. -/
theorem wwc_ends_with_source (count skip t0 : Nat) (hc : 0 < count) (hs : 0 < skip) (tx : List (Nat × α)) (t : Nat)
    (e : Option Err) (k : Nat) (hk : k * skip ≤ tx.length) :
    (Cnt.run count skip (Cnt.init t0) (Cnt.nexts tx ++ [(t, .src 0 (endNotif e))])).b.endedOf k =
      if k * skip + count ≤ tx.length then some none else some e := by
  rw [Cnt.run_append]
  obtain ⟨a, b, h, hctl⟩ := Cnt.cinv_of_run hc hs t0 tx
  generalize Cnt.run count skip (Cnt.init t0) (Cnt.nexts tx) = s at h hctl
  have hl : s.b.live.contains 0 = true := by rw [Base.ctl_live hctl]; rfl
  have hka : k < a := h.lt_a (by simpa using hk)
  have hb : k < b ↔ k * skip + count ≤ tx.length := by simpa using h.lt_b_iff k
  show ((Cnt.mach count skip).step s t (.src 0 (endNotif e))).b.endedOf k = _
  by_cases hkb : k < b
  · have hend : s.b.endedOf k = some none := by rw [h.ended k hka, if_pos hkb]
    rw [(Base.endAll_spec (Cnt.step_end count skip s t e hl)).kept k (by rw [hend]; rfl), hend, if_pos (hb.mp hkb)]
  · have hend : s.b.endedOf k = none := by rw [h.ended k hka, if_neg hkb]
    have hq : k ∈ s.q := by rw [h.q_eq, List.mem_range'_1]; have := h.ba; omega
    rw [(Base.endAll_spec (Cnt.step_end count skip s t e hl)).ends k hq (by rw [h.len]; exact hka) hend,
      if_neg (fun hle => hkb (hb.mpr hle))]

/-! non-vacuity: skip < count (overlap), skip > count (gaps) on concrete inputs -/
example : (Cnt.run 3 2 (Cnt.init 200) (Cnt.nexts [(210, 'a'), (220, 'b'), (230, 'c'), (240, 'd'), (250, 'e')])).b.wins.map (·.pushed)
    = [['a', 'b', 'c'], ['c', 'd', 'e'], ['e']] := by decide
example : (Cnt.run 1 3 (Cnt.init 200) (Cnt.nexts [(210, 'a'), (220, 'b'), (230, 'c'), (240, 'd'), (250, 'e')])).b.wins.map (fun w => (w.pushed, w.ended))
    = [(['a'], some none), (['d'], some none)] := by decide

/-! ## window_partition : every element goes to exactly the windows open at its arrival, in arrival order

`Win.routed m base openOf s evs id` (RxModel/WinBuf.lean) is the specification: the source elements of the trace
`evs` that arrive while the operator still listens to the source and window `id` is in the operator's open set
(`q` / the current window / `left_map` / `queue`) and not terminated.  The theorems hold for EVERY tagged event
trace: any interleaving of the source with boundaries / closings / openings, non-conforming sources, `dispose`
anywhere, and — for the timed operators — timer firings anywhere (a superset of the schedules the virtual-time
scheduler can produce; `Mach.run_eq_fold` shows `Mach.run` follows one of them). -/

theorem window_partition_count (count skip t0 : Nat) (evs : List (Nat × Ev α)) (id : Nat) :
    (Cnt.run count skip (Cnt.init t0) evs).b.pushedOf id =
      routed (Cnt.mach count skip) (·.b) (·.q) (Cnt.init t0) evs id :=
  (Cnt.opsMach count skip t0).partition (Cnt.ops_step count skip) evs id

theorem window_partition_boundaries (t0 : Nat) (bsync : Option (Notif Unit)) (evs : List (Nat × Ev α)) (id : Nat) :
    (Bnd.run (Bnd.init t0 bsync) evs).b.pushedOf id = routed Bnd.mach (·.b) (fun s => [s.cur]) (Bnd.init t0 bsync) evs id :=
  (Bnd.opsMach t0 bsync).partition Bnd.ops_step evs id

theorem window_partition_when (raiseAt : Option Nat) (pool t0 : Nat) (sync : List (Option (Option Err))) (evs : List (Nat × Ev α)) (id : Nat) :
    (Whn.run raiseAt pool (Whn.init raiseAt pool t0 sync) evs).b.pushedOf id =
      routed (Whn.mach raiseAt pool) (·.b) (fun s => [s.cur]) (Whn.init raiseAt pool t0 sync) evs id :=
  (Whn.opsMach raiseAt pool t0 sync).partition (Whn.ops_step raiseAt pool) evs id

theorem window_partition_toggle (raiseAt : Option Nat) (pool t0 : Nat) (sync : List (Option (Option Err))) (evs : List (Nat × Ev α)) (id : Nat) :
    (Tgl.run raiseAt pool (Tgl.init t0 sync) evs).b.pushedOf id =
      routed (Tgl.mach raiseAt pool) (·.b) Tgl.openOf (Tgl.init t0 sync) evs id :=
  (Tgl.opsMach raiseAt pool t0 sync).partition (Tgl.ops_step raiseAt pool) evs id

theorem window_partition_time_fold (span shift t0 : Nat) (evs : List (Nat × Ev α)) (id : Nat) :
    ((Tim.mach shift).fold (Tim.init span shift t0) evs).b.pushedOf id =
      routed (Tim.mach shift) (·.b) (·.queue) (Tim.init span shift t0) evs id :=
  (Tim.opsMach span shift t0).partition (Tim.ops_step shift) evs id

theorem window_partition_time_or_count_fold (span count t0 : Nat) (evs : List (Nat × Ev α)) (id : Nat) :
    ((Toc.mach span count).fold (Toc.init span t0) evs).b.pushedOf id =
      routed (Toc.mach span count) (·.b) (fun s => [s.s]) (Toc.init span t0) evs id :=
  (Toc.opsMach span count t0).partition (Toc.ops_step span count) evs id

/-- `window_with_time_`: along the schedule the machine follows (source events with the timer firings inserted,
the source winning ties). -/
theorem window_partition_time (span shift t0 horizon fuel : Nat) (evs : List (Nat × Ev α)) (id : Nat) :
    ((Tim.mach shift).run horizon fuel (Tim.init span shift t0) evs).b.pushedOf id =
      routed (Tim.mach shift) (·.b) (·.queue) (Tim.init span shift t0)
        ((Tim.mach shift).sched horizon fuel (Tim.init span shift t0) evs) id := by
  rw [Mach.run_eq_fold]; exact window_partition_time_fold span shift t0 _ id

theorem window_partition_time_or_count (span count t0 horizon fuel : Nat) (evs : List (Nat × Ev α)) (id : Nat) :
    ((Toc.mach span count).run horizon fuel (Toc.init span t0) evs).b.pushedOf id =
      routed (Toc.mach span count) (·.b) (fun s => [s.s]) (Toc.init span t0)
        ((Toc.mach span count).sched horizon fuel (Toc.init span t0) evs) id := by
  rw [Mach.run_eq_fold]; exact window_partition_time_or_count_fold span count t0 _ id

/-! ## windows_end_with_source

In ANY state of the operator (reachable or not) in which it still listens to the source: when the source
terminates with `e` (`none` = completed, `some err` = error), every window of the operator's open set that has not
ended yet ends with exactly that terminal, and the outer observer is stopped (it got the terminal unless it was
stopped before). -/

theorem windows_end_with_source_count (count skip : Nat) (s : Cnt α) (t : Nat) (e : Option Err)
    (hl : s.b.live.contains 0 = true) :
    let s' := (Cnt.mach count skip).step s t (.src 0 (endNotif e))
    (∀ id ∈ s.q, id < s.b.wins.length → s.b.endedOf id = none → s'.b.endedOf id = some e) ∧ s'.b.outerStopped = true :=
  have h := Base.endAll_spec (Cnt.step_end count skip s t e hl)
  ⟨h.ends, h.stopped⟩

theorem windows_end_with_source_boundaries (s : Bnd α) (t k : Nat) (hk : k = 0 ∨ k = 1) (e : Option Err)
    (hl : s.b.live.contains k = true) :
    let s' := Bnd.mach.step s t (.src k (endNotif e))
    (∀ id ∈ [s.cur], id < s.b.wins.length → s.b.endedOf id = none → s'.b.endedOf id = some e) ∧ s'.b.outerStopped = true :=
  have h := Base.endAll_spec (Bnd.step_end s t k hk e hl)
  ⟨h.ends, h.stopped⟩

theorem windows_end_with_source_when (raiseAt : Option Nat) (pool : Nat) (s : Whn α) (t : Nat) (e : Option Err)
    (hl : s.b.live.contains 0 = true) :
    let s' := (Whn.mach raiseAt pool).step s t (.src 0 (endNotif e))
    (∀ id ∈ [s.cur], id < s.b.wins.length → s.b.endedOf id = none → s'.b.endedOf id = some e) ∧ s'.b.outerStopped = true :=
  have h := Base.endAll_spec (Whn.step_end raiseAt pool s t e hl)
  ⟨h.ends, h.stopped⟩

/-- `window_when_`: when the closing mapper raises (its `s.calls`-th call), the
open window fails with that exception and the outer observer is stopped (shared `on_error`; repo fix c2c9edd). -/
theorem windows_end_when_mapper_raises (pool : Nat) (s : Whn α) :
    let s' := Whn.createClosing (some s.calls) pool s
    (∀ id ∈ [s.cur], id < s.b.wins.length → s.b.endedOf id = none →
        s'.b.endedOf id = some (some s!"cm{s.calls}")) ∧ s'.b.outerStopped = true := by
  simp only [Whn.createClosing, Whn.createClosingF, beq_self_eq_true, if_true, Whn.onEnd, Base.os_outerEnd, and_true]
  intro id hid hlt hnn
  obtain rfl : id = s.cur := by simpa using hid
  rw [Base.endedOf_outerEnd, Base.endedOf_winEnd, if_pos ⟨rfl, hlt, hnn⟩]

/-- AsIs witness (the handler before repo fix c2c9edd): the raising mapper reached only
the outer observer — the open window stays open and the source stays subscribed. -/
theorem when_mapper_raise_asis :
    let s0 : Whn Nat := { b := (((({ now := 200 } : Base Nat).newWin.1).outerNext 0).subscribe 0), cur := 0 }
    let s := Whn.createClosingAsIs (some 0) s0
    s.b.endedOf 0 = none ∧ s.b.outerStopped = true ∧ s.b.live = [0] ∧
      (Whn.createClosing (some 0) 1 s0).b.endedOf 0 = some (some "cm0") ∧ (Whn.createClosing (some 0) 1 s0).b.live = [] := by
  decide

theorem windows_end_with_source_time (shift : Nat) (s : Tim α) (t : Nat) (e : Option Err)
    (hl : s.b.live.contains 0 = true) :
    let s' := (Tim.mach shift).step s t (.src 0 (endNotif e))
    (∀ id ∈ s.queue, id < s.b.wins.length → s.b.endedOf id = none → s'.b.endedOf id = some e) ∧ s'.b.outerStopped = true :=
  have h := Base.endAll_spec (Tim.step_end shift s t e hl)
  ⟨h.ends, h.stopped⟩

theorem windows_end_with_source_time_or_count (span count : Nat) (s : Toc α) (t : Nat) (e : Option Err)
    (hl : s.b.live.contains 0 = true) :
    let s' := (Toc.mach span count).step s t (.src 0 (endNotif e))
    (∀ id ∈ [s.s], id < s.b.wins.length → s.b.endedOf id = none → s'.b.endedOf id = some e) ∧ s'.b.outerStopped = true :=
  have h := Base.endAll_spec (Toc.step_end span count s t e hl)
  ⟨h.ends, h.stopped⟩

/-! ### closed windows have ended; hence after the source's terminal EVERY window has ended

`closed_windows_ended_*`: in every state of every run, each window ever created is in the operator's open set or has
already ended.  `all_windows_end_with_source_*`: in every reachable state in which the operator listens to the
source, the step of a source terminal leaves no window un-ended.  `window_with_count_` has the closed form `wwc_ends_with_source` instead;
neither holds of `window_toggle_` (`expire` drops windows un-ended; the source's completion ends none). -/

theorem closed_windows_ended_boundaries (t0 : Nat) (bsync : Option (Notif Unit)) (evs : List (Nat × Ev α)) :
    let s := Bnd.run (Bnd.init t0 bsync) evs
    ∀ id, id < s.b.wins.length → id ∈ [s.cur] ∨ (s.b.endedOf id).isSome = true := by
  intro s; show ClosedB s.b [s.cur]
  exact (Bnd.opsMach t0 bsync).inv_run ClosedB.inv evs (Base.closed_nil _)

theorem closed_windows_ended_when (raiseAt : Option Nat) (pool t0 : Nat) (sync : List (Option (Option Err))) (evs : List (Nat × Ev α)) :
    let s := Whn.run raiseAt pool (Whn.init raiseAt pool t0 sync) evs
    ∀ id, id < s.b.wins.length → id ∈ [s.cur] ∨ (s.b.endedOf id).isSome = true := by
  intro s; show ClosedB s.b [s.cur]
  exact (Whn.opsMach raiseAt pool t0 sync).inv_run ClosedB.inv evs (Base.closed_nil _)

theorem closed_windows_ended_time (span shift t0 : Nat) (evs : List (Nat × Ev α)) :
    let s := (Tim.mach shift).fold (Tim.init span shift t0) evs
    ∀ id, id < s.b.wins.length → id ∈ s.queue ∨ (s.b.endedOf id).isSome = true :=
  (Tim.opsMach span shift t0).inv_run ClosedB.inv evs (Base.closed_nil _)

theorem closed_windows_ended_time_or_count (span count t0 : Nat) (evs : List (Nat × Ev α)) :
    let s := (Toc.mach span count).fold (Toc.init span t0) evs
    ∀ id, id < s.b.wins.length → id ∈ [s.s] ∨ (s.b.endedOf id).isSome = true :=
  (Toc.opsMach span count t0).inv_run ClosedB.inv evs (Base.closed_nil _)

theorem all_windows_end_with_source_boundaries (t0 : Nat) (bsync : Option (Notif Unit)) (evs : List (Nat × Ev α)) (t k : Nat) (hk : k = 0 ∨ k = 1)
    (e : Option Err) (hl : (Bnd.run (Bnd.init t0 bsync) evs).b.live.contains k = true) :
    let s' := Bnd.mach.step (Bnd.run (Bnd.init t0 bsync) evs) t (.src k (endNotif e))
    ∀ id, id < s'.b.wins.length → (s'.b.endedOf id).isSome = true :=
  all_ended_of (closed_windows_ended_boundaries t0 bsync evs) (Bnd.step_end _ t k hk e hl)

theorem all_windows_end_with_source_when (raiseAt : Option Nat) (pool t0 : Nat) (sync : List (Option (Option Err))) (evs : List (Nat × Ev α)) (t : Nat)
    (e : Option Err) (hl : (Whn.run raiseAt pool (Whn.init raiseAt pool t0 sync) evs).b.live.contains 0 = true) :
    let s' := (Whn.mach raiseAt pool).step (Whn.run raiseAt pool (Whn.init raiseAt pool t0 sync) evs) t (.src 0 (endNotif e))
    ∀ id, id < s'.b.wins.length → (s'.b.endedOf id).isSome = true :=
  all_ended_of (closed_windows_ended_when raiseAt pool t0 sync evs) (Whn.step_end raiseAt pool _ t e hl)

theorem all_windows_end_with_source_time (span shift t0 : Nat) (evs : List (Nat × Ev α)) (t : Nat) (e : Option Err)
    (hl : ((Tim.mach shift).fold (Tim.init span shift t0) evs).b.live.contains 0 = true) :
    let s' := (Tim.mach shift).step ((Tim.mach shift).fold (Tim.init span shift t0) evs) t (.src 0 (endNotif e))
    ∀ id, id < s'.b.wins.length → (s'.b.endedOf id).isSome = true :=
  all_ended_of (closed_windows_ended_time span shift t0 evs) (Tim.step_end shift _ t e hl)

theorem all_windows_end_with_source_time_or_count (span count t0 : Nat) (evs : List (Nat × Ev α)) (t : Nat) (e : Option Err)
    (hl : ((Toc.mach span count).fold (Toc.init span t0) evs).b.live.contains 0 = true) :
    let s' := (Toc.mach span count).step ((Toc.mach span count).fold (Toc.init span t0) evs) t (.src 0 (endNotif e))
    ∀ id, id < s'.b.wins.length → (s'.b.endedOf id).isSome = true :=
  all_ended_of (closed_windows_ended_time_or_count span count t0 evs) (Toc.step_end span count _ t e hl)

/-- `window_toggle_` (= `group_join_`): the full statement (as above, for every
terminal `e`) is FALSE of the code as written — see `toggle_completion_counter`.  Proved part: the source FAILS. The
excluded shape is exactly "toggle window open when the source COMPLETES" (known finding
C18-toggle-open-at-source-completion). -/
theorem toggle_windows_end_partial (raiseAt : Option Nat) (pool : Nat) (s : Tgl α) (t : Nat) (err : Err)
    (hl : s.b.live.contains 0 = true) :
    let s' := (Tgl.mach raiseAt pool).step s t (.src 0 (.error err))
    (∀ id ∈ Tgl.openOf s, id < s.b.wins.length → s.b.endedOf id = none → s'.b.endedOf id = some (some err)) ∧
      s'.b.outerStopped = true :=
  have h := Base.endAll_spec (Tgl.step_error raiseAt pool s t err hl)
  ⟨h.ends, h.stopped⟩

/-- The replayed defect on the as-is model: source 1@210, 2@250, 3@290, C@300;
openings @240, @280; closings never.  After the source completed both windows are still open (never end), and the
outer observer has not completed. -/
theorem toggle_completion_counter :
    let s := Tgl.run none 0 (Tgl.init 200)
      [(210, .src 0 (.next 1)), (240, .src 1 (.next 0)), (250, .src 0 (.next 2)), (280, .src 1 (.next 0)),
       (290, .src 0 (.next 3)), (300, .src 0 (.completed : Notif Nat))]
    s.b.wins.map (fun w => (w.pushed, w.ended)) = [([2, 3], none), ([3], none)] ∧ s.b.outerStopped = false ∧
      s.b.live = [1] := by decide

/-! ## buffer_eq_window : each buffer equals the contents of its window

Buffers are `window ∘ flat_map(to_list)`: `BufView` (RxModel/WinBuf.lean) consumes the window machine's log.
`buffer_is_items`: when the view consumes the completion of window `id` it emits exactly `itemsOf seen id` — the
elements the window's subscriber received so far (dropped by `buffer_with_count` when empty) — and `seen` is exactly
the log consumed so far (`buffer_view_seen`).  `buffer_eq_window_*`: in every state of every run of every window
machine (any event trace, dispose and ticks anywhere), for every window that still has its subscriber attached or
whose terminal was delivered to it, the elements that subscriber received are exactly the elements pushed into the
window (`pushed`) — hence every buffer equals the contents of its window. -/

theorem buffer_is_items (nonEmpty : Bool) (v : BufView α) (t id : Nat) (hs : v.stopped = false) :
    (BufView.feed nonEmpty v (t, .win id .completed)).out =
      v.out ++ (if nonEmpty && (itemsOf v.seen id).isEmpty then [] else [(t, BOut.outer (.next (itemsOf v.seen id)))])
        ++ (if v.outerDone && v.active - 1 == 0 then [(t, BOut.outer .completed)] else []) := by
  simp only [BufView.feed, hs, Bool.false_eq_true, if_false, BufView.emit]
  by_cases h1 : (nonEmpty && (itemsOf v.seen id).isEmpty) = true <;> by_cases h2 : (v.outerDone && v.active - 1 == 0) = true <;>
    simp [h1, h2]

theorem buffer_view_seen (nonEmpty : Bool) (l : List (Nat × Out α)) :
    (l.foldl (BufView.feed nonEmpty) {}).seen = l := by
  rw [BufView.seen_fold]; rfl

def ItemsArePushed (b : Base α) : Prop :=
  ∀ id w, b.wins[id]? = some w → (w.attached = true ∨ endLogged b.log id) → itemsOf b.log id = w.pushed

theorem buffer_eq_window_count (count skip t0 : Nat) (evs : List (Nat × Ev α)) :
    ItemsArePushed (Cnt.run count skip (Cnt.init t0) evs).b :=
  ((Cnt.opsMach count skip t0).inv_run J.inv evs (J_empty t0)).items

theorem buffer_eq_window_boundaries (t0 : Nat) (bsync : Option (Notif Unit)) (evs : List (Nat × Ev α)) :
    ItemsArePushed (Bnd.run (Bnd.init t0 bsync) evs).b :=
  ((Bnd.opsMach t0 bsync).inv_run J.inv evs (J_empty t0)).items

theorem buffer_eq_window_when (raiseAt : Option Nat) (pool t0 : Nat) (sync : List (Option (Option Err))) (evs : List (Nat × Ev α)) :
    ItemsArePushed (Whn.run raiseAt pool (Whn.init raiseAt pool t0 sync) evs).b :=
  ((Whn.opsMach raiseAt pool t0 sync).inv_run J.inv evs (J_empty t0)).items

theorem buffer_eq_window_toggle (raiseAt : Option Nat) (pool t0 : Nat) (sync : List (Option (Option Err))) (evs : List (Nat × Ev α)) :
    ItemsArePushed (Tgl.run raiseAt pool (Tgl.init t0 sync) evs).b :=
  ((Tgl.opsMach raiseAt pool t0 sync).inv_run J.inv evs (J_empty t0)).items

theorem buffer_eq_window_time (span shift t0 horizon fuel : Nat) (evs : List (Nat × Ev α)) :
    ItemsArePushed ((Tim.mach shift).run horizon fuel (Tim.init span shift t0) evs).b := by
  rw [Mach.run_eq_fold]
  exact ((Tim.opsMach span shift t0).inv_run J.inv _ (J_empty t0)).items

theorem buffer_eq_window_time_or_count (span count t0 horizon fuel : Nat) (evs : List (Nat × Ev α)) :
    ItemsArePushed ((Toc.mach span count).run horizon fuel (Toc.init span t0) evs).b := by
  rw [Mach.run_eq_fold]
  exact ((Toc.opsMach span count t0).inv_run J.inv _ (J_empty t0)).items

/-! ### buffer_x = window_x ∘ flat_map(to_list), at model level

`buffer_run_is_view_*`: what the buffer subscriber sees (`Mach.bufLog`, the thing the driver compares with the real
`buffer_*` operators) is exactly the `flat_map(to_list)` view (`viewOf`) of the log of a run of the SAME window machine
— the run `runBuf` performs: the input events, plus a `dispose` fed at the moment the view delivers a terminal
downstream (the downstream `AutoDetachObserver` disposing the chain).  `buffer_count_filter`: the view used for
`buffer_with_count` (`nonEmpty = true`) is the plain view followed by `filter(len > 0)`.  Together with
`buffer_eq_window_*` only the library's own composition `source.pipe(window_x, flat_map(to_list)[, filter])` is left
to the correspondence. -/

theorem buffer_count_filter (l : List (Nat × Out α)) :
    (viewOf true l).out = (viewOf false l).out.filter notEmptyBuf :=
  (viewOf_filtered l).out

theorem buffer_run_is_view_count (count skip horizon fuel t0 : Nat) (evs : List (Nat × Ev α)) :
    (Cnt.mach count skip).bufLog true horizon fuel t0 (Cnt.init t0) evs =
      (viewOf true ((Cnt.mach count skip).runBuf true horizon fuel
        ((Cnt.mach count skip).bufAfter true 0 t0 (Cnt.init t0) {}) evs).1.b.log).out :=
  Mach.bufLog_is_view _ (Cnt.opsMach count skip t0).grows _ _ _ _ _ _

theorem buffer_run_is_view_boundaries (horizon fuel t0 : Nat) (bsync : Option (Notif Unit)) (evs : List (Nat × Ev α)) :
    Bnd.mach.bufLog false horizon fuel t0 (Bnd.init t0 bsync) evs =
      (viewOf false (Bnd.mach.runBuf false horizon fuel (Bnd.mach.bufAfter false 0 t0 (Bnd.init t0 bsync) {}) evs).1.b.log).out :=
  Mach.bufLog_is_view _ (Bnd.opsMach t0 bsync).grows _ _ _ _ _ _

theorem buffer_run_is_view_when (raiseAt : Option Nat) (pool horizon fuel t0 : Nat) (sync : List (Option (Option Err))) (evs : List (Nat × Ev α)) :
    (Whn.mach raiseAt pool).bufLog false horizon fuel t0 (Whn.init raiseAt pool t0 sync) evs =
      (viewOf false ((Whn.mach raiseAt pool).runBuf false horizon fuel
        ((Whn.mach raiseAt pool).bufAfter false 0 t0 (Whn.init raiseAt pool t0 sync) {}) evs).1.b.log).out :=
  Mach.bufLog_is_view _ (Whn.opsMach raiseAt pool t0 sync).grows _ _ _ _ _ _

theorem buffer_run_is_view_toggle (raiseAt : Option Nat) (pool horizon fuel t0 : Nat) (sync : List (Option (Option Err))) (evs : List (Nat × Ev α)) :
    (Tgl.mach raiseAt pool).bufLog false horizon fuel t0 (Tgl.init t0 sync) evs =
      (viewOf false ((Tgl.mach raiseAt pool).runBuf false horizon fuel
        ((Tgl.mach raiseAt pool).bufAfter false 0 t0 (Tgl.init t0 sync) {}) evs).1.b.log).out :=
  Mach.bufLog_is_view _ (Tgl.opsMach raiseAt pool t0 sync).grows _ _ _ _ _ _

theorem buffer_run_is_view_time (span shift horizon fuel t0 : Nat) (evs : List (Nat × Ev α)) :
    (Tim.mach shift).bufLog false horizon fuel t0 (Tim.init span shift t0) evs =
      (viewOf false ((Tim.mach shift).runBuf false horizon fuel
        ((Tim.mach shift).bufAfter false 0 t0 (Tim.init span shift t0) {}) evs).1.b.log).out :=
  Mach.bufLog_is_view _ (Tim.opsMach span shift t0).grows _ _ _ _ _ _

theorem buffer_run_is_view_time_or_count (span count horizon fuel t0 : Nat) (evs : List (Nat × Ev α)) :
    (Toc.mach span count).bufLog false horizon fuel t0 (Toc.init span t0) evs =
      (viewOf false ((Toc.mach span count).runBuf false horizon fuel
        ((Toc.mach span count).bufAfter false 0 t0 (Toc.init span t0) {}) evs).1.b.log).out :=
  Mach.bufLog_is_view _ (Toc.opsMach span count t0).grows _ _ _ _ _ _

/-! non-vacuity: a completed count window whose subscriber was attached; the view emits its contents -/
example : (((Cnt.mach 2 2).bufLog true 3000 100 200 (Cnt.init 200)
    [(210, .src 0 (.next 1)), (220, .src 0 (.next 2)), (230, .src 0 (.next (3 : Nat))), (240, .src 0 .completed)]).filterMap
      fun | (t, BOut.outer n) => some (t, n) | _ => none)
    = [(220, .next [1, 2]), (240, .next [3]), (240, .completed)] := by decide

/-! ## timer_chain : the create_timer sequence opens at k·shift and closes at k·shift+span -/

/-- For the first `n` timers armed by `create_timer` (any `n`, any span, any shift): the timers that
open a window (`is_shift`) are due at `shift, 2·shift, 3·shift, …` (the j-th one at `(j+1)·shift`), the timers that
close the oldest window (`is_span`) at `span, span+shift, span+2·shift, …` (the j-th one at `j·shift+span`), and the
due times never decrease.  Offsets are relative to the subscription instant. -/
theorem timer_chain (span shift n : Nat) :
    let tk := Chain.ticks shift n ⟨shift, span, 0⟩
    (∀ j, j < (tk.filter (·.isShift)).length → ((tk.filter (·.isShift)).map (·.at_))[j]? = some ((j + 1) * shift)) ∧
    (∀ j, j < (tk.filter (·.isSpan)).length → ((tk.filter (·.isSpan)).map (·.at_))[j]? = some (j * shift + span)) ∧
    (tk.map (·.at_)).Pairwise (· ≤ ·) := by
  refine ⟨fun j hj => ?_, fun j hj => ?_, Chain.ticks_sorted shift n _⟩
  · rw [Chain.shift_ticks, arithFrom_getElem? _ _ _ _ hj, Nat.succ_mul]; congr 1; simp; omega
  · rw [Chain.span_ticks, arithFrom_getElem? _ _ _ _ hj]; congr 1; simp; omega

/-- Closed form of time windows. `window_with_time(span, shift)`, `shift ≥ 1`, subscribed at `t0`
to a hot source delivering the time-sorted elements `tx` (all after `t0`), nothing else yet.  `L` is the schedule
the machine follows (`Mach.run = fold` over it, `Mach.run_eq_fold`): the elements it gets to are a prefix of `tx`
(all of `tx` when the fuel suffices — fuel is a driver artefact), and every window `k` that exists holds exactly the
processed elements that arrived in `(t0 + k·shift, t0 + k·shift + span]` — the tie rule the code implements with
a hot source: an element arriving exactly when a window opens is not in it, one arriving exactly when it closes is. -/
theorem wwt_window_k (span shift t0 horizon fuel : Nat) (hs : 0 < shift) (tx : List (Nat × α))
    (hsorted : tx.Pairwise (fun p q => p.1 ≤ q.1)) (hpos : ∀ p ∈ tx, t0 < p.1) (k : Nat) :
    let L := (Tim.mach shift).sched horizon fuel (Tim.init span shift t0) (Cnt.nexts tx)
    let s := (Tim.mach shift).run horizon fuel (Tim.init span shift t0) (Cnt.nexts tx)
    (∃ rest, tx = elemsOf L ++ rest) ∧
    (k < s.b.wins.length → s.b.pushedOf k = ((elemsOf L).filter (inWin span shift t0 k)).map (·.2)) := by
  intro L s
  obtain ⟨hfair, rest, hpre⟩ := Mach.sched_fair (Tim.mach shift) horizon fuel (Tim.init span shift t0) tx hsorted
  refine ⟨⟨rest, hpre⟩, fun hk => ?_⟩
  obtain ⟨a', b', ρ', hinv⟩ := Tim.tinv_fair (span := span) (t0 := t0) hs L (Tim.init span shift t0) [] 0 0 0
    (Tim.tinv_init span shift t0) hfair
    (fun p hp => ⟨by have := hpos p (by rw [hpre]; exact List.mem_append_left _ hp); omega,
                  hpos p (by rw [hpre]; exact List.mem_append_left _ hp)⟩)
  have hs_eq : s = (Tim.mach shift).fold (Tim.init span shift t0) L := Mach.run_eq_fold _ _ _ _ _
  rw [hs_eq] at hk ⊢
  rw [hinv.len] at hk
  simpa using hinv.pushed k (by omega)

/-- `window_when_` with a closing observable that fires INSIDE its own subscribe for the
first window (`empty()`), followed by asynchronous closings @230, @250: the re-entrant rotation leaves the next live
closing subscription installed, so the later windows still close on their signals: `[[], [1, 2], [3], [4]]`, and the
subscription to the second closing (source id 2) lives from 200 to 230.  (Seeded change C18r2_1 — dropping the
intermediate SingleAssignmentDisposable — gives `[[], [1, 2, 3, 4]]` on the real code.) -/
theorem when_sync_closing_rotation :
    let s := Whn.run none 4 (Whn.init none 4 200 [some none])
      [(210, .src 0 (.next 1)), (220, .src 0 (.next 2)), (230, .src 2 (.next 0)), (240, .src 0 (.next 3)),
       (250, .src 3 (.next 0)), (260, .src 0 (.next 4)), (300, .src 0 (.completed : Notif Nat))]
    s.b.wins.map (fun w => (w.pushed, w.ended)) =
      [([], some none), ([1, 2], some none), ([3], some none), ([4], some none)] ∧
    s.b.log.filter (fun p => p.2 == .sub 2 || p.2 == .unsub 2) = [(200, .sub 2), (230, .unsub 2)] := by decide

example : (((Tim.mach 50).run 3000 100 (Tim.init 30 50 200)
    (Cnt.nexts [(210, 'a'), (230, 'b'), (250, 'c'), (260, 'd')])).b.wins.map (·.pushed) |>.take 2) = [['a', 'b'], ['d']] := by decide
example : Chain.ticks 50 4 ⟨50, 30, 0⟩ = [⟨30, false, true⟩, ⟨50, true, false⟩, ⟨80, false, true⟩, ⟨100, true, false⟩] := by decide
example : Chain.ticks 20 4 ⟨20, 50, 0⟩ = [⟨20, true, false⟩, ⟨40, true, false⟩, ⟨50, false, true⟩, ⟨60, true, false⟩] := by decide
example : Chain.ticks 10 2 ⟨10, 10, 0⟩ = [⟨10, true, true⟩, ⟨20, true, true⟩] := by decide
-- routing spec is not vacuous: boundaries at 240 splits [1 | 2]
example : (Bnd.run (Bnd.init 200) [(210, .src 0 (.next 1)), (240, .src 1 (.next 9)), (250, .src 0 (.next (2 : Nat)))]).b.wins.map (·.pushed)
    = [[1], [2]] := by decide
example : routed Bnd.mach (·.b) (fun s => [s.cur]) (Bnd.init 200)
    [(210, .src 0 (.next 1)), (240, .src 1 (.next 9)), (250, .src 0 (.next (2 : Nat)))] 1 = [2] := by decide
-- the premises of the end-with-source theorems are satisfiable: a live source with two open count windows
example : (Cnt.run 3 1 (Cnt.init 200) [(210, .src 0 (.next (1 : Nat)))]).q = [0, 1] ∧
    (Cnt.run 3 1 (Cnt.init 200) [(210, .src 0 (.next (1 : Nat)))]).b.live.contains 0 = true := by decide
example : ((Tgl.run none 0 (Tgl.init 200) [(240, .src 1 (.next 0)), (250, .src 0 (.next (2 : Nat))), (300, .src 0 (.error "x"))]).b.wins.map (·.ended))
    = [some (some "x")] := by decide

end C18
