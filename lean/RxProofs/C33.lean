import RxProofs.Lemmas.Thr2Aio
/-!
# C33 — cancelling an asyncio-scheduled action is effective from any thread

Every theorem quantifies over ALL schedules: any list of actions (loop-thread step / user-thread step / the clock
reaching the due time / the loop being started or stopped / the loop moving a due timer to its ready queue), of any
length; an action that is not enabled is skipped.  The state space of one scheduled action is
finite, so the invariant is established by exploring the reachable set (by `decide`, in the kernel), which is
closed under every action, and checking that it contains only safe states.

"Starts" means: the loop pops the `interval` handle and reads `_cancelled = False` (DESIGN.md §8).
-/

namespace C33
open Thr2Aio

/-- **runs_on_loop_not_early.** Whatever the scheduler flavour, the kind of schedule, the disposing mode
and the schedule: the action is started only by a step of the loop thread, and a relative action is
never started before the loop clock has reached its due time. -/
theorem runs_on_loop_not_early (c : Cfg) (hc : c.test = .fixed) (sch : List Nat) :
    (run c (init c) sch).early = false ∧
    (∀ (s : St) (a : Nat) (t : St), step c s a = some t → t.started ≠ s.started → a = 0) :=
  ⟨(fixed_safe c hc sch).2, fun _ _ _ hs hne => Decidable.byContradiction fun ha => hne (step_started hs ha)⟩

/-- **disposed_then_never_starts (on the loop thread).** `dispose()` called from a callback running on the
loop thread — either scheduler, immediate or relative, however the action was scheduled (on the loop, from
another thread, before the loop started): once it has returned the action never starts (`late` is set
exactly when the action starts while `returned` holds). -/
theorem disposed_then_never_starts_on_loop (fl : Flavour) (kind : Kind) (sm : SMode) (sch : List Nat) :
    (run ⟨fl, kind, sm, .onLoop, .fixed⟩ (init ⟨fl, kind, sm, .onLoop, .fixed⟩) sch).late = false :=
  (fixed_safe _ rfl sch).1

/-- **disposed_then_never_starts (another thread, loop running, thread-safe scheduler).** With the
cancellation marshalled onto the loop and awaited (the repaired `_on_self_loop_or_not_running`, evaluated
at dispose time), whatever the interleaving of the disposing thread with the loop thread — in particular
inside the two-stage registration of a relative schedule — and wherever the action was scheduled: once
`dispose()` has returned the action never starts. -/
theorem disposed_then_never_starts_foreign (kind : Kind) (sm : SMode) (sch : List Nat) :
    (run ⟨.ts, kind, sm, .foreign, .fixed⟩ (init ⟨.ts, kind, sm, .foreign, .fixed⟩) sch).late = false :=
  (fixed_safe _ rfl sch).1

/-- **disposed_then_never_starts (loop not running).** The loop is not running when `dispose()` is called —
never started, or stopped after having run for a while (so that stage2 may or may not have registered the
timer) — and is not (re)started before it has returned (the only schedules the model admits in this mode):
the action never starts, either scheduler, immediate or relative. -/
theorem disposed_then_never_starts_not_running (fl : Flavour) (kind : Kind) (sm : SMode) (sch : List Nat) :
    (run ⟨fl, kind, sm, .notRunning, .fixed⟩ (init ⟨fl, kind, sm, .notRunning, .fixed⟩) sch).late = false :=
  (fixed_safe _ rfl sch).1

/-- `late` means what it says: starting the action (`start`, used by the loop when it pops an uncancelled
`interval` handle) while `returned` holds sets it. -/
theorem start_after_return_is_late (c : Cfg) (s : St) :
    (start c s).started = true ∧ (s.returned = true → (start c s).late = true) := by
  simp only [start, Bool.or_eq_true, true_and]
  intro h; exact Or.inr h

/-- **foreign_direct_cancel_leaks.** The pinned tree answers "cancel directly" on a foreign thread while the
loop runs (`except RuntimeError: return True`).  Then: the loop has popped `stage2` (1 step), the foreign
thread disposes (pops the only handle, finds the list empty, returns), `stage2` registers the timer, the
clock reaches the due time, the loop runs the action — after `dispose()` returned. -/
theorem foreign_direct_cancel_leaks :
    (run ⟨.ts, .rel, .foreign, .foreign, .asIs⟩ (init ⟨.ts, .rel, .foreign, .foreign, .asIs⟩)
      [1, 1, 0, 1, 1, 1, 0, 0, 2, 4, 0]).late = true := by decide +kernel

/-! Non-vacuity: the action does run when nobody disposes it in time, and a timely dispose prevents it. -/
example : (run ⟨.ts, .rel, .foreign, .foreign, .fixed⟩ (init ⟨.ts, .rel, .foreign, .foreign, .fixed⟩) [1, 1, 0, 0, 0, 2, 4, 0]).started = true := by
  decide +kernel
example : (run ⟨.ts, .rel, .foreign, .foreign, .fixed⟩ (init ⟨.ts, .rel, .foreign, .foreign, .fixed⟩)
    [1, 1, 0, 1, 1, 0, 0, 0, 1, 2, 4, 0, 0]).returned = true ∧
    (run ⟨.ts, .rel, .foreign, .foreign, .fixed⟩ (init ⟨.ts, .rel, .foreign, .foreign, .fixed⟩)
    [1, 1, 0, 1, 1, 0, 0, 0, 1, 2, 4, 0, 0]).started = false := by decide +kernel
example : (run ⟨.plain, .soon, .pre, .notRunning, .fixed⟩ (init ⟨.plain, .soon, .pre, .notRunning, .fixed⟩) [1, 1, 3, 0]).started = false ∧
    (run ⟨.plain, .soon, .pre, .notRunning, .fixed⟩ (init ⟨.plain, .soon, .pre, .notRunning, .fixed⟩) [1, 1, 3, 0]).returned = true := by
  decide +kernel

-- stop / restart: scheduled from another thread, the loop turns once (stage2 registers the timer) and is
-- stopped; dispose while stopped cancels both handles; after the restart the due timer is skipped
example : (run ⟨.ts, .rel, .foreign, .notRunning, .fixed⟩ (init ⟨.ts, .rel, .foreign, .notRunning, .fixed⟩)
    [1, 1, 0, 0, 0, 5, 1, 1, 1, 1, 3, 2, 4, 0]).returned = true ∧
    (run ⟨.ts, .rel, .foreign, .notRunning, .fixed⟩ (init ⟨.ts, .rel, .foreign, .notRunning, .fixed⟩)
    [1, 1, 0, 0, 0, 5, 1, 1, 1, 1, 3, 2, 4, 0]).started = false ∧
    (run ⟨.ts, .rel, .foreign, .notRunning, .fixed⟩ (init ⟨.ts, .rel, .foreign, .notRunning, .fixed⟩)
    [1, 1, 0, 0, 0, 5, 1, 1, 1, 1, 3, 2, 4, 0]).c2 = true := by decide +kernel

end C33
