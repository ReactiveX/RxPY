import RxProofs.Lemmas.DispRefCountHeapRefine
/-!
# C26Heap — the heap model of C02/C03 (`RxModel/PipeHeap.lean`) restricted to one container IS the class semantics

For a heap `leaf_0 … leaf_{k-1}, container` (`Pipe.mkH`), a call history on the container run to completion in the
1-thread instance of the class model of `RxModel/Disp.lean` (the same step functions the C26 theorems are about, and
the ones the correspondence check runs against the real classes) and the corresponding `Pipe.Op` list run by
`Pipe.run` (every op followed by `settle`) agree on

* every leaf's `done` flag  = "that item's `dispose()` was called at least once" (`0 < cnt i`),
* the container's `done` flag = `is_disposed`; its owning edges = the held items while it is live (after its disposal
  the heap keeps the edges, all of whose targets are done; the class holds nothing),
* `released` is never set on these heaps (RefCountDisposable has its own theorem, `refcount_refines_heap`),
* the per-call results: `Res.rejected` exactly where the class raises "Disposable has already been assigned".

So `Pipe.apply` on one container is a proven consequence of the class models, not a separately validated model.
(The heap has flags, not counters: a second disposal of the same item is invisible in it — that is C26's business.)
`Reach f a b` = the single thread reaches `b` from `a` in some number of steps; the final states are quiescent
(`(idle, [])`), hence fixpoints of `Sys.step` (shown for `cStep`: `quiet_is_fixpoint_c`), so the number of steps does
not matter beyond that.
-/

namespace C26Heap
open Disp Pipe

theorem heapRel_flags (K : Kind) (k : Nat) (dis : Bool) (held : List Nat) (cnt : Nat → Nat) (h : Heap)
    (hr : HeapRel K k dis held cnt h) :
    h.length = k + 1 ∧
    (∀ i, i < k → h[i]? = some { kind := .leaf, done := decide (0 < cnt i) }) ∧
    (∃ co, h[k]? = some { kind := K, done := dis, owned := co } ∧ (dis = false → co = held) ∧
      (dis = true → held = [] ∧ ∀ x ∈ co, x < k ∧ 0 < cnt x)) ∧
    (∀ n ∈ h, n.released = false) := by
  obtain ⟨co, rfl, hco, hl, hd⟩ := hr
  refine ⟨by simp [mkH], ?_, ⟨co, getCont_mkH _ _ _ _ _, hl, fun h => ⟨(hd h).1, fun x hx => ⟨hco x hx, (hd h).2 x hx⟩⟩⟩, ?_⟩
  · intro i hi
    simp [mkH, leafN, List.getElem?_append_left, hi]
  · intro n hn
    simp only [mkH, List.mem_append, List.mem_map, List.mem_range, List.mem_singleton] at hn
    rcases hn with ⟨i, _, rfl⟩ | rfl <;> rfl

/-- **composite_refines_heap.** CompositeDisposable(init) with a history of add / remove / clear / dispose calls. -/
theorem composite_refines_heap (k : Nat) (init : List Nat) (ops : List COp)
    (hinit : ∀ x ∈ init, x < k) (hops : ∀ op ∈ ops, cOk k op) :
    ∃ s', Reach cStep (cInit init [ops]) ⟨s', [(.idle, [])]⟩ ∧
      HeapRel .comp k s'.isDisposed s'.items s'.cnt
        (Pipe.run (mkH .comp k (fun _ => false) false init) (ops.map (cToPipe k))) ∧
      resOf s'.log = Pipe.runRes (mkH .comp k (fun _ => false) false init) (ops.map (cToPipe k)) := by
  obtain ⟨hr, hl⟩ := run_sim cSeq (·.log) (cToPipe k) (cOk k) (fun s h => HeapRel .comp k s.isDisposed s.items s.cnt h)
    (c_sim k) ops hops { items := init, given := fun i => init.count i } _ (.init hinit)
  exact ⟨_, Reach.calls cStep cSeq c_call ops _, hr, by simpa [resOf] using hl⟩

/-- **assign_refines_heap.** SerialDisposable / MultipleAssignmentDisposable / fixed SingleAssignmentDisposable
(`AKind f K` pairs the step function with the heap kind) with a history of assignments and dispose calls; a second
assignment to a live SingleAssignmentDisposable is `Res.rejected` on both sides. -/
theorem assign_refines_heap (f : ASh → ATh → ASh × ATh) (K : Kind) (hfK : AKind f K) (k : Nat) (ops : List AOp)
    (hops : ∀ op ∈ ops, aOk k op) :
    ∃ s', Reach f (aInit [ops]) ⟨s', [(.idle, [])]⟩ ∧
      HeapRel K k s'.isDisposed s'.current.toList s'.cnt
        (Pipe.run (mkH K k (fun _ => false) false []) (ops.map (aToPipe k))) ∧
      resOf s'.log = Pipe.runRes (mkH K k (fun _ => false) false []) (ops.map (aToPipe k)) := by
  obtain ⟨hr, hl⟩ := run_sim (aSeq K) (·.log) (aToPipe k) (aOk k) (fun s h => HeapRel K k s.isDisposed s.current.toList s.cnt h)
    (a_sim k K hfK.kind) ops hops {} _ (.init (by simp))
  exact ⟨_, Reach.calls f (aSeq K) (a_call hfK) ops _, hr, by simpa [resOf] using hl⟩

theorem serial_refines_heap (k : Nat) (ops : List AOp) (hops : ∀ op ∈ ops, aOk k op) :
    ∃ s', Reach serStep (aInit [ops]) ⟨s', [(.idle, [])]⟩ ∧
      HeapRel .serial k s'.isDisposed s'.current.toList s'.cnt
        (Pipe.run (mkH .serial k (fun _ => false) false []) (ops.map (aToPipe k))) ∧
      resOf s'.log = Pipe.runRes (mkH .serial k (fun _ => false) false []) (ops.map (aToPipe k)) :=
  assign_refines_heap serStep .serial (Or.inl ⟨rfl, rfl⟩) k ops hops
theorem multi_refines_heap (k : Nat) (ops : List AOp) (hops : ∀ op ∈ ops, aOk k op) :
    ∃ s', Reach madStep (aInit [ops]) ⟨s', [(.idle, [])]⟩ ∧
      HeapRel .multi k s'.isDisposed s'.current.toList s'.cnt
        (Pipe.run (mkH .multi k (fun _ => false) false []) (ops.map (aToPipe k))) ∧
      resOf s'.log = Pipe.runRes (mkH .multi k (fun _ => false) false []) (ops.map (aToPipe k)) :=
  assign_refines_heap madStep .multi (Or.inr (Or.inl ⟨rfl, rfl⟩)) k ops hops
theorem single_refines_heap (k : Nat) (ops : List AOp) (hops : ∀ op ∈ ops, aOk k op) :
    ∃ s', Reach sadStep (aInit [ops]) ⟨s', [(.idle, [])]⟩ ∧
      HeapRel .single k s'.isDisposed s'.current.toList s'.cnt
        (Pipe.run (mkH .single k (fun _ => false) false []) (ops.map (aToPipe k))) ∧
      resOf s'.log = Pipe.runRes (mkH .single k (fun _ => false) false []) (ops.map (aToPipe k)) :=
  assign_refines_heap sadStep .single (Or.inr (Or.inr ⟨rfl, rfl⟩)) k ops hops

/-- **refcount_refines_heap.** RefCountDisposable + InnerDisposable on the heap `underlying leaf, refcount node,
dependents…` (`Pipe.rcH`): a history of get-dependent / dispose-dependent (any earlier handle, repeatedly) /
dispose-primary calls.  Afterwards the heap is exactly
`rcH (underlying disposed) is_primary_disposed is_disposed dependents` — the refcount node's `done` is
`is_primary_disposed`, its `released` is `is_disposed`, the underlying leaf is done iff it was disposed, every
dependent node is an `inner` (done iff disposed) or an inert leaf exactly as the class handed it out — and
`count` = number of dependents that still point to the parent. -/
theorem refcount_refines_heap (ops : List ROp) (hv : rValid 0 ops) :
    ∃ s' mine', Reach rStep (rInit [ops]) ⟨s', [⟨.idle, [], mine'⟩]⟩ ∧
      Pipe.run (rcH false false false []) (ops.map rToPipe)
        = rcH (decide (0 < s'.und)) s'.isPrimaryDisposed s'.isDisposed s'.deps ∧
      s'.count = (wsum depLive s'.deps : Int) ∧
      resOf s'.log = Pipe.runRes (rcH false false false []) (ops.map rToPipe) := by
  obtain ⟨s', m', hreach, hi, hrun, hlog⟩ := r_hist ops {} [] hv (rInv_init [ops])
  have h0 : rcOf {} = rcH false false false [] := rfl
  rw [h0] at hrun hlog
  exact ⟨s', m', by simpa [rInit] using hreach, hrun, (hi.idle rfl).1, by simpa [resOf] using hlog⟩

theorem quiet_is_fixpoint_c (s : CSh) (n : Nat) :
    (Sys.run cStep ⟨s, [(.idle, [])]⟩ (List.replicate n 0)) = ⟨s, [(.idle, [])]⟩ := by
  induction n with
  | zero => rfl
  | succ n ih => simpa [List.replicate_succ, Sys.run_cons, Sys.step, cStep] using ih

/-! Non-vacuity: both sides computed on a concrete history (kernel evaluation). -/
example :
    let ops : List COp := [.add 2, .remove 0, .dispose, .add 1, .remove 2]
    let s := (cInit [0] [ops]).run cStep (List.replicate 12 0)
    let h := Pipe.run (mkH .comp 3 (fun _ => false) false [0]) (ops.map (cToPipe 3))
    cQuiet s ∧ h.map (·.done) = [decide (0 < s.sh.cnt 0), decide (0 < s.sh.cnt 1), decide (0 < s.sh.cnt 2), s.sh.isDisposed]
      ∧ h.map (·.done) = [true, true, true, true] := by decide +kernel

example :
    let ops : List AOp := [.set 0, .set 1, .dispose, .set 2]
    resOf ((aInit [ops]).run sadStep (List.replicate 8 0)).sh.log
      = Pipe.runRes (mkH .single 3 (fun _ => false) false []) (ops.map (aToPipe 3))
    ∧ Pipe.runRes (mkH .single 3 (fun _ => false) false []) (ops.map (aToPipe 3)) = [.ok, .rejected, .ok, .ok] := by decide +kernel

example :
    let ops : List ROp := [.get, .get, .dispose, .rel 0, .rel 0, .rel 1, .get, .rel 2]
    let s := ((rInit [ops]).run rStep (List.replicate 20 0)).sh
    rQuiet ((rInit [ops]).run rStep (List.replicate 20 0)) ∧
    Pipe.run (rcH false false false []) (ops.map rToPipe) = rcH (decide (0 < s.und)) s.isPrimaryDisposed s.isDisposed s.deps ∧
    s.und = 1 ∧ s.deps = [Dep.inner false, Dep.inner false, Dep.inert true] := by decide +kernel

end C26Heap
