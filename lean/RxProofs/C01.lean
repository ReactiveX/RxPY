import RxProofs.Lemmas.CoreAdo
/-!
# C01 — every subscriber sees a well-formed notification sequence

The upstream pipeline is an arbitrary caller: any finite list of
`next/error/completed/dispose/fail` calls (after terminals, twice, re-entrant — a re-entrant call is
just the next call in the list because every method decides on `is_stopped` at entry and sets it
before calling out), with user callbacks raising at arbitrary invocation indices (`raises`).
-/

namespace C01

/-- **ado_grammar.** Whatever is called on an `AutoDetachObserver`, in whatever order, and whichever
user callbacks raise, the user callbacks are invoked as `next* (error|completed)?`. -/
theorem ado_grammar {α} (raises : Nat → Bool) (s : Ado) (cs : List (ObsCall α)) :
    Grammar (Ado.delivered raises s cs) := by
  induction cs generalizing s with
  | nil => trivial
  | cons c cs ih =>
    rw [delivered_cons]
    cases hd : (Ado.step raises s c).2.delivered with
    | none => exact ih _
    | some n =>
      cases hst : (Ado.step raises s c).1.stopped with
      | true => rw [stopped_silent _ _ _ hst]; trivial
      | false =>
        -- still running: `n` was an `on_next`, and the rest is well-formed
        have hn := step_running raises s c n hst hd
        have := ih (Ado.step raises s c).1
        cases hr : Ado.delivered raises (Ado.step raises s c).1 cs with
        | nil => trivial
        | cons m rest => rw [hr] at this; exact ⟨hn, this⟩

/-- **ado_after_dispose_silent.** Once `dispose()` was called nothing is ever delivered. -/
theorem ado_after_dispose_silent {α} (raises : Nat → Bool) (s : Ado) (pre post : List (ObsCall α)) :
    Ado.delivered raises s (pre ++ ObsCall.dispose :: post) = Ado.delivered raises s pre := by
  induction pre generalizing s with
  | nil => rw [List.nil_append, delivered_cons, stopped_silent _ _ _ rfl]; rfl
  | cons c cs ih => rw [List.cons_append, delivered_cons, delivered_cons, ih]

/-- **ado_terminal_disposes.** A terminal notification that reaches the subscriber through
`on_error`/`on_completed` disposes the subscription in the same call (`finally: self.dispose()`),
also when the user callback raises. -/
theorem ado_terminal_disposes {α} (raises : Nat → Bool) (s : Ado) (c : ObsCall α) (n : Notif α)
    (hc : (∃ e, c = .error e) ∨ c = .completed) (hd : (Ado.step raises s c).2.delivered = some n) :
    (Ado.step raises s c).2.disposes = 1 ∧ (Ado.step raises s c).1.stopped = true := by
  rcases hc with ⟨e, rfl⟩ | rfl <;> cases hs : s.stopped <;> simp_all [Ado.step]

/-- the two step functions differ only in what they dispose -/
theorem obsbase_delivered_eq {α} (raises : Nat → Bool) (s : ObsBase) (cs : List (ObsCall α)) :
    ObsBase.delivered raises s cs = Ado.delivered raises { stopped := s.stopped, cbs := s.cbs } cs := by
  induction cs generalizing s with
  | nil => rfl
  | cons c cs ih =>
    have := ih (ObsBase.step raises s c).1
    simp only [ObsBase.delivered, Ado.delivered, ObsBase.runOuts, Ado.runOuts, List.filterMap_cons] at this ⊢
    cases c <;> cases hs : s.stopped <;> simp [ObsBase.step, Ado.step, hs] at this ⊢ <;> exact this

/-- **observer_grammar.** Same for the `Observer` base class (used by subjects, scheduled observers). -/
theorem observer_grammar {α} (raises : Nat → Bool) (s : ObsBase) (cs : List (ObsCall α)) :
    Grammar (ObsBase.delivered raises s cs) := by
  rw [obsbase_delivered_eq]; exact ado_grammar _ _ _

/-- **subscribe_grammar.** `Observable.subscribe` with an arbitrary subscriber body (any calls, then
return or raise) and arbitrary later calls through a saved reference: the subscriber sees a
well-formed sequence. -/
theorem subscribe_grammar {α} (raises : Nat → Bool) (body later : List (ObsCall α)) (exn : Option Err) :
    Grammar (subscribeRun raises body exn later).1 := by
  simp only [subscribeRun]; exact ado_grammar _ _ _

/-- **subscribe_fail_routes.** An exception escaping the subscriber body becomes exactly one
`on_error` when the observer is not yet stopped (and `subscribe` does not raise); when it is already
stopped nothing more is delivered and `subscribe` re-raises.  (`subscribe` also raises when the
user's own `on_error` raises inside `fail`.) -/
theorem subscribe_fail_routes {α} (raises : Nat → Bool) (body later : List (ObsCall α)) (e : Err) :
    let r := subscribeRun raises body (some e) later
    ((Ado.final raises {} body).stopped = false →
        r.1 = Ado.delivered raises {} body ++ [Notif.error e] ∧
          r.2 = raises (Ado.final raises {} body).cbs) ∧
    ((Ado.final raises {} body).stopped = true →
        r.1 = Ado.delivered raises {} body ∧ r.2 = true) := by
  intro r
  have key : r.1 = Ado.delivered raises {} body ++
      Ado.delivered raises (Ado.final raises {} body) (ObsCall.fail e :: later) := by
    simp only [r, subscribeRun, List.append_assoc, List.singleton_append]
    exact final_delivered_append raises {} body _
  generalize hf : Ado.final raises {} body = f at *
  obtain ⟨st, n⟩ := f
  refine ⟨fun h => ?_, fun h => ?_⟩
  · simp only at h; subst h
    refine ⟨?_, by simp [r, subscribeRun, hf]⟩
    rw [key, delivered_cons]; simp [Ado.step, stopped_silent]
  · simp only at h; subst h
    refine ⟨?_, by simp [r, subscribeRun, hf]⟩
    rw [key, stopped_silent raises ⟨true, n⟩ _ rfl]; simp

/-! Non-vacuity: a concrete adversarial call list (emission after `completed`, a second terminal,
a raising `on_next`) is cut to a well-formed sequence, and the premises of `subscribe_fail_routes`
are satisfiable both ways. -/
example : Ado.delivered (fun k => k == 1) {} [ObsCall.next 1, .next 2, .completed, .next 3, .error "x", .completed]
    = [Notif.next 1, .next 2, .completed] := by decide +kernel
example : (subscribeRun (fun _ => false) [ObsCall.next (1 : Nat)] (some "boom") [.next 2]) =
    ([Notif.next 1, .error "boom"], false) := by decide +kernel
example : (subscribeRun (fun _ => false) [ObsCall.next (1 : Nat), .completed] (some "boom") [.next 2]) =
    ([Notif.next 1, .completed], true) := by decide +kernel

end C01
