import RxProofs.Lemmas.OpsNatural
import RxGen.OpsPyVal
import RxGen.OpsTruthiness
import RxProofs.Lemmas.TimedNatural
import RxProofs.C16
import RxProofs.C18
/-!
# C08 — falsy values are ordinary elements

The L1 models are polymorphic in the element type, so no value can be
special; this file states it as **naturality**: renaming the elements (`mapN ρ`, any `ρ`, callbacks
composed accordingly) commutes with every operator, for every raw input and with or without lagging
disposal.  In particular `ρ` may send `None, 0, 0.0, False, '', (), [], {}` to arbitrary non-falsy
tokens: the output is the renamed output.  Where the operator compares elements (`distinct`,
`distinct_until_changed` without key mapper) `ρ` must be injective (`*_natural_inj`).

Every L1 operator is related to its renamed twin handler by handler (`Op.Nat`);
the list semantics of C05 is not used.  The timed operators and windows go through their own models' specifications.

`pyval_models_empty` is the meta-obligation of DESIGN.md §5 C08: no model of an operator as it is
(after the `skip_last` fix) mentions `PyVal` (truthiness / `is None` of an element); the table is
regenerated from the model sources on every run.  The pinned `skip_last` is *not* natural
(`skip_last_asis_not_natural`).
-/
open Ops

namespace C08
variable {α α' β β' κ κ' : Type}

theorem take_natural (lag : Bool) (ρ : α → α') (n : Nat) (raw : List (Notif α)) :
    visible ((takeOp n).run lag (mapN ρ raw)) = mapN ρ (visible ((takeOp n).run lag raw)) :=
  Natural.run lag raw (takeOp_natural ρ n)

theorem skip_natural (lag : Bool) (ρ : α → α') (n : Nat) (raw : List (Notif α)) :
    visible ((skipOp n).run lag (mapN ρ raw)) = mapN ρ (visible ((skipOp n).run lag raw)) :=
  Natural.run lag raw (skipOp_nat ρ n).natural

theorem take_last_natural (lag : Bool) (ρ : α → α') (n : Int) (raw : List (Notif α)) :
    visible ((takeLastOp n).run lag (mapN ρ raw)) = mapN ρ (visible ((takeLastOp n).run lag raw)) :=
  Natural.run lag raw (takeLastOp_nat ρ n).natural

/-- the **fixed** `skip_last` treats every value alike -/
theorem skip_last_natural (lag : Bool) (ρ : α → α') (n : Int) (raw : List (Notif α)) :
    visible ((skipLastOp n).run lag (mapN ρ raw)) = mapN ρ (visible ((skipLastOp n).run lag raw)) :=
  Natural.run lag raw (skipLastOp_nat ρ n).natural

theorem take_last_buffer_natural (lag : Bool) (ρ : α → α') (n : Int) (raw : List (Notif α)) :
    visible ((takeLastBufferOp n).run lag (mapN ρ raw))
      = mapN (List.map ρ) (visible ((takeLastBufferOp n).run lag raw)) :=
  Natural.run lag raw (takeLastBufferOp_nat ρ n).natural

theorem pairwise_natural (lag : Bool) (ρ : α → α') (raw : List (Notif α)) :
    visible ((pairwiseOp (α := α')).run lag (mapN ρ raw))
      = mapN (Prod.map ρ ρ) (visible ((pairwiseOp (α := α)).run lag raw)) :=
  Natural.run lag raw (pairwiseOp_nat ρ).natural

theorem start_with_natural (lag : Bool) (ρ : α → α') (args : List α) (raw : List (Notif α)) :
    visible ((startWithOp (args.map ρ)).run lag (mapN ρ raw))
      = mapN ρ (visible ((startWithOp args).run lag raw)) :=
  Natural.run lag raw (startWithOp_nat ρ args).natural

theorem default_if_empty_natural (lag : Bool) (ρ : α → α') (d : α) (raw : List (Notif α)) :
    visible ((defaultIfEmptyOp (ρ d)).run lag (mapN ρ raw))
      = mapN ρ (visible ((defaultIfEmptyOp d).run lag raw)) :=
  Natural.run lag raw (defaultIfEmptyOp_nat ρ d).natural

theorem ignore_elements_natural (lag : Bool) (ρ : α → α') (raw : List (Notif α)) :
    visible ((ignoreElementsOp (α := α')).run lag (mapN ρ raw))
      = mapN ρ (visible ((ignoreElementsOp (α := α)).run lag raw)) :=
  Natural.run lag raw (ignoreElementsOp_nat ρ).natural

theorem element_at_natural (lag : Bool) (ρ : α → α') (i : Nat) (d : Option α) (raw : List (Notif α)) :
    visible ((elementAtOrDefaultOp i (d.map ρ)).run lag (mapN ρ raw))
      = mapN ρ (visible ((elementAtOrDefaultOp i d).run lag raw)) :=
  Natural.run lag raw (elementAtOp_nat ρ i d).natural

/-- `map`: the callback on renamed elements is the renamed callback -/
theorem map_natural (lag : Bool) (ρ : α → α') (σ : β → β') (f : α → Except Err β) (f' : α' → Except Err β')
    (hf : ∀ x, f' (ρ x) = (f x).map σ) (raw : List (Notif α)) :
    visible ((mapOp f').run lag (mapN ρ raw)) = mapN σ (visible ((mapOp f).run lag raw)) :=
  Natural.run lag raw (mapOp_nat ρ σ f f' hf).natural

theorem map_indexed_natural (lag : Bool) (ρ : α → α') (σ : β → β') (f : α → Nat → Except Err β)
    (f' : α' → Nat → Except Err β') (hf : ∀ x i, f' (ρ x) i = (f x i).map σ) (raw : List (Notif α)) :
    visible ((mapIndexedOp f').run lag (mapN ρ raw)) = mapN σ (visible ((mapIndexedOp f).run lag raw)) :=
  Natural.run lag raw (mapIndexedOp_natural ρ σ f f' hf)

theorem filter_natural (lag : Bool) (ρ : α → α') (p : α → Except Err Bool) (p' : α' → Except Err Bool)
    (hp : ∀ x, p' (ρ x) = p x) (raw : List (Notif α)) :
    visible ((filterOp p').run lag (mapN ρ raw)) = mapN ρ (visible ((filterOp p).run lag raw)) :=
  Natural.run lag raw (filterOp_nat ρ p p' hp).natural

theorem filter_indexed_natural (lag : Bool) (ρ : α → α') (p : α → Nat → Except Err Bool)
    (p' : α' → Nat → Except Err Bool) (hp : ∀ x i, p' (ρ x) i = p x i) (raw : List (Notif α)) :
    visible ((filterIndexedOp (some p')).run lag (mapN ρ raw))
      = mapN ρ (visible ((filterIndexedOp (some p)).run lag raw)) :=
  Natural.run lag raw (filterIndexedOp_nat ρ p p' hp).natural

theorem take_while_natural (lag : Bool) (ρ : α → α') (p : α → Except Err Bool) (p' : α' → Except Err Bool)
    (hp : ∀ x, p' (ρ x) = p x) (incl : Bool) (raw : List (Notif α)) :
    visible ((takeWhileOp p' incl).run lag (mapN ρ raw)) = mapN ρ (visible ((takeWhileOp p incl).run lag raw)) :=
  Natural.run lag raw (takeWhileOp_nat ρ p p' hp incl).natural

theorem skip_while_natural (lag : Bool) (ρ : α → α') (p : α → Except Err Bool) (p' : α' → Except Err Bool)
    (hp : ∀ x, p' (ρ x) = p x) (raw : List (Notif α)) :
    visible ((skipWhileOp p').run lag (mapN ρ raw)) = mapN ρ (visible ((skipWhileOp p).run lag raw)) :=
  Natural.run lag raw (skipWhileOp_nat ρ p p' hp).natural

theorem take_while_indexed_natural (lag : Bool) (ρ : α → α') (p : α → Nat → Except Err Bool)
    (p' : α' → Nat → Except Err Bool) (hp : ∀ x i, p' (ρ x) i = p x i) (incl : Bool) (raw : List (Notif α)) :
    visible ((takeWhileIndexedOp p' incl).run lag (mapN ρ raw))
      = mapN ρ (visible ((takeWhileIndexedOp p incl).run lag raw)) :=
  Natural.run lag raw (takeWhileIndexedOp_nat ρ p p' hp incl).natural

theorem skip_while_indexed_natural (lag : Bool) (ρ : α → α') (p : α → Nat → Except Err Bool)
    (p' : α' → Nat → Except Err Bool) (hp : ∀ x i, p' (ρ x) i = p x i) (raw : List (Notif α)) :
    visible ((skipWhileIndexedOp p').run lag (mapN ρ raw)) = mapN ρ (visible ((skipWhileIndexedOp p).run lag raw)) :=
  Natural.run lag raw (skipWhileIndexedOp_natural ρ p p' hp)

/-- `dematerialize`: renaming the values inside the notification objects renames the output -/
theorem dematerialize_natural (lag : Bool) (ρ : α → α') (raw : List (Notif (Notif α))) :
    visible ((dematerializeOp (α := α')).run lag (mapN (Notif.map ρ) raw))
      = mapN ρ (visible ((dematerializeOp (α := α)).run lag raw)) :=
  Natural.run lag raw (dematerializeOp_nat ρ).natural

/-- `distinct`: keys renamed by `τ`, comparer transported along `τ` -/
theorem distinct_natural (lag : Bool) (ρ : α → α') (τ : κ → κ') (key : α → Except Err κ) (key' : α' → Except Err κ')
    (cmp : κ → κ → Except Err Bool) (cmp' : κ' → κ' → Except Err Bool)
    (hk : ∀ x, key' (ρ x) = (key x).map τ) (hc : ∀ a b, cmp' (τ a) (τ b) = cmp a b) (raw : List (Notif α)) :
    visible ((distinctOp key' cmp').run lag (mapN ρ raw)) = mapN ρ (visible ((distinctOp key cmp).run lag raw)) :=
  Natural.run lag raw (distinctOp_nat ρ τ key key' cmp cmp' hk hc).natural

theorem eq_transported [DecidableEq α] [DecidableEq α'] (ρ : α → α') (hinj : ∀ a b, ρ a = ρ b → a = b) (a b : α) :
    (Except.ok (decide (ρ a = ρ b)) : Except Err Bool) = .ok (decide (a = b)) := by
  by_cases h : a = b
  · simp [h]
  · have : ρ a ≠ ρ b := fun h' => h (hinj a b h')
    simp [h, this]

/-- `distinct()` with the default comparer `==`: any **injective** renaming (falsy values to tokens) commutes -/
theorem distinct_natural_inj [DecidableEq α] [DecidableEq α'] (lag : Bool) (ρ : α → α')
    (hinj : ∀ a b, ρ a = ρ b → a = b) (raw : List (Notif α)) :
    visible ((distinctOp (fun x => .ok x) (fun a b : α' => .ok (decide (a = b)))).run lag (mapN ρ raw))
      = mapN ρ (visible ((distinctOp (fun x => .ok x) (fun a b : α => .ok (decide (a = b)))).run lag raw)) := by
  exact distinct_natural lag ρ ρ _ _ _ _ (fun _ => rfl) (eq_transported ρ hinj) raw

theorem distinct_until_changed_natural (lag : Bool) (ρ : α → α') (τ : κ → κ') (key : α → Except Err κ)
    (key' : α' → Except Err κ') (cmp : κ → κ → Except Err Bool) (cmp' : κ' → κ' → Except Err Bool)
    (hk : ∀ x, key' (ρ x) = (key x).map τ) (hc : ∀ a b, cmp' (τ a) (τ b) = cmp a b) (raw : List (Notif α)) :
    visible ((distinctUntilChangedOp key' cmp').run lag (mapN ρ raw))
      = mapN ρ (visible ((distinctUntilChangedOp key cmp).run lag raw)) :=
  Natural.run lag raw (ducOp_nat ρ τ key key' cmp cmp' hk hc).natural

theorem distinct_until_changed_natural_inj [DecidableEq α] [DecidableEq α'] (lag : Bool) (ρ : α → α')
    (hinj : ∀ a b, ρ a = ρ b → a = b) (raw : List (Notif α)) :
    visible ((distinctUntilChangedOp (fun x => .ok x) (fun a b : α' => .ok (decide (a = b)))).run lag (mapN ρ raw))
      = mapN ρ (visible ((distinctUntilChangedOp (fun x => .ok x) (fun a b : α => .ok (decide (a = b)))).run lag raw)) := by
  exact distinct_until_changed_natural lag ρ ρ _ _ _ _ (fun _ => rfl) (eq_transported ρ hinj) raw

/-- `find` yields the element itself (`None` when nothing matched — the API's own ambiguity) -/
theorem find_natural (lag : Bool) (ρ : α → α') (p : α → Nat → Except Err Bool) (p' : α' → Nat → Except Err Bool)
    (hp : ∀ x i, p' (ρ x) i = p x i) (raw : List (Notif α)) :
    visible ((findOp p').run lag (mapN ρ raw)) = mapN (Option.map ρ) (visible ((findOp p).run lag raw)) :=
  Natural.run lag raw (findValueOp_nat ρ (Option.map ρ) p p' _ _ none hp fun _ _ => rfl).natural

theorem find_index_natural (lag : Bool) (ρ : α → α') (p : α → Nat → Except Err Bool) (p' : α' → Nat → Except Err Bool)
    (hp : ∀ x i, p' (ρ x) i = p x i) (raw : List (Notif α)) :
    visible ((findIndexOp p').run lag (mapN ρ raw)) = visible ((findIndexOp p).run lag raw) :=
  (Natural.run lag raw (findValueOp_nat ρ id p p' _ _ (-1 : Int) hp fun _ _ => rfl).natural).trans (mapN_id _)

theorem materialize_natural (lag : Bool) (ρ : α → α') (raw : List (Notif α)) :
    visible ((materializeOp (α := α')).run lag (mapN ρ raw))
      = mapN (Notif.map ρ) (visible ((materializeOp (α := α)).run lag raw)) :=
  Natural.run lag raw (materializeOp_nat ρ).natural

/-! ## Timed operators and windows (models of the Timed / Win families): renaming the elements of the
source timeline commutes with the operator.  `delay` needs non-decreasing times (its `Run = Spec` theorem does). -/

theorem timestamp_natural (ρ : α → α') (l : Timed.TL α) :
    Timed.tsRun (Timed.mapTL ρ l) = Timed.mapTL (Prod.map ρ id) (Timed.tsRun l) := by
  induction l with
  | nil => rfl
  | cons m r ih => obtain ⟨t, n⟩ := m; cases n <;> simp_all [Timed.tsRun, Notif.map]

theorem time_interval_natural (ρ : α → α') (sub : Nat) (l : Timed.TL α) :
    Timed.tiRun sub (Timed.mapTL ρ l) = Timed.mapTL (Prod.map ρ id) (Timed.tiRun sub l) := by
  induction l generalizing sub with
  | nil => rfl
  | cons m r ih => obtain ⟨t, n⟩ := m; cases n <;> simp_all [Timed.tiRun, Notif.map]

theorem delay_natural (ρ : α → α') (d lo : Nat) (l : Timed.TL α) (h : Timed.Mono lo l) :
    Timed.delayRun d (Timed.mapTL ρ l) = Timed.mapTL ρ (Timed.delayRun d l) := Timed.delay_natural ρ d lo l h

theorem throttle_first_natural (ρ : α → α') (w sub : Nat) (l : Timed.TL α) :
    Timed.throttleFirst w sub (Timed.mapTL ρ l) = Timed.mapTL ρ (Timed.throttleFirst w sub l) := by
  unfold Timed.throttleFirst
  split
  · simp [Timed.mapTL, Notif.map]
  · exact Timed.tfRun_natural ρ w none l

theorem debounce_natural (ρ : α → α') (d : Nat) (l : Timed.TL α) :
    Timed.debRun d {} (Timed.mapTL ρ l) = Timed.mapTL ρ (Timed.debRun d {} l) := by
  rw [C16.debounce_emits_iff_quiet, C16.debounce_emits_iff_quiet, Timed.debSpec_natural]

theorem sample_natural (ρ : α → α') (tf : Bool) (l : Timed.TL α) (ticks : List (Nat × Timed.SampEv)) :
    Timed.sampRun tf {} (Timed.mapTL ρ l) ticks = Timed.mapTL ρ (Timed.sampRun tf {} l ticks) := by
  rw [C16.sample_latest_unsampled, C16.sample_latest_unsampled]
  exact Timed.sampSpec_natural ρ tf none l ticks

/-- `window_with_count` / `buffer_with_count`: window `k` of the renamed source holds the renamed contents of
window `k` (how many windows exist and when they close does not depend on the values at all:
`C18.wwc_window_count`, `C18.wwc_closes_at_count`). -/
theorem window_with_count_natural (ρ : α → α') (count skip t0 : Nat) (hc : 0 < count) (hs : 0 < skip)
    (tx : List (Nat × α)) (k : Nat) (hk : k * skip ≤ tx.length) :
    (Win.Cnt.run count skip (Win.Cnt.init t0) (Win.Cnt.nexts (tx.map (fun e => (e.1, ρ e.2))))).b.pushedOf k
      = ((Win.Cnt.run count skip (Win.Cnt.init t0) (Win.Cnt.nexts tx)).b.pushedOf k).map ρ := by
  rw [(C18.wwc_window_k count skip t0 hc hs (tx.map (fun e => (e.1, ρ e.2))) k (by simpa using hk)).2,
    (C18.wwc_window_k count skip t0 hc hs tx k hk).2]
  simp [List.map_take, List.map_drop, Function.comp_def]

/-! ## The structural obligation on /repo: no truthiness / `is None` / `or default` / None-sentinel test on a
variable fed from an `on_next` argument (regenerated table `RxGen/OpsTruthiness.lean`, AST scan of
`reactivex/{operators,subject,observable}`), except the reviewed sites below. -/

/-- reviewed sites `(file, function, kind, expression)` with the reason each is not a test on an element's value.
(Empty on the current tree: `pairwise`'s `if pair:` tests a freshly built 2-tuple-or-None, container emptiness tests
such as `while q:` are not element tests; neither is reported by the scan.) -/
def allowedTruthinessSites : List (String × String × String × String) := []

theorem truthiness_sites_reviewed :
    OpsTruthiness.sites.all (fun s => allowedTruthinessSites.contains s) = true := by decide

/-! ## The meta-obligation: no operator model (as fixed) looks at truthiness / `is None` of an element -/

/-- regenerated table: the L1 operator models whose signature mentions `PyVal` — must be empty -/
theorem pyval_models_empty : OpsPyVal.users = [] := by decide

/-- … and the only as-is replica that does is the pinned `skip_last` -/
theorem pyval_asis_only_skip_last : OpsPyVal.asIs = ["skipLastAsIsOp"] := by decide

/-! ## The pinned `skip_last` is not natural: `None` is special to it -/
section AsIs

instance : PyVal (Option Nat) := ⟨fun o => o.isSome, fun o => o.isNone⟩
instance : PyVal Nat := ⟨fun n => n != 0, fun _ => false⟩

/-- renaming `None ↦ 0, k ↦ k+1` (injective) does not commute with the pinned `skip_last(1)` -/
theorem skip_last_asis_not_natural :
    visible ((skipLastAsIsOp (α := Nat) 1).run false
        (mapN (fun o : Option Nat => o.elim 0 (· + 1)) [.next none, .next (some 1), .next none, .completed]))
      ≠ mapN (fun o : Option Nat => o.elim 0 (· + 1))
          (visible ((skipLastAsIsOp (α := Option Nat) 1).run false [.next none, .next (some 1), .next none, .completed])) := by
  decide

end AsIs

/-! ## Non-vacuity: the falsy values themselves, through the fixed operators -/
example : visible ((skipLastOp (α := Option Nat) 1).run false [.next none, .next (some 0), .next none, .completed])
    = [.next none, .next (some 0), .completed] := by decide
example : visible ((distinctOp (fun x : Option Nat => .ok x) (fun a b => .ok (decide (a = b)))).run true
      [.next none, .next (some 0), .next none, .next (some 0), .completed])
    = [.next none, .next (some 0), .completed] := by decide

end C08
