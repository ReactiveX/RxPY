import RxProofs.Lemmas.PureBridges
/-!
# C41 — future, callback and blocking bridges keep their contracts

The models (`RxModel/PureBridges.lean`) are the callback logic of the
bridges over ARBITRARY histories of the external events; threads and event loops are runtime glue
covered by the correspondence harness.
-/
open Pure.Bridges

namespace C41

/-- **from_future_maps_outcome.** A pending future that is resolved before the subscriber unsubscribes:
its result is emitted and the sequence completes; its exception — cancellation included — arrives as
`on_error`; whatever happens afterwards (more resolutions, dispose) changes nothing. -/
theorem from_future_maps_outcome {α} (o : FromFuture.Outcome α) (rest : List (FromFuture.Event α)) :
    (FromFuture.run .pending (.resolve o :: rest)).out =
      (match o with
       | .result v => [.next v, .completed]
       | .exception e => [.error e]
       | .cancel => [.error cancelledError]) ∧
    (FromFuture.run .pending (.resolve o :: rest)).fut = o.fut := by
  rw [FromFuture.run, List.foldl_cons, FromFuture.step_resolve_pending _ rfl rfl]
  refine (FromFuture.frozen _ (by rfl) (by exact FromFuture.outcome_done o) rest).imp (fun h => h.trans ?_) id
  cases o <;> rfl

/-- **from_future_unsubscribe_first_cancels.** Unsubscribing while the future is pending cancels the
future and the subscriber receives nothing, whatever the owner does later. -/
theorem from_future_unsubscribe_first_cancels {α} (rest : List (FromFuture.Event α)) :
    (FromFuture.run (α := α) .pending (.dispose :: rest)).out = [] ∧
    (FromFuture.run (α := α) .pending (.dispose :: rest)).fut = .cancelled := by
  rw [FromFuture.run, List.foldl_cons, FromFuture.step_dispose_pending _ rfl]
  exact FromFuture.frozen _ rfl rfl rest

/-- **from_future_done_before_subscribe.** A future that is already done at subscription time delivers
its outcome the same way, for every later history. -/
theorem from_future_done_before_subscribe {α} (f : Fut α) (h : f.isDone = true) (evs : List (FromFuture.Event α)) :
    (FromFuture.run f evs).out = FromFuture.doneNotifs f ∧ (FromFuture.run f evs).fut = f := by
  rw [FromFuture.run, FromFuture.subscribe_done h]
  exact FromFuture.frozen _ rfl h evs

/-- **start_async_raise_is_throw.** `start_async(fn)`: `fn` raising gives the error sequence; otherwise it is
`from_future` of the returned future.  (By definition of the model.) -/
theorem start_async_raise_is_throw {α} (e : Err) (f : Fut α) (evs : List (FromFuture.Event α)) :
    FromFuture.startAsync (α := α) (.error e) evs = [.error e] ∧
    FromFuture.startAsync (.ok f) evs = (FromFuture.run f evs).out := ⟨rfl, rfl⟩

/-- **to_future_last_or_error.** For EVERY raw call sequence of the source (also calls after its
terminal), the future ends up with: the last element before the first terminal if that terminal is
a completion, the error if it is an error, `SequenceContainsNoElementsError` if the completion comes
before any element; and stays pending while there is no terminal. -/
theorem to_future_last_or_error {α} (xs : List (Notif α)) :
    (ToFuture.run (xs.map .src)).fut = ToFuture.expected xs := by
  have h := ToFuture.expAux_eq (α := α) none xs
  simp only [Option.toList_none, List.nil_append] at h
  rw [ToFuture.run_fut, h]
  rfl

/-- **empty_raises_no_elements.** An empty sequence: `to_future`/`await` fail with
SequenceContainsNoElementsError, and so does `run()`. -/
theorem empty_raises_no_elements {α} (rest : List (Notif α)) :
    (ToFuture.run ((Notif.completed :: rest).map .src)).fut = .exception noElements ∧
    ToFuture.runBlocking (Notif.completed :: rest) = .raises noElements := by
  constructor
  · rw [to_future_last_or_error]; rfl
  · rw [ToFuture.runBlocking_eq]; rfl

/-- **to_future_cancel_is_final.** Cancelling the pending future disposes the source subscription: the
future stays cancelled whatever the source emits afterwards. -/
theorem to_future_cancel_is_final {α} (s : ToFuture.State α) (hp : s.fut = .pending) (post : List (ToFuture.Event α)) :
    (post.foldl ToFuture.step (ToFuture.step s .cancel)).fut = .cancelled := by
  rw [ToFuture.step_cancel_pending s hp, ToFuture.frozen _ rfl rfl]

/-- **to_future_done_disposes_source.** In every history, as soon as the future is done (result, error or
cancellation) the subscription to the source has been disposed. -/
theorem to_future_done_disposes_source {α} (evs : List (ToFuture.Event α)) :
    (ToFuture.run evs).fut.isDone = true → (ToFuture.run evs).stopped = true :=
  List.foldl_pres _ (fun s e h => ToFuture.step_done_stopped s h e) evs (fun h => by cases h)

/-- **run_eq_to_future.** `run()` returns / raises exactly what the future of `to_future` holds, and
blocks exactly when that future stays pending. -/
theorem run_eq_to_future {α} (xs : List (Notif α)) :
    ToFuture.runBlocking xs =
      (match (ToFuture.run (xs.map .src)).fut with
       | .result v => .returns v
       | .exception e => .raises e
       | _ => .blocks) := by
  rw [ToFuture.run_fut, ToFuture.runBlocking_eq]
  rfl

/-- **run_latch_all_interleavings.** `run()` with the source emitting from another thread: for EVERY
interleaving of the producer thread's atomic steps (writes of `result`, `has_result`, `exception`,
`done`, `latch.set()` in program order) with the waiting thread's (`while not done: latch.wait()`,
then the three reads), whenever `run()` returns or raises it returns the last element before the
first terminal, raises the sequence's error, or raises SequenceContainsNoElementsError — exactly
the sequential reading `runBlocking` (hence, by `run_eq_to_future`, what `to_future` holds) —
and it can only finish if the sequence has a terminal. -/
theorem run_latch_all_interleavings {α} (xs : List (Notif α)) (sched : List Bool) (r : ToFuture.RunResult α)
    (h : (RunLatch.run xs sched).w = .finished r) :
    r = ToFuture.runBlocking xs ∧ ToFuture.runBlocking xs ≠ .blocks := by
  have I := RunLatch.inv_run xs sched
  obtain ⟨hd, rfl⟩ := I.waiter.finished h
  -- what the waiter read is final: after `done` the producer only sets the latch
  have hcore := I.pos.core_rest hd
  rw [I.rest] at hcore
  have hfd : ((RunLatch.compile xs).foldl RunLatch.pstep ({} : RunLatch.Shared α)).done = true :=
    (RunLatch.core_done hcore).trans hd
  rw [ToFuture.runBlocking_eq, ← RunLatch.outcome_core _ _ hcore]
  exact RunLatch.outcome_compile none xs hfd

/-- **run_latch_no_lost_wakeup.** Whatever the interleaving so far: once the producer thread has
delivered a terminating sequence completely, the waiting thread is never stuck in `latch.wait()` —
five more of its own steps and `run()` has returned or raised. -/
theorem run_latch_no_lost_wakeup {α} (xs : List (Notif α)) (sched : List Bool)
    (ht : xs.any Notif.isTerminal = true) (hrem : (RunLatch.run xs sched).rem = []) :
    ∃ r, (RunLatch.wstep (RunLatch.wstep (RunLatch.wstep (RunLatch.wstep (RunLatch.wstep
      (RunLatch.run xs sched)))))).w = .finished r := by
  have hr := (RunLatch.inv_run xs sched).rest
  rw [hrem, List.foldl_nil] at hr
  have := RunLatch.final_done_latch xs ({} : RunLatch.Shared α) ht
  rw [← hr] at this
  exact RunLatch.waiter_finishes _ this.1 this.2

/-- **to_async_single_then_complete.** For every history of the scheduler running the action and of
observers subscribing (before or after it, any number, the same observer several times): each
subscription of observer `i` receives exactly the function's single result then completion — or
its exception — once the action has run, and nothing before. -/
theorem to_async_single_then_complete {α} (func : Except Err α) (evs : List ToAsync.Event) (i : Nat) :
    ToAsync.received (ToAsync.run func evs) i =
      (if ToAsync.Event.run ∈ evs then
        (List.replicate (evs.count (.subscribe i))
          (match func with | .ok r => [Notif.next r, .completed] | .error e => [.error e])).flatten
       else []) := by
  have := (ToAsync.before_done func {} ⟨rfl, rfl, rfl⟩ evs i).1
  simp only [ToAsync.received_eq, ToAsync.run]
  rw [this]
  simp only [ToAsync.recvOf, List.filterMap_nil, List.nil_append, List.count_nil, Nat.zero_add,
    ToAsync.resultNotifs]
  cases func <;> rfl

/-- **to_async_invoked_once.** The function is invoked exactly once per call of the wrapper, when the
scheduler runs the action — never per subscriber. -/
theorem to_async_invoked_once {α} (func : Except Err α) (evs : List ToAsync.Event) :
    (ToAsync.run func evs).invocations = (if ToAsync.Event.run ∈ evs then 1 else 0) :=
  (ToAsync.before_done func {} ⟨rfl, rfl, rfl⟩ evs 0).2

/-- **from_callback_one_then_complete.** (repaired code) However often and with whatever arguments the
user function invokes the handler, the subscriber gets exactly the first invocation's single value
(the mapper's result; the argument; the list of arguments; None for none) followed by completion,
or the mapper's exception as `on_error`. -/
theorem from_callback_one_then_complete {α} (cfg : FromCallback.Cfg α) (c : List α) (cs : List (List α)) :
    FromCallback.subscribeRun cfg false (c :: cs) = FromCallback.handler cfg c ∧
    ((∃ v, FromCallback.handler cfg c = [.next v, .completed]) ∨ (∃ e, FromCallback.handler cfg c = [.error e])) :=
  ⟨by simp [FromCallback.subscribeRun, FromCallback.deliver_handler, FromCallback.subscribeRun_stopped],
    FromCallback.handler_shape cfg c⟩

/-- which value: without a mapper -/
theorem from_callback_value_no_mapper {α} (cfg : FromCallback.Cfg α) (h : cfg.mapper = none) (x y : α) (r : List α) :
    FromCallback.handler cfg [x] = [.next x, .completed] ∧
    FromCallback.handler cfg (x :: y :: r) = [.next (cfg.listOf (x :: y :: r)), .completed] ∧
    FromCallback.handler cfg [] = [.next cfg.none, .completed] := by
  simp [FromCallback.handler, h]

/-- **from_callback_passes_own_handler.** Every subscription calls the function with exactly the
original arguments followed by its own handler.  (By definition of the model.) -/
theorem from_callback_passes_own_handler {α} (args : List α) (k : Nat) :
    FromCallback.passed args k = args.map .val ++ [.handler k] ∧
    (FromCallback.passed args k).length = args.length + 1 := by
  simp [FromCallback.passed]

/-! ## AS-IS section: the defects of the pinned tree (DEFECTS, not part of the claimed behaviour) -/

def cfgMap : FromCallback.Cfg Nat := { mapper := some (fun xs => .ok xs.length), listOf := fun xs => xs.length, none := 0 }
def cfgNoMap : FromCallback.Cfg Nat := { mapper := none, listOf := fun xs => xs.length, none := 0 }

/-- with a mapper the as-is handler never completes -/
theorem from_callback_asis_mapper_never_completes :
    FromCallback.handlerAsIs cfgMap [7, 8] = some [.next 2] ∧
    FromCallback.handler cfgMap [7, 8] = [.next 2, .completed] := by decide +kernel

/-- the second subscription passes two handlers (the captured argument list was mutated) -/
theorem from_callback_asis_second_subscription_two_handlers :
    FromCallback.passedAsIs [5] 1 = [.val 5, .handler 0, .handler 1] ∧
    FromCallback.passed [5] 1 = [.val 5, .handler 1] := by decide +kernel

/-- a callback invoked without arguments (no mapper): `observer.on_next(*[])` raises TypeError -/
theorem from_callback_asis_no_args_raises :
    FromCallback.handlerAsIs cfgNoMap [] = none ∧
    FromCallback.handler cfgNoMap [] = [.next 0, .completed] := by decide +kernel

example : (FromFuture.run (Fut.pending : Fut Nat) [.resolve (.result 3), .dispose, .resolve (.exception "late")]).out
    = [.next 3, .completed] := by decide +kernel
example : (FromFuture.run (Fut.pending : Fut Nat) [.dispose, .resolve (.result 3)]).invalid = 1 := by decide +kernel
example : (ToFuture.run ([Notif.next 1, .next 2, .completed, .next 9, .error "late"].map ToFuture.Event.src)).fut
    = Fut.result 2 := by decide +kernel
example : ToFuture.expected [Notif.next 1, .next 2, .completed, .next 9] = Fut.result 2 := by decide +kernel
example : ToFuture.runBlocking [Notif.next (1 : Nat), .next 2] = .blocks := by decide +kernel
/-- an interleaving in which the waiter first blocks, the producer then completes, the waiter wakes up -/
example : (RunLatch.run [Notif.next (1 : Nat), .next 2, .completed]
    [false, false, true, true, false, true, true, true, true, false, false, false, false, false]).w
    = .finished (.returns 2) := by decide +kernel
example : ToAsync.received (ToAsync.run (.ok 5 : Except Err Nat) [.subscribe 0, .run, .subscribe 1]) 1
    = [.next 5, .completed] := by decide +kernel
example : FromCallback.subscribeRun cfgMap false [[1, 2, 3], [4]] = [.next 3, .completed] := by decide +kernel

end C41
