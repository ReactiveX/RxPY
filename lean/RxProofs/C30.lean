import RxProofs.Lemmas.ThrTrampMT
/-!
# C30 — trampoline / current-thread scheduling: same thread, FIFO, never nested

Model: `RxModel/ThrTramp.lean`.  Single thread: `runA fixed (init prog clock) acts` is the state of a thread executing the
program `prog` (an arbitrary finite tree of nested `schedule / schedule_relative / schedule_absolute / cancel / tick /
raise` operations) on its trampoline after the actions `acts`: `go dt` = `dt` µs pass, then the thread makes one atomic
step; `env dt dn cs` = other threads let time pass, take sequence numbers, cancel items (ANY list: the clock is only
assumed monotone).  All theorems hold
for both variants of the exit path (`fixed = false`: the code as it is; `true`: with the proposed fix).
Events are read off the thread's log (`newest first`).
-/
namespace C30
open Thr Thr.Tramp

theorem reach (fixed : Bool) (prog : List Op) (clock : Int) (acts : List Act) :
    TInv (runA fixed (init prog clock) acts) :=
  runA_inv fixed _ acts (init_inv prog clock)

/-- **One at a time, never nested.** In every reachable state the event log is well bracketed — every
`start a` is followed by `fin a` or `raised a` before any other `start` — and at most one scheduled action is on the
call stack; the drain loop itself is never re-entered. -/
theorem tramp_never_nested (fixed : Bool) (prog : List Op) (clock : Int) (acts : List Act) :
    let s := runA fixed (init prog clock) acts
    (∃ o, wb s.th.log = some o) ∧ nRunning s.th.stack ≤ 1 ∧ nDrain s.th.stack ≤ 1 := by
  obtain ⟨o, hs, hw⟩ := (reach fixed prog clock acts).i1
  have := shape_counts hs
  refine ⟨⟨o, hw⟩, this.1, ?_⟩
  rw [this.2]; exact Bool.toNat_le _

/-- **An action scheduled while another is running runs only after that action returns.**  If `b` was
scheduled (`sched b` logged) while `a` was open, and `b` later starts, then `fin a` (or `raised a`, if `a`
raised) lies between. -/
theorem nested_runs_after_return (fixed : Bool) (prog : List Op) (clock : Int) (acts : List Act)
    (post mid pre : List Ev) (a b : Nat) (d d' c c' : Int) (q : Nat) (k : Kind)
    (hlog : (runA fixed (init prog clock) acts).th.log = post ++ Ev.start b d q c :: (mid ++ Ev.sched b d' c' k :: pre))
    (ha : wb pre = some (some a)) : Ev.fin a ∈ mid ∨ Ev.raised a ∈ mid := by
  obtain ⟨o, _, hw⟩ := (reach fixed prog clock acts).i1
  rw [hlog] at hw
  obtain ⟨o1, h1⟩ := wb_suffix _ _ _ hw
  have h2 := (wb_start_inv h1).1
  exact wb_open_closed mid (Ev.sched b d' c' k :: pre) a none h2 (by simpa [wb] using ha) (by simp)

/-- every started action was scheduled (same id, same due time) and enqueued (same id, same sequence
number) before; sequence numbers increase in enqueueing order — so "smaller `seq`" = "scheduled first". -/
theorem start_after_sched (fixed : Bool) (prog : List Op) (clock : Int) (acts : List Act) :
    okSched (runA fixed (init prog clock) acts).th.log ∧ okEnq (runA fixed (init prog clock) acts).th.log :=
  ⟨(reach fixed prog clock acts).i3.os, (reach fixed prog clock acts).i3.oe⟩

/-- **First-scheduled-first among equal due times** (unconditional): of two started actions with the same
due time, the one started earlier was enqueued earlier. `startsL` lists `(due, seq)` of the started
actions in start order. -/
theorem tramp_fifo_equal_due (fixed : Bool) (prog : List Op) (clock : Int) (acts : List Act) :
    (startsL (runA fixed (init prog clock) acts).th.log).Pairwise (fun a b => a.1 = b.1 → a.2 < b.2) :=
  (reach fixed prog clock acts).i2.tq.taken_eo

/-- **Due-time order**: if no action was scheduled with a due time already in the past (always true for
`schedule` and `schedule_relative`, see `noPast_of_no_absolute`), actions start in due-time order. -/
theorem tramp_due_order (fixed : Bool) (prog : List Op) (clock : Int) (acts : List Act)
    (np : NoPast (runA fixed (init prog clock) acts).th.log) :
    (startsL (runA fixed (init prog clock) acts).th.log).Pairwise (fun a b => a.1 ≤ b.1) :=
  (reach fixed prog clock acts).i2.tq.taken_lo np

/-- `schedule` and `schedule_relative` never schedule into the past: a log without `schedule_absolute`
events satisfies `NoPast`. -/
theorem noPast_of_no_absolute (fixed : Bool) (prog : List Op) (clock : Int) (acts : List Act)
    (h : ∀ id due clk, Ev.sched id due clk .abs ∉ (runA fixed (init prog clock) acts).th.log) :
    NoPast (runA fixed (init prog clock) acts).th.log := by
  intro id due clk kind hm
  apply (reach fixed prog clock acts).i3.sk id due clk kind hm
  intro hk; subst hk; exact h id due clk hm

/-- **Timed actions never run before their due time**: every `start` is logged at a clock ≥ its due time. -/
theorem tramp_not_before_due (fixed : Bool) (prog : List Op) (clock : Int) (acts : List Act) :
    ∀ id due seq clk, Ev.start id due seq clk ∈ (runA fixed (init prog clock) acts).th.log → due ≤ clk :=
  (reach fixed prog clock acts).i3.nb

/-- **A cancelled action never runs**: no `start id` is ever logged after a `cancel id` (the decision
point is the drain loop's `is_cancelled()` test when the item is popped from the ready batch). -/
theorem tramp_cancelled_never_run (fixed : Bool) (prog : List Op) (clock : Int) (acts : List Act) :
    okCancel (runA fixed (init prog clock) acts).th.log :=
  (reach fixed prog clock acts).i3.oc

/-- the deterministic executor used in the examples below (and by the driver) is an instance of `runA` -/
theorem exec_is_runA (fixed : Bool) (n : Nat) (s : St) : ∃ acts, exec fixed n s = runA fixed s acts := by
  induction n generalizing s with
  | zero => exact ⟨[], rfl⟩
  | succ n ih =>
    unfold exec
    split
    · exact ⟨[], rfl⟩
    · obtain ⟨acts, h⟩ := ih (step fixed s (dtFor s))
      exact ⟨.go (dtFor s) :: acts, by rw [h]; rfl⟩

/-- **An action that raises resets the trampoline.**  In any reachable state in which the running action's
next operation is `raise`, two steps later (the exception leaves the drain loop; the `except BaseException`
block runs) the trampoline is idle with an EMPTY queue, the loop's pending batch is gone, and only the
top-level program is left on the stack — so the next `schedule*` call starts a fresh drain loop.  (The
exception itself is re-raised to the `schedule*` caller.) -/
theorem raise_resets_trampoline (fixed : Bool) (prog : List Op) (clock : Int) (acts : List Act)
    (i : Nat) (ops : List Op) (rest : List Frame) (d1 d2 : Nat)
    (hst : (runA fixed (init prog clock) acts).th.stack = .act (some i) (.raise_ :: ops) :: rest) :
    let s2 := step fixed (step fixed (runA fixed (init prog clock) acts) d1) d2
    s2.tr.idle = true ∧ s2.tr.queue = [] ∧ s2.tr.raisedG = true ∧ nDrain s2.th.stack = 0 ∧ nRunning s2.th.stack = 0 ∧
      (∃ mops, s2.th.stack = [.act none mops]) := by
  obtain ⟨o, hs, _⟩ := (reach fixed prog clock acts).i1
  generalize runA fixed (init prog clock) acts = s at *
  rcases s with ⟨⟨idle, queue, rg⟩, g, ⟨stack, log⟩⟩
  simp only at hst hs
  subst hst
  cases hs with
  | inAct i ops ready mops => simp [step, thStep, nDrain, nRunning] -- on this shape both steps compute
  | main m hm => simp [isMain] at hm

/-- in any reachable state an idle trampoline has no drain frame on the stack -/
theorem idle_means_fresh (fixed : Bool) (prog : List Op) (clock : Int) (acts : List Act)
    (hidle : (runA fixed (init prog clock) acts).tr.idle = true) :
    nDrain (runA fixed (init prog clock) acts).th.stack = 0 := by
  obtain ⟨o, hs, _⟩ := (reach fixed prog clock acts).i1
  have := (shape_counts hs).2
  rw [this, hidle]; rfl

/-! ## Non-vacuity and the past-due deviation (DESIGN §6 #15, first half) -/

/-- A schedules B (cancels it later), C, and a timed D; C schedules E; B is cancelled by A. -/
private def progA : List Op :=
  [.sched 1 [.sched 2 [.tick 5], .sched 3 [.sched 5 [], .tick 3], .schedRel 4 100 [], .cancel 2, .tick 7]]

private def evName : Ev → Option (String × Nat × Int)
  | .start id _ _ clk => some ("start", id, clk)
  | .raised id => some ("raised", id, 0)
  | .fin id => some ("fin", id, 0)
  | .skip id => some ("skip", id, 0)
  | _ => none

/-- the run: A, (B skipped), C, E, wait until 100, D — D not before its due time. -/
example : ((exec false 100 (init progA)).th.log.reverse.filterMap evName) =
    [("start", 1, 0), ("fin", 1, 0), ("skip", 2, 0), ("start", 3, 7), ("fin", 3, 0), ("start", 5, 10), ("fin", 5, 0),
     ("start", 4, 100), ("fin", 4, 0)] := by decide
example : (exec false 100 (init progA)).th.stack = [] ∧ (exec false 100 (init progA)).tr.idle = true := by decide

/-- a raising action: A schedules B and C; B raises — C (already in the loop's batch) and D (queued by B) are
discarded, the trampoline is idle and empty; the next top-level schedule (E) runs in a fresh drain loop. -/
private def progRaise : List Op := [.sched 1 [.sched 2 [.schedRel 4 5 [], .raise_], .sched 3 []], .sched 5 []]
example : ((exec true 100 (init progRaise)).th.log.reverse.filterMap evName) =
    [("start", 1, 0), ("fin", 1, 0), ("start", 2, 0), ("raised", 2, 0), ("start", 5, 0), ("fin", 5, 0)] := by decide
example : (exec true 100 (init progRaise)).tr.idle = true ∧ (exec true 100 (init progRaise)).tr.queue.length = 0 := by decide

/-- the past-due deviation: B (running from a ready batch [B, C]) schedules P with an absolute due time in
the past; P runs AFTER C although P is due earlier.  `NoPast` fails for this log, so `tramp_due_order`
does not apply; the property's quantifier (schedule / schedule_relative / cancel) excludes it. -/
private def progPast : List Op := [.sched 1 [.sched 2 [.schedAbs 9 (-5) []], .sched 3 []]]
example : ((exec false 100 (init progPast)).th.log.reverse.filterMap evName).filterMap
    (fun e => if e.1 = "start" then some e.2.1 else none) = [1, 2, 3, 9] := by decide
theorem past_due_runs_after_batch :
    ¬ (startsL (exec false 100 (init progPast)).th.log).Pairwise (fun a b => a.1 ≤ b.1) := by decide

theorem mreach (fixed : Bool) (ntr : Nat) (progs : List (Nat × List Op)) (clock : Int) (sched : List (Nat × Nat)) :
    MInv fixed ((Sys.init ntr progs clock).run fixed sched) :=
  minv_run fixed _ sched (minv_init fixed ntr progs clock)

/-- **Each thread's trampoline is independent** (CurrentThreadScheduler): in a system of any number of
threads and trampolines, a thread `i` that is the only user of its trampoline `k` evolves — under EVERY
interleaving `sched` with the other threads — exactly as the single-thread machine does under some
sequence of `go`/`env` actions.  Hence `tramp_never_nested`, `tramp_fifo_equal_due`, `tramp_due_order`,
`tramp_not_before_due`, `tramp_cancelled_never_run`, `nested_runs_after_return` hold for that thread
verbatim, whatever the other threads do. -/
theorem per_thread_independent (fixed : Bool) (ntr : Nat) (progs : List (Nat × List Op)) (clock : Int)
    (i k : Nat) (sched : List (Nat × Nat)) (ho : (Sys.init ntr progs clock).owns i k) :
    ∃ acts st, (Sys.init ntr progs clock).proj i k = some st ∧
      ((Sys.init ntr progs clock).run fixed sched).proj i k = some (runA fixed st acts) :=
  proj_run fixed _ i k sched ho

/-- the projection of the initial system on an owning thread is the single-thread initial state -/
theorem proj_init (ntr : Nat) (progs : List (Nat × List Op)) (clock : Int) (i k : Nat) (p : List Op)
    (hi : progs[i]? = some (k, p)) (hk : k < ntr) :
    (Sys.init ntr progs clock).proj i k = some (init p clock) := by
  simp [Sys.proj, Sys.init, hi, hk, init]

/-- **Shared TrampolineScheduler: mutual exclusion of the drain loop.**  For every trampoline, in every
reachable state of every interleaving of any number of threads, the number of active drain loops
(`Trampoline._run` activations, over all threads using it) is 1 if the trampoline is not idle and 0 if
it is — in particular never 2. -/
theorem shared_drain_mutex (fixed : Bool) (ntr : Nat) (progs : List (Nat × List Op)) (clock : Int)
    (sched : List (Nat × Nat)) (k : Nat) (tr : Tr)
    (hk : ((Sys.init ntr progs clock).run fixed sched).trs[k]? = some tr) :
    sumBy (drainsOn k) ((Sys.init ntr progs clock).run fixed sched).ths = (!tr.idle).toNat ∧
    sumBy (drainsOn k) ((Sys.init ntr progs clock).run fixed sched).ths ≤ 1 := by
  have := (mreach fixed ntr progs clock sched).mutex k tr hk
  exact ⟨this, by rw [this]; exact Bool.toNat_le _⟩

/-- an idle trampoline has an empty queue (both variants; the code as it is achieves this by CLEARING) -/
theorem idle_queue_empty (fixed : Bool) (ntr : Nat) (progs : List (Nat × List Op)) (clock : Int)
    (sched : List (Nat × Nat)) (k : Nat) (tr : Tr)
    (hk : ((Sys.init ntr progs clock).run fixed sched).trs[k]? = some tr) (hi : tr.idle = true) : tr.queue = [] :=
  (mreach fixed ntr progs clock sched).idleEmpty k tr hk hi

/-- **With the fix, no action is lost on a shared trampoline**: when every thread has returned, on every
trampoline the number of enqueued items equals the number of items taken out of a ready batch (started,
or found cancelled) — under every interleaving of any number of threads — provided no action raised on that
trampoline (a raising action discards what is pending, by design: `raise_resets_trampoline`). -/
theorem shared_fixed_no_item_lost (ntr : Nat) (progs : List (Nat × List Op)) (clock : Int)
    (sched : List (Nat × Nat)) (k : Nat) (hk : k < ntr)
    (hd : ((Sys.init ntr progs clock).run true sched).done = true)
    (hnr : ∀ tr, ((Sys.init ntr progs clock).run true sched).trs[k]? = some tr → tr.raisedG = false) :
    sumBy (enqOn k) ((Sys.init ntr progs clock).run true sched).ths
      = sumBy (fun p => if p.1 = k then nOut p.2.log else 0) ((Sys.init ntr progs clock).run true sched).ths := by
  have inv := mreach true ntr progs clock sched
  have hlen : ((Sys.init ntr progs clock).run true sched).trs.length = ntr := by
    rw [Sys.run_trs_length]; simp [Sys.init]
  generalize hs : (Sys.init ntr progs clock).run true sched = s at *
  have hk' : k < s.trs.length := hlen ▸ hk
  obtain ⟨tr, htr⟩ : ∃ tr, s.trs[k]? = some tr := ⟨s.trs[k], List.getElem?_eq_getElem hk'⟩
  simp only [Sys.done, List.all_eq_true, List.isEmpty_iff] at hd
  have d0 : sumBy (drainsOn k) s.ths = 0 := sumBy_eq_zero_of_forall _ _ fun p hp => by simp [drainsOn, hd p hp, nDrain]
  have d1 : sumBy (outOn k) s.ths = sumBy (fun p => if p.1 = k then nOut p.2.log else 0) s.ths :=
    sumBy_congr _ _ _ fun p hp => by simp [outOn, hd p hp, readyOf]
  have hm := inv.mutex k tr htr
  have hidle : tr.idle = true := by
    cases hi : tr.idle
    · simp [hi] at hm; omega
    · rfl
  have hq := inv.idleEmpty k tr htr hidle
  have hc := inv.cons rfl k tr htr (hnr tr htr)
  rw [hq, d1] at hc
  simpa using hc

/-- **The code as it is loses an action on a shared TrampolineScheduler** (DESIGN §6 #15, second half).
Threads 0 and 1 share trampoline 0 and each schedule one action.  Thread 0 drains: runs its action,
finds the queue empty (`check`), and is preempted before `finally: … queue.clear()`.  Thread 1 enqueues
its action (the trampoline is not idle, so it just returns).  Thread 0's `finally` clears the queue:
action 2 is dropped — enqueued, never cancelled, never started, and everything has returned. -/
private def sharedProgs : List (Nat × List Op) := [(0, [.sched 1 []]), (0, [.sched 2 []])]
private def dropSched : List (Nat × Nat) :=
  [(0,0),(0,0),(0,0),(0,0),(0,0),(0,0),(0,0),   -- t0: sched, enq(runner), collect, start 1, fin 1, exec[]->check, check->final pending
   (1,0),(1,0),(1,0),                            -- t1: sched, enq (not runner), return
   (0,0),(0,0)]                                  -- t0: finally (clears), return
theorem shared_clear_drops_item :
    let s := (Sys.init 1 sharedProgs).run false dropSched
    s.done = true ∧ sumBy (enqOn 0) s.ths = 2 ∧ sumBy (fun p => if p.1 = 0 then nOut p.2.log else 0) s.ths = 1 ∧
    (∃ th, s.ths[0]? = some (0, th) ∧ Ev.final [2] ∈ th.log) := by
  refine ⟨by decide, by decide, by decide, ?_⟩
  exact ⟨_, rfl, by decide⟩
/-- the same schedule with the fix: both actions run. -/
example : let s := (Sys.init 1 sharedProgs).run true (dropSched ++ List.replicate 8 (1, 0))
    s.done = true ∧ sumBy (enqOn 0) s.ths = 2 ∧ sumBy (fun p => if p.1 = 0 then nOut p.2.log else 0) s.ths = 2 := by decide

end C30
