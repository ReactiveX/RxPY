import RxModel.CombHO
import RxModel.CombSeq
import RxProofs.Lemmas.AggCatalogue
import RxProofs.Lemmas.AggComb
import RxProofs.Lemmas.WinGrpAct
import RxProofs.C06
/-!
# C09 — exceptions raised by user callbacks are delivered as on_error

What is not modelled here is covered by the real-code oracle of `harness/props/C09.py`.

A handler returns `esc : Option Err`, the exception that propagates out of `on_next/on_error/on_completed` into
whoever emitted the notification (a subject's caller, the scheduler).  `no_escape_X` states, for *arbitrary* callbacks
(raising at any invocation):

* (A) `X.escapes lag raw = []` for every raw input and disposal timing: nothing ever propagates to the emitter;
* (B) (not for `min/max`, the predicate and the key-mapper forms, which state (A) only): an invocation in which the callback raises
  `e` makes exactly the downstream call `on_error(e)` — in every handler state in which the callback is invoked at all
  (`take_while` while running, a pipe while its middle observer is live, `extrema_by`'s comparer once there is a key).

`X_raise_end_to_end : X.DeliversAt lag pre x e` (below) is the end-to-end statement, built from (B) and carried through pipes;
`raise_delivered` is the lemma underneath, on one handler invocation.
Downstream calls are assumed to return normally (the property is about user-supplied functions).
-/

namespace C09
open Agg

theorem raise_delivered {α β} (op : Op α β) (lag : Bool) (pre post : List (Notif α)) (n : Notif α)
    (cs : List (Notif β)) (e : Err)
    (hup : (op.final lag pre).up = false) (hdown : (op.final lag pre).down = false)
    (hcalls : (op.handle (op.final lag pre).s n).calls = cs ++ [.error e]) (hcs : ∀ c ∈ cs, c.isTerminal = false) :
    op.out lag (pre ++ n :: post) = op.out lag pre ++ (cs ++ [.error e])
    ∧ (op.final lag (pre ++ n :: post)).down = true
    ∧ (lag = false → (op.final lag (pre ++ n :: post)).up = true) :=
  Op.raise_delivered op lag pre post n cs e hup hdown hcalls hcs

/-- "stopped" = the subscriber has received a terminal -/
theorem stopped_iff_terminated {α β} (op : Op α β) (lag : Bool) (raw : List (Notif α)) :
    (op.final lag raw).down = (op.out lag raw).any (·.isTerminal) := Op.final_down_iff op lag raw

/-- the source's observer is live while the source has sent no terminal and the subscriber has received none -/
theorem live_source {α β} (op : Op α β) (lag : Bool) (pre : List (Notif α))
    (hpre : ∀ n ∈ pre, n.isTerminal = false) (hdown : (op.final lag pre).down = false) :
    (op.final lag pre).up = false := Op.final_up_false op lag pre hpre hdown

/-- piping preserves both halves: no escape, and a first-stage `on_error` passes a live forwarding stage -/
theorem no_escape_pipe {α β γ} (f : Op α β) (g : Op β γ) (hf : f.NoEsc) (hg : g.NoEsc) (hfw : g.FwdErr) :
    (∀ lag raw, (f ⨾ g).escapes lag raw = [])
    ∧ (∀ sf sg n e, (f.handle sf n).calls = [.error e] → ((f ⨾ g).handle (sf, false, sg) n).calls = [.error e]) :=
  ⟨fun lag raw => Op.escapes_nil _ (hf.comp hg) lag raw, fun sf sg n e h => comp_raise f g sf sg n e (hfw sg e) h⟩

theorem no_escape_map {α β} (f : α → Except Err β) :
    (∀ lag raw, (mapO f).escapes lag raw = [])
    ∧ (∀ s x e, f x = .error e → ((mapO f).handle s (.next x)).calls = [.error e]) :=
  ⟨Op.escapes_nil _ (mapO_noEsc f), mapO_calls_of_raise f⟩

theorem no_escape_filter {α} (p : α → Except Err Bool) :
    (∀ lag raw, (filterO p).escapes lag raw = [])
    ∧ (∀ s x e, p x = .error e → ((filterO p).handle s (.next x)).calls = [.error e]) :=
  ⟨Op.escapes_nil _ (filterO_noEsc p), filterO_calls_of_raise p⟩

/-- the predicate is only invoked while `running` -/
theorem no_escape_take_while {α} (p : α → Except Err Bool) (incl : Bool) :
    (∀ lag raw, (takeWhileO p incl).escapes lag raw = [])
    ∧ (∀ x e, p x = .error e → ((takeWhileO p incl).handle true (.next x)).calls = [.error e]) :=
  ⟨Op.escapes_nil _ (takeWhileO_noEsc p incl), takeWhileO_calls_of_raise p incl⟩

/-- `distinct` **as repaired** (`fixes/C09_distinct_comparer.patch`): key mapper and comparer -/
theorem no_escape_distinct {α κ} (key : α → Except Err κ) (cmp : κ → κ → Except Err Bool) :
    (∀ lag raw, (distinctO key cmp).escapes lag raw = [])
    ∧ (∀ s x e, key x = .error e → ((distinctO key cmp).handle s (.next x)).calls = [.error e])
    ∧ (∀ s x k e, key x = .ok k → memCmp cmp s k = .error e → ((distinctO key cmp).handle s (.next x)).calls = [.error e]) :=
  ⟨Op.escapes_nil _ (distinctO_noEsc key cmp), distinctO_calls_of_key key cmp,
   distinctO_calls_of_comparer key cmp⟩

/-- the comparer raising at *any* member of the hash set makes `memCmp` raise (so the clause above applies) -/
theorem distinct_comparer_raise {κ} (cmp : κ → κ → Except Err Bool) (pre post : List κ) (a k : κ) (e : Err)
    (hpre : ∀ b ∈ pre, cmp b k = .ok false) (ha : cmp a k = .error e) : memCmp cmp (pre ++ a :: post) k = .error e := by
  induction pre with
  | nil => simp [memCmp, ha]
  | cons b bs ih =>
    simp only [List.cons_append, memCmp, hpre b List.mem_cons_self]
    exact ih (fun c hc => hpre c (List.mem_cons_of_mem _ hc))

/-- **the pinned tree's `distinct` violates the property**: the comparer's exception propagates to the emitter and the
subscriber is not told; the repaired handler delivers it. -/
theorem distinct_unfixed_escapes :
    let cmp : Nat → Nat → Except Err Bool := fun a b => if a = 1 ∧ b = 2 then .error "boom" else .ok (a == b)
    (distinctUnfixedO (fun x => .ok x) cmp).escapes false [.next 1, .next 2, .completed] = ["boom"]
    ∧ (distinctUnfixedO (fun x => .ok x) cmp).out false [.next 1, .next 2, .completed] = [.next 1, .completed]
    ∧ (distinctO (fun x => .ok x) cmp).escapes false [.next 1, .next 2, .completed] = []
    ∧ (distinctO (fun x => .ok x) cmp).out false [.next 1, .next 2, .completed] = [.next 1, .error "boom"] := by
  decide

theorem no_escape_find {α} (p : α → Int → Except Err Bool) (yi : Bool) :
    (∀ lag raw, (findO p yi).escapes lag raw = [])
    ∧ (∀ i x e, p x i = .error e → ((findO p yi).handle i (.next x)).calls = [.error e]) :=
  ⟨Op.escapes_nil _ (findO_noEsc p yi), findO_calls_of_raise p yi⟩

theorem no_escape_scan {α β} (f : β → α → Except Err β) (seed : Option β) (inj : α → β) :
    (∀ lag raw, (scanO f seed inj).escapes lag raw = [])
    ∧ (∀ s x e, scanProj f seed inj s x = .error e → ((scanO f seed inj).handle s (.next x)).calls = [.error e]) :=
  ⟨Op.escapes_nil _ (scanO_noEsc f seed inj), scanO_calls_of_raise f seed inj⟩

/-- `reduce` (= `scan | last(_or_default)`): the accumulator -/
theorem no_escape_reduce {α β} (f : β → α → Except Err β) (sd : β) (inj : α → β) :
    (∀ lag raw, (reduceO f (some sd) inj).escapes lag raw = [])
    ∧ (∀ s sl x e, scanProj f (some sd) inj s x = .error e →
        ((reduceO f (some sd) inj).handle (s, false, sl) (.next x)).calls = [.error e]) := by
  refine ⟨fun lag raw => Op.escapes_nil _ (reduceO_stage f _ inj).noEsc lag raw, ?_⟩
  intro s sl x e h
  exact comp_raise (scanO f (some sd) inj) (lastOrDefaultO (some sd)) s sl (.next x) e rfl
    (scanO_calls_of_raise f (some sd) inj s x e h)

/-- `min_by` / `max_by` (`extrema_by`): key mapper and comparer -/
theorem no_escape_extrema {α κ} (key : α → Except Err κ) (cmp : κ → κ → Except Err Int) :
    (∀ lag raw, (maxByO key cmp).escapes lag raw = [] ∧ (minByO key cmp).escapes lag raw = [])
    ∧ (∀ s x e, key x = .error e → ((extremaByO key cmp).handle s (.next x)).calls = [.error e])
    ∧ (∀ items lk x k e, key x = .ok k → cmp k lk = .error e →
        ((extremaByO key cmp).handle (some lk, items) (.next x)).calls = [.error e]) :=
  ⟨fun lag raw => ⟨Op.escapes_nil _ (extremaByO_noEsc key cmp) lag raw, Op.escapes_nil _ (extremaByO_noEsc key _) lag raw⟩,
   extremaByO_calls_of_key key cmp, extremaByO_calls_of_comparer key cmp⟩

theorem no_escape_min_max {α} (cmp : α → α → Except Err Int) (lag : Bool) (raw : List (Notif α)) :
    (minO cmp).escapes lag raw = [] ∧ (maxO cmp).escapes lag raw = [] :=
  ⟨Op.escapes_nil _ ((extremaByO_noEsc _ _).comp (mapO_noEsc _)) lag raw,
   Op.escapes_nil _ ((extremaByO_noEsc _ _).comp (mapO_noEsc _)) lag raw⟩

theorem no_escape_to_dict {α κ ν} (eq : κ → κ → Bool) (key : α → Except Err κ) (elem : α → Except Err ν) :
    (∀ lag raw, (toDictO eq key elem).escapes lag raw = [])
    ∧ (∀ s x e, key x = .error e → ((toDictO eq key elem).handle s (.next x)).calls = [.error e])
    ∧ (∀ s x k e, key x = .ok k → elem x = .error e → ((toDictO eq key elem).handle s (.next x)).calls = [.error e]) :=
  ⟨Op.escapes_nil _ (toDictO_noEsc eq key elem), toDictO_calls_of_key eq key elem,
   toDictO_calls_of_elem eq key elem⟩

/-- `to_set` / `to_dict` **as repaired** (`fixes/C06_toset_todict_unhashable.patch`): the `TypeError` Python raises for an
unhashable element / key is not a user callback's, but it is delivered the same way — never into the emitter -/
theorem no_escape_hashing {α κ ν} (h : α → Bool) (eq : α → α → Bool) (hk : κ → Bool) (eqk : κ → κ → Bool)
    (key : α → Except Err κ) (elem : α → Except Err ν) :
    (∀ lag raw, (toSetHO h eq).escapes lag raw = [] ∧ (toDictHO hk eqk key elem).escapes lag raw = [])
    ∧ (∀ s x, h x = false → ((toSetHO h eq).handle s (.next x)).calls = [.error "TypeError"])
    ∧ (∀ s x k v, key x = .ok k → elem x = .ok v → hk k = false →
        ((toDictHO hk eqk key elem).handle s (.next x)).calls = [.error "TypeError"]) :=
  ⟨fun lag raw => ⟨Op.escapes_nil _ (toSetHO_noEsc h eq) lag raw, Op.escapes_nil _ (toDictHO_noEsc hk eqk key elem) lag raw⟩,
   fun s x hx => by simp [Op.handle, toSetHO, setStepH, hx],
   fun s x k v h1 h2 h3 => by simp [Op.handle, toDictHO, dictStepH, h1, h2, h3]⟩

/-- `contains` (= `filter(comparer(·, value)) | some()`): the comparer -/
theorem no_escape_contains {α} (v : α) (cmp : α → α → Except Err Bool) :
    (∀ lag raw, (containsO v cmp).escapes lag raw = [])
    ∧ (∀ x e, cmp x v = .error e → ((containsO v cmp).handle ((), false, false) (.next x)).calls = [.error e]) := by
  refine ⟨fun lag raw => Op.escapes_nil _ ((filterO_noEsc _).comp someOp_noEsc) lag raw, ?_⟩
  intro x e h
  exact comp_raise (filterO (fun y => cmp y v)) someOp () false (.next x) e rfl
    (filterO_calls_of_raise (fun y => cmp y v) () x e h)

/-- every predicate form `filter(pred) | g` of this family: count, first, last, single (+_or_default), some -/
theorem no_escape_predicate_forms {α} (p : α → Except Err Bool) (d : α) (lag : Bool) (raw : List (Notif α)) :
    (countO (some p)).escapes lag raw = [] ∧ (firstO (some p)).escapes lag raw = [] ∧ (lastO (some p)).escapes lag raw = []
    ∧ (singleO (some p)).escapes lag raw = [] ∧ (firstOrDefaultPO (some p) d).escapes lag raw = []
    ∧ (lastOrDefaultPO (some p) d).escapes lag raw = [] ∧ (singleOrDefaultPO (some p) d).escapes lag raw = []
    ∧ (someO (some p)).escapes lag raw = [] ∧ (allO p).escapes lag raw = [] := by
  refine ⟨?_, ?_, ?_, ?_, ?_, ?_, ?_, ?_, ?_⟩
  · exact Op.escapes_nil _ ((filterO_noEsc p).comp (reduceO_stage _ _ _).noEsc) lag raw
  · exact Op.escapes_nil _ ((filterO_noEsc p).comp (firstOrDefaultO_noEsc _)) lag raw
  · exact Op.escapes_nil _ ((filterO_noEsc p).comp (lastOrDefaultO_noEsc _)) lag raw
  · exact Op.escapes_nil _ ((filterO_noEsc p).comp (singleOrDefaultO_noEsc _)) lag raw
  · exact Op.escapes_nil _ ((filterO_noEsc p).comp (firstOrDefaultO_noEsc _)) lag raw
  · exact Op.escapes_nil _ ((filterO_noEsc p).comp (lastOrDefaultO_noEsc _)) lag raw
  · exact Op.escapes_nil _ ((filterO_noEsc p).comp (singleOrDefaultO_noEsc _)) lag raw
  · exact Op.escapes_nil _ ((filterO_noEsc p).comp someOp_noEsc) lag raw
  · exact Op.escapes_nil _ (((filterO_noEsc _).comp someOp_noEsc).comp (mapO_noEsc _)) lag raw

/-- key-mapper forms `map(key) | …`: sum, average (the built-in `+` may raise TypeError as well — also delivered) -/
theorem no_escape_key_forms {α β} (key : α → Except Err β) (add : β → β → Except Err β) (zero : β)
    (keyI : α → Except Err Int) (lag : Bool) (raw : List (Notif α)) :
    (sumByO key add zero).escapes lag raw = [] ∧ (averageO keyI).escapes lag raw = [] :=
  ⟨Op.escapes_nil _ ((mapO_noEsc key).comp (reduceO_stage _ _ _).noEsc) lag raw,
   Op.escapes_nil _ ((((mapO_noEsc keyI).comp (scanO_noEsc _ _ _)).comp (lastOrDefaultO_noEsc _)).comp (mapO_noEsc _)) lag raw⟩

/-- `sequence_equal`: the comparer, on either side, for every event trace (handlers of an undecided run) -/
theorem no_escape_sequence_equal {α} (cmp : α → α → Except Err Bool) :
    (∀ lag tr, seqEscapes cmp lag tr = [])
    ∧ (∀ (s : SeqSt α) v qr' x e, s.decided = false → s.qr = v :: qr' → cmp v x = .error e →
        (seqHandle cmp s .L (.next x)).calls = [.error e])
    ∧ (∀ (s : SeqSt α) v ql' x e, s.decided = false → s.ql = v :: ql' → cmp v x = .error e →
        (seqHandle cmp s .R (.next x)).calls = [.error e]) :=
  ⟨seqEscapes_nil cmp, fun s v qr' x e h0 h1 h2 => by simp [seqHandle, seqHandleU, h0, h1, h2],
   fun s v ql' x e h0 h1 h2 => by simp [seqHandle, seqHandleU, h0, h1, h2]⟩

/-- **map, end to end**: the mapper succeeds on `ys` and raises `e` on `x` ⇒ the subscriber gets the mapped `ys`,
then `on_error(e)`, then nothing (whatever `post` is); nothing escapes; the run is stopped. -/
theorem map_raise_end_to_end {α β} (f : α → Except Err β) (lag : Bool) (ys : List α) (x : α) (post : List (Notif α)) (e : Err)
    (hok : ∀ y ∈ ys, ∃ v, f y = .ok v) (hx : f x = .error e) :
    (mapO f).out lag (ys.map .next ++ .next x :: post) = (mapO f).out lag (ys.map .next) ++ [.error e]
    ∧ (mapO f).escapes lag (ys.map .next ++ .next x :: post) = []
    ∧ ((mapO f).final lag (ys.map .next ++ .next x :: post)).down = true
    ∧ (lag = false → ((mapO f).final lag (ys.map .next ++ .next x :: post)).up = true) := by
  refine ((mapO_noEsc f).raises (by simp [Notif.isTerminal]) (mapO_calls_of_raise f _ x e hx)).deliversAt ?_ post
  rw [mapO_out, elems_map_next, ending_map_next]
  exact mapC_ok_no_terminal f ys hok

/-- **reduce, end to end**: the accumulator raises `e` at element `x` (after folding `ys` to `a`) ⇒ the subscriber gets
exactly `on_error(e)`, at that element, whatever follows; nothing escapes; the run is stopped. -/
theorem reduce_raise_end_to_end {α β} (f : β → α → Except Err β) (sd a : β) (inj : α → β) (lag : Bool) (ys : List α) (x : α)
    (post : List (Notif α)) (e : Err) (hys : ys.foldlM f sd = .ok a) (hx : f a x = .error e) :
    (reduceO f (some sd) inj).out lag (ys.map .next ++ .next x :: post) = [.error e]
    ∧ (reduceO f (some sd) inj).out lag (ys.map .next) = []
    ∧ (reduceO f (some sd) inj).escapes lag (ys.map .next ++ .next x :: post) = []
    ∧ ((reduceO f (some sd) inj).final lag (ys.map .next ++ .next x :: post)).down = true := by
  have h0 : (reduceO f (some sd) inj).out lag (ys.map .next) = [] := by
    rw [C06.reduce_eq, elems_map_next, ending_map_next, hys]; rfl
  have hR : (reduceO f (some sd) inj).Raises lag (ys.map .next) x e :=
    ⟨(reduceO_stage f _ inj).noEsc, fun _ post => by
      rw [h0, C06.reduce_eq]
      simp only [elems_map_next_append, elems_next]
      rw [foldlM_raise f ys sd a x _ e hys hx]; rfl⟩
  obtain ⟨h1, h2, h3, -⟩ := hR.deliversAt (by rw [h0]; rfl) post
  exact ⟨by rw [h1, h0]; rfl, h0, h2, h3⟩

/-- **contains, end to end**: the comparer says "different" on `ys` and raises `e` on `x` -/
theorem contains_raise_end_to_end {α} (v : α) (cmp : α → α → Except Err Bool) (lag : Bool) (ys : List α) (x : α)
    (post : List (Notif α)) (e : Err) (hys : ∀ y ∈ ys, cmp y v = .ok false) (hx : cmp x v = .error e) :
    (containsO v cmp).out lag (ys.map .next ++ .next x :: post) = [.error e]
    ∧ (containsO v cmp).escapes lag (ys.map .next ++ .next x :: post) = []
    ∧ ((containsO v cmp).final lag (ys.map .next ++ .next x :: post)).down = true := by
  have hskip := filterO_skip (fun y => cmp y v) someOp ys hys lag
  have h0 : (containsO v cmp).out lag (ys.map .next) = [] := by
    rw [← List.append_nil (List.map _ _)]; exact hskip []
  have hR : (containsO v cmp).Raises lag (ys.map .next) x e :=
    ⟨(filterO_noEsc _).comp someOp_noEsc, fun _ post => by
      rw [h0]; exact (hskip _).trans ((C06.contains_eq v cmp lag _).trans (by simp [filterC, hx, someRef]))⟩
  obtain ⟨h1, h2, h3, -⟩ := hR.deliversAt (by rw [h0]; rfl) post
  exact ⟨by rw [h1, h0]; rfl, h2, h3⟩

/-! In the instances `pre` is any list of `on_next`s (`hpre`); the hypothesis on the callback is stated on the state the
(first-stage) handler has after `pre`. -/

/-- **Generic**: (A) `NoEsc` + `RaisesAt` (from the handler-level (B) via `Op.NoEsc.raises`, closed under `⨾` via
`Op.Raises.pipe`) ⇒ the end-to-end statement, for any operator. -/
theorem raise_end_to_end {α β} (op : Op α β) (hA : op.NoEsc) (lag : Bool) (pre post : List (Notif α)) (x : α) (e : Err)
    (hB : op.RaisesAt lag pre x e) (hlive : noTerm (op.out lag pre)) :
    op.out lag (pre ++ .next x :: post) = op.out lag pre ++ [.error e]
    ∧ op.escapes lag (pre ++ .next x :: post) = []
    ∧ (op.final lag (pre ++ .next x :: post)).down = true
    ∧ (lag = false → (op.final lag (pre ++ .next x :: post)).up = true) :=
  Op.raise_end_to_end op hA lag pre post x e hB hlive

/-- **Generic, pipes**: a first stage that `RaisesAt` piped into any stage that forwards errors and terminals -/
theorem pipe_raise_end_to_end {α β γ} (f : Op α β) (g : Op β γ) (hfA : f.NoEsc) (hgA : g.NoEsc) (hge : g.ErrThrough)
    (hgt : g.TermProp) (lag : Bool) (pre : List (Notif α)) (x : α) (e : Err) (hB : f.RaisesAt lag pre x e) :
    (f ⨾ g).DeliversAt lag pre x e :=
  (Op.Raises.pipe ⟨hfA, hB⟩ ⟨hgA, hgt, hge⟩).deliversAt

section Instances
variable {α : Type} (lag : Bool) (pre : List (Notif α)) (hpre : ∀ n ∈ pre, n.isTerminal = false) (x : α) (e : Err)
include hpre

theorem filter_raises (p : α → Except Err Bool) (hx : p x = .error e) : (filterO p).Raises lag pre x e :=
  (filterO_noEsc p).raises hpre (filterO_calls_of_raise p _ x e hx)

theorem map_raises {β} (f : α → Except Err β) (hx : f x = .error e) : (mapO f).Raises lag pre x e :=
  (mapO_noEsc f).raises hpre (mapO_calls_of_raise f _ x e hx)

theorem scan_raises {β} (f : β → α → Except Err β) (seed : Option β) (inj : α → β)
    (hx : scanProj f seed inj ((scanO f seed inj).final lag pre).s x = .error e) : (scanO f seed inj).Raises lag pre x e :=
  (scanO_noEsc f seed inj).raises hpre (scanO_calls_of_raise f seed inj _ x e hx)

theorem filter_raise_end_to_end (p : α → Except Err Bool) (hx : p x = .error e) : (filterO p).DeliversAt lag pre x e :=
  (filter_raises lag pre hpre x e p hx).deliversAt

theorem take_while_raise_end_to_end (p : α → Except Err Bool) (incl : Bool)
    (hrun : ((takeWhileO p incl).final lag pre).s = true) (hx : p x = .error e) : (takeWhileO p incl).DeliversAt lag pre x e :=
  ((takeWhileO_noEsc p incl).raises hpre (by rw [hrun]; exact takeWhileO_calls_of_raise p incl x e hx)).deliversAt

theorem distinct_key_raise_end_to_end {κ} (key : α → Except Err κ) (cmp : κ → κ → Except Err Bool) (hx : key x = .error e) :
    (distinctO key cmp).DeliversAt lag pre x e :=
  ((distinctO_noEsc key cmp).raises hpre (distinctO_calls_of_key key cmp _ x e hx)).deliversAt

/-- the comparer raises against some member of the keys seen so far -/
theorem distinct_comparer_raise_end_to_end {κ} (key : α → Except Err κ) (cmp : κ → κ → Except Err Bool) (k : κ)
    (hk : key x = .ok k) (hx : memCmp cmp ((distinctO key cmp).final lag pre).s k = .error e) :
    (distinctO key cmp).DeliversAt lag pre x e :=
  ((distinctO_noEsc key cmp).raises hpre (distinctO_calls_of_comparer key cmp _ x k e hk hx)).deliversAt

theorem find_raise_end_to_end (p : α → Int → Except Err Bool) (yi : Bool)
    (hx : p x ((findO p yi).final lag pre).s = .error e) : (findO p yi).DeliversAt lag pre x e :=
  ((findO_noEsc p yi).raises hpre (findO_calls_of_raise p yi _ x e hx)).deliversAt

theorem scan_raise_end_to_end {β} (f : β → α → Except Err β) (seed : Option β) (inj : α → β)
    (hx : scanProj f seed inj ((scanO f seed inj).final lag pre).s x = .error e) : (scanO f seed inj).DeliversAt lag pre x e :=
  (scan_raises lag pre hpre x e f seed inj hx).deliversAt

/-- reduce with or without seed, in the handler-state form (cf. `reduce_raise_end_to_end` for the `foldlM` form) -/
theorem reduce_state_raise_end_to_end {β} (f : β → α → Except Err β) (seed : Option β) (inj : α → β)
    (hx : scanProj f seed inj ((scanO f seed inj).final lag pre).s x = .error e) : (reduceO f seed inj).DeliversAt lag pre x e := by
  have hf := scan_raises lag pre hpre x e f seed inj hx
  cases seed <;> exact (hf.pipe (lastOrDefaultO_stage _)).deliversAt

theorem extrema_key_raise_end_to_end {κ} (key : α → Except Err κ) (cmp : κ → κ → Except Err Int) (hx : key x = .error e) :
    (maxByO key cmp).DeliversAt lag pre x e ∧ (minByO key cmp).DeliversAt lag pre x e ∧
    (∀ (id' : α → Except Err α) (c : α → α → Except Err Int), id' x = .error e →
      (extremaByO id' c ⨾ mapO firstOnly).DeliversAt lag pre x e) :=
  have hf : ∀ {κ'} (key' : α → Except Err κ') (c : κ' → κ' → Except Err Int), key' x = .error e →
      (extremaByO key' c).Raises lag pre x e :=
    fun key' c h => (extremaByO_noEsc key' c).raises hpre (extremaByO_calls_of_key key' c _ x e h)
  ⟨(hf key cmp hx).deliversAt, (hf key _ hx).deliversAt, fun id' c h => ((hf id' c h).pipe (mapO_stage _)).deliversAt⟩

/-- the comparer raises when the new key is compared with the current extremum `lk` (max_by; min_by is `extremaByO` with the
negated comparer; `min`/`max` pipe it into `map(first_only)`) -/
theorem extrema_comparer_raise_end_to_end {κ} (key : α → Except Err κ) (cmp : κ → κ → Except Err Int) (k lk : κ) (items : List α)
    (hst : ((extremaByO key cmp).final lag pre).s = (some lk, items)) (hk : key x = .ok k) (hx : cmp k lk = .error e) :
    (extremaByO key cmp).DeliversAt lag pre x e ∧ (extremaByO key cmp ⨾ mapO firstOnly).DeliversAt lag pre x e :=
  have hf := (extremaByO_noEsc key cmp).raises (lag := lag) hpre
    (by rw [hst]; exact extremaByO_calls_of_comparer key cmp items lk x k e hk hx)
  ⟨hf.deliversAt, (hf.pipe (mapO_stage _)).deliversAt⟩

theorem to_dict_raise_end_to_end {κ ν} (eq : κ → κ → Bool) (key : α → Except Err κ) (elem : α → Except Err ν)
    (hx : key x = .error e ∨ ∃ k, key x = .ok k ∧ elem x = .error e) : (toDictO eq key elem).DeliversAt lag pre x e := by
  refine ((toDictO_noEsc eq key elem).raises hpre ?_).deliversAt
  rcases hx with h | ⟨k, h1, h2⟩
  · exact toDictO_calls_of_key eq key elem _ x e h
  · exact toDictO_calls_of_elem eq key elem _ x k e h1 h2

/-- every predicate form of the family: the predicate raises at `x` -/
theorem predicate_forms_raise_end_to_end (p : α → Except Err Bool) (d : α) (hx : p x = .error e) :
    (countO (some p)).DeliversAt lag pre x e ∧ (firstO (some p)).DeliversAt lag pre x e ∧ (lastO (some p)).DeliversAt lag pre x e
    ∧ (singleO (some p)).DeliversAt lag pre x e ∧ (firstOrDefaultPO (some p) d).DeliversAt lag pre x e
    ∧ (lastOrDefaultPO (some p) d).DeliversAt lag pre x e ∧ (singleOrDefaultPO (some p) d).DeliversAt lag pre x e
    ∧ (someO (some p)).DeliversAt lag pre x e :=
  have hf := filter_raises lag pre hpre x e p hx
  ⟨(hf.pipe (reduceO_stage _ _ _)).deliversAt, (hf.pipe (firstOrDefaultO_stage _)).deliversAt,
    (hf.pipe (lastOrDefaultO_stage _)).deliversAt, (hf.pipe (singleOrDefaultO_stage _)).deliversAt,
    (hf.pipe (firstOrDefaultO_stage _)).deliversAt, (hf.pipe (lastOrDefaultO_stage _)).deliversAt,
    (hf.pipe (singleOrDefaultO_stage _)).deliversAt, (hf.pipe someOp_stage).deliversAt⟩

/-- `all(pred)` = `filter(not pred) | some() | map(not)`: two pipes -/
theorem all_raise_end_to_end (p : α → Except Err Bool) (hx : p x = .error e) : (allO p).DeliversAt lag pre x e :=
  (((filter_raises lag pre hpre x e _ (by simp [hx, Except.map])).pipe someOp_stage).pipe (mapO_stage _)).deliversAt

/-- `contains(value, comparer)` = `filter(comparer(·, value)) | some()` -/
theorem contains_pipe_raise_end_to_end (v : α) (cmp : α → α → Except Err Bool) (hx : cmp x v = .error e) :
    (containsO v cmp).DeliversAt lag pre x e :=
  ((filter_raises lag pre hpre x e (fun y => cmp y v) hx).pipe someOp_stage).deliversAt

/-- key-mapper forms: `sum(key)`, `average(key)` (three pipes) -/
theorem key_forms_raise_end_to_end {β} (key : α → Except Err β) (add : β → β → Except Err β) (zero : β)
    (keyI : α → Except Err Int) (hx : key x = .error e) (hxI : keyI x = .error e) :
    (sumByO key add zero).DeliversAt lag pre x e ∧ (averageO keyI).DeliversAt lag pre x e :=
  ⟨((map_raises lag pre hpre x e key hx).pipe (reduceO_stage _ _ _)).deliversAt,
   ((((map_raises lag pre hpre x e keyI hxI).pipe (scanO_stage _ _ _)).pipe (lastOrDefaultO_stage _)).pipe (mapO_stage _)).deliversAt⟩

end Instances

/-! ## multi-source / higher-order operators: the `comb` family's trace machines (`RxModel/Comb*.lean`)

A handler of these machines returns actions, it cannot raise into its emitter; the callback-raise paths are:
the projection of flat_map / concat_map / switch_map (`map` turns the exception into the outer source's `on_error` —
`no_escape_map` — which is the event below), the handler of `catch`, the source factories / iterators of
on_error_resume_next, concat, catch, while_do, for_in (`Item.raise`). -/

/-- generic: a live source's handler answering `[on_error e]` to a non-terminated subscriber -/
theorem comb_raise_delivered {σ ι β} (m : Comb.Machine σ ι β) (st : Comb.St σ) (k : Nat) (n : Notif ι) (e : Err) (s' : σ)
    (hk : k ∈ st.p.live) (hd : st.p.done = false) (hh : m.handler st.s k n = (s', [Comb.Act.emit (.error e)])) :
    Comb.DeliveredAt m st (.src k n) e :=
  Comb.raise_delivered m st _ e s' nofun hd (by rw [Comb.fired_src _ _ _ _ hk, hh])

/-- **flat_map / concat_map (merge(max_concurrent)) / switch_map — raising projection**: delivered as `on_error`, the outer
and every live inner subscription are closed (container order), the machine is stopped, nothing is emitted afterwards. -/
theorem no_escape_projection {α} (e : Err) :
    (∀ (st : Comb.St Comb.MaSt), 0 ∈ st.p.live → st.p.done = false →
      Comb.DeliveredAt (Comb.maM (α := α)) st (.src 0 (.error e)) e)
    ∧ (∀ (maxc : Nat) (st : Comb.St Comb.McSt), 0 ∈ st.p.live → st.p.done = false →
      Comb.DeliveredAt (Comb.mcM (α := α) maxc) st (.src 0 (.error e)) e)
    ∧ (∀ (st : Comb.St Comb.SwSt), 0 ∈ st.p.live → st.p.done = false →
      Comb.DeliveredAt (Comb.swM (α := α)) st (.src 0 (.error e)) e) :=
  ⟨fun st hk hd => comb_raise_delivered _ st 0 _ e st.s hk hd rfl,
   fun maxc st hk hd => comb_raise_delivered _ st 0 _ e st.s hk hd rfl,
   fun st hk hd => comb_raise_delivered _ st 0 _ e st.s hk hd (by simp [Comb.swM, Comb.swHandler])⟩

/-- **catch(handler) — raising handler**: the source fails with `e0`, the handler raises `ex` ⇒ `on_error ex` -/
theorem no_escape_catch_handler {α} (e0 ex : Err) (st : Comb.St Comb.ChSt) (hk : 0 ∈ st.p.live) (hd : st.p.done = false) :
    Comb.DeliveredAt (Comb.chM (α := α) (.error ex)) st (.src 0 (.error e0)) ex :=
  comb_raise_delivered _ st 0 _ ex st.s hk hd (by simp [Comb.chM, Comb.chHandler])

/-- **on_error_resume_next (as repaired) / concat / catch / while_do / for_in — raising source factory, iterator, condition or
mapper** (`Item.raise e` at the scheduled action): `on_error e`, everything closed, stopped. -/
theorem no_escape_seq_factory {α} (kind : Comb.SeqKind) (items : Nat → Comb.Item) (e : Err) (st : Comb.St Comb.SeqSt)
    (hp : st.s.pending = true) (hi : items st.s.idx = .raise e) (hd : st.p.done = false) :
    Comb.DeliveredAt (Comb.seqM (α := α) kind items) st .tick e :=
  Comb.raise_delivered_tick _ st e { st.s with pending := false, calls := st.s.calls ++ [(st.s.idx, st.s.arg)] } hd
    (by simp [Comb.seqM, Comb.seqTick, hp, hi])

example : Comb.emits (Comb.run (Comb.seqM (α := Nat) .oern (fun j => if j = 0 then .src else .raise "factory")) Comb.seqInit
    [.tick, .src 0 (.next 1), .src 0 (.error "x"), .tick, .tick, .src 1 (.next 2)]) = [.next 1, .error "factory"] := rfl

/-! ## group_by_until / group_by: the `win` family's machine (`RxModel/WinGrp.lean`) -/

/-- **every mapper-raise path of `group_by_until` is the failure path `errorAll`** (`for wrt in writers.values():
wrt.on_error(e); observer.on_error(e)`): key mapper; element mapper; subject factory; duration mapper — for the last one
the group just created is already in `writers` and is errored with the others. -/
theorem group_by_until_raise_paths {α κ β} (cfg : WinGrp.Cfg α κ β) (s : WinGrp.St κ β) (x : α) (e : Err) :
    (cfg.keyMapper x = .error e → WinGrp.srcNext cfg s x = WinGrp.errorAll s e)
    ∧ (∀ k p, cfg.keyMapper x = .ok k → s.writers.find? (fun p => cfg.keyEq p.1 k) = some p → cfg.elemMapper x = .error e →
        WinGrp.srcNext cfg s x = WinGrp.errorAll s e)
    ∧ (∀ k, cfg.keyMapper x = .ok k → s.writers.find? (fun p => cfg.keyEq p.1 k) = none →
        cfg.subjMapper s.groups.length = .error e → WinGrp.srcNext cfg s x = WinGrp.errorAll s e)
    ∧ (∀ k, cfg.keyMapper x = .ok k → s.writers.find? (fun p => cfg.keyEq p.1 k) = none →
        cfg.subjMapper s.groups.length = .ok () → cfg.durMapper s.groups.length = .error e →
        WinGrp.srcNext cfg s x
          = WinGrp.errorAll { s with groups := s.groups ++ [{ key := k }], writers := s.writers ++ [(k, s.groups.length)] } e) := by
  refine ⟨?_, ?_, ?_, ?_⟩
  · intro h; simp [WinGrp.srcNext, h]
  · intro k p h1 h2 h3; simp [WinGrp.srcNext, h1, h2, WinGrp.pushElem, h3]
  · intro k h1 h2 h3; simp [WinGrp.srcNext, h1, h2, h3]
  · intro k h1 h2 h3 h4; simp [WinGrp.srcNext, h1, h2, h3, h4]

/-- **what that failure path does**: the outer subscriber (not yet terminated) receives `on_error e` and is stopped; the
writer of **every open group** is stopped with it (so group subscribers get the terminal and release their references);
nothing escapes to the emitter; no earlier output is lost. -/
theorem group_by_until_failure_path {κ β} (s : WinGrp.St κ β) (e : Err) (hout : s.outStopped = false)
    (hw : ∀ p ∈ s.writers, p.2 < s.groups.length) :
    (WinGrp.errorAll s e).outStopped = true
    ∧ WinGrp.Eff.outer (.error e) ∈ (WinGrp.errorAll s e).out
    ∧ (∀ p ∈ s.writers, WinGrp.stoppedAt (WinGrp.errorAll s e) p.2)
    ∧ WinGrp.escs (WinGrp.errorAll s e) = WinGrp.escs s
    ∧ (∃ l, (WinGrp.errorAll s e).out = s.out ++ l) := by
  open WinGrp in
    have h1 : Fr ({ s with failed := true } : St κ β) (termAll ({ s with failed := true } : St κ β) (.error e)) :=
      fr_termAll _ (.error e)
    have hso : (termAll ({ s with failed := true } : St κ β) (Notif.error e : Notif β)).outStopped = false := by
      rw [h1.outS]; exact hout
    let u : St κ β := emit { termAll ({ s with failed := true } : St κ β) (Notif.error e : Notif β) with outStopped := true } (.outer (.error e))
    have he : errorAll s e = rcdDispose u := by unfold errorAll outerTerm; rw [if_neg (by simp [hso])]
    have h2 : Fr u (errorAll s e) := he ▸ fr_rcdDispose u rfl
    have hst : ∀ p ∈ s.writers, stoppedAt (termAll ({ s with failed := true } : St κ β) (Notif.error e : Notif β)) p.2 := by
      intro p hp
      exact foldl_writerTerm_stops _ ({ s with failed := true } : St κ β) _ (fun g hg => by
        obtain ⟨q, hq, rfl⟩ := List.mem_map.1 hg; exact hw q hq) p.2 (List.mem_map.2 ⟨p, hp, rfl⟩)
    refine ⟨by rw [h2.outS]; rfl, ?_, ?_, ?_, ?_⟩
    · obtain ⟨l, hl⟩ := h2.grow; rw [hl]; simp [u, WinGrp.emit]
    · intro p hp
      obtain ⟨r, hr, hs⟩ := hst p hp
      obtain ⟨r', hr', e'⟩ := (td_rcdDispose u).only p.2 r hr
      exact ⟨r', he ▸ hr', by rw [e']; exact hs⟩
    · rw [h2.esc]; simp [u, WinGrp.emit, escs, List.filter_append, isEsc]; exact h1.esc
    · exact OutExt_errorAll s e

/-! Non-vacuity: raising callbacks at the first / a middle / a late invocation, lagging and prompt. -/
example : (mapO (fun (x : Nat) => if x = 2 then .error "m" else .ok (x + 10))).out true [.next 1, .next 2, .next 3, .completed]
    = [.next 11, .error "m"] := rfl
example : (reduceO (fun (a x : Nat) => if x = 3 then .error "acc" else .ok (a + x)) (some 0) id).out false
    [.next 1, .next 2, .next 3, .next 4, .completed] = [.error "acc"] := rfl
example : (takeWhileO (fun (x : Nat) => if x = 1 then .error "p" else .ok true) false).escapes false [.next 1] = [] := rfl
example : seqOut (fun (a b : Nat) => if a = 2 then .error "cmp" else .ok (a == b)) false
    [(.L, .next 1), (.R, .next 1), (.R, .next 2), (.L, .next 2), (.L, .completed)] = [.error "cmp"] := rfl

end C09
