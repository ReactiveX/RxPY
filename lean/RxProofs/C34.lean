import RxProofs.Lemmas.Thr2Timer
/-!
# C34 — real-time schedulers never run an action early or after cancellation; ImmediateScheduler

Schedules are arbitrary lists of actions
(scheduler-thread step / the user's dispose / the clock reaching the due time / the event loop's wait returning
early), of any length.
"Starts" = the scheduler thread's read of `finished` (Timer) / `is_cancelled()` (event loop) — DESIGN.md §8.
-/

namespace C34
open Thr2Timer

/-- **never_before_due.** Timer-based (`TimeoutScheduler`) and event-loop-based (`NewThread`, `ThreadPool`,
`EventLoop`) schedulers, immediate or delayed, any interleaving of the scheduler thread, the disposing thread
and the clock: the action never starts before its due time. -/
theorem never_before_due (c : Cfg) (sch : List Nat) : (run c (init c) sch).early = false :=
  (reach_ok c sch).early

/-- **disposed_before_due_never_starts.** If `dispose()` happened before the due time, the action never starts —
whatever the scheduler thread was doing at that moment (still waiting, already woken, between the clock read and
the cancellation read). -/
theorem disposed_before_due_never_starts (c : Cfg) (sch : List Nat) : (run c (init c) sch).bad = false :=
  (reach_ok c sch).bad

/-- `bad` and `early` mean what they say: `start` sets `early` when the due time has not been reached and `bad`
when a dispose happened before the due time; `dispose` records whether it came before the due time. -/
theorem start_flags (s : St) :
    (start s).started = true ∧ (s.due = false → (start s).early = true) ∧ (s.disposedEarly = true → (start s).bad = true) := by
  refine ⟨rfl, fun h => ?_, fun h => ?_⟩ <;> simp [start, h]

/-- **immediate_sync_or_wouldblock.** `ImmediateScheduler`: `schedule` runs the action synchronously;
`schedule_relative` runs it synchronously iff the delay is not positive and raises `WouldBlockException`
otherwise (nothing runs); `schedule_absolute` is `schedule_relative(duetime - now)`. -/
theorem immediate_sync_or_wouldblock (delay due now : Int) :
    immSchedule = .ranSync ∧
    (immRelative delay = .wouldBlock ↔ delay > 0) ∧ (immRelative delay = .ranSync ↔ delay ≤ 0) ∧
    (immAbsolute due now = .wouldBlock ↔ due > now) ∧ (immAbsolute due now = .ranSync ↔ due ≤ now) := by
  refine ⟨rfl, ?_, ?_, ?_, ?_⟩ <;> simp only [immAbsolute, immRelative] <;> split <;> simp_all <;> omega

/-- **shared_loop_safe.** Any number of actions sharing ONE event-loop thread (`EventLoopScheduler`; items in
any heap order, with any due times), any interleaving of the loop thread with the disposing threads and the
clock: no action starts before its due time, and no action disposed before its due time ever starts.  (The
loop reads each item's own `is_cancelled()` after dequeuing it; `dispose()` flags the item itself.) -/
theorem shared_loop_safe (order : List Nat) (rank : Nat → Nat) (sch : List Thr2LoopN.Act) :
    (Thr2LoopN.run ⟨order, rank, .flag⟩ Thr2LoopN.init sch).tooEarly = false ∧
    (Thr2LoopN.run ⟨order, rank, .flag⟩ Thr2LoopN.init sch).bad = false := by
  have h := Thr2LoopN.reach_J ⟨order, rank, .flag⟩ rfl sch
  exact ⟨h.tooEarly, h.bad⟩

/-- **remove_by_due_time_disposes_wrong_item.** Why `dispose()` must flag the item rather than remove it from
the queue by `PriorityQueue.remove`: with two items of equal due time, disposing item 1 before the due time
removes item 0 (the first heap entry `==` to it); item 1 stays queued, unflagged, and starts at its due time. -/
theorem remove_by_due_time_disposes_wrong_item :
    (Thr2LoopN.run ⟨[0, 1], fun _ => 5, .removeByDue⟩ Thr2LoopN.init
      [.loop, .loop, .loop, .dispose 1, .loop, .tick 5, .loop, .loop]).bad = true ∧
    (Thr2LoopN.run ⟨[0, 1], fun _ => 5, .removeByDue⟩ Thr2LoopN.init
      [.loop, .loop, .loop, .dispose 1, .loop, .tick 5, .loop, .loop]).started 0 = false := by decide +kernel

/-- **periodic_no_tick_after_dispose.** `NewThreadScheduler.schedule_periodic` (also ThreadPoolScheduler): whatever
the period (zero included), however long each tick takes (within or beyond its period) and wherever `dispose()`
lands (while waiting, while a tick runs): no tick starts after `dispose()` — the flag is read before every
tick, whether or not a wait preceded it.  In the model that read and the start of the tick are ONE atomic step
(DESIGN.md §8: "starts" = the read of the flag), so `bad` is never written (`Thr2Periodic.step_bad`): the theorem says
that this test stands before every tick, not where a `dispose()` concurrent with it lands. -/
theorem periodic_no_tick_after_dispose (period0 : Bool) (sch : List Nat) :
    (Thr2Periodic.run (Thr2Periodic.init period0) sch).bad = false :=
  Thr2Reach.run_invariant (run := Thr2Periodic.run) (fun _ => rfl) (fun _ _ _ => rfl)
    (fun _ _ _ hs hst => (Thr2Periodic.step_bad hst).trans hs) sch _ rfl

/-! Non-vacuity: actions do start when due and not disposed; a dispose after the wake-up but before the
`finished` read still prevents the start; a late dispose does not un-start. -/
example : (run ⟨.timer, false⟩ (init ⟨.timer, false⟩) [2, 0, 0]).started = true := by decide +kernel
example : (run ⟨.timer, false⟩ (init ⟨.timer, false⟩) [1, 0, 2, 0]).started = false := by decide +kernel
example : (run ⟨.evloop, false⟩ (init ⟨.evloop, false⟩) [0, 0, 2, 0, 0, 0]).started = true := by decide +kernel
example : (run ⟨.evloop, false⟩ (init ⟨.evloop, false⟩) [0, 0, 1, 2, 0, 0, 0]).started = false := by decide +kernel
example : (run ⟨.evloop, true⟩ (init ⟨.evloop, true⟩) [0, 1, 0]).started = false ∧
    (run ⟨.evloop, true⟩ (init ⟨.evloop, true⟩) [0, 1, 0]).bad = false := by decide +kernel

-- shared loop: item 1 (due 3) is disposed at time 2, item 0 (due 2) runs, item 1 is skipped
example : (Thr2LoopN.run ⟨[0, 1], fun i => if i = 0 then 2 else 3, .flag⟩ Thr2LoopN.init
    [.loop, .loop, .loop, .tick 2, .dispose 1, .loop, .loop, .loop, .loop, .loop, .tick 3, .loop, .loop, .loop]).started 0 = true ∧
    (Thr2LoopN.run ⟨[0, 1], fun i => if i = 0 then 2 else 3, .flag⟩ Thr2LoopN.init
    [.loop, .loop, .loop, .tick 2, .dispose 1, .loop, .loop, .loop, .loop, .loop, .tick 3, .loop, .loop, .loop]).started 1 = false := by
  decide +kernel

-- periodic: two ticks, the second overruns; dispose arrives during it; the thread returns without a third tick
example : (Thr2Periodic.runLabels (Thr2Periodic.init false) [0, 2, 0, 0, 4, 0, 2, 0, 0, 1, 5, 0, 0]).1 =
    ["wait", "elapse", "waitret", "tick-start", "tick-end", "wait", "elapse", "waitret", "tick-start", "dispose",
     "tick-end-slow", "nowait", "return"] := by decide +kernel
-- the event loop's wait returns early (scheduler clock stepped back): it re-reads the clock and waits again
example : (runLabels ⟨.evloop, false⟩ (init ⟨.evloop, false⟩) [0, 0, 3, 0, 0, 2, 0, 0, 0]).1 =
    ["top-notdue", "bottom-wait", "timeout-early", "top-notdue", "bottom-wait", "tick", "timeout", "top-due", "check-run"] := by
  decide +kernel

end C34
