import RxProofs.Lemmas.PipeHeap
import RxProofs.C01
/-!
# C02 — termination releases every source subscription  (and the heap half of C03)

The pipeline's disposables form a heap (`RxModel/PipeHeap.lean`); operator code, handlers and
disposable actions perform an arbitrary sequence of direct calls (`Pipe.Op`) on it.  The theorems
hold for **every** such sequence (every pipeline, every timeline, every interleaving of events):

* `closed_always` — after every direct call the heap is *closed*: whatever a disposed container
  owns (held when it was disposed, or attached afterwards) has been disposed, and a RefCountDisposable
  whose primary was disposed and which has no live dependent has released its resource.
* `graph_dispose_transitive` / `pipeline_release` — once the root was disposed (C01:
  a terminal notification disposes the root in the same call, `ado_terminal_disposes`; or the user's
  `dispose()`), every node reachable from it through owning edges — through a RefCountDisposable only
  once all its dependents (group / window subscribers) are released — is disposed.
* `late_attach_disposed` — a subscription attached to an already disposed container is disposed at once.
* `disposed_forever` — nothing is ever un-disposed.

What is *not* proved here: that each operator attaches every source subscription it opens beneath the
disposable it returns (ownership, "K2").  That is checked per run (a) statically by the regenerated
ownership table `RxGen/Ownership.lean` (`ownership_ok` in `RxProofs/Ownership.lean`, by `decide`), (b) dynamically by replaying the
recorded container calls of real pipelines through this model and comparing all flags, and by the
release oracle on the test sources' subscription logs.  Hence `pipeline_release` is *partial by
catalogue* in the sense of DESIGN.md §5 C02.
-/

namespace C02
open Pipe

/-- closed heap: disposal has been propagated along every owning edge. -/
def Closed (h : Heap) : Prop :=
  (∀ (x y : Nat) (nx ny : Node), h[x]? = some nx → nx.fires = true → y ∈ nx.owned → h[y]? = some ny → ny.done = true) ∧
  (∀ (r : Nat) (nr : Node), h[r]? = some nr → nr.kind = .refcount → nr.done = true → liveInners h r = 0 → nr.released = true)

/-- `z` is owned, transitively, by `x`; an edge out of a RefCountDisposable counts only when none of
its dependents is still live. -/
inductive Reach (h : Heap) : Nat → Nat → Prop
  | refl (x : Nat) : Reach h x x
  | step (x y z : Nat) (nx : Node) : h[x]? = some nx → y ∈ nx.owned →
      (nx.kind = .refcount → liveInners h x = 0) → Reach h y z → Reach h x z

theorem fix_closed (h : Heap) (hfix : propagate h = h) : Closed h := by
  refine ⟨?_, ?_⟩
  · intro x y nx ny hx hf hy hny
    apply propagate_fix_done h hfix y ny hny
    simp only [ownedByFiring, List.any_eq_true, Bool.and_eq_true]
    exact ⟨nx, List.mem_of_getElem? hx, hf, by simpa using hy⟩
  · intro r nr hr hk hd hl
    exact propagate_fix_released h hfix r nr hr hk hd hl

/-- **settle_closed.** Running disposal to quiescence yields a closed heap. -/
theorem settle_closed (h : Heap) : Closed (settle h) := fix_closed _ (settle_fix h)

/-- **closed_always.** After any direct call, on any heap, the heap is closed. -/
theorem closed_always (h : Heap) (op : Op) : Closed (apply h op).1 := by
  unfold Pipe.apply; exact settle_closed _

theorem run_closed (h : Heap) (hc : Closed h) (ops : List Op) : Closed (run h ops) := by
  induction ops generalizing h with
  | nil => exact hc
  | cons op ops ih => exact ih _ (closed_always h op)

/-- **graph_dispose_transitive.** In a closed heap, everything reachable from a disposed node is disposed. -/
theorem graph_dispose_transitive (h : Heap) (hc : Closed h) (x z : Nat) (nx nz : Node)
    (hx : h[x]? = some nx) (hd : nx.done = true) (hr : Reach h x z) (hz : h[z]? = some nz) :
    nz.done = true := by
  revert nx
  induction hr with
  | refl x => intro nx hx hd; rw [hx] at hz; cases hz; exact hd
  | step x y z nx' hx' hy hrc hyz ih =>
    intro nx hx hd
    have e : nx = nx' := Option.some.inj (hx.symm.trans hx')
    subst e
    have hf : nx.fires = true := by
      unfold Node.fires
      by_cases hk : nx.kind = .refcount
      · simp [hk]; exact hc.2 x nx hx hk hd (hrc hk)
      · simp [hk, hd]
    cases hny : h[y]? with
    | none =>
      cases hyz with
      | refl => rw [hny] at hz; cases hz
      | step _ _ _ n hn => rw [hny] at hn; cases hn
    | some ny => exact ih hz ny hny (hc.1 x y nx ny hx hf hy hny)

/-- **pipeline_release.** Whatever calls built and changed the heap, after `dispose(root)` every node
reachable from the root is disposed: no source subscription owned by the pipeline outlives it. -/
theorem pipeline_release (h0 : Heap) (ops : List Op) (root z : Nat) (nz : Node) :
    let h := (apply (run h0 ops) (.dispose root)).1
    Reach h root z → h[z]? = some nz → nz.done = true := by
  intro h hr hz
  have hc : Closed h := closed_always _ _
  cases hroot : h[root]? with
  | none =>
    cases hr with
    | refl => rw [hroot] at hz; cases hz
    | step _ _ _ n hn => rw [hroot] at hn; cases hn
  | some nr =>
    refine graph_dispose_transitive h hc root z nr nz hroot ?_ hr hz
    -- the root itself is done: markDone set the flag, settle never clears it
    obtain ⟨a, ha, hext⟩ := (settle_ext (applyRaw (run h0 ops) (.dispose root)).1).get' hroot
    apply hext.done
    simp only [applyRaw, effect, applyEff] at ha
    rw [markDone_get] at ha
    cases hg : (run h0 ops)[root]? with
    | none => rw [hg] at ha; cases ha
    | some b => rw [hg] at ha; simp at ha; rw [← ha]

/-- **late_attach_disposed.** Adding to an already disposed CompositeDisposable disposes the item at once. -/
theorem late_attach_disposed (h : Heap) (c x : Nat) (nc nx : Node)
    (hcn : h[c]? = some nc) (hk : nc.kind = .comp) (hd : nc.done = true)
    (hx : (apply h (.add c x)).1[x]? = some nx) : nx.done = true := by
  have hcl := closed_always h (.add c x)
  have heff : effect h (.add c x) = { upd := some (c, nc.owned ++ [x]) } := by
    simp [effect, hcn, hk]
  have hraw : (applyRaw h (.add c x)).1[c]? = some { nc with owned := nc.owned ++ [x] } := by
    rw [applyRaw, heff, applyEff_get _ _ _ _ hcn]; simp
  obtain ⟨b, hb, hext⟩ := (settle_ext (applyRaw h (.add c x)).1).get hraw
  have hbf : b.fires = true := by
    unfold Node.fires
    have hk' : b.kind = .comp := by rw [hext.kind]; exact hk
    have hd' : b.done = true := hext.done hd
    simp [hk', hd']
  have hmem : x ∈ b.owned := by rw [hext.owned]; simp
  exact hcl.1 c x b nx hb hbf hmem hx

/-- **disposed_forever.** No sequence of calls ever un-disposes a node. -/
theorem disposed_forever (h : Heap) (ops : List Op) (i : Nat) (a : Node) (ha : h[i]? = some a) (hd : a.done = true) :
    ∃ b, (run h ops)[i]? = some b ∧ b.done = true := by
  induction ops generalizing h a with
  | nil => exact ⟨a, ha, hd⟩
  | cons op ops ih =>
    obtain ⟨c, hc, hext⟩ := (settle_ext (applyRaw h op).1).get (applyEff_get h (effect h op) i a ha)
    exact ih (apply h op).1 c (by unfold Pipe.apply; exact hc) (hext.done (by simp [hd]))

/-- **terminal_disposes_root** (link to C01): a terminal notification that reaches the subscriber
disposes the root subscription in the same call, so `pipeline_release` applies from that call on. -/
theorem terminal_disposes_root {α} (raises : Nat → Bool) (s : Ado) (c : ObsCall α) (n : Notif α)
    (hc : c = .error (match n with | .error e => e | _ => "") ∨ c = .completed)
    (hd : (Ado.step raises s c).2.delivered = some n) : (Ado.step raises s c).2.disposes = 1 :=
  (C01.ado_terminal_disposes raises s c n (hc.imp_left fun h => ⟨_, h⟩) hd).1

/-! Non-vacuity: a merge-like plumbing — root composite, two SingleAssignment slots each holding a
source subscription, one attached late, one behind a RefCountDisposable with a dependent. -/
def demoOps : List Op :=
  [.new .comp [], .new .single [], .add 0 1, .new .leaf [], .assign 1 2,      -- 0 group{ 1 sad{ 2 src } }
   .new .leaf [], .new .refcount [3], .add 0 4, .getInner 4]                  -- 0 group{ 4 refcount(3 src) }, dependent 5
example : ((run [] (demoOps ++ [.dispose 0])).map (·.done)) = [true, true, true, false, true, false] := by decide +kernel
example : ((run [] (demoOps ++ [.dispose 0, .dispose 5])).map (·.done)) = [true, true, true, true, true, true] := by decide +kernel
/-- the hypotheses of `pipeline_release` are met by a real path: root composite → slot → source subscription. -/
example : (run [] (demoOps ++ [.dispose 0]))[0]? = some { kind := .comp, done := true, owned := [1, 4] } ∧
    (run [] (demoOps ++ [.dispose 0]))[1]? = some { kind := .single, done := true, owned := [2] } := by decide +kernel

end C02
