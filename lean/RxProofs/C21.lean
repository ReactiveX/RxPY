import RxProofs.Lemmas.SubjThm
import RxProofs.Lemmas.SubjNat
/-!
# C21 — a BehaviorSubject hands its current value to every new subscriber

Model: `RxModel/Subj.lean` with `kind = .behavior` (the machine of C20 plus `value`, updated under the
lock in `_on_next_core` and delivered inside `_subscribe_core`).  Quantification as in C20: every
configuration reachable by any history and any reaction scripts; any initial value (the model is
polymorphic in the element type, so `None`, `0`, `False`, `''` are just elements).

`lastNext tr <|> v` is the *current value*: the value of the last `on_next` the subject accepted, or
the initial value `v`.
-/

namespace C21
open Subj
variable {α : Type}

/-- The `value` field is the current value in every reachable undisposed configuration. -/
theorem value_is_current {cfg : Cfg} {v : Option α} (hv : InitOK cfg v) (hk : cfg.kind = .behavior)
    {st : St α} {ag : List (Subj.Task α)} (h : Reachable cfg v st ag) (hd : st.disposed = false) :
    st.value = (lastNext st.tr <|> v) :=
  (reachable_vinv h).beh hk hd

/-- **behavior_current_first.**  A subscriber arriving (at top level or from inside a callback, also in
the middle of a delivery) while the subject is live is appended to the observers and the *first* thing
it is handed is the current value; from then on it is a member (C20's broadcast theorem, below, applies
to it like to everybody else). -/
theorem behavior_current_first {cfg : Cfg} {v : Option α} (hv : InitOK cfg v) {st : St α} {rest : List (Subj.Task α)}
    (hk : cfg.kind = .behavior) (who : Option Id) (j : Id)
    (h : Reachable cfg v st (.act who (.sub j) :: rest))
    (hs : st.stopped = false) (hd : st.disposed = false) (hj : st.seen j = false) :
    ∃ x, (lastNext st.tr <|> v) = some x ∧
      let r1 := step1 cfg st (.act who (.sub j))
      let r2 := step1 cfg r1.1 (.deliver j (.next x))
      r1.2.1 = [.deliver j (.next x), .finish j (some .inner)] ∧ r1.2.2 = false ∧
      r1.1.observers = st.observers ++ [j] ∧ r1.1.log j = [] ∧
      r2.1.log j = [.next x] ∧ members r2.1.tr = members st.tr ++ [j] ∧ detached j r2.1.tr = false := by
  have hI := (reachable_inv h).1
  have hV := reachable_vinv h
  have hval := hV.beh hk hd
  have hsome : ∃ x, (lastNext st.tr <|> v) = some x := by
    have : v.isSome = true := by simpa [InitOK, hk] using hv
    cases hl : lastNext st.tr with
    | some y => exact ⟨y, by simp⟩
    | none =>
      obtain ⟨y, hy⟩ := Option.isSome_iff_exists.mp this
      exact ⟨y, by simp [hy]⟩
  obtain ⟨x, hx⟩ := hsome
  refine ⟨x, hx, ?_⟩
  rw [hx] at hval
  intro r1 r2
  have hdet : detached j st.tr = false := by rw [← hI.det j]; exact hI.fresh_ado hj
  have hr1 : r1 = ({ st with seen := upd st.seen j true, observers := st.observers ++ [j], tr := .sub j :: st.tr },
      [.deliver j (.next x), .finish j (some .inner)], false) := by
    refine step1_sub ((doSub_live cfg who hj hd hs).trans ?_)
    rw [if_pos hk, hval]; rfl
  have hst1 : r1.1.adoStopped j = false := by rw [hr1]; exact hI.fresh_ado hj
  have hlog1 : r1.1.log j = [] := by rw [hr1]; exact hI.fresh_log hj
  have hr2 : r2 = (callback r1.1 j (.next x), reactions cfg r1.1 j, false) := deliver_next cfg x hst1
  refine ⟨by rw [hr1], by rw [hr1], by rw [hr1], hlog1, ?_, ?_, ?_⟩
  · rw [hr2]; simp [callback, hlog1]
  · rw [hr2, hr1]; simp [callback, members]
  · rw [hr2, hr1]; simp [callback, detached, Notif.isTerminal, hdet]

/-- **behavior_then_like_subject.**  Otherwise a BehaviorSubject broadcasts like a Subject: audience =
the members at the time of the call; an observer reached by the loop is handed the notification iff it
has not been detached meanwhile; `on_next` also makes the value current (`value_is_current`). -/
theorem behavior_then_like_subject {cfg : Cfg} {v : Option α} {st : St α} {ag : List (Subj.Task α)}
    (hk : cfg.kind = .behavior) (h : Reachable cfg v st ag) :
    (∀ n, st.disposed = false → st.stopped = false →
        (emit cfg st n).2 = (members st.tr).map (Subj.Task.deliver · n)) ∧
    (∀ i n,
      (detached i st.tr = true → deliver cfg st i n = (st, [], false)) ∧
      (detached i st.tr = false →
        (deliver cfg st i n).1.tr = .recv i n :: st.tr ∧
        (deliver cfg st i n).1.log i = if userSees cfg i n then st.log i ++ [n] else st.log i) ∧
      (∀ k, k ≠ i → (deliver cfg st i n).1.log k = st.log k)) :=
  ⟨fun n hd hs => emit_audience h (by simp [hk]) n hd hs, fun i n => deliver_turn h i n⟩

/-- **behavior_late_terminal_only.**  A subscriber arriving after termination is handed only the terminal
notification the subject accepted (not the value), and nothing else ever. -/
theorem behavior_late_terminal_only {cfg : Cfg} {v : Option α} (hv : InitOK cfg v) {st : St α} {rest : List (Subj.Task α)}
    (hk : cfg.kind = .behavior) (who : Option Id) (j : Id)
    (h : Reachable cfg v st (.act who (.sub j) :: rest))
    (hs : st.stopped = true) (hd : st.disposed = false) (hj : st.seen j = false)
    (he : cfg.hasErr j = true ∨ st.exception = none) :
    let r1 := step1 cfg st (.act who (.sub j))
    let r2 := step1 cfg r1.1 (.deliver j (termOf st))
    terminated st.tr = some (termOf st) ∧
    r1.2.1 = [.deliver j (termOf st), .finish j (some .noop)] ∧ r1.2.2 = false ∧ r1.1.log j = [] ∧
    r2.1.log j = [termOf st] ∧
    ∀ st' ag', Reach cfg r2.1 (nextAgenda r2 (.finish j (some .noop) :: rest)) st' ag' → st'.log j = [termOf st] :=
  late_terminal (by simp [hk]) who j h hs hd hj he

/-- After `dispose()` a BehaviorSubject behaves as C20's `after_dispose_raises` says. -/
theorem behavior_after_dispose {cfg : Cfg} {st : St α} (hd : st.disposed = true) :
    (∀ n, emit cfg st n = ({ st with raisedNow := some disposedExn }, [])) ∧
    (∀ st' ag' ag, Reach cfg st ag st' ag' → st'.disposed = true) :=
  ⟨emit_disposed cfg hd, fun _ _ _ hr => reach_disposed hr hd⟩

/-- **behavior_natural** (C08 for this subject: no value is special).  Renaming every value of a history (and the
initial value) with an arbitrary function `g` renames the notifications every observer sees and changes nothing
else: same exceptions per call, same exceptions caught by reacting callbacks, same observers.  BehaviorSubject (the initial value is renamed too: `None`, `0`, `False`, `''` included). -/
theorem behavior_natural {β : Type} (cfg : Cfg) (g : α → β) (fuel : Nat) (v : Option α) (calls : List (Call α)) (i : Id) :
    (run cfg fuel (init cfg (v.map g)) (calls.map (Call.map g))).1.log i =
      ((run cfg fuel (init cfg v) calls).1.log i).map (Notif.map g) ∧
    (run cfg fuel (init cfg (v.map g)) (calls.map (Call.map g))).2 = (run cfg fuel (init cfg v) calls).2 ∧
    (run cfg fuel (init cfg (v.map g)) (calls.map (Call.map g))).1.xlog = (run cfg fuel (init cfg v) calls).1.xlog ∧
    (run cfg fuel (init cfg (v.map g)) (calls.map (Call.map g))).1.observers = (run cfg fuel (init cfg v) calls).1.observers :=
  run_natural_log cfg g fuel v calls i

theorem run_reachable (cfg : Cfg) (v : Option α) (fuel : Nat) (calls : List (Call α)) :
    Reachable cfg v (run cfg fuel (init cfg v) calls).1 [] :=
  run_reach fuel calls Reach.init

/-! ### Non-vacuity.  Initial value 0 (falsy); observer 0's first callback (the initial value) subscribes
observer 1 *inside* `_subscribe_core` of 0; observer 2 subscribes from inside the delivery of `5` and
gets `5` exactly once (as current value, not from the running broadcast); 3 arrives after completion. -/
def exCfg : Cfg :=
  { kind := .behavior
    hasErr := fun _ => true
    react := fun i k => if i = 0 ∧ k = 0 then [.sub 1] else if i = 0 ∧ k = 1 then [.sub 2, .unsub 1] else [] }

def exRun := run exCfg 100 (init exCfg (some 0)) [.sub 0, .next 5, .next 6, .completed, .sub 3]

example : exRun.1.log 0 = [.next 0, .next 5, .next 6, .completed] := by decide
example : exRun.1.log 1 = [.next 0] := by decide       -- unsubscribed by 0 during the delivery of 5, before its turn
example : exRun.1.log 2 = [.next 5, .next 6, .completed] := by decide
example : exRun.1.log 3 = [.completed] := by decide
example : exRun.1.oof = false := by decide

end C21
