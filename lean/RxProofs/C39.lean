import RxGen.Fluent
import RxProofs.Lemmas.StructFluent
/-!
# C39 — fluent operator methods equal their piped operators

`RxGen.Fluent.table` is regenerated from `reactivex/observable/mixins/*.py` and
`reactivex/operators/__init__.py` on every run.  `fluent_forwarding_ok` re-checks the row check
on it in the kernel; `fluent_eq_pipe` is the (table-independent) soundness theorem of that check;
`fluent_eq_pipe_table` is their combination: the statement about the code that exists.
-/

namespace C39
open Struct.Fluent

/-- **fluent_forwarding_ok.** Every public mixin method of the current tree forwards to the operator
of the same name (or its documented alias `do→do_action`, `to_list→to_iterable`), on `self`,
with every argument going to the operator parameter at the same position / of the same keyword
name, arguments dropped only under a guard `p is d` where `d` is the operator's own default,
and equal defaults on both sides; no method is shadowed along Observable's MRO. -/
theorem fluent_forwarding_ok : tableOk RxGen.Fluent.table = true := by
  rw [tableOk_skip]; decide +kernel

/-- **fluent_eq_pipe.** Soundness of the row check, for *any* table: if row `m` passes, then for
every value type `V`, every interpretation `const` of default expressions and every assignment
`env` of actual arguments to `m`'s parameters, the operator application that the body of `m`
builds and pipes onto `self` is the operator application obtained by calling
`ops.<aliasOf m.name>` directly with the same arguments (whenever both calls are valid calls: that
they are for a passing row is shown by the examples below, by no theorem). -/
theorem fluent_eq_pipe (t : Table) (m : Method) (hok : ok t m = true)
    {V : Type} [DecidableEq V] (const : String → V) (env : String → Option V)
    (sig : OpSig) (hsig : t.ops.find? (fun s => s.name == aliasOf m.name) = some sig)
    (a a' : App V) (hf : fluentApp const t m env = some a)
    (hp : pipedApp const sig m.params env = some a') : a = a' := by
  obtain ⟨m', hpe, hd, hf'⟩ := ok_inv const t m hok env a hf
  exact direct_sound const t.ops (aliasOf m.name) m.name m' hd sig hsig env a a' hf' (hpe ▸ hp)

/-- **fluent_op_name.** A passing row applies the operator named like the method (or its alias). -/
theorem fluent_op_name (t : Table) (m : Method) (hok : ok t m = true)
    {V : Type} [DecidableEq V] (const : String → V) (env : String → Option V)
    (a : App V) (hf : fluentApp const t m env = some a) : a.op = aliasOf m.name := by
  obtain ⟨m', _, hd, hf'⟩ := ok_inv const t m hok env a hf
  obtain ⟨_, _, _, _, _, _, _, _, rfl⟩ := direct_inv const t.ops (aliasOf m.name) m.name m' hd env a hf'
  rfl

/-- **fluent_eq_pipe_table.** The statement about the current tree: for every fluent method of
`Observable`, every value type and every argument environment, the fluent call pipes onto `self`
exactly the operator application `ops.NAME(same arguments)`. -/
theorem fluent_eq_pipe_table (m : Method) (hm : m ∈ RxGen.Fluent.table.methods)
    {V : Type} [DecidableEq V] (const : String → V) (env : String → Option V)
    (a : App V) (hf : fluentApp const RxGen.Fluent.table m env = some a) :
    a.op = aliasOf m.name ∧
    ∀ sig, RxGen.Fluent.table.ops.find? (fun s => s.name == aliasOf m.name) = some sig →
      ∀ a', pipedApp const sig m.params env = some a' → a = a' := by
  have hok := tableOk_mem fluent_forwarding_ok hm
  exact ⟨fluent_op_name _ m hok const env a hf,
    fun sig hsig a' hp => fluent_eq_pipe _ m hok const env sig hsig a a' hf hp⟩

/-! Non-vacuity: concrete calls on concrete rows of the current table evaluate to applications
(so the hypotheses `fluentApp … = some a`, `pipedApp … = some a'` are satisfiable), including a
guarded method in both branches, a keyword-only parameter and a delegating alias. -/
section examples
private def envOf (l : List (String × String)) : String → Option String := fun n => l.lookup n

private def methodNamed (n : String) : Option Method := RxGen.Fluent.table.methods.find? (fun m => m.name == n)
private def sigNamed (n : String) : Option OpSig := RxGen.Fluent.table.ops.find? (fun s => s.name == n)

example : (methodNamed "take_while").bind (fun m => fluentApp id RxGen.Fluent.table m (envOf [("predicate", "$p")]))
    = some ⟨"take_while", [("predicate", "$p"), ("inclusive", "False")]⟩ := by decide +kernel
example : (methodNamed "publish").bind (fun m => fluentApp id RxGen.Fluent.table m (envOf []))
    = some ⟨"publish", [("mapper", "None")]⟩ := by decide +kernel
example : (methodNamed "publish").bind (fun m => fluentApp id RxGen.Fluent.table m (envOf [("mapper", "$f")]))
    = some ⟨"publish", [("mapper", "$f")]⟩ := by decide +kernel
example : (methodNamed "do").bind (fun m => fluentApp id RxGen.Fluent.table m (envOf [("on_error", "$h")]))
    = some ⟨"do_action", [("on_next", "None"), ("on_error", "$h"), ("on_completed", "None")]⟩ := by decide +kernel
example : (methodNamed "take_while").bind (fun m => (sigNamed "take_while").bind fun s =>
      pipedApp id s m.params (envOf [("predicate", "$p")]))
    = some ⟨"take_while", [("predicate", "$p"), ("inclusive", "False")]⟩ := by decide +kernel
end examples

/-! The check is not vacuous either: it rejects a method that forwards to another operator, swaps
two arguments, or changes a default. -/
section negative
private def opsT : List OpSig :=
  [⟨"take_while", [⟨"predicate", .pos, none⟩, ⟨"inclusive", .pos, some "False"⟩]⟩,
   ⟨"skip_while", [⟨"predicate", .pos, none⟩]⟩]
private def mk (br : Call) (dflt : String) : Method :=
  ⟨"take_while", "X", [⟨"predicate", .pos, none⟩, ⟨"inclusive", .pos, some dflt⟩], [⟨[], br⟩], true⟩
private def tT (m : Method) : Table := ⟨[m], opsT, [], []⟩

example : let m := mk ⟨.op "take_while", [.param "predicate", .param "inclusive"], []⟩ "False"
    ok (tT m) m = true := by decide +kernel
example : let m := mk ⟨.op "skip_while", [.param "predicate"], []⟩ "False"
    ok (tT m) m = false := by decide +kernel
example : let m := mk ⟨.op "take_while", [.param "inclusive", .param "predicate"], []⟩ "False"
    ok (tT m) m = false := by decide +kernel
example : let m := mk ⟨.op "take_while", [.param "predicate", .param "inclusive"], []⟩ "True"
    ok (tT m) m = false := by decide +kernel
example : let m := mk ⟨.op "take_while", [.param "predicate"], []⟩ "False"
    ok (tT m) m = false := by decide +kernel
end negative

end C39
