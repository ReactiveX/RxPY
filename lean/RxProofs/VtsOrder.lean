import RxProofs.C28
/-!
# VtsOrder — the virtual-time scheduler's order rule, packaged for other families (`Lemmas/TimedVts`)

Not a property file: re-statements of C28 results about the order of execution.

**The rule.**  On `VirtualTimeScheduler`/`TestScheduler`/`HistoricalScheduler`, when no action schedules before
the clock (`schedule`, `schedule_relative(t ≥ 0)` only; absolute times are fine for the calls made before the
run), the actions executed by `start()`/`advance_to()` are run in strictly increasing order of
`(due time, scheduling number)`, the scheduling number being the position of the `schedule*` call among all
such calls on that scheduler (`St.nsched` at the moment of the call).
-/

namespace VtsOrder
open Vts C28

/-- `(due, seq)` strict lexicographic order on executed entries -/
def Before (a b : Ran) : Prop := a.due < b.due ∨ (a.due = b.due ∧ a.seq < b.seq)

/-- **run_order.** The whole executed log of `start()` (`tgt = none`) / `advance_to(T)` (`tgt = some T`) is
strictly sorted by `(due, scheduling number)`.  `SortInv s` holds e.g. for any scheduler on which nothing
has run yet, after any top-level scheduling calls (`C28.sortInv_fresh`), and is preserved by runs. -/
theorem run_order (cfg : Cfg) (hb : 0 ≤ cfg.bump) (tgt : Option Int) (s : St) (h : SortInv s) (hq : QAll nonPast s) :
    (loop cfg tgt s).1.log.Pairwise Before :=
  sorted_if_no_past_scheduling cfg hb tgt s h hq

/-- … and the invariant survives the run, so the next run (after more scheduling that is not in the past of
the clock) continues the same sorted log. -/
theorem run_order_inv (cfg : Cfg) (hb : 0 ≤ cfg.bump) (tgt : Option Int) (s : St) (h : SortInv s) (hq : QAll nonPast s) :
    SortInv (loop cfg tgt s).1 ∧ QAll nonPast (loop cfg tgt s).1 :=
  IterInv.loop (sortInv_iter cfg hb tgt) s h hq

/-- **before_rule.** The tie rule in the form used by the timed operators: `a` is before `b` in `(due, seq)` order
iff — `a` scheduled first: `a.due ≤ b.due`; otherwise: `a.due < b.due`.  (Stated for items with different scheduling
numbers; the proof does not use that.) -/
theorem before_rule (a b : Ran) (_hne : a.seq ≠ b.seq) :
    Before a b ↔ (if a.seq < b.seq then a.due ≤ b.due else a.due < b.due) := by
  simp only [Before]
  split <;> omega

/-- for entries of a sorted log, the one that comes first is `Before` the other; with `before_rule` this
decides every tie -/
theorem earlier_in_log_before {l : List Ran} (h : l.Pairwise Before) (l1 l2 l3 : List Ran) (a b : Ran)
    (hl : l = l1 ++ a :: l2 ++ b :: l3) : Before a b := by
  subst hl
  exact (List.pairwise_append.1 h).2.2 a (by simp) b (by simp)

/-- **scheduled_gets_last_number.** A `schedule*` call (from inside an action or from outside) gives the new
item the scheduling number `s.nsched`, larger than that of every pending item and of every executed one. -/
theorem scheduled_gets_last_number (s : St) (h : SortInv s) (id : Nat) (due : Int) (body : Act) (w : Bool) :
    (∀ e ∈ s.queue.items, e.1.seq < s.nsched) ∧ (∀ r ∈ s.log, r.seq < s.nsched) ∧
    (s.enqueue id due body w).queue.items = s.queue.items ++ [({ id, due, body, wrapped := w, cancelled := false, seq := s.nsched }, s.queue.count)] :=
  ⟨h.queueBound, fun r hr => (h.logBound r hr).2, rfl⟩

/-- **scheduled_inside_runs_after_queued.** Hence, in `(due, seq)` order (the order in which they will run,
`run_order`), an item scheduled now for due time `d` comes after every pending item due at or before `d` —
scheduled at the current clock it runs after everything already queued for the current instant.  (The second clause,
about pending items due later than `d`, holds by the due times alone.) -/
theorem scheduled_inside_runs_after_queued (s : St) (h : SortInv s) (d : Int) :
    (∀ e ∈ s.queue.items, e.1.due ≤ d → e.1.due < d ∨ (e.1.due = d ∧ e.1.seq < s.nsched)) ∧
    (∀ e ∈ s.queue.items, d < e.1.due → d < e.1.due ∨ (d = e.1.due ∧ s.nsched < e.1.seq)) := by
  refine ⟨fun e he hle => ?_, fun e _ hlt => Or.inl hlt⟩
  have := h.queueBound e he
  omega

/-! Non-vacuity: two items due at 5 (a timer armed first, id 1; a source message scheduled second, id 2) and a
child scheduled at the current clock from inside the first: order 1, 2, then the child 3. -/
private def demo : St :=
  (({ clock := 0 } : St).enqueue 1 5 (.sched .handed .imm 0 3 .done .done) false).enqueue 2 5 .done false

example : (start {} demo).1.log.map (fun r => (r.id, r.due, r.seq)) = [(1, 5, 0), (2, 5, 1), (3, 5, 2)] := by
  rw [start_eq_fuel {} 20 demo (by decide)]
  decide +kernel

end VtsOrder
