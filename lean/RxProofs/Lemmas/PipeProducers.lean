import RxModel.PipeProducers
namespace Pipe

theorem fromIter_disposed {α} (dd : Nat → Bool) (i : Nat) (xs : List α) : fromIter dd i true xs = ([], 0) := by
  cases xs <;> rfl

theorem fromIterable_polls {α} (dd : Nat → Bool) (xs : List α) (k i : Nat)
    (hk : k < xs.length) (hfirst : ∀ j, j < k → dd (i + j) = false) (hd : dd (i + k) = true) :
    fromIter dd i false xs = ((xs.take (k + 1)).map Notif.next, k + 1) := by
  induction xs generalizing k i with
  | nil => simp at hk
  | cons x xs ih =>
    cases k with
    | zero =>
      simp only [Nat.add_zero] at hd
      simp [fromIter, hd, fromIter_disposed]
    | succ k =>
      have h0 : dd i = false := by simpa using hfirst 0 (by omega)
      have := ih k (i + 1) (by simpa using hk)
        (fun j hj => by have := hfirst (j + 1) (by omega); rwa [show i + 1 + j = i + (j + 1) by omega])
        (by rwa [show i + 1 + k = i + (k + 1) by omega])
      simp [fromIter, h0, this]

theorem fromIterable_all {α} (dd : Nat → Bool) (xs : List α) (i : Nat) (h : ∀ j, j < xs.length → dd (i + j) = false) :
    fromIter dd i false xs = (xs.map Notif.next ++ [.completed], xs.length + 1) := by
  induction xs generalizing i with
  | nil => rfl
  | cons x xs ih =>
    have h0 : dd i = false := by simpa using h 0 (by simp)
    have := ih (i + 1) (fun j hj => by have := h (j + 1) (by simp; omega); rwa [show i + 1 + j = i + (j + 1) by omega])
    simp [fromIter, h0, this]

end Pipe
