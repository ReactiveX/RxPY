import RxProofs.VtsOrder
import RxProofs.Lemmas.TimedBase
/-!
Link between the Timed family's queue (`Timed.insertEv`, `Timed.timerBefore`) and the virtual-time scheduler model of
C28 (`RxModel/Vts.lean`, exported as `VtsOrder`).
-/

namespace Timed

/-- `VtsOrder.Before` between an operator's timer and a source message is `timerBefore`, with `timerFirst` = "the timer
has the smaller scheduling number" -/
theorem timerBefore_is_vts_rule (timer src : Vts.Ran) (hne : timer.seq ≠ src.seq) (due t : Nat)
    (hd : timer.due = (due : Int)) (ht : src.due = (t : Int)) :
    VtsOrder.Before timer src ↔ timerBefore (decide (timer.seq < src.seq)) due t = true := by
  rw [VtsOrder.before_rule timer src hne, hd, ht]
  by_cases h : timer.seq < src.seq <;> simp [timerBefore, h] <;> omega

/-- where `insertEv` puts a newly scheduled item: behind exactly the queued items that are not due later — every queued
item has a smaller scheduling number, so this is the `(due, seq)` position -/
theorem insertEv_position {β} (e : Nat × β) (q : List (Nat × β)) :
    ∃ pre post, insertEv e q = pre ++ e :: post ∧ q = pre ++ post ∧ (∀ x ∈ pre, x.1 ≤ e.1) ∧
      (∀ x, post.head? = some x → e.1 < x.1) := by
  refine ⟨q.takeWhile (fun x => decide ((x.1 : Int) ≤ e.1)), q.dropWhile (fun x => decide ((x.1 : Int) ≤ e.1)), ?_,
    List.takeWhile_append_dropWhile.symm, fun x hx => ?_, fun x hx => ?_⟩
  · rw [insertEv_eq_insertDue, List.insertDue_eq]
  · have := List.all_eq_true.1 List.all_takeWhile x hx
    simp only [decide_eq_true_eq] at this; omega
  · have := List.head?_dropWhile_not (fun x : Nat × β => decide ((x.1 : Int) ≤ e.1)) q
    rw [hx] at this
    simp only [Int.ofNat_le, decide_eq_false_iff_not, Nat.not_le] at this; exact this

end Timed
