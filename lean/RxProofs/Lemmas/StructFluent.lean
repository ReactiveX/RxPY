import RxModel.StructFluent
import RxProofs.Lemmas.Basics
/-!
# Soundness of the fluent-table row check (`Struct.Fluent.ok`)

For a row that passes `directOk`, the operator application built by the method body (`fluentDirect`) and the one
built by calling the operator with the same arguments (`pipedApp`) are equal whenever both calls are valid, for every
value type, interpretation of defaults and argument environment; `ok_inv` reduces a row passing `ok` to such a row.
-/

namespace Struct.Fluent

theorem paramByName_of_mem (ps : List Param) (hnd : (ps.map (·.name)).Nodup) (p : Param) (hp : p ∈ ps) :
    paramByName ps p.name = some p := by
  induction ps with
  | nil => cases hp
  | cons a as ih =>
    simp only [List.map_cons, List.nodup_cons] at hnd
    simp only [paramByName, List.find?_cons]
    rcases List.mem_cons.mp hp with h | h
    · subst h; simp
    · have hne : a.name ≠ p.name := by
        intro heq
        apply hnd.1
        rw [heq]
        exact List.mem_map_of_mem h
      have : (a.name == p.name) = false := by simpa using hne
      rw [this]
      exact ih hnd.2 h

theorem corrInv_mem (sig mps : List Param) (q p' : Param) (h : corrInv sig mps q = some p') :
    p' ∈ mps ∧ (q.kind = .pos → p'.kind = .pos) ∧ (q.kind = .kwonly → p'.kind = .kwonly) ∧
      (q.kind = .vararg → p'.kind = .vararg) := by
  unfold corrInv at h
  cases hk : q.kind <;> simp only [hk] at h
  · cases hi : posIndex sig q.name with
    | none => simp [hi] at h
    | some i =>
      simp only [hi, Option.bind_some] at h
      have hm : p' ∈ posParams mps := List.mem_of_getElem? h
      simp only [posParams, List.mem_filter] at hm
      refine ⟨hm.1, fun _ => ?_, by simp, by simp⟩
      simpa using hm.2
  · have hm := List.find?_some h
    have hmem := List.mem_of_find?_eq_some h
    simp only [Bool.and_eq_true] at hm
    refine ⟨hmem, by simp, fun _ => ?_, by simp⟩
    simpa using hm.1
  · have hm := List.find?_some h
    have hmem := List.mem_of_find?_eq_some h
    refine ⟨hmem, by simp, by simp, fun _ => ?_⟩
    simpa using hm
  · have hmem := List.mem_of_find?_eq_some h
    exact ⟨hmem, by simp, by simp, by simp⟩

section
variable {V : Type} [DecidableEq V] (const : String → V)

omit [DecidableEq V] in
theorem resolveName_of_mem (mps : List Param) (hnd : (mps.map (·.name)).Nodup) (env : String → Option V)
    (p : Param) (hp : p ∈ mps) : resolveName const mps env p.name = p.resolve const env := by
  simp [resolveName, paramByName_of_mem mps hnd p hp]

omit [DecidableEq V] in
theorem Param.default_plain (p : Param) (h : p.kind = .pos ∨ p.kind = .kwonly) :
    p.default const = p.dflt.map const := by
  rcases h with h | h <;> simp [Param.default, h]

/-- the per-parameter heart of the argument: under `paramOk`, with the guards of the branch
holding, the value the body passes for operator parameter `q` is the value `q` gets when the
operator is called with the same arguments.  If the caller gave the corresponding mixin parameter an
actual, both sides are it (a dropped argument is pinned to it by its guard); if not, both are defaults. -/
theorem param_agree (sig mps : List Param) (hnd : (mps.map (·.name)).Nodup) (env : String → Option V)
    (b : Branch) (hg : b.guards.all (guardHolds const mps env) = true)
    (q : Param) (hok : paramOk sig mps b q = true) (x y : String × V)
    (hx : bindParam const sig mps env b.call q = some x)
    (hy : pipedParam const sig mps env q = some y) : x = y := by
  unfold paramOk at hok
  unfold bindParam at hx
  unfold pipedParam at hy
  cases hc : corrInv sig mps q with
  | none =>
    simp only [hc, Option.bind_none] at hy
    cases harg : argFor sig b.call q with
    | some a => cases a <;> simp [harg, hc] at hok
    | none => simp only [harg] at hx; exact Option.some.inj (hx.symm.trans hy)
  | some p' =>
    obtain ⟨hpm, hkp, hkk, hkv⟩ := corrInv_mem sig mps q p' hc
    have hres := resolveName_of_mem const mps hnd env p' hpm
    simp only [hc] at hok
    simp only [hc, Option.bind_some] at hy
    cases harg : argFor sig b.call q with
    | none =>
      simp only [harg] at hok hx
      cases he : env p'.name with
      | none => simp only [he] at hy; exact Option.some.inj (hx.symm.trans hy)
      | some v =>
        -- dropped under the guard `p' is d`, `d` the operator's default
        have hq : ∃ d, q.dflt = some d ∧ (q.kind = .pos ∨ q.kind = .kwonly) ∧
            b.guards.contains (Guard.isVal p'.name d) = true := by
          cases hk : q.kind <;> cases hd : q.dflt <;> simp [hk, hd] at hok
          · exact ⟨_, rfl, Or.inl rfl, by simpa using hok⟩
          · exact ⟨_, rfl, Or.inr rfl, by simpa using hok⟩
        obtain ⟨d, hd, hk, hmem⟩ := hq
        have hgd := List.all_eq_true.mp hg (Guard.isVal p'.name d) (by simpa using hmem)
        simp only [guardHolds, hres, Param.resolve, he, beq_iff_eq, Option.some.injEq] at hgd
        simp only [Param.default_plain const q hk, hd, Option.map_some, Option.some.injEq] at hx
        simp only [he, Option.some.injEq] at hy
        rw [← hx, ← hy, hgd]
    | some a =>
      simp only [harg] at hok hx
      -- what is passed is `p'` itself, as `p'` or `*p'`
      have hav : evalArg const mps env a = p'.resolve const env ∧
          (q.kind = .vararg ∧ p'.kind = .vararg ∨
            (q.kind = .pos ∨ q.kind = .kwonly) ∧ (p'.kind = .pos ∨ p'.kind = .kwonly) ∧
              defaultsCompat p' q = true) := by
        cases a with
        | other s => simp at hok
        | param p =>
          simp only [Bool.and_eq_true, beq_iff_eq, bne_iff_ne, ne_eq] at hok
          obtain ⟨⟨⟨rfl, hnv⟩, hnk⟩, hdc⟩ := hok
          have hkq : q.kind = .pos ∨ q.kind = .kwonly := by cases hk : q.kind <;> simp_all
          exact ⟨hres, Or.inr ⟨hkq, hkq.imp hkp hkk, hdc⟩⟩
        | star p =>
          simp only [Bool.and_eq_true, beq_iff_eq] at hok
          obtain ⟨rfl, hqv⟩ := hok
          exact ⟨hres, Or.inl ⟨hqv, hkv hqv⟩⟩
      rw [hav.1] at hx
      cases he : env p'.name with
      | some v =>
        simp only [Param.resolve, he, Option.map_some, Option.some.injEq] at hx
        simp only [he, Option.some.injEq] at hy
        rw [← hx, ← hy]
      | none =>
        simp only [Param.resolve, he] at hx
        simp only [he] at hy
        rcases hav.2 with ⟨hqv, hpv⟩ | ⟨hkq, hkp', hdc⟩
        · simp only [Param.default, hpv, Option.map_some, Option.some.injEq] at hx
          simp only [Param.default, hqv, Option.map_some, Option.some.injEq] at hy
          rw [← hx, ← hy]
        · rw [Param.default_plain const p' hkp'] at hx
          rw [Param.default_plain const q hkq] at hy
          cases hd1 : p'.dflt <;> cases hd2 : q.dflt <;> simp [hd1, hd2] at hx hy
          simp only [defaultsCompat, hd1, hd2, beq_iff_eq] at hdc
          rw [← hx, ← hy, hdc]

/-- Soundness reads three clauses of `directOk`: distinct method parameter names, the branch target, and
`paramOk` for every operator parameter.  The others make the table check stricter; definedness of `fluentApp` /
`pipedApp` for a passing row would rest on them, and no theorem states it. -/
theorem direct_inv (ops : List OpSig) (opName mname : String) (m : Method)
    (hok : directOk ops opName mname m = true) (env : String → Option V) (a : App V)
    (hf : fluentDirect const ops m env = some a) :
    ∃ sig b args, ops.find? (fun s => s.name == opName) = some sig ∧ (m.params.map (·.name)).Nodup ∧
      b.guards.all (guardHolds const m.params env) = true ∧
      sig.params.all (paramOk sig.params m.params b) = true ∧
      sig.params.mapM (bindParam const sig.params m.params env b.call) = some args ∧ a = ⟨opName, args⟩ := by
  unfold directOk at hok
  cases hsig : ops.find? (fun s => s.name == opName) with
  | none => simp [hsig] at hok
  | some sig =>
    simp only [hsig, Bool.and_eq_true] at hok
    obtain ⟨⟨_recvSelf, hnd⟩, ⟨⟨⟨⟨_sigDistinct, hbr⟩, _exhaustive⟩, _corrTotal⟩, _lenient⟩⟩ := hok
    have hsn : sig.name = opName := by simpa using List.find?_some hsig
    unfold fluentDirect at hf
    split at hf
    case isFalse => cases hf
    case isTrue hc =>
      cases hsel : selectBranch const m.params env m.branches with
      | none => simp [hsel] at hf
      | some b =>
        simp only [hsel] at hf
        have hbok := List.all_eq_true.mp hbr b (List.mem_of_find?_eq_some hsel)
        unfold branchOk at hbok
        simp only [Bool.and_eq_true, beq_iff_eq] at hbok
        obtain ⟨⟨⟨htgt, _shape⟩, _guardKnown⟩, hpar⟩ := hbok
        rw [htgt] at hf
        simp only [hsn, hsig] at hf
        by_cases hshape : callShapeOk sig.params b.call = true
        case neg => simp [applyCall, hshape] at hf
        case pos =>
          simp only [applyCall, hshape, if_true] at hf
          cases hargs : sig.params.mapM (bindParam const sig.params m.params env b.call) with
          | none => simp [hargs] at hf
          | some args =>
            simp only [hargs, Option.map_some, Option.some.injEq] at hf
            exact ⟨sig, b, args, rfl, by simpa [namesDistinct] using hnd,
              List.find?_some (p := fun (b : Branch) => b.guards.all (guardHolds const m.params env)) hsel,
              hpar, hargs, hf.symm⟩

theorem direct_sound (ops : List OpSig) (opName mname : String) (m : Method)
    (hok : directOk ops opName mname m = true) (sig : OpSig)
    (hsig : ops.find? (fun s => s.name == opName) = some sig)
    (env : String → Option V) (a a' : App V)
    (hf : fluentDirect const ops m env = some a)
    (hp : pipedApp const sig m.params env = some a') : a = a' := by
  obtain ⟨sig', b, args, hsig', hnd, hbg, hpar, hargs, rfl⟩ := direct_inv const ops opName mname m hok env a hf
  cases hsig.symm.trans hsig'
  have hsn : sig.name = opName := by simpa using List.find?_some hsig
  unfold pipedApp at hp
  split at hp
  case isFalse => cases hp
  case isTrue =>
    cases hargs' : sig.params.mapM (pipedParam const sig.params m.params env) with
    | none => simp [hargs'] at hp
    | some args' =>
      simp only [hargs', Option.map_some, Option.some.injEq] at hp
      rw [← hp, hsn, List.mapM_option_agree _ _ sig.params args args' hargs hargs' (fun q hq x y hx hy =>
        param_agree const sig.params m.params hnd env b hbg q (List.all_eq_true.mp hpar q hq) x y hx hy)]

theorem ok_inv (t : Table) (m : Method) (hok : ok t m = true) (env : String → Option V) (a : App V)
    (hf : fluentApp const t m env = some a) :
    ∃ m', m'.params = m.params ∧ directOk t.ops (aliasOf m.name) m.name m' = true ∧
      fluentDirect const t.ops m' env = some a := by
  unfold fluentApp at hf
  by_cases hc : (m.recvSelf && m.params.all (fun p => (p.resolve const env).isSome)) = true
  case neg => simp [hc] at hf
  case pos =>
    simp only [hc, if_true] at hf
    cases hsel : selectBranch const m.params env m.branches with
    | none => simp [hsel] at hf
    | some b =>
      simp only [hsel] at hf
      have hbmem : b ∈ m.branches := List.mem_of_find?_eq_some hsel
      unfold ok at hok
      split at hok
      · -- delegation `self.n(...)`
        rename_i n pos kw hbr
        rw [hbr] at hbmem
        simp only [List.mem_singleton] at hbmem
        subst hbmem
        simp only at hf
        cases hfm : t.methods.find? (fun m' => m'.name == n) with
        | none => simp [hfm] at hf
        | some m' =>
          simp only [hfm] at hf hok
          simp only [Bool.and_eq_true] at hok
          obtain ⟨_recvSelfAlias, ⟨⟨⟨hpar, _identityArgs⟩, _noSelfBranch⟩, hd⟩⟩ := hok
          split at hf
          case isFalse => cases hf
          case isTrue => exact ⟨m', by simpa using hpar, hd, hf⟩
      · -- direct `ops.NAME(...)`
        simp only [Bool.and_eq_true, Bool.not_eq_true'] at hok
        obtain ⟨hns, hd⟩ := hok
        have hnb : isSelfBranch b = false := by simpa using List.any_eq_false.mp hns b hbmem
        cases htgt : b.call.target with
        | op n' =>
          simp only [htgt] at hf
          exact ⟨m, rfl, hd, hf⟩
        | self n' => simp [isSelfBranch, htgt] at hnb
        | unknown s => simp [htgt] at hf

end

theorem tableOk_mem {t : Table} (h : tableOk t = true) {m : Method} (hm : m ∈ t.methods) : ok t m = true := by
  unfold tableOk at h
  simp only [Bool.and_eq_true] at h
  exact List.all_eq_true.mp h.1.1 m hm

/-! The kernel compares strings by encoding both: the table is evaluated with the operator lookup of `ok`
restricted to signatures whose name has the right byte size, which changes nothing (`directOk_skip`). -/

def sameSize (n : String) (s : OpSig) : Bool := s.name.utf8ByteSize == n.utf8ByteSize

def skipOps (t : Table) (n : String) : Table := { t with ops := t.ops.filter (sameSize n) }

theorem directOk_skip (ops : List OpSig) (opName mname : String) (m : Method) :
    directOk (ops.filter (sameSize opName)) opName mname m = directOk ops opName mname m := by
  have hq : (fun s : OpSig => decide (sameSize opName s = true ∧ (s.name == opName) = true)) =
      fun s => s.name == opName := by
    funext s
    by_cases h : s.name = opName <;> simp [sameSize, h]
  unfold directOk
  rw [List.find?_filter, hq]

theorem tableOk_skip (t : Table) :
    tableOk t = (t.methods.all (fun m => ok (skipOps t (aliasOf m.name)) m) && t.shadowed.isEmpty &&
      t.notInherited.isEmpty) := by
  unfold tableOk ok skipOps
  simp only [directOk_skip]

end Struct.Fluent
