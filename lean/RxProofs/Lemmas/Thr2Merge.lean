import RxProofs.Lemmas.Thr2Final
import RxModel.Thr2Merge
/-! # Lemmas for C43 — `merge_all`: its programs have both shapes, guarded by "the merge is over" -/

namespace Thr2

variable {α : Type}

/-- "the merge is over": the outer completed and no inner subscription is left in the group -/
def mDone (s : MS) : Prop := s.oc = true ∧ s.live = []

theorem mDone_inactive (s : MS) (h : mDone s) (k : Nat) : s.active k = false := by
  simp [MS.active, h.2]

theorem hq_innerHandler (k : Nat) (n : Notif α) : HQ mDone (innerHandler k n) := by
  cases n with
  | next v =>
    refine .step (fun s hs => ⟨by simp [mDone_inactive s hs k], hs⟩) (fun _ => .done)
  | error e | completed =>
    refine .step (fun s hs => ⟨by simp [mDone_inactive s hs k], by simpa [mDone_inactive s hs k] using hs⟩) (fun _ => .done)

theorem em_innerHandler (k : Nat) (n : Notif α) : EM mDone (.completed : Notif α) (innerHandler k n) := by
  cases n with
  | next v | error e =>
    refine .step (fun s h => ?_) (fun _ => .done)
    by_cases ha : s.active k <;> simp [ha] at h
  | completed =>
    refine .step (fun s h => ?_) (fun _ => .done)
    by_cases hc : (s.active k && s.oc && (s.live.erase k).isEmpty) = true
    · simp only [Bool.and_eq_true] at hc
      obtain ⟨⟨ha, hoc⟩, hemp⟩ := hc
      simp only [ha, if_true]
      exact ⟨hoc, by simpa using hemp⟩
    · simp [hc] at h

theorem snap_mDone (k : Nat) (n : Notif α) (s : MS) (h : mDone s) : mDone (snap k n s) := by
  unfold snap
  split
  · exact h
  · cases n <;> simp only <;> (try split) <;> exact ⟨h.1, h.2⟩

theorem mshape_innerProg (k : Nat) (ns : List (Notif α)) : Shape mDone (.completed : Notif α) (innerProg k ns) := by
  induction ns with
  | nil => exact .halt
  | cons n ns ih =>
    refine .free (snap_mDone k n) fun s => ?_
    split
    · exact ih
    · split
      · exact .crit (hq_innerHandler k n) (em_innerHandler k n) ih
      · exact ih

theorem mshape_outerProg (es : List OEv) : Shape mDone (.completed : Notif α) (outerProg es) := by
  induction es with
  | nil => exact .halt
  | cons e es ih =>
    cases e with
    | inner k =>
      refine .free (fun s hs => ?_) fun s => ?_
      · have : s.closed = true := by simp [MS.closed, hs.1]
        simpa [mAdd, this] using hs
      · split
        · exact ih
        · split
          · exact .crit (hq_innerHandler k _) (em_innerHandler k _) ih
          · exact ih
    | err e =>
      refine .crit (.step (fun s hs => ⟨by simp [MS.closed, hs.1], hs.1, hs.2⟩) fun _ => .done)
        (.step (fun s h => ?_) fun _ => .done) ih
      by_cases hc : s.closed <;> simp [hc] at h
    | comp =>
      refine .crit (.step (fun s hs => ⟨by simp [MS.closed, hs.1], ?_⟩) fun _ => .done)
        (.step (fun s h => ?_) fun _ => .done) ih
      · have : s.closed = true := by simp [MS.closed, hs.1]
        simpa [this] using hs
      · by_cases hc : s.closed = true
        · simp [hc] at h
        · by_cases hl : s.live.isEmpty = true
          · simp only [hc]
            exact ⟨rfl, by simpa using hl⟩
          · simp [hc, hl] at h

theorem mshape_mergeProgs (outer : List OEv) (inners : Nat → List (Notif α)) :
    ∀ i, Shape mDone (.completed : Notif α) (mergeProgs outer inners i)
  | 0 => mshape_outerProg outer
  | k + 1 => mshape_innerProg k (inners k)

end Thr2
