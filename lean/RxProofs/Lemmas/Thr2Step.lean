import RxModel.Thr2Lock
import RxProofs.Lemmas.Thr2Reach
/-! # Lemmas for C43 — the transitions of `Thr2.step` as a relation: over all fields of the system (`Step`), and for the
program text alone (`Move`) -/

namespace Thr2

variable {σ α : Type}

theorem runSched_inv (P : Sys σ α → Prop)
    (hstep : ∀ S S' i, P S → step S i = some S' → P S') :
    ∀ (sch : List Nat) (S : Sys σ α), P S → P (runSched S sch) :=
  Thr2Reach.run_invariant (run := runSched) (fun _ => rfl) (fun _ _ _ => rfl) hstep

theorem forall_upd_of_ne {β : Type} {P : β → Prop} {f : Nat → β} {i : Nat} (h : ∀ j, j ≠ i → P (f j)) {v : β}
    (hv : P v) : ∀ j, P (upd f i v j) := by
  intro j
  by_cases hji : j = i
  · subst hji; simpa using hv
  · rw [upd_other _ _ _ _ hji]; exact h j hji

theorem forall_upd {β : Type} {P : β → Prop} {f : Nat → β} (h : ∀ j, P (f j)) (i : Nat) {v : β} (hv : P v) :
    ∀ j, P (upd f i v j) :=
  forall_upd_of_ne (fun j _ => h j) hv

theorem map_upd {β γ : Type} (g : β → γ) (f : Nat → β) (i : Nat) (v : β) :
    (fun j => g (upd f i v j)) = upd (fun j => g (f j)) i (g v) := by
  funext j; unfold upd; split <;> rfl

theorem map_upd_same {β γ : Type} (g : β → γ) (f : Nat → β) (i : Nat) {v : β} (h : g v = g (f i)) :
    (fun j => g (upd f i v j)) = fun j => g (f j) := by
  funext j; unfold upd; split
  · next hj => rw [h, hj]
  · rfl

theorem Sys.callStep_eq (S : Sys σ α) (i : Nat) (c : Notif α) (a b : TS σ α) :
    S.callStep i c a b = { S with calls := S.calls ++ [c], thr := upd S.thr i (if S.stopped then a else b) } := by
  unfold Sys.callStep; split <;> rfl

/-- where the thread stands once the downstream call in progress (if any) has returned -/
def TS.resume : TS σ α → TS σ α
  | .critChk _ b k | .critIn b k => .crit b k
  | .uChk _ k | .uIn k => .run k
  | t => t

/-- A call that finds the observer stopped and one that finds it open are one transition: the new local state is
an `if`.  `n`, `o` read the state BEFORE `u`. -/
inductive Step (S : Sys σ α) (i : Nat) : Sys σ α → Prop
  | free {u n} (h : S.thr i = .run (.free u n)) :
      Step S i { S with st := u S.st, thr := upd S.thr i (.run (n S.st)) }
  | acquire {b k} (h : S.thr i = .run (.crit b k)) (hl : S.lock = none) :
      Step S i { S with lock := some i, thr := upd S.thr i (.crit b k), acq := S.acq ++ [i] }
  | skip {o k} (h : S.thr i = .run (.ucall o k)) (ho : o S.st = none) :
      Step S i { S with thr := upd S.thr i (.run k) }
  | ucall {o k c} (h : S.thr i = .run (.ucall o k)) (ho : o S.st = some c) :
      Step S i { S with calls := S.calls ++ [c], thr := upd S.thr i (if S.stopped then .run k else .uChk c k) }
  | uEnter {c k} (h : S.thr i = .uChk c k) : Step S i (S.commit i c (.uIn k))
  | uExit {k} (h : S.thr i = .uIn k) :
      Step S i { S with active := S.active - 1, thr := upd S.thr i (.run k) }
  | release {k} (h : S.thr i = .crit .done k) :
      Step S i { S with lock := none, thr := upd S.thr i (.run k) }
  | body {u o n k} (h : S.thr i = .crit (.step u o n) k) (ho : o S.st = none) :
      Step S i { S with st := u S.st, thr := upd S.thr i (.crit (n S.st) k) }
  | bodyCall {u o n k c} (h : S.thr i = .crit (.step u o n) k) (ho : o S.st = some c) :
      Step S i { S with st := u S.st, calls := S.calls ++ [c],
                        thr := upd S.thr i (if S.stopped then .crit (n S.st) k else .critChk c (n S.st) k) }
  | enter {c b k} (h : S.thr i = .critChk c b k) : Step S i (S.commit i c (.critIn b k))
  | exit {b k} (h : S.thr i = .critIn b k) :
      Step S i { S with active := S.active - 1, thr := upd S.thr i (.crit b k) }

theorem step_Step {S S' : Sys σ α} {i : Nat} (hs : step S i = some S') : Step S i S' := by
  unfold step at hs
  split at hs
  · cases hs
  · next h => cases hs; exact .free h
  · next h =>
    split at hs
    · next hl => cases hs; exact .acquire h hl
    · cases hs
  · next h =>
    split at hs
    · next ho => cases hs; exact .skip h ho
    · next ho => cases hs; rw [Sys.callStep_eq]; exact .ucall h ho
  · next h => cases hs; exact .uEnter h
  · next h => cases hs; exact .uExit h
  · next h => cases hs; exact .release h
  · next h =>
    split at hs
    · next ho => cases hs; exact .body h ho
    · next ho => cases hs; rw [Sys.callStep_eq]; exact .bodyCall h ho
  · next h => cases hs; exact .enter h
  · next h => cases hs; exact .exit h

/-- What a step is for the program text: from position `t` in state `st` to position `t'` in state `st'`, making the
call `x`.  Positions are `resume` positions, so the steps of a call after it was made (enter, return) are `stay`, and a
call that finds the observer stopped is the same move as one that finds it open. -/
inductive Move (st : σ) : TS σ α → σ → Option (Notif α) → TS σ α → Prop
  | stay {t} : Move st t st none t
  | free {u n} : Move st (.run (.free u n)) (u st) none (.run (n st))
  | acquire {b k} : Move st (.run (.crit b k)) st none (.crit b k)
  | ucall {o k} : Move st (.run (.ucall o k)) st (o st) (.run k)
  | release {k} : Move st (.crit .done k) st none (.run k)
  | body {u o n k} : Move st (.crit (.step u o n) k) (u st) (o st) (.crit (n st) k)

theorem step_Move {S S' : Sys σ α} {i : Nat} (hs : step S i = some S') :
    ∃ t' x, S'.thr = upd S.thr i t' ∧ S'.calls = S.calls ++ x.toList ∧
      Move S.st (S.thr i).resume S'.st x t'.resume ∧ (t'.inObs = true → (S.thr i).inObs = true ∨ x.isSome = true) := by
  have nil : S.calls = S.calls ++ (none : Option (Notif α)).toList := (List.append_nil _).symm
  cases step_Step hs with
  | free h => exact ⟨_, none, rfl, nil, h ▸ .free, nofun⟩
  | acquire h _ => exact ⟨_, none, rfl, nil, h ▸ .acquire, nofun⟩
  | skip h ho => exact ⟨_, none, rfl, nil, by rw [h, ← ho]; exact .ucall, nofun⟩
  | ucall h ho =>
    refine ⟨_, some _, rfl, rfl, ?_, fun _ => .inr rfl⟩
    rw [h, ← ho]; cases S.stopped <;> exact .ucall
  | uEnter h | enter h => exact ⟨_, none, rfl, nil, h ▸ .stay, fun _ => .inl (h ▸ rfl)⟩
  | uExit h | exit h => exact ⟨_, none, rfl, nil, h ▸ .stay, nofun⟩
  | release h => exact ⟨_, none, rfl, nil, h ▸ .release, nofun⟩
  | body h ho => exact ⟨_, none, rfl, nil, by rw [h, ← ho]; exact .body, nofun⟩
  | bodyCall h ho =>
    refine ⟨_, some _, rfl, rfl, ?_, fun _ => .inr rfl⟩
    rw [h, ← ho]; cases S.stopped <;> exact .body

end Thr2
