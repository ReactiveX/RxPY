import RxModel.WinTime
/-!
# The `create_timer` chain of `window_with_time_`: arithmetic of `next_span` / `next_shift`.
-/
namespace Win

theorem arithFrom_getElem? (s d : Nat) : ∀ (n k : Nat), k < n → (arithFrom s d n)[k]? = some (s + k * d) := by
  intro n
  induction n generalizing s with
  | zero => intro k hk; omega
  | succ n ih =>
    intro k hk
    cases k with
    | zero => simp [arithFrom]
    | succ k =>
      simp only [arithFrom, List.getElem?_cons_succ]
      rw [ih (s + d) k (by omega), Nat.succ_mul]; congr 1; omega

theorem arithFrom_length (s d n : Nat) : (arithFrom s d n).length = n := by
  induction n generalizing s with
  | zero => rfl
  | succ n ih => simp [arithFrom, ih]

/-- the timer `create_timer` arms when `next_shift = A`, `next_span = B`. -/
def tickOf (A B : Nat) : Tick := ⟨if B ≤ A then B else A, decide (A ≤ B), decide (B ≤ A)⟩

theorem Chain.next_fst (shift : Nat) (c : Chain) : (c.next shift).1 = tickOf c.nextShift c.nextSpan := by
  simp [Chain.next, tickOf]
theorem Chain.next_shift (shift : Nat) (c : Chain) :
    (c.next shift).2.nextShift = if c.nextShift ≤ c.nextSpan then c.nextShift + shift else c.nextShift := by
  simp [Chain.next]
theorem Chain.next_span (shift : Nat) (c : Chain) :
    (c.next shift).2.nextSpan = if c.nextSpan ≤ c.nextShift then c.nextSpan + shift else c.nextSpan := by
  simp [Chain.next]

namespace Chain

theorem shift_ticks (shift : Nat) : ∀ (n : Nat) (c : Chain),
    ((ticks shift n c).filter (·.isShift)).map (·.at_) =
      arithFrom c.nextShift shift ((ticks shift n c).filter (·.isShift)).length := by
  intro n
  induction n with
  | zero => intro c; rfl
  | succ n ih =>
    intro c
    simp only [ticks]
    by_cases h1 : c.nextShift ≤ c.nextSpan
    · have hfl : (c.next shift).1.isShift = true := by simp [next_fst, tickOf, h1]
      have hat : (c.next shift).1.at_ = c.nextShift := by
        rw [next_fst]; simp only [tickOf]; split <;> omega
      have hns : (c.next shift).2.nextShift = c.nextShift + shift := by rw [next_shift, if_pos h1]
      rw [List.filter_cons_of_pos (by simpa using hfl)]
      simp only [List.map_cons, List.length_cons, arithFrom, hat]
      rw [ih, hns]
    · have hfl : (c.next shift).1.isShift = false := by simp [next_fst, tickOf, h1]
      have hns : (c.next shift).2.nextShift = c.nextShift := by rw [next_shift, if_neg h1]
      rw [List.filter_cons_of_neg (by simp [hfl])]
      rw [ih, hns]

theorem span_ticks (shift : Nat) : ∀ (n : Nat) (c : Chain),
    ((ticks shift n c).filter (·.isSpan)).map (·.at_) =
      arithFrom c.nextSpan shift ((ticks shift n c).filter (·.isSpan)).length := by
  intro n
  induction n with
  | zero => intro c; rfl
  | succ n ih =>
    intro c
    simp only [ticks]
    by_cases h1 : c.nextSpan ≤ c.nextShift
    · have hfl : (c.next shift).1.isSpan = true := by simp [next_fst, tickOf, h1]
      have hat : (c.next shift).1.at_ = c.nextSpan := by simp [next_fst, tickOf, h1]
      have hns : (c.next shift).2.nextSpan = c.nextSpan + shift := by rw [next_span, if_pos h1]
      rw [List.filter_cons_of_pos (by simpa using hfl)]
      simp only [List.map_cons, List.length_cons, arithFrom, hat]
      rw [ih, hns]
    · have hfl : (c.next shift).1.isSpan = false := by simp [next_fst, tickOf, h1]
      have hns : (c.next shift).2.nextSpan = c.nextSpan := by rw [next_span, if_neg h1]
      rw [List.filter_cons_of_neg (by simp [hfl])]
      rw [ih, hns]

theorem ticks_ge (shift : Nat) : ∀ (n : Nat) (c : Chain) (tk : Tick), tk ∈ ticks shift n c →
    min c.nextShift c.nextSpan ≤ tk.at_ := by
  intro n
  induction n with
  | zero => intro c tk h; simp [ticks] at h
  | succ n ih =>
    intro c tk h
    simp only [ticks, List.mem_cons] at h
    rcases h with h | h
    · subst h; rw [next_fst]; simp only [tickOf]; split <;> omega
    · have := ih _ tk h
      rw [next_shift, next_span] at this
      split at this <;> split at this <;> omega

theorem ticks_sorted (shift : Nat) : ∀ (n : Nat) (c : Chain),
    ((ticks shift n c).map (·.at_)).Pairwise (· ≤ ·) := by
  intro n
  induction n with
  | zero => intro c; simp [ticks]
  | succ n ih =>
    intro c
    simp only [ticks, List.map_cons, List.pairwise_cons]
    refine ⟨?_, ih _⟩
    intro a ha
    obtain ⟨tk, htk, rfl⟩ := List.mem_map.mp ha
    have := ticks_ge shift n _ tk htk
    rw [next_shift, next_span] at this
    rw [next_fst]; simp only [tickOf]
    split at this <;> split at this <;> split <;> omega

end Chain
end Win
