import RxModel.SubjReplay
/-!
# `_trim` leaves exactly the retained values

`Good cfg now r`: `r` respects the buffer size and every element's age at `now` is within the window.
`IsRetained cfg now all r`: `r` is the *longest* suffix of `all` that is `Good` — the property's
"last buffer_size values whose age is within the window" (for a time-sorted `all` the in-window values form
a suffix, so "longest good suffix" and "the last ≤ buffer_size in-window values" coincide).
-/

namespace SubjReplay
variable {α : Type}

/-- Times non-decreasing along the list (the clock is monotone). -/
def Sorted (l : List (Nat × α)) : Prop := l.Pairwise (fun a b => a.1 ≤ b.1)

def Good (cfg : Cfg α) (now : Nat) (r : List (Nat × α)) : Prop :=
  (∀ n, cfg.bufferSize = some n → r.length ≤ n) ∧ (∀ w, cfg.window = some w → ∀ x ∈ r, now - x.1 ≤ w)

def IsRetained (cfg : Cfg α) (now : Nat) (all r : List (Nat × α)) : Prop :=
  r <:+ all ∧ Good cfg now r ∧ ∀ r', r' <:+ all → Good cfg now r' → r' <:+ r

theorem Good.sublist {cfg : Cfg α} {now : Nat} {r r' : List (Nat × α)} (h : List.Sublist r' r) (hg : Good cfg now r) :
    Good cfg now r' :=
  ⟨fun n hn => Nat.le_trans h.length_le (hg.1 n hn), fun w hw x hx => hg.2 w hw x (h.subset hx)⟩

theorem Good.mono {cfg : Cfg α} {now now' : Nat} {r : List (Nat × α)} (h : now' ≤ now) (hg : Good cfg now r) :
    Good cfg now' r :=
  ⟨hg.1, fun w hw x hx => Nat.le_trans (Nat.sub_le_sub_right h _) (hg.2 w hw x hx)⟩

theorem Good.nil (cfg : Cfg α) (now : Nat) : Good cfg now ([] : List (Nat × α)) :=
  ⟨fun _ _ => Nat.zero_le _, fun _ _ _ hx => by simp at hx⟩

theorem IsRetained.unique {cfg : Cfg α} {now : Nat} {all r1 r2 : List (Nat × α)}
    (h1 : IsRetained cfg now all r1) (h2 : IsRetained cfg now all r2) : r1 = r2 :=
  (h2.2.2 r1 h1.1 h1.2.1).eq_of_length_le (h1.2.2 r2 h2.1 h2.2.1).length_le

theorem trimCount_suffix (bs : Option Nat) (q : List (Nat × α)) : trimCount bs q <:+ q := by
  induction q with
  | nil => simp [trimCount]
  | cons x xs ih =>
    cases bs with
    | none => simp [trimCount]
    | some n =>
      simp only [trimCount]
      split
      · exact ih.trans (List.suffix_cons x xs)
      · exact List.suffix_refl _

theorem trimCount_length (n : Nat) (q : List (Nat × α)) : (trimCount (some n) q).length ≤ n := by
  induction q with
  | nil => simp [trimCount]
  | cons x xs ih =>
    simp only [trimCount]
    split
    · exact ih
    · omega

theorem trimCount_max (bs : Option Nat) (q r' : List (Nat × α)) (hs : r' <:+ q)
    (hl : ∀ n, bs = some n → r'.length ≤ n) : r' <:+ trimCount bs q := by
  induction q with
  | nil => simpa [trimCount] using hs
  | cons x xs ih =>
    cases bs with
    | none => simpa [trimCount] using hs
    | some n =>
      simp only [trimCount]
      split
      · rename_i hgt
        rcases List.suffix_cons_iff.mp hs with h | h
        · subst h
          have := hl n rfl
          omega
        · exact ih h
      · exact hs

theorem trimAge_suffix (w : Option Nat) (now : Nat) (q : List (Nat × α)) : trimAge w now q <:+ q := by
  induction q with
  | nil => simp [trimAge]
  | cons x xs ih =>
    cases w with
    | none => simp [trimAge]
    | some w' =>
      simp only [trimAge]
      split
      · exact ih.trans (List.suffix_cons x xs)
      · exact List.suffix_refl _

theorem trimAge_good (w' : Nat) (now : Nat) (q : List (Nat × α)) (hs : Sorted q) :
    ∀ x ∈ trimAge (some w') now q, now - x.1 ≤ w' := by
  induction q with
  | nil => simp [trimAge]
  | cons x xs ih =>
    simp only [trimAge]
    split
    · exact ih (List.Pairwise.of_cons hs)
    · rename_i hle
      intro y hy
      rcases List.mem_cons.mp hy with rfl | hy
      · omega
      · have := List.rel_of_pairwise_cons hs hy
        omega

theorem trimAge_max (w : Option Nat) (now : Nat) (q r' : List (Nat × α)) (hs : r' <:+ q)
    (hg : ∀ w', w = some w' → ∀ x ∈ r', now - x.1 ≤ w') : r' <:+ trimAge w now q := by
  induction q with
  | nil => simpa [trimAge] using hs
  | cons x xs ih =>
    cases w with
    | none => simpa [trimAge] using hs
    | some w' =>
      simp only [trimAge]
      split
      · rename_i hgt
        rcases List.suffix_cons_iff.mp hs with h | h
        · subst h
          have := hg w' rfl x (by simp)
          omega
        · exact ih h
      · exact hs

theorem Sorted.suffix {q r : List (Nat × α)} (hs : Sorted q) (h : r <:+ q) : Sorted r :=
  List.Pairwise.sublist h.sublist hs

theorem Sorted.append_one {l : List (Nat × α)} {x : Nat × α} (hs : Sorted l) (hb : ∀ y ∈ l, y.1 ≤ x.1) :
    Sorted (l ++ [x]) :=
  List.pairwise_append.mpr ⟨hs, List.pairwise_singleton .., fun a ha _ hb' => List.mem_singleton.mp hb' ▸ hb a ha⟩

theorem trim_isRetained (cfg : Cfg α) (now : Nat) (q : List (Nat × α)) (hs : Sorted q) :
    IsRetained cfg now q (trim cfg now q) := by
  have h1 : trimCount cfg.bufferSize q <:+ q := trimCount_suffix _ _
  have h2 : trim cfg now q <:+ trimCount cfg.bufferSize q := trimAge_suffix _ _ _
  refine ⟨h2.trans h1, ⟨?_, ?_⟩, ?_⟩
  · intro n hn
    have := trimCount_length n q
    rw [hn] at h2
    exact Nat.le_trans h2.length_le this
  · intro w hw x hx
    unfold trim at hx
    rw [hw] at hx
    exact trimAge_good w now _ (hs.suffix h1) x hx
  · intro r' hr' hg
    exact trimAge_max _ _ _ _ (trimCount_max _ _ _ hr' hg.1) hg.2

/-- Trimming an already (earlier) trimmed queue again later gives what trimming the whole history
once would give: values dropped earlier stay dropped because ages only grow. -/
theorem trim_of_retained {cfg : Cfg α} {now now' : Nat} {all q : List (Nat × α)} (hs : Sorted all)
    (hq : IsRetained cfg now' all q) (hn : now' ≤ now) : IsRetained cfg now all (trim cfg now q) := by
  have hsq : Sorted q := hs.suffix hq.1
  have ht := trim_isRetained cfg now q hsq
  refine ⟨ht.1.trans hq.1, ht.2.1, ?_⟩
  intro r' hr' hg
  exact ht.2.2 r' (hq.2.2 r' hr' (hg.mono hn)) hg

/-- Same for `queue.append((now, v)); _trim(now)`. -/
theorem trim_append_of_retained {cfg : Cfg α} {now now' : Nat} {all q : List (Nat × α)} (x : Nat × α)
    (hs : Sorted (all ++ [x])) (hq : IsRetained cfg now' all q) (hn : now' ≤ now) :
    IsRetained cfg now (all ++ [x]) (trim cfg now (q ++ [x])) := by
  have hqx : q ++ [x] <:+ all ++ [x] := by
    obtain ⟨p, hp⟩ := hq.1
    exact ⟨p, by rw [← hp]; simp⟩
  have hsq : Sorted (q ++ [x]) := hs.suffix hqx
  have ht := trim_isRetained cfg now (q ++ [x]) hsq
  refine ⟨ht.1.trans hqx, ht.2.1, ?_⟩
  intro r' hr' hg
  apply ht.2.2 r' ?_ hg
  rcases List.eq_nil_or_concat r' with rfl | ⟨r0, y, rfl⟩
  · exact List.nil_suffix
  · rw [List.concat_eq_append] at hr' hg ⊢
    obtain ⟨p, hp⟩ := hr'
    have hy : y = x := by
      have := congrArg List.getLast? hp
      simpa using this
    subst hy
    have hr0 : r0 <:+ all := ⟨p, by
      have : (p ++ r0) ++ [y] = all ++ [y] := by rw [← hp]; simp
      exact List.append_cancel_right this⟩
    have hg0 : Good cfg now' r0 := (hg.sublist (List.sublist_append_left r0 [y])).mono hn
    obtain ⟨p', hp'⟩ := hq.2.2 r0 hr0 hg0
    exact ⟨p', by rw [← hp']; simp⟩

end SubjReplay
