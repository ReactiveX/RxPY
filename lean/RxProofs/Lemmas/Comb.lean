import RxProofs.Lemmas.CombFrame
/-!
# Runs of the L2 trace machines

What every step keeps, every run keeps (`final_inv`, `run_hist`); the run-level facts of the family are instances of these
two inductions, most of them through `run_obs`, except the comparison of two runs (`sim_run`).
-/

namespace Comb

theorem run_cons {σ ι β} (m : Machine σ ι β) (st : St σ) (e : Ev ι) (es : List (Ev ι)) :
    run m st (e :: es) = (step m st e).2 ++ run m (step m st e).1 es := by
  simp [run, runE]

@[simp] theorem run_nil {σ ι β} (m : Machine σ ι β) (st : St σ) : run m st [] = [] := rfl

theorem run_append {σ ι β} (m : Machine σ ι β) (st : St σ) (a b : List (Ev ι)) :
    run m st (a ++ b) = run m st a ++ run m (final m st a) b := by
  induction a generalizing st with
  | nil => simp [final]
  | cons e es ih => simp [run_cons, final, ih]

theorem final_append {σ ι β} (m : Machine σ ι β) (st : St σ) (a b : List (Ev ι)) :
    final m st (a ++ b) = final m (final m st a) b := by
  induction a generalizing st with
  | nil => rfl
  | cons e es ih => simp [final, ih]

theorem accepted_cons {σ ι β} (m : Machine σ ι β) (st : St σ) (e : Ev ι) (es : List (Ev ι)) :
    accepted m st (e :: es) = accOne st e ++ accepted m (step m st e).1 es := by
  cases e <;> rfl

theorem final_inv {σ ι β} (m : Machine σ ι β) {I : St σ → Prop} (hinv : ∀ st e, I st → I (step m st e).1)
    (es : List (Ev ι)) : ∀ st, I st → I (final m st es) := by
  induction es with
  | nil => intro st h; exact h
  | cons e es ih => intro st h; exact ih _ (hinv st e h)

theorem final_WF {σ ι β} (m : Machine σ ι β) (st : St σ) (es : List (Ev ι)) (h : st.p.WF) : (final m st es).p.WF :=
  final_inv m (I := fun st => st.p.WF) (step_WF m) es st h

/-- `Q`: what was delivered so far, the effects so far, the state -/
theorem run_hist {σ ι β} (m : Machine σ ι β) {Q : List (Nat × Notif ι) → List (Eff β) → St σ → Prop}
    (hstep : ∀ acc effs st e, Q acc effs st → Q (acc ++ accOne st e) (effs ++ (step m st e).2) (step m st e).1)
    (es : List (Ev ι)) :
    ∀ acc effs st, Q acc effs st → Q (acc ++ accepted m st es) (effs ++ run m st es) (final m st es) := by
  induction es with
  | nil => intro acc effs st h; simpa [accepted, final] using h
  | cons e es ih =>
    intro acc effs st h
    have := ih _ _ _ (hstep acc effs st e h)
    simpa [accepted_cons, run_cons, final, List.append_assoc] using this

theorem run_stopped {σ ι β} (m : Machine σ ι β) (es : List (Ev ι)) (st : St σ) (h : st.p.WF) (hd : st.p.done = true) :
    (final m st es).p = st.p := by
  have hp : ∀ p : Plumb, p.WF → p.done = true → p = ⟨true, []⟩ := fun p h hd => by
    have hl := h hd
    cases p; simp only at hd hl; rw [hd, hl]
  refine final_inv m (I := fun st' => st'.p = st.p) (fun st' e hq => ?_) es st rfl
  have h' : st'.p.WF := hq ▸ h
  have hd' : st'.p.done = true := hq ▸ hd
  exact ((hp _ (step_WF m st' e h') (step_done m st' e hd')).trans (hp _ h' hd').symm).trans hq

theorem run_stopped_silent {σ ι β} (m : Machine σ ι β) (htick : ∀ s, (m.tick s true).2 = []) (es : List (Ev ι)) (st : St σ)
    (h : st.p.WF) (hd : st.p.done = true) : run m st es = [] := by
  have := run_hist m (Q := fun _ effs st' => st'.p = st.p ∧ effs = []) (fun _ effs st' e hq => ?_) es [] [] st ⟨rfl, rfl⟩
  · simpa using this.2
  · have h' : st'.p.WF := hq.1 ▸ h
    have hd' : st'.p.done = true := hq.1 ▸ hd
    refine ⟨(run_stopped m [e] st' h' hd').trans hq.1, ?_⟩
    rw [hq.2, List.nil_append]
    by_cases he : e = .dispose
    · subst he; rw [step_dispose, h' hd']; rfl
    · -- no invocation has actions: no source is live, and the scheduled action is cancelled
      have : (fired m st' e).2 ++ own (β := β) st'.p e = [] := by
        cases e <;> simp [fired_src_not_live, own_src_not_live, h' hd', hd', htick]
      rw [step_eq m st' e he, (C02Comb.late_subscriptions_closed _ st'.p h' hd').1, this]; rfl

theorem emits_run_done {σ ι β} (m : Machine σ ι β) (es : List (Ev ι)) (st : St σ) (hd : st.p.done = true) :
    emits (run m st es) = [] := by
  simpa using (run_hist m (Q := fun _ effs st' => st'.p.done = true ∧ emits effs = [])
    (fun _ effs st' e hq => ⟨step_done m st' e hq.1, by rw [emits_append, hq.2, emits_step, hq.1]; rfl⟩)
    es [] [] st ⟨hd, rfl⟩).2

theorem terminal_ends {σ ι β} (m : Machine σ ι β) (st : St σ) (h : st.p.WF) (pre post : List (Ev ι)) (k : Nat) (n : Notif ι)
    (hk : k ∈ (final m st pre).p.live)
    (ht : (actEmits (m.handler (final m st pre).s k n).2).any Notif.isTerminal = true) :
    emits (run m st (pre ++ .src k n :: post))
      = emits (run m st pre) ++ cut (actEmits (m.handler (final m st pre).s k n).2) ∧
    ((∀ s, (m.tick s true).2 = []) → subsOf (run m st (pre ++ .src k n :: post))
      = subsOf (run m st pre) ++ actSubs (m.handler (final m st pre).s k n).2) := by
  have hwf := final_WF m st pre h
  have hd : (step m (final m st pre) (.src k n)).1.p.done = true := by
    rw [done_step _ _ _ (by simp), fired_src _ _ _ _ hk, ht, Bool.or_true]
  rw [run_append, run_cons]
  refine ⟨?_, fun htick => ?_⟩
  · rw [emits_append, emits_append, emits_step, fired_src _ _ _ _ hk, not_done_of_live hwf hk, emits_run_done m post _ hd,
      List.append_nil]; rfl
  · rw [subsOf_append, subsOf_append, subsOf_step, fired_src _ _ _ _ hk,
      run_stopped_silent m htick post _ (step_WF m _ _ hwf) hd, subsOf_nil, List.append_nil]

theorem first_error_terminates {σ ι β} (m : Machine σ ι β)
    (herr : ∀ s k e, actEmits (m.handler s k (.error e)).2 = [Notif.error e])
    (st : St σ) (h : st.p.WF) (pre post : List (Ev ι)) (k : Nat) (e : Err)
    (hk : k ∈ (final m st pre).p.live) :
    emits (run m st (pre ++ .src k (.error e) :: post)) = emits (run m st pre) ++ [Notif.error e] := by
  rw [(terminal_ends m st h pre post k _ hk (by rw [herr]; rfl)).1, herr]; rfl

/-- `Q s acc ems subs`: operator state, delivered so far, sent so far, subscribed so far. A handler call happens before any
terminal went out: its source is live, so the downstream observer is not stopped. -/
theorem run_obs {σ ι β} (m : Machine σ ι β) (I : St σ → Prop) (hI : ∀ st e, I st → I (step m st e).1)
    {Q : σ → List (Nat × Notif ι) → List (Notif β) → List Nat → Prop}
    (hh : ∀ st acc ems subs k n, I st → k ∈ st.p.live → (∀ x, x ∈ ems → x.isTerminal = false) → Q st.s acc ems subs →
      Q (m.handler st.s k n).1 (acc ++ [(k, n)]) (ems ++ cut (actEmits (m.handler st.s k n).2))
        (subs ++ actSubs (m.handler st.s k n).2))
    (ht : ∀ st acc ems subs, I st → Q st.s acc ems subs →
      Q (m.tick st.s st.p.done).1 acc (ems ++ if st.p.done then [] else cut (actEmits (m.tick st.s st.p.done).2))
        (subs ++ actSubs (m.tick st.s st.p.done).2))
    (es : List (Ev ι)) (st : St σ) (acc : List (Nat × Notif ι)) (ems : List (Notif β)) (subs : List Nat) (h : st.p.WF)
    (hI0 : I st) (hnt : st.p.done = false → ∀ x, x ∈ ems → x.isTerminal = false) (hq : Q st.s acc ems subs) :
    Q (final m st es).s (acc ++ accepted m st es) (ems ++ emits (run m st es)) (subs ++ subsOf (run m st es)) ∧
    ((final m st es).p.done = false → ∀ x, x ∈ ems ++ emits (run m st es) → x.isTerminal = false) := by
  have := run_hist m
    (Q := fun a effs st' => st'.p.WF ∧ I st' ∧
      (st'.p.done = false → ∀ x, x ∈ ems ++ emits effs → x.isTerminal = false) ∧
      Q st'.s (acc ++ a) (ems ++ emits effs) (subs ++ subsOf effs))
    (fun a effs st' e ⟨h, hI', hnt, hq⟩ => ?_) es [] [] st ⟨h, hI0, by simpa using hnt, by simpa using hq⟩
  · rw [List.nil_append] at this; exact ⟨this.2.2.2, this.2.2.1⟩
  · refine ⟨step_WF m st' e h, hI st' e hI', fun hd x hx => ?_, ?_⟩
    · -- not stopped after the step: not stopped before it, and the step sent no terminal
      have hd0 : st'.p.done = false := by
        cases hd0 : st'.p.done
        · rfl
        · rw [step_done m st' e hd0] at hd; cases hd
      rw [emits_append, ← List.append_assoc] at hx
      rcases List.mem_append.mp hx with hx | hx
      · exact hnt hd0 x hx
      · cases hxt : x.isTerminal
        · rfl
        · rw [done_of_emits_terminal m st' e x hx hxt] at hd; cases hd
    · rw [emits_append, subsOf_append, ← List.append_assoc, ← List.append_assoc, ← List.append_assoc]
      exact step_obs m st' e h
        (Q := fun s' a' e' b' => Q s' (acc ++ a ++ a') (ems ++ emits effs ++ e') (subs ++ subsOf effs ++ b'))
        (by simpa using hq) (fun k n hk => hh st' _ _ _ k n hI' hk (hnt (not_done_of_live h hk)) hq)
        (by simpa using ht st' _ _ _ hI' hq)

/-- a declarative rule over the delivered notifications: a spec state `τ`, how a delivered notification changes it
and what goes out for it -/
def specRun {τ ι β} (sstep : τ → Nat × Notif ι → τ) (sout : τ → Nat × Notif ι → List β) :
    τ → List (Nat × Notif ι) → List β
  | _, [] => []
  | t, a :: r => sout t a ++ specRun sstep sout (sstep t a) r

theorem specRun_append {τ ι β} (sstep : τ → Nat × Notif ι → τ) (sout : τ → Nat × Notif ι → List β)
    (t : τ) (a b : List (Nat × Notif ι)) :
    specRun sstep sout t (a ++ b) = specRun sstep sout t a ++ specRun sstep sout (a.foldl sstep t) b := by
  induction a generalizing t with
  | nil => rfl
  | cons x xs ih => simp [specRun, ih, List.append_assoc]

/-- `m` obeys the rule `sstep`/`sout`, read off the operator state through `abs`, as `φ` observes the output (`id`: all
notifications, `nextVals`: the values) -/
structure Refines {σ ι β τ γ : Type} (m : Machine σ ι β) (φ : List (Notif β) → List γ) (I : St σ → Prop) (abs : σ → τ)
    (sstep : τ → Nat × Notif ι → τ) (sout : τ → Nat × Notif ι → List γ) : Prop where
  step : ∀ st e, I st → I (step m st e).1
  handler : ∀ st k n, I st → k ∈ st.p.live → φ (cut (actEmits (m.handler st.s k n).2)) = sout (abs st.s) (k, n) ∧
    abs (m.handler st.s k n).1 = sstep (abs st.s) (k, n)
  tick : ∀ st, I st → φ (cut (actEmits (m.tick st.s st.p.done).2)) = [] ∧ abs (m.tick st.s st.p.done).1 = abs st.s

theorem Refines.run {σ ι β τ γ : Type} {m : Machine σ ι β} {φ : List (Notif β) → List γ} {I : St σ → Prop} {abs : σ → τ}
    {sstep : τ → Nat × Notif ι → τ} {sout : τ → Nat × Notif ι → List γ} (R : Refines m φ I abs sstep sout)
    (hφ : ∀ a b, φ (a ++ b) = φ a ++ φ b) (es : List (Ev ι)) (st : St σ) (h : st.p.WF) (hI : I st) :
    φ (emits (run m st es)) = specRun sstep sout (abs st.s) (accepted m st es) ∧
    abs (final m st es).s = (accepted m st es).foldl sstep (abs st.s) ∧ I (final m st es) := by
  have hφ0 : φ [] = [] := by simpa using hφ [] []
  have := (run_obs m I R.step
    (Q := fun s acc ems _ => φ ems = specRun sstep sout (abs st.s) acc ∧ abs s = acc.foldl sstep (abs st.s))
    (fun st' acc ems _ k n hI' hk _ ⟨ho, ha⟩ => ?_) (fun st' acc ems _ hI' ⟨ho, ha⟩ => ?_)
    es st [] [] [] h hI (fun _ _ hx => nomatch hx) ⟨hφ0, rfl⟩).1
  · rw [List.nil_append, List.nil_append] at this; exact ⟨this.1, this.2, final_inv m R.step es st hI⟩
  · obtain ⟨h2, h3⟩ := R.handler st' k n hI' hk
    exact ⟨by rw [hφ, ho, h2, specRun_append, ← ha]; simp [specRun], by rw [h3, ha, List.foldl_append]; rfl⟩
  · obtain ⟨h2, h3⟩ := R.tick st' hI'
    refine ⟨?_, h3.trans ha⟩
    rw [hφ, ho]; split <;> simp [hφ0, h2]

theorem Refines.outVals {σ ι β τ : Type} {m : Machine σ ι β} {I : St σ → Prop} {abs : σ → τ} {sstep : τ → Nat × Notif ι → τ}
    {sout : τ → Nat × Notif ι → List β} (R : Refines m nextVals I abs sstep sout) (es : List (Ev ι)) (st : St σ)
    (h : st.p.WF) (hI : I st) : outVals (Comb.run m st es) = specRun sstep sout (abs st.s) (accepted m st es) := by
  rw [outVals_eq_nextVals]; exact (R.run nextVals_append es st h hI).1

/-- `m` completes exactly when `rule` comes to hold of the delivered notifications, which `R` ties to the operator state -/
structure Completes {σ ι β τ : Type} (m : Machine σ ι β) (I : St σ → Prop) (R : σ → τ → Prop)
    (sstep : τ → Nat × Notif ι → τ) (rule : τ → Prop) : Prop where
  step : ∀ st e, I st → I (step m st e).1
  silent : ∀ s d, m.tick s d = (s, [])
  handler : ∀ st t k n, I st → k ∈ st.p.live → R st.s t → R (m.handler st.s k n).1 (sstep t (k, n)) ∧
    (¬ rule t → (Notif.completed ∈ cut (actEmits (m.handler st.s k n).2) ↔ rule (sstep t (k, n))))

theorem Completes.run {σ ι β τ : Type} {m : Machine σ ι β} {I : St σ → Prop} {R : σ → τ → Prop}
    {sstep : τ → Nat × Notif ι → τ} {rule : τ → Prop} (C : Completes m I R sstep rule) (es : List (Ev ι)) (st : St σ)
    (t : τ) (h : st.p.WF) (hI : I st) (hR : R st.s t) (hr : ¬ rule t) :
    (Notif.completed ∈ emits (run m st es) ↔ rule ((accepted m st es).foldl sstep t)) ∧
    R (final m st es).s ((accepted m st es).foldl sstep t) := by
  have := (run_obs m I C.step
    (Q := fun s acc ems _ => R s (acc.foldl sstep t) ∧ (Notif.completed ∈ ems ↔ rule (acc.foldl sstep t)))
    (fun st' acc ems _ k n hI' hk hnt ⟨ha, hc⟩ => ?_)
    (fun st' acc ems _ _ hq => by simpa [C.silent, actEmits, actSubs, cut] using hq)
    es st [] [] [] h hI (fun _ _ hx => nomatch hx) ⟨hR, by simp [hr]⟩).1
  · rw [List.nil_append, List.nil_append] at this; exact ⟨this.2, this.1⟩
  · -- no terminal went out yet, so the rule does not hold yet
    have hr : ¬ rule (acc.foldl sstep t) := fun hr => by have := hnt _ (hc.mpr hr); cases this
    obtain ⟨h2, h3⟩ := C.handler st' _ k n hI' hk ha
    rw [List.foldl_append, List.foldl_cons, List.foldl_nil]
    refine ⟨h2, ?_⟩
    rw [List.mem_append, ← h3 hr]
    exact ⟨fun hc' => hc'.resolve_left (fun hc' => hr (hc.mp hc')), Or.inr⟩

theorem outVals_run_filterMap {σ ι β} (m : Machine σ ι β) (g : Nat × Notif ι → Option β)
    (hsrc : ∀ s k n, nextVals (cut (actEmits (m.handler s k n).2)) = (g (k, n)).toList)
    (htick : ∀ s d, nextVals (cut (actEmits (m.tick s d).2)) = [])
    (es : List (Ev ι)) (st : St σ) (h : st.p.WF) : outVals (run m st es) = (accepted m st es).filterMap g := by
  -- a rule without state
  have R : Refines m nextVals (fun _ => True) (fun _ => ()) (fun _ _ => ()) (fun _ kn => (g kn).toList) :=
    ⟨fun _ _ _ => trivial, fun st k n _ _ => ⟨hsrc st.s k n, rfl⟩, fun st _ => ⟨htick st.s st.p.done, rfl⟩⟩
  rw [R.outVals es st h trivial]
  generalize accepted m st es = acc
  induction acc with
  | nil => rfl
  | cons a r ih => rw [specRun, ih, List.filterMap_cons]; cases g a <;> rfl

theorem sim_run {σ1 σ2 ι β} (m1 : Machine σ1 ι β) (m2 : Machine σ2 ι β) (R : σ1 → σ2 → Prop) (I : St σ2 → Prop)
    (hI : ∀ st e, I st → I (step m2 st e).1)
    (hh : ∀ s1 (st2 : St σ2) k n, R s1 st2.s → I st2 → k ∈ st2.p.live →
      (m1.handler s1 k n).2 = (m2.handler st2.s k n).2 ∧ R (m1.handler s1 k n).1 (m2.handler st2.s k n).1)
    (ht : ∀ s1 s2 d, R s1 s2 → (m1.tick s1 d).2 = (m2.tick s2 d).2 ∧ R (m1.tick s1 d).1 (m2.tick s2 d).1)
    (es : List (Ev ι)) : ∀ (st1 : St σ1) (st2 : St σ2), st1.p = st2.p → R st1.s st2.s → I st2 →
    run m1 st1 es = run m2 st2 es := by
  induction es with
  | nil => intro _ _ _ _ _; rfl
  | cons e es ih =>
    intro st1 st2 hp hR h
    have hf : (fired m1 st1 e).2 = (fired m2 st2 e).2 ∧ R (fired m1 st1 e).1 (fired m2 st2 e).1 := by
      cases e with
      | src k n =>
        by_cases hk : k ∈ st2.p.live
        · rw [fired_src _ _ _ _ (hp ▸ hk), fired_src _ _ _ _ hk]; exact hh _ st2 k n hR h hk
        · rw [fired_src_not_live _ _ _ _ (hp ▸ hk), fired_src_not_live _ _ _ _ hk]; exact ⟨rfl, hR⟩
      | tick => rw [show fired m1 st1 .tick = m1.tick st1.s st2.p.done from hp ▸ rfl]; exact ht _ _ _ hR
      | dispose => exact ⟨rfl, hR⟩
    rw [run_cons, run_cons]
    by_cases he : e = .dispose
    · subst he
      rw [step_dispose, step_dispose, hp]
      exact congrArg _ (ih _ _ rfl hR (hI st2 .dispose h))
    · rw [step_eq m1 st1 e he, step_eq m2 st2 e he, hp, hf.1]
      exact congrArg _ (ih _ _ rfl hf.2 (step_eq m2 st2 e he ▸ hI st2 e h))

end Comb
