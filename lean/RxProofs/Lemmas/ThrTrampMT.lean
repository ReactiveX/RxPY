import RxProofs.Lemmas.ThrTramp
/-!
# Trampolines shared between threads / one per thread: system-level invariants, and a thread that owns its trampoline runs as the
one-thread machine (C30)
-/
namespace Thr.Tramp

def nEnq : List Ev → Nat
  | [] => 0
  | .enq .. :: rest => 1 + nEnq rest
  | _ :: rest => nEnq rest

/-- items taken out of the ready batch: started, or found cancelled -/
def nOut : List Ev → Nat
  | [] => 0
  | .start .. :: rest => 1 + nOut rest
  | .skip .. :: rest => 1 + nOut rest
  | _ :: rest => nOut rest

structure DrainOk (fixed rg : Bool) (ph : Phase) (r : List Item) : Prop where
  batch : ph ≠ .exec → r = []
  noFinal : fixed = true → ph ≠ .final
  abortRaised : ph = .abort → rg = true

def readyOk (fixed : Bool) (rg : Bool) : List Frame → Prop
  | [] => True
  | .drain ph r :: rest => DrainOk fixed rg ph r ∧ readyOk fixed rg rest
  | _ :: rest => readyOk fixed rg rest

theorem readyOk_weaken (fixed : Bool) (a b : Bool) (st : List Frame) (h : readyOk fixed a st) (hab : a = true → b = true) :
    readyOk fixed b st := by
  induction st with
  | nil => trivial
  | cons f fs ih =>
    cases f with
    | drain ph r => exact ⟨⟨h.1.batch, h.1.noFinal, fun e => hab (h.1.abortRaised e)⟩, ih h.2⟩
    | _ => exact ih h

/-- what a thread step does to the global state: an `env` action for everybody else -/
def GMono (g g' : Glob) : Prop :=
  ∃ (dt dn : Nat) (cs : List Nat), g' = { clock := g.clock + dt, cancelled := cs ++ g.cancelled, nsched := g.nsched + dn }

theorem GMono.refl (g : Glob) : GMono g g := ⟨0, 0, [], by simp⟩

/-- The effect of a thread step on what `MInv` reads, on any stack: on a shared trampoline the idle flag does not describe the thread's own stack
(another thread may be draining), so `Shape` is not available. -/
inductive MEff (fixed : Bool) (tr : Tr) (g : Glob) (th : Th) (tr' : Tr) (g' : Glob) (th' : Th) : Prop where
  /-- drain frames stay, possibly in another phase; an item leaves the batch only by being started or skipped -/
  | plain (hg : GMono g g') (htr : tr' = tr) (hd : nDrain th'.stack = nDrain th.stack)
      (hok : ∀ rg, readyOk fixed rg th.stack → readyOk fixed rg th'.stack) (he : nEnq th'.log = nEnq th.log)
      (ho : nOut th'.log + (readyOf th'.stack).length = nOut th.log + (readyOf th.stack).length)
  | raise (i : Nat) (ops : List Op) (ph : Phase) (r : List Item) (rest : List Frame) (hg : GMono g g')
      (htr : tr' = { tr with raisedG := true })
      (hst : th.stack = .act (some i) (.raise_ :: ops) :: .drain ph r :: rest) (hst' : th'.stack = .drain .abort [] :: rest)
  | enq (id : Option Nat) (it : Item) (ops : List Op) (rest : List Frame) (hg : GMono g g')
      (htr : tr' = { tr with idle := false, queue := enqueue tr.queue { it with seq := g.nsched } })
      (hst : th.stack = .enq id it ops :: rest)
      (hst' : th'.stack = if tr.idle then .drain .collect [] :: .act id ops :: rest else .act id ops :: rest)
      (hl : nEnq th'.log = 1 + nEnq th.log ∧ nOut th'.log = nOut th.log)
  | collect (ready : List Item) (rest : List Frame) (hg : GMono g g')
      (htr : tr' = { tr with queue := tr.queue.dropWhile (isDue g.clock) })
      (hst : th.stack = .drain .collect ready :: rest)
      (hst' : th'.stack = .drain .exec (ready ++ tr.queue.takeWhile (isDue g.clock)) :: rest)
      (hl : nEnq th'.log = nEnq th.log ∧ nOut th'.log = nOut th.log)
  /-- the drain loop is left: with the fix at the emptiness test, otherwise in the `finally` / `except` block, which
  clears the queue -/
  | exit (ph : Phase) (ready : List Item) (rest : List Frame) (hg : GMono g g')
      (hph : (ph = .check ∧ fixed = true ∧ tr.queue = []) ∨ ph = .final ∨ ph = .abort)
      (htr : tr' = { tr with idle := true, queue := [] }) (hst : th.stack = .drain ph ready :: rest) (hst' : th'.stack = rest)
      (hl : nEnq th'.log = nEnq th.log ∧ nOut th'.log = nOut th.log)

theorem thStep_meff (fixed : Bool) (tr : Tr) (g : Glob) (th : Th) :
    MEff fixed tr g th (thStep fixed tr g th).1 (thStep fixed tr g th).2.1 (thStep fixed tr g th).2.2 := by
  rcases tr with ⟨idle, queue, rg⟩
  rcases th with ⟨stack, log⟩
  have still : ∀ {g' th'}, GMono g g' → nDrain th'.stack = nDrain stack → readyOf th'.stack = readyOf stack →
      (∀ rg', readyOk fixed rg' stack → readyOk fixed rg' th'.stack) → nEnq th'.log = nEnq log → nOut th'.log = nOut log →
      MEff fixed ⟨idle, queue, rg⟩ g ⟨stack, log⟩ ⟨idle, queue, rg⟩ g' th' :=
    fun hg hd hr hok he ho => .plain hg rfl hd hok he (by rw [hr, ho])
  have pop_count : ∀ (n : Nat) (it : Item) (a b : List Item), 1 + n + (a ++ b).length = n + (it :: a ++ b).length := fun n it a b => by
    simp; omega
  cases stack with
  | nil => exact still (.refl g) rfl rfl (fun _ h => h) rfl rfl
  | cons f rest =>
    cases f with
    | act id ops =>
      cases ops with
      | nil => cases id <;> exact still (.refl g) rfl rfl (fun _ h => h) rfl rfl
      | cons op ops =>
        cases op with
        | tick d => exact still ⟨d, 0, [], rfl⟩ rfl rfl (fun _ h => h) rfl rfl
        | cancel k => exact still ⟨0, 0, [k], by show ({ g with cancelled := k :: g.cancelled } : Glob) = _; simp⟩ rfl rfl (fun _ h => h) rfl rfl
        | sched l b => exact still (.refl g) rfl rfl (fun _ h => h) rfl rfl
        | schedRel l d b => exact still (.refl g) rfl rfl (fun _ h => h) rfl rfl
        | schedAbs l t b => exact still (.refl g) rfl rfl (fun _ h => h) rfl rfl
        | raise_ =>
          -- a raise unwinds to the drain loop that invoked the action; elsewhere it is a no-op
          cases id with
          | none => exact still (.refl g) rfl rfl (fun _ h => h) rfl rfl
          | some i =>
            cases rest with
            | nil => exact still (.refl g) rfl rfl (fun _ h => h) rfl rfl
            | cons f2 rest2 =>
              cases f2 with
              | drain ph r => exact .raise i ops ph r rest2 (.refl g) rfl rfl rfl
              | act _ _ | enq _ _ _ => exact still (.refl g) rfl rfl (fun _ h => h) rfl rfl
    | enq id it ops =>
      cases idle <;> exact .enq id it ops rest ⟨0, 1, [], by show ({ g with nsched := g.nsched + 1 } : Glob) = _; simp⟩ rfl rfl rfl ⟨rfl, rfl⟩
    | drain ph ready =>
      have rephase : ∀ {ph' r'} rg', ph' ≠ .final → ph' ≠ .abort → (ph' ≠ .exec → ph ≠ .exec ∧ r' = ready) →
          readyOk fixed rg' (.drain ph ready :: rest) → readyOk fixed rg' (.drain ph' r' :: rest) :=
        fun _ h1 h2 h3 h => ⟨⟨fun hne => by rw [(h3 hne).2]; exact h.1.batch (h3 hne).1, fun _ => h1, fun ha => absurd ha h2⟩, h.2⟩
      cases ph with
      | collect => exact .collect ready rest (.refl g) rfl rfl rfl ⟨rfl, rfl⟩
      | exec =>
        cases ready with
        | nil => exact still (.refl g) rfl rfl (fun _ h => ⟨⟨fun _ => rfl, fun _ => nofun, nofun⟩, h.2⟩) rfl rfl
        | cons it ready =>
          by_cases hc : it.id ∈ g.cancelled
          · simp only [thStep, if_pos hc]
            exact .plain (.refl g) rfl rfl (fun _ => rephase _ nofun nofun (fun h => absurd rfl h)) rfl (pop_count _ it _ _)
          · simp only [thStep, if_neg hc]
            exact .plain (.refl g) rfl rfl (fun _ => rephase _ nofun nofun (fun h => absurd rfl h)) rfl (pop_count _ it _ _)
      | check =>
        cases queue with
        | nil =>
          cases fixed
          · exact still (.refl g) rfl rfl (fun _ h => ⟨⟨fun _ => h.1.batch nofun, nofun, nofun⟩, h.2⟩) rfl rfl
          · exact .exit .check ready rest (.refl g) (.inl ⟨rfl, rfl, rfl⟩) rfl rfl rfl ⟨rfl, rfl⟩
        | cons it q =>
          by_cases hd : it.due > g.clock
          · simp only [thStep, if_pos hd]
            exact still (.refl g) rfl rfl (fun _ => rephase _ nofun nofun (fun _ => ⟨nofun, rfl⟩)) rfl rfl
          · simp only [thStep, if_neg hd]
            exact still (.refl g) rfl rfl (fun _ => rephase _ nofun nofun (fun _ => ⟨nofun, rfl⟩)) rfl rfl
      | waiting => exact still (.refl g) rfl rfl (fun _ => rephase _ nofun nofun (fun _ => ⟨nofun, rfl⟩)) rfl rfl
      | final => exact .exit .final ready rest (.refl g) (.inr (.inl rfl)) rfl rfl rfl ⟨rfl, rfl⟩
      | abort => exact .exit .abort ready rest (.refl g) (.inr (.inr rfl)) rfl rfl rfl ⟨rfl, rfl⟩

theorem thStep_env (fixed : Bool) (tr : Tr) (g : Glob) (th : Th) : GMono g (thStep fixed tr g th).2.1 := by
  cases thStep_meff fixed tr g th <;> assumption

section
variable {fixed : Bool} {tr tr' : Tr} {g g' : Glob} {th th' : Th}

structure MKeep (fixed : Bool) (tr : Tr) (th : Th) (tr' : Tr) (th' : Th) : Prop where
  drain : nDrain th'.stack + (!tr.idle).toNat = nDrain th.stack + (!tr'.idle).toNat
  idleEmpty : tr'.idle = true → tr'.queue = []
  raised : tr.raisedG = true → tr'.raisedG = true
  rok : readyOk fixed tr'.raisedG th'.stack
  cons : fixed = true → tr'.raisedG = false →
    nEnq th'.log + (nOut th.log + (readyOf th.stack).length) + tr.queue.length
      = nEnq th.log + (nOut th'.log + (readyOf th'.stack).length) + tr'.queue.length

theorem MEff.pres (e : MEff fixed tr g th tr' g' th') (hdr : 1 ≤ nDrain th.stack → tr.idle = false)
    (hie : tr.idle = true → tr.queue = []) (hok : readyOk fixed tr.raisedG th.stack) : MKeep fixed tr th tr' th' := by
  rcases th with ⟨stack, log⟩
  rcases th' with ⟨stack', log'⟩
  cases e with
  | plain hg htr hd hk he ho => subst htr; exact ⟨by rw [hd], hie, id, hk _ hok, fun _ _ => by rw [he, ho]⟩
  | raise i ops ph r rest hg htr hst hst' =>
    subst htr; cases hst; cases hst'
    exact ⟨rfl, hie, fun _ => rfl, ⟨⟨fun _ => rfl, fun _ => nofun, fun _ => rfl⟩, readyOk_weaken fixed _ _ _ hok.2 (fun _ => rfl)⟩, fun _ hnr => nomatch hnr⟩
  | enq _ it ops rest hg htr hst hst' hl =>
    subst htr; cases hst
    -- one more enqueued, one more queued; a drain frame appears exactly when `idle` flips
    refine ⟨?_, nofun, id, ?_, fun _ _ => ?_⟩ <;> dsimp only at hst' ⊢ <;> rw [hst']
    · cases hi : tr.idle <;> simp [nDrain]; omega
    · cases tr.idle
      · exact hok
      · exact ⟨⟨fun _ => rfl, fun _ => nofun, nofun⟩, hok⟩
    · rw [hl.1, hl.2]; cases tr.idle <;> simp [readyOf, enqueue_eq_insertDue, length_insertDue] <;> omega
  | collect ready rest hg htr hst hst' hl =>
    subst htr; cases hst; cases hst'
    refine ⟨rfl, fun hi => ?_, id, ⟨⟨fun h' => absurd rfl h', fun _ => nofun, nofun⟩, hok.2⟩, fun _ _ => ?_⟩
    · show tr.queue.dropWhile _ = []; rw [hie hi]; rfl
    · have := congrArg List.length (List.takeWhile_append_dropWhile (p := isDue g.clock) (l := tr.queue))
      rw [List.length_append] at this
      rw [hl.1, hl.2]; simp [readyOf]; omega
  | exit ph ready rest hg hph htr hst hst' hl =>
    subst htr; cases hst; cases hst'
    refine ⟨by rw [hdr (Nat.le_add_right 1 _)]; simp [nDrain]; omega, fun _ => rfl, id, hok.2, fun hf hnr => ?_⟩
    -- `check` leaves with an empty batch; `final` does not occur on the fixed path, `abort` only after a raise
    subst hf
    rw [hl.1, hl.2]
    rcases hph with ⟨rfl, _, hq⟩ | rfl | rfl
    · rw [hok.1.batch nofun, hq]; rfl
    · exact absurd rfl (hok.1.noFinal rfl)
    · rw [hok.1.abortRaised rfl] at hnr; cases hnr

end

def drainsOn (k : Nat) (p : Nat × Th) : Nat := if p.1 = k then nDrain p.2.stack else 0
def enqOn (k : Nat) (p : Nat × Th) : Nat := if p.1 = k then nEnq p.2.log else 0
def outOn (k : Nat) (p : Nat × Th) : Nat := if p.1 = k then nOut p.2.log + (readyOf p.2.stack).length else 0

structure MInv (fixed : Bool) (s : Sys) : Prop where
  mutex : ∀ (k : Nat) (tr : Tr), s.trs[k]? = some tr → sumBy (drainsOn k) s.ths = (!tr.idle).toNat
  idleEmpty : ∀ (k : Nat) (tr : Tr), s.trs[k]? = some tr → tr.idle = true → tr.queue = []
  rok : ∀ p ∈ s.ths, ∀ (tr : Tr), s.trs[p.1]? = some tr → readyOk fixed tr.raisedG p.2.stack
  cons : fixed = true → ∀ (k : Nat) (tr : Tr), s.trs[k]? = some tr → tr.raisedG = false →
    sumBy (enqOn k) s.ths = sumBy (outOn k) s.ths + tr.queue.length

theorem Sys.step_eq (fixed : Bool) (s : Sys) (i dt k : Nat) (th : Th) (tr : Tr)
    (hi : s.ths[i]? = some (k, th)) (hk : s.trs[k]? = some tr) :
    s.step fixed i dt =
      { g := (thStep fixed tr { s.g with clock := s.g.clock + dt } th).2.1,
        trs := s.trs.set k (thStep fixed tr { s.g with clock := s.g.clock + dt } th).1,
        ths := s.ths.set i (k, (thStep fixed tr { s.g with clock := s.g.clock + dt } th).2.2) } := by
  simp [Sys.step, hi, hk]

theorem Sys.step_cases (fixed : Bool) (s : Sys) (i dt : Nat) :
    s.step fixed i dt = s ∨ ∃ k th tr, s.ths[i]? = some (k, th) ∧ s.trs[k]? = some tr ∧
      s.step fixed i dt =
        { g := (thStep fixed tr { s.g with clock := s.g.clock + dt } th).2.1,
          trs := s.trs.set k (thStep fixed tr { s.g with clock := s.g.clock + dt } th).1,
          ths := s.ths.set i (k, (thStep fixed tr { s.g with clock := s.g.clock + dt } th).2.2) } := by
  cases hi : s.ths[i]? with
  | none => exact .inl (by simp [Sys.step, hi])
  | some p =>
    cases hk : s.trs[p.1]? with
    | none => exact .inl (by simp [Sys.step, hi, hk])
    | some tr => exact .inr ⟨p.1, p.2, tr, rfl, hk, Sys.step_eq fixed s i dt p.1 p.2 tr hi hk⟩

theorem minv_step (fixed : Bool) (s : Sys) (i dt : Nat) (h : MInv fixed s) : MInv fixed (s.step fixed i dt) := by
  rcases Sys.step_cases fixed s i dt with hs | ⟨k, th, tr, hi, hk, hs⟩ <;> rw [hs]
  · exact h
  · generalize hg : ({ s.g with clock := s.g.clock + dt } : Glob) = g0
    obtain ⟨mutex, idleEmpty, rok, cons⟩ := h
    have hmem : (k, th) ∈ s.ths := List.mem_of_getElem? hi
    have hD := sumBy_set (drainsOn k) s.ths i (k, th) (k, (thStep fixed tr g0 th).2.2) hi
    have hDle := sumBy_le_mem (drainsOn k) s.ths i (k, th) hi
    have hmk := mutex k tr hk
    simp only [drainsOn, if_true] at hD hDle
    have hdr : 1 ≤ nDrain th.stack → tr.idle = false := by
      intro h1; cases hid : tr.idle
      · rfl
      · simp [hid] at hmk; omega
    have e := thStep_meff fixed tr g0 th
    have keep := e.pres hdr (idleEmpty k tr hk) (rok _ hmem tr hk)
    have hstep := keep.drain
    have hklt : k < s.trs.length := (List.getElem?_eq_some_iff.mp hk).1
    generalize hr : thStep fixed tr g0 th = r at *
    rcases r with ⟨trN, gN, thN⟩
    simp only at *
    have hcase : ∀ k' tr', (s.trs.set k trN)[k']? = some tr' → (k' = k ∧ tr' = trN) ∨ (k' ≠ k ∧ s.trs[k']? = some tr') := by
      intro k' tr' hk'
      by_cases hkk : k' = k
      · rw [hkk, List.getElem?_set_self hklt] at hk'; exact .inl ⟨hkk, (Option.some.inj hk').symm⟩
      · rw [List.getElem?_set_ne (Ne.symm hkk)] at hk'; exact .inr ⟨hkk, hk'⟩
    have other : ∀ f : Nat × Th → Nat, f (k, th) = 0 → f (k, thN) = 0 → sumBy f (s.ths.set i (k, thN)) = sumBy f s.ths :=
      fun f h0 h1 => by have := sumBy_set f s.ths i _ (k, thN) hi; omega
    refine ⟨?_, ?_, ?_, ?_⟩
    · intro k' tr' hk'
      rcases hcase k' tr' hk' with ⟨rfl, rfl⟩ | ⟨hkk, hk'⟩
      · dsimp only; omega -- `hD`: the sum changes by this thread's term; `hmk`: the clause before; `hstep`
      · dsimp only; rw [other _ (by simp [drainsOn, Ne.symm hkk]) (by simp [drainsOn, Ne.symm hkk])]; exact mutex k' tr' hk'
    · intro k' tr' hk'
      rcases hcase k' tr' hk' with ⟨rfl, rfl⟩ | ⟨hkk, hk'⟩
      · exact keep.idleEmpty
      · exact idleEmpty k' tr' hk'
    · intro p hp tr2 htr2
      dsimp only at hp htr2
      rcases List.mem_or_eq_of_mem_set hp with hp | rfl
      · rcases hcase _ _ htr2 with ⟨hkk, rfl⟩ | ⟨_, htr2⟩
        · exact readyOk_weaken fixed _ _ _ (rok p hp tr (hkk ▸ hk)) keep.raised
        · exact rok p hp tr2 htr2
      · rcases hcase _ _ htr2 with ⟨_, rfl⟩ | ⟨hkk, _⟩
        · exact keep.rok
        · exact absurd rfl hkk
    · intro hf k' tr' hk' hnr'
      subst hf
      rcases hcase k' tr' hk' with ⟨rfl, rfl⟩ | ⟨hkk, hk'⟩
      · have hE := sumBy_set (enqOn k') s.ths i (k', th) (k', thN) hi
        have hO := sumBy_set (outOn k') s.ths i (k', th) (k', thN) hi
        simp only [enqOn, outOn, if_true] at hE hO
        have hnr0 : tr.raisedG = false := by
          cases hr : tr.raisedG
          · rfl
          · rw [keep.raised hr] at hnr'; cases hnr'
        have hc := keep.cons rfl hnr'
        have := cons rfl k' tr hk hnr0
        dsimp only; omega -- `hE`, `hO`: the sums change by this thread's terms; `this`: the clause before; `hc`
      · dsimp only; rw [other _ (by simp [enqOn, Ne.symm hkk]) (by simp [enqOn, Ne.symm hkk]),
          other _ (by simp [outOn, Ne.symm hkk]) (by simp [outOn, Ne.symm hkk])]
        exact cons rfl k' tr' hk' hnr'

theorem minv_run (fixed : Bool) (s : Sys) (sched : List (Nat × Nat)) (h : MInv fixed s) : MInv fixed (s.run fixed sched) :=
  List.foldl_pres (P := MInv fixed) _ (fun s p h => minv_step fixed s p.1 p.2 h) sched h

theorem Sys.run_trs_length (fixed : Bool) (s : Sys) (sched : List (Nat × Nat)) : (s.run fixed sched).trs.length = s.trs.length := by
  refine List.foldl_pres (P := fun s' : Sys => s'.trs.length = s.trs.length) _ (fun s' p h => ?_) sched rfl
  rcases Sys.step_cases fixed s' p.1 p.2 with hs | ⟨_, _, _, _, _, hs⟩ <;> rw [hs]
  · exact h
  · simpa using h

theorem minv_init (fixed : Bool) (ntr : Nat) (progs : List (Nat × List Op)) (clock : Int) :
    MInv fixed (Sys.init ntr progs clock) := by
  have htr : ∀ (k : Nat) (tr : Tr), (List.replicate ntr ({} : Tr))[k]? = some tr → tr = {} := by
    intro k tr h
    have := List.mem_of_getElem? h
    exact (List.mem_replicate.mp this).2
  refine ⟨?_, ?_, ?_, ?_⟩
  · intro k tr hk
    rw [htr k tr hk]
    simp only [Sys.init]
    rw [sumBy_map_zero _ _ _ fun ⟨k', p⟩ => by simp [drainsOn, nDrain]]
    rfl
  · intro k tr hk _; rw [htr k tr hk]
  · intro p hp tr _
    simp only [Sys.init, List.mem_map] at hp
    obtain ⟨⟨k, q⟩, _, rfl⟩ := hp
    simp [readyOk]
  · intro _ k tr hk _
    rw [htr k tr hk]
    simp only [Sys.init]
    rw [sumBy_map_zero _ _ _ fun ⟨k', p⟩ => by simp [enqOn, nEnq], sumBy_map_zero _ _ _ fun ⟨k', p⟩ => by simp [outOn, nOut, readyOf]]
    rfl

def Sys.proj (s : Sys) (i k : Nat) : Option St :=
  match s.ths[i]?, s.trs[k]? with
  | some (_, th), some tr => some { tr := tr, g := s.g, th := th }
  | _, _ => none

def Sys.owns (s : Sys) (i k : Nat) : Prop :=
  (∃ th, s.ths[i]? = some (k, th)) ∧ (∃ tr, s.trs[k]? = some tr) ∧
    ∀ j p, j ≠ i → s.ths[j]? = some p → p.1 ≠ k

theorem envStep_zero (s : St) : envStep s 0 0 [] = s := by
  rcases s with ⟨tr, ⟨c, ca, n⟩, th⟩
  simp [envStep]

theorem proj_step (fixed : Bool) (s : Sys) (i k j dt : Nat) (ho : s.owns i k) :
    ∃ a st, s.proj i k = some st ∧ (s.step fixed j dt).proj i k = some (stepA fixed st a) ∧ (s.step fixed j dt).owns i k := by
  obtain ⟨⟨th, hi⟩, ⟨tr, hk⟩, hex⟩ := ho
  have hproj : s.proj i k = some { tr := tr, g := s.g, th := th } := by simp [Sys.proj, hi, hk]
  have hklt : k < s.trs.length := (List.getElem?_eq_some_iff.mp hk).1
  have hilt : i < s.ths.length := (List.getElem?_eq_some_iff.mp hi).1
  by_cases hji : j = i
  · subst hji
    refine ⟨.go dt, _, hproj, ?_, ?_⟩
    · rw [Sys.step_eq fixed s j dt k th tr hi hk]
      simp [Sys.proj, List.getElem?_set_self hklt, List.getElem?_set_self hilt, stepA, step]
    · rw [Sys.step_eq fixed s j dt k th tr hi hk]
      refine ⟨⟨_, List.getElem?_set_self hilt⟩, ⟨_, List.getElem?_set_self hklt⟩, ?_⟩
      intro j' p hne hp
      simp only [List.getElem?_set_ne (Ne.symm hne)] at hp
      exact hex j' p hne hp
  · rcases Sys.step_cases fixed s j dt with hs | ⟨k', th', tr', hj, hk', hs⟩ <;> rw [hs]
    · exact ⟨.env 0 0 [], _, hproj, by rw [hproj, stepA, envStep_zero], ⟨th, hi⟩, ⟨tr, hk⟩, hex⟩
    · have hkk : k' ≠ k := hex j (k', th') hji hj
      obtain ⟨dt', dn, cs, hg⟩ := thStep_env fixed tr' { s.g with clock := s.g.clock + dt } th'
      refine ⟨.env (dt + dt') dn cs, _, hproj, ?_, ⟨th, by simp [List.getElem?_set_ne hji, hi]⟩, ⟨tr, by simp [List.getElem?_set_ne hkk, hk]⟩, ?_⟩
      · simp only [Sys.proj, List.getElem?_set_ne hji, List.getElem?_set_ne hkk, hi, hk, stepA, envStep, hg]
        simp only [Option.some.injEq, St.mk.injEq, Glob.mk.injEq, true_and, and_true]
        push_cast; omega
      · intro j' p hne hp
        by_cases hjj : j' = j
        · subst hjj
          have hjlt : j' < s.ths.length := (List.getElem?_eq_some_iff.mp hj).1
          simp only [List.getElem?_set_self hjlt, Option.some.injEq] at hp
          subst hp; exact hkk
        · simp only [List.getElem?_set_ne (Ne.symm hjj)] at hp
          exact hex j' p hne hp

theorem proj_run (fixed : Bool) (s : Sys) (i k : Nat) (sched : List (Nat × Nat)) (ho : s.owns i k) :
    ∃ acts st, s.proj i k = some st ∧ (s.run fixed sched).proj i k = some (runA fixed st acts) := by
  induction sched generalizing s with
  | nil =>
    obtain ⟨⟨th, hi⟩, ⟨tr, hk⟩, _⟩ := ho
    exact ⟨[], { tr := tr, g := s.g, th := th }, by simp [Sys.proj, hi, hk], by simp [Sys.run, runA, Sys.proj, hi, hk]⟩
  | cons p ps ih =>
    obtain ⟨a, st, h1, h2, h3⟩ := proj_step fixed s i k p.1 p.2 ho
    obtain ⟨acts, st', h4, h5⟩ := ih (s.step fixed p.1 p.2) h3
    rw [h2] at h4
    cases h4
    exact ⟨a :: acts, st, h1, by simpa [Sys.run, runA] using h5⟩
end Thr.Tramp

