import RxModel.PipeTramp
/-! Lemmas for the trampoline-merge model: a disposed run is frozen, a never-disposed run only appends, and the two run in
lockstep until the disposing notification. -/
namespace Pipe.Tramp

theorem notifs_nil : notifs [] = 0 := rfl

theorem notifs_append (a b : List Ev) : notifs (a ++ b) = notifs a + notifs b := by
  simp [notifs, List.filter_append]

theorem notifs_single (e : Ev) : notifs [e] = if e.isNotif then 1 else 0 := by
  unfold notifs; by_cases h : e.isNotif <;> simp [List.filter, h]

theorem notifs_cons (e : Ev) (es : List Ev) : notifs (e :: es) = (if e.isNotif then 1 else 0) + notifs es := by
  rw [show e :: es = [e] ++ es from rfl, notifs_append, notifs_single]

theorem cut_of_lt : ∀ (l : List Ev) (m : Nat), notifs l < m → cut m l = l
  | [], m, _ => by cases m <;> rfl
  | e :: es, 0, h => by omega
  | e :: es, m + 1, h => by
    have hc := notifs_cons e es
    by_cases hn : e.isNotif
    · simp only [cut, hn, if_true]
      rw [cut_of_lt es m (by simp [hn] at hc; omega)]
    · simp only [cut, hn]
      rw [cut_of_lt es (m + 1) (by simp [hn] at hc; omega)]
      simp

theorem cut_append_notif : ∀ (E : List Ev) (k : Nat) (e : Ev) (rest : List Ev), e.isNotif = true → notifs E = k →
    cut (k + 1) (E ++ e :: rest) = E ++ [e]
  | [], k, e, rest, he, hk => by
    have : k = 0 := by simpa [notifs] using hk.symm
    subst this
    cases rest <;> simp [cut, he]
  | x :: xs, k, e, rest, he, hk => by
    have hc := notifs_cons x xs
    by_cases hn : x.isNotif
    · simp [hn] at hc
      obtain ⟨k', rfl⟩ : ∃ k', k = k' + 1 := ⟨notifs xs, by omega⟩
      have := cut_append_notif xs k' e rest he (by omega)
      simp [cut, hn, this]
    · simp [hn] at hc
      have := cut_append_notif xs k e rest he (by omega)
      simp [cut, hn, this]

theorem runTurn_disposed (w : When) (p : Nat) (as : List Atom) (s : St) (h : s.disposed = true) : runTurn w p as s = s := by
  cases as <;> simp [runTurn, h]

theorem drain_disposed (w : When) : ∀ (f : Nat) (s : St), s.disposed = true →
    (drain w f s).evs = s.evs ∧ (drain w f s).disposed = true
  | 0, s, h => by simp [drain, h]
  | f + 1, s, h => by
    unfold drain
    split
    · simp [h]
    · exact drain_disposed w f _ h
    · rw [if_pos h]; exact drain_disposed w f _ h

theorem deliver_never (e : Ev) (s : St) : (deliver .never e s).evs = s.evs ++ [e] := by
  simp [deliver]

theorem atom_never (p : Nat) (a : Atom) (s : St) : ∃ r, (atom .never p a s).evs = s.evs ++ r := by
  cases a with
  | cb t => exact ⟨[.cb p t], rfl⟩
  | emit j => exact ⟨[.next p j], deliver_never _ _⟩
  | done =>
    simp only [atom]
    split
    · exact ⟨[.completed], deliver_never _ _⟩
    · exact ⟨[], by simp⟩

theorem runTurn_never (p : Nat) : ∀ (as : List Atom) (s : St), ∃ r, (runTurn .never p as s).evs = s.evs ++ r
  | [], s => ⟨[], by simp [runTurn]⟩
  | a :: as, s => by
    unfold runTurn
    split
    · exact ⟨[], by simp⟩
    · obtain ⟨r1, h1⟩ := atom_never p a s
      obtain ⟨r2, h2⟩ := runTurn_never p as (atom .never p a s)
      exact ⟨r1 ++ r2, by rw [h2, h1, List.append_assoc]⟩

theorem requeue_evs (p : Nat) (ts : Producer) (s : St) :
    (requeue p ts s).evs = s.evs ∧ (requeue p ts s).disposed = s.disposed ∧ (requeue p ts s).seen = s.seen := by
  unfold requeue; split <;> simp

theorem drain_never : ∀ (f : Nat) (s : St), ∃ r, (drain .never f s).evs = s.evs ++ r
  | 0, s => ⟨[], by simp [drain]⟩
  | f + 1, s => by
    unfold drain
    split
    · exact ⟨[], by simp⟩
    · exact drain_never f _
    · split
      · exact drain_never f _
      · rename_i p t ts q _ _
        obtain ⟨r1, h1⟩ := runTurn_never p t { s with queue := q }
        obtain ⟨r2, h2⟩ := drain_never f (requeue p ts (runTurn .never p t { s with queue := q }))
        rw [(requeue_evs _ _ _).1] at h2
        exact ⟨r1 ++ r2, by rw [h2, h1, List.append_assoc]⟩

/-- the disposing run stopped right at the k-th notification; the never-disposed run has the same events and then more -/
def CutAt (k : Nat) (a b : List Ev) : Prop :=
  ∃ E e rest, e.isNotif = true ∧ notifs E = k ∧ a = E ++ [e] ∧ b = E ++ e :: rest

theorem CutAt.extend {k : Nat} {a b : List Ev} (h : CutAt k a b) (more : List Ev) : CutAt k a (b ++ more) := by
  obtain ⟨E, e, rest, he, hk, ha, hb⟩ := h
  exact ⟨E, e, rest ++ more, he, hk, ha, by rw [hb]; simp⟩

/-- the live disposing run: counted notifications agree with the log and the disposing ordinal is still ahead -/
def Good (k : Nat) (s : St) : Prop := s.disposed = false ∧ notifs s.evs = s.seen ∧ s.seen ≤ k

/-- outcome of running the same piece of program under `during k` (D) and `never` (N) from the same live state: still in
lockstep, or the disposing run stopped at the k-th notification -/
def Outcome (k : Nat) (d n : St) : Prop :=
  (d = n ∧ Good k d) ∨ (d.disposed = true ∧ CutAt k d.evs n.evs)

theorem deliver_rel (k : Nat) (e : Ev) (he : e.isNotif = true) (s : St) (g : Good k s) :
    Outcome k (deliver (.during k) e s) (deliver .never e s) := by
  obtain ⟨gd, gn, gs⟩ := g
  by_cases hk : k = s.seen
  · right
    exact ⟨by simp [deliver, When.hits, hk], s.evs, e, [], he, by omega, by simp [deliver], by simp [deliver]⟩
  · left
    have hb : (k == s.seen) = false := by simpa using hk
    refine ⟨by simp [deliver, When.hits, hb, gd], by simp [deliver, When.hits, hb, gd], ?_, ?_⟩
    · simp [deliver, notifs_append, notifs_single, he, gn]
    · simp [deliver]; omega

theorem atom_rel (k p : Nat) (a : Atom) (s : St) (g : Good k s) : Outcome k (atom (.during k) p a s) (atom .never p a s) := by
  cases a with
  | cb t =>
    left
    refine ⟨rfl, g.1, ?_, g.2.2⟩
    simp [atom, notifs_append, notifs_single, Ev.isNotif, g.2.1]
  | emit j => exact deliver_rel k _ rfl s g
  | done =>
    simp only [atom]
    split
    · exact deliver_rel k _ rfl _ ⟨g.1, g.2.1, g.2.2⟩
    · exact Or.inl ⟨rfl, g.1, g.2.1, g.2.2⟩

theorem runTurn_rel (k p : Nat) : ∀ (as : List Atom) (s : St), Good k s →
    Outcome k (runTurn (.during k) p as s) (runTurn .never p as s)
  | [], s, g => Or.inl ⟨rfl, g⟩
  | a :: as, s, g => by
    unfold runTurn
    simp only [g.1, Bool.false_eq_true, if_false]
    rcases atom_rel k p a s g with ⟨heq, g'⟩ | ⟨hd, hc⟩
    · rw [heq] at g' ⊢
      exact runTurn_rel k p as _ g'
    · right
      rw [runTurn_disposed _ _ _ _ hd]
      obtain ⟨r, hr⟩ := runTurn_never p as (atom .never p a s)
      exact ⟨hd, by rw [hr]; exact hc.extend r⟩

theorem good_requeue {k : Nat} {s : St} (p : Nat) (ts : Producer) (g : Good k s) : Good k (requeue p ts s) := by
  obtain ⟨e1, e2, e3⟩ := requeue_evs p ts s
  exact ⟨by rw [e2]; exact g.1, by rw [e1, e3]; exact g.2.1, by rw [e3]; exact g.2.2⟩

theorem outcome_of_disposed (k f : Nat) (d n : St) (hd : d.disposed = true) (hc : CutAt k d.evs n.evs) :
    Outcome k (drain (.during k) f d) (drain .never f n) := by
  obtain ⟨f1, f2⟩ := drain_disposed (.during k) f d hd
  obtain ⟨r, hr⟩ := drain_never f n
  exact .inr ⟨f2, by rw [f1, hr]; exact hc.extend r⟩

theorem drain_rel (k : Nat) : ∀ (f : Nat) (s : St), Good k s → Outcome k (drain (.during k) f s) (drain .never f s)
  | 0, s, g => Or.inl ⟨rfl, g⟩
  | f + 1, s, g => by
    obtain ⟨queue, live, seen, disposed, evs⟩ := s
    have hd0 : disposed = false := g.1
    subst hd0
    unfold drain
    split
    · exact Or.inl ⟨rfl, g⟩
    · exact drain_rel k f _ ⟨g.1, g.2.1, g.2.2⟩
    · rename_i p t ts q _
      simp only [Bool.false_eq_true, if_false]
      rcases runTurn_rel k p t { queue := q, live := live, seen := seen, disposed := false, evs := evs } ⟨rfl, g.2.1, g.2.2⟩ with ⟨heq, g'⟩ | ⟨hd, hc⟩
      · rw [heq]
        rw [heq] at g'
        exact drain_rel k f _ (good_requeue p ts g')
      · obtain ⟨e1, e2, _⟩ := requeue_evs p ts (runTurn (.during k) p t ⟨q, live, seen, false, evs⟩)
        exact outcome_of_disposed k f _ _ (e2 ▸ hd) (by rw [e1, (requeue_evs _ _ _).1]; exact hc)

theorem outcome_cut {k : Nat} {d n : St} (h : Outcome k d n) : d.evs = cut (k + 1) n.evs := by
  rcases h with ⟨heq, g⟩ | ⟨_, E, e, rest, he, hk, ha, hb⟩
  · rw [← heq, cut_of_lt _ _ (by rw [g.2.1]; exact Nat.lt_succ_of_le g.2.2)]
  · rw [ha, hb, cut_append_notif E k e rest he hk]

theorem outcome_notifs {k : Nat} {d n : St} (h : Outcome k d n) : notifs d.evs ≤ k + 1 := by
  rcases h with ⟨_, g⟩ | ⟨_, E, e, rest, he, hk, ha, _⟩
  · rw [g.2.1]; exact Nat.le_succ_of_le g.2.2
  · rw [ha, notifs_append, notifs_single, hk]; simp [he]

theorem final_outcome (ps : List Producer) (k : Nat) : Outcome k (final (.during k) ps) (final .never ps) := by
  unfold final init
  have hw : ((When.during k) == When.atStart) = false := by simp
  have hn : (When.never == When.atStart) = false := by decide
  simp only [hw, hn]
  by_cases hp : ps.isEmpty = true
  · simp only [hp, Bool.not_false, Bool.and_self, if_true]
    rcases deliver_rel k .completed rfl
        { queue := enumFrom 0 ps, live := ps.length, seen := 0, disposed := false, evs := [] } ⟨rfl, rfl, Nat.zero_le k⟩ with
      ⟨heq, g⟩ | ⟨hd, hc⟩
    · rw [heq]; rw [heq] at g; exact drain_rel k _ _ g
    · exact outcome_of_disposed k _ _ _ hd hc
  · simp only [hp, Bool.false_and, Bool.false_eq_true, if_false]
    exact drain_rel k _ _ ⟨rfl, rfl, Nat.zero_le k⟩

theorem turns_append (q : List (Nat × Producer)) (p : Nat) (ts : Producer) : turns (q ++ [(p, ts)]) = turns q + ts.length + 1 := by
  induction q with
  | nil => simp [turns]
  | cons x q ih => obtain ⟨a, b⟩ := x; simp [turns, ih]; omega

theorem atom_queue (w : When) (p : Nat) (a : Atom) (s : St) : (atom w p a s).queue = s.queue := by
  cases a <;> simp [atom, deliver]
  split <;> rfl

theorem runTurn_queue (w : When) (p : Nat) : ∀ (as : List Atom) (s : St), (runTurn w p as s).queue = s.queue
  | [], _ => rfl
  | a :: as, s => by
    unfold runTurn
    split
    · rfl
    · rw [runTurn_queue w p as, atom_queue]

theorem drain_complete (w : When) : ∀ (f : Nat) (s : St), turns s.queue ≤ f → (drain w f s).queue = []
  | 0, s, h => by
    cases hq : s.queue with
    | nil => simp [drain, hq]
    | cons x q => obtain ⟨a, b⟩ := x; rw [hq] at h; simp [turns] at h
  | f + 1, s, h => by
    unfold drain
    split
    · assumption
    · rename_i p q hq
      rw [hq] at h; simp only [turns] at h
      exact drain_complete w f _ (by simp; omega)
    · rename_i p t ts q hq
      rw [hq] at h; simp only [turns, List.length_cons] at h
      split
      · exact drain_complete w f _ (by simp; omega)
      · apply drain_complete w f
        unfold requeue
        split
        · rw [runTurn_queue]; simp; omega
        · simp only [runTurn_queue, turns_append]; omega

end Pipe.Tramp
