import RxProofs.Lemmas.WinMachOps
import RxProofs.Lemmas.WinClosed
/-!
# The routing specification (`Win.routed`) holds of every `OpsMach` that feeds the element first and pushes nothing after.
-/
namespace Win
variable {σ α : Type}

/-- what one event contributes to window `id` according to the routing specification. -/
def Ev.delta (e : Ev α) (b : Base α) (o : List Nat) (id : Nat) : List α :=
  match e with
  | .src 0 (.next x) => if b.live.contains 0 ∧ id ∈ o ∧ id < b.wins.length ∧ b.endedOf id = none then [x] else []
  | _ => []

theorem routed_cons (m : Mach σ α) (base : σ → Base α) (openOf : σ → List Nat) (s : σ) (t : Nat) (e : Ev α)
    (es : List (Nat × Ev α)) (id : Nat) :
    routed m base openOf s ((t, e) :: es) id = e.delta (base s) (openOf s) id ++ routed m base openOf (m.step s t e) es id := by
  cases e with
  | src k n => cases k <;> cases n <;> rfl
  | dispose w => rfl
  | tick => rfl

theorem Ev.pushedOf_feed (e : Ev α) (b : Base α) {o : List Nat} (ho : o.Nodup) (id : Nat) :
    (e.feed b o).pushedOf id = b.pushedOf id ++ e.delta b o id := by
  have hnil : b.pushedOf id = b.pushedOf id ++ [] := (List.append_nil _).symm
  cases e with
  | src k n =>
    cases k with
    | zero =>
      cases n with
      | next x =>
        simp only [Ev.feed, Ev.delta]
        by_cases hl : b.live.contains 0 = true
        · rw [if_pos hl, Base.pushedOf_foldl_winNext _ ho]; simp only [hl, true_and]; split <;> simp
        · rw [if_neg hl, if_neg (fun h => hl h.1), List.append_nil]
      | error e => exact hnil
      | completed => exact hnil
    | succ k => exact hnil
  | dispose w => exact hnil
  | tick => exact hnil

theorem Base.Ops.pushedOf_eq {keep closed : Prop} {b b' : Base α} {o o' : List Nat} (h : Base.Ops keep closed True b o b' o')
    (j : Nat) : b'.pushedOf j = b.pushedOf j := by
  induction h with
  | refl => rfl
  | emit out _ _ ih => exact ih
  | subscribe k _ _ ih => exact ih
  | subscribeDead k _ _ ih => rw [Base.pushedOf_unsub]; exact ih
  | unsub k _ _ ih => rw [Base.pushedOf_unsub]; exact ih
  | push _ _ hq => exact absurd trivial hq
  | winEnd i e _ ih => rw [Base.pushedOf_winEnd]; exact ih
  | open_ _ ih => rw [Base.pushedOf_open]; exact ih
  | outerEnd e _ ih => rw [Base.pushedOf_outerEnd]; exact ih
  | disposeEv w _ ih => rw [Base.pushedOf_disposeEv]; exact ih
  | drop _ _ _ _ ih => exact ih

namespace OpsMach
variable {closed : Prop} (M : OpsMach σ α closed)
  (hfeed : ∀ s t e, Base.Ops (e.notSrcTerminal = true) closed True (e.feed ({ M.base s with now := t } : Base α) (M.openOf s)) (M.openOf s)
    (M.base (M.m.step s t e)) (M.openOf (M.m.step s t e)))
include hfeed

theorem partition_fold : ∀ (evs : List (Nat × Ev α)) (s : σ) (id : Nat), Base.Good (M.base s) (M.openOf s) →
    (M.base (M.m.fold s evs)).pushedOf id = (M.base s).pushedOf id ++ routed M.m M.base M.openOf s evs id := by
  intro evs
  induction evs with
  | nil => intro s id _; simp [routed]
  | cons te es ih =>
    intro s id hg
    obtain ⟨t, e⟩ := te
    have hdelta : (M.base (M.m.step s t e)).pushedOf id = (M.base s).pushedOf id ++ e.delta (M.base s) (M.openOf s) id := by
      rw [(hfeed s t e).pushedOf_eq]; exact e.pushedOf_feed _ hg.1 id
    rw [Mach.fold_cons, ih (M.m.step s t e) id (M.inv_step (K := False) Base.Good.inv s t e nofun hg), hdelta, routed_cons,
      List.append_assoc]

theorem partition (evs : List (Nat × Ev α)) (id : Nat) :
    (M.base (M.run M.s0 evs)).pushedOf id = routed M.m M.base M.openOf M.s0 evs id := by
  have h0 := M.init (keep := True) (closed' := True) (quiet := True)
  rw [M.run_eq, M.partition_fold hfeed evs M.s0 id ((Base.Good.inv (keep := True) (closed := True)).ops M.init ⟨List.nodup_nil, nofun⟩), h0.pushedOf_eq]
  exact List.nil_append _

end OpsMach

end Win
