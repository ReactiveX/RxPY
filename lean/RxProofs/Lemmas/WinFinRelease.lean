import RxProofs.Lemmas.WinFinShape
/-!
# One machine for `using`, `finally_action`, `do_finally` and the `do_*` operators

`D` and the operator's disposable `R` are both live or both disposed: `DirSync` says so inside `subscribe`, `DirInv` between
the events after it, `Raised` when `subscribe` raised.  An operator enters through `Hooks` (its handlers as equations) and
`Releases` (its first `R.dispose()`).  The state does not depend on which exceptions fly, so everything is about `(p s).1`.
-/
namespace WinFin

def Cfg.cnt (c : Cfg) : Cnt where
  nr := if c.oper = .using then c.hasRes.toNat else 0
  nf := if c.oper = .finallyAction ∨ c.oper = .doFinally then 1 else 0
  nd := if c.oper = .doOnDispose then 1 else 0

/-- the finally-action is guarded by the flag `was_invoked` and also runs from the terminal handlers (`do_finally`) -/
def Cfg.flag (c : Cfg) : Bool := decide (c.oper = .doFinally)

theorem cnt_nr {c : Cfg} (hc : c.oper = .using) : c.cnt.nr = c.hasRes.toNat := by simp [Cfg.cnt, hc]
theorem cnt_nf {c : Cfg} (hc : c.oper = .finallyAction ∨ c.oper = .doFinally) : c.cnt.nf = 1 := by simp [Cfg.cnt, hc]
theorem cnt_nd {c : Cfg} (hc : c.oper = .doOnDispose) : c.cnt.nd = 1 := by simp [Cfg.cnt, hc]
theorem flag_iff {c : Cfg} : c.flag = true ↔ c.oper = .doFinally := by simp [Cfg.flag]

structure ReleaseOut {α} (c : Cfg) (s : St α) (o : OSt) (u : USt) (R : List (Eff α)) : Prop where
  eq : (rDispose c s).1 = { s with o := o, u := u, log := s.log ++ R }
  rd : o.rDisposed = c.guarded
  wi : o.wasInvoked = (c.flag || s.o.wasInvoked)
  /-- `U`'s subscription is disposed, and nothing else that both pipelines share is logged; or, with the flag, the hook raises -/
  src : u = uSubDisp s.u ∧ view R = srcIf (!s.u.subDisposed && !s.u.sad && s.u.cur) ∨
    c.flag = true ∧ (rDispose c s).2.isSome = true
  noexn : (∀ k, c.actRaises k = false) → c.srcDisposeRaises = false → (rDispose c s).2 = none
  marks : (s.o.wasInvoked = true → c.flag = true) → Marks c.cnt.nr (if s.o.wasInvoked then 0 else c.cnt.nf) c.cnt.nd R

theorem ReleaseOut.uh {α} {c : Cfg} {s : St α} {o : OSt} {u : USt} {R : List (Eff α)} (r : ReleaseOut c s o u R)
    (hsub : s.u.subDisposed = false) (hg : c.flag = false) : u.stopped = true ∧ u.sad = true := by
  rcases r.src with ⟨rfl, -⟩ | ⟨hg', -⟩
  · exact uSubDisp_fresh _ hsub
  · rw [hg] at hg'; cases hg'

def Releases (c : Cfg) : Prop :=
  ∀ {α} (s : St α), s.o.rDisposed = false → ∃ (o : OSt) (u : USt) (R : List (Eff α)), ReleaseOut c s o u R

structure Hooks (c : Cfg) : Prop where
  next : ∀ {α} (v : α), hNext c v = wrap (pre c (.next v)) (post c (.next v)) (dNext c v)
  term : ∀ {α} (t : Notif α), t.isTerminal = true →
    hTerminal c t = if c.flag then seq (dTerminal c t) (tryCatch (finGuard c) fun e' => dTerminal c (.error e'))
      else wrap (pre c t) (post c t) (dTerminal c t)
  fixed : c.oper = .doFinally → c.doFinallyAsIs = false ∨ ∀ k, c.actRaises k = false
  /-- a callback after the delivery is only known to run if `D.dispose()` does not raise -/
  quiet : ∀ {α} (t : Notif α), post c t ≠ [] → c.srcDisposeRaises = false ∧ ∀ k, c.actRaises k = false
  release : Releases c

section
variable {α : Type} {c : Cfg} (H : Hooks c)
include H

theorem Hooks.guard (hg : c.flag = true) :
    c.oper = .doFinally ∧ c.cnt.nf = 1 ∧ (c.doFinallyAsIs = false ∨ ∀ k, c.actRaises k = false) :=
  have hc := flag_iff.1 hg
  ⟨hc, cnt_nf (Or.inr hc), H.fixed hc⟩

theorem Hooks.noCb (hg : c.flag = true) (n : Notif α) : pre c n = [] ∧ post c n = [] := by
  simp [pre, preCb, post, postCb, (H.guard hg).1]

theorem Hooks.next_live (s : St α) (v : α) (hds : s.d.stopped = false) : ∃ A B : List (Eff α),
    (hNext c v s).1 = { s with d.cbs := s.d.cbs + 1, o.acts := s.o.acts + A.length + B.length,
                               log := s.log ++ A ++ .emit (.next v) (c.subRaises s.d.cbs) :: B } ∧
    Around c (.next v) (c.subRaises s.d.cbs) A B := by
  have e : dNext c v (logs (pre c (.next v)) s) = userCb c (.next v) (logs (pre c (.next v)) s) := by
    simp [dNext, hds]
  refine ⟨pre c (.next v), if c.subRaises s.d.cbs then [] else post c (.next v), ?_, around_wrap c _ _⟩
  rw [H.next, wrap_fst, e]
  cases hr : c.subRaises s.d.cbs <;> simp [userCb, logs, hr, Nat.add_assoc]

/-- with the flag a hook that raised leaves `U` live beside a disposed `D`: its handlers then do nothing -/
theorem Hooks.next_stopped (hg : c.flag = true) (s : St α) (v : α) (hds : s.d.stopped = true) :
    hNext c v s = (s, none) := by
  rw [H.next, (H.noCb hg _).1, (H.noCb hg _).2, wrap_nil]; simp [dNext, hds]

theorem Hooks.term_stopped (hg : c.flag = true) (s : St α) (t : Notif α) (ht : t.isTerminal = true)
    (hds : s.d.stopped = true) (hw : s.o.wasInvoked = true) : hTerminal c t s = (s, none) := by
  rw [H.term t ht, hg]
  simp [seq, tryCatch, dTerminal_stopped, finGuard_fixed c (H.guard hg).2.2, hds, hw]

theorem Hooks.handed (s : St α) (t : Notif α) (ht : t.isTerminal = true) (hds : s.d.stopped = false)
    (hsad : s.d.sad = false) (hcur : s.d.cur = true) (hrd : s.o.rDisposed = false) :
    ∃ A B : List (Eff α), (hTerminal c t s).1 = logs B (dTerminal c t (logs A s)).1 ∧
      Around c t (c.subRaises s.d.cbs) A B := by
  refine ⟨pre c t, if c.subRaises s.d.cbs then [] else post c t, ?_, around_wrap c _ _⟩
  have e := dTerminal_live c t (logs (pre c t) s) hds hsad
  simp only [show (logs (pre c t) s).d.cur = true from hcur, if_true] at e
  obtain ⟨o, u, R, r⟩ := H.release (s := { logs (pre c t) s with
    d.stopped := true, d.sad := true, d.cur := false, d.cbs := s.d.cbs + 1,
    log := (logs (pre c t) s).log ++ [.emit t (c.subRaises s.d.cbs)] }) hrd
  rw [H.term t ht]
  rcases Bool.eq_false_or_eq_true c.flag with hg | hg
  · -- the hook of `R.dispose()` has run the action: the handler's own guard finds the flag set
    obtain ⟨hp, hq⟩ := H.noCb hg t
    have hw' : (dTerminal c t s).1.o.wasInvoked = true := by
      have := e; rw [hp, logs_nil] at this; rw [hp, logs_nil] at r
      rw [this]; simp [r.eq, r.wi, hg]
    rw [hg, hp, hq, logs_nil]
    simp only [if_true, seq, tryCatch, ite_self, logs_nil]
    rcases hd : dTerminal c t s with ⟨s', _ | x⟩
    · rw [hd] at hw'; simp [finGuard_fixed c (H.guard hg).2.2, show s'.o.wasInvoked = true from hw']
    · rfl
  · rw [hg]
    simp only [Bool.false_eq_true, if_false, wrap_fst]
    cases hB : post c t with
    | nil => simp
    | cons b B =>
      -- a callback after the delivery: `R.dispose()` does not raise (`quiet`), only the subscriber's callback can
      obtain ⟨hsd, hnr⟩ := H.quiet t (by simp [hB])
      have hx : (dTerminal c t (logs (pre c t) s)).2 =
          if c.subRaises s.d.cbs then some (c.cbErr s.d.cbs) else none := by
        rw [e]; exact (congrArg (Option.or · _) (r.noexn hnr hsd)).trans (Option.none_or ..)
      rw [hx]
      cases c.subRaises s.d.cbs <;> simp

/-- `F`: the finally-action run by the handler itself -/
theorem Hooks.sync (s : St α) (t : Notif α) (ht : t.isTerminal = true) (hds : s.d.stopped = false)
    (hsad : s.d.sad = false) (hcur : s.d.cur = false) (hw : s.o.wasInvoked = false) :
    ∃ (o : OSt) (A F B : List (Eff α)),
      (hTerminal c t s).1 = { s with d.stopped := true, d.sad := true, d.cur := false, d.cbs := s.d.cbs + 1, o := o,
                                     log := s.log ++ A ++ .emit t (c.subRaises s.d.cbs) :: F ++ B } ∧
      o.rDisposed = s.o.rDisposed ∧ (o.wasInvoked = true → c.flag = true) ∧ Around c t (c.subRaises s.d.cbs) A B ∧
      Marks 0 (if o.wasInvoked then c.cnt.nf else 0) 0 F := by
  have e := dTerminal_live c t (logs (pre c t) s) hds hsad
  simp only [show (logs (pre c t) s).d.cur = false from hcur, Bool.false_eq_true, if_false] at e
  rw [H.term t ht]
  rcases Bool.eq_false_or_eq_true c.flag with hg | hg
  · obtain ⟨hp, hq⟩ := H.noCb hg t
    obtain ⟨-, hnf, hfx⟩ := H.guard hg
    rw [hp, logs_nil] at e
    rw [hg]
    cases hr : c.subRaises s.d.cbs
    · -- the callback returned: the guard runs the action; if it raises, `on_error` finds `D` stopped
      refine ⟨{ s.o with wasInvoked := true, acts := s.o.acts + 1 }, [], [.act .fin none (c.actRaises s.o.acts)], [], ?_,
        rfl, fun _ => rfl, by simpa [hp, hq] using around_wrap c t false, by rw [hnf]; exact marks_fin _⟩
      cases hra : c.actRaises s.o.acts <;>
        simp [seq, tryCatch, e, dTerminal_stopped, finGuard_fixed c hfx, hw, hr, hra]
    · -- the callback raised: the handler is left before its guard
      refine ⟨s.o, [], [], [], ?_, rfl, by simp [hw], by simpa [hp, hq] using around_wrap c t true, by rw [hw]; exact inert_nil⟩
      simp [seq, e, hr]
  · refine ⟨{ s.o with acts := s.o.acts + (pre c t).length + (if c.subRaises s.d.cbs then [] else post c t).length },
      pre c t, [], if c.subRaises s.d.cbs then [] else post c t, ?_, rfl, by simp [hw], around_wrap c _ _,
      by rw [hw]; exact inert_nil⟩
    rw [hg]
    simp only [Bool.false_eq_true, if_false, wrap_fst, e]
    cases hr : c.subRaises s.d.cbs <;> simp [logs, hr]

end

def syncPh {α} (s : St α) : Ph := if s.d.stopped then .term s.o.wasInvoked else .live

theorem syncPh_live {α} {s : St α} (h : s.d.stopped = false) : syncPh s = .live := by simp [syncPh, h]

theorem syncPh_term {α} {s : St α} (h : s.d.stopped = true) : syncPh s = .term s.o.wasInvoked := by simp [syncPh, h]

/-- while the source's `subscribe` body runs: `U` and `D` both live, or a terminal delivered and both stopped -/
structure DirSync {α} (c : Cfg) (l0 : List (Eff α)) (s : St α) : Prop where
  cur : s.d.cur = false
  rd : s.o.rDisposed = false
  wi : s.o.wasInvoked = true → s.d.stopped = true ∧ c.flag = true
  dst : s.d.stopped = s.d.sad
  ust : s.u.stopped = s.d.stopped
  ret : s.d.retDisposed = false
  hdl : s.d.handle = false
  usd : s.u.sad = true → s.u.stopped = true
  nsub : s.u.subDisposed = false                      -- `Disposable(U.dispose)` does not exist / is untouched
  shape : Facts c c.cnt l0 (syncPh s) s.log

section
variable {α : Type} {c : Cfg} {l0 : List (Eff α)}

theorem DirSync.wi_false {s : St α} (h : DirSync c l0 s) (hn : s.d.stopped = false ∨ c.flag = false) :
    s.o.wasInvoked = false := by
  cases hw : s.o.wasInvoked
  · rfl
  · obtain ⟨h1, h2⟩ := h.wi hw
    rcases hn with hn | hn <;> simp_all

theorem DirSync.live {s : St α} (h : DirSync c l0 s) (hds : s.d.stopped = false) :
    Facts c c.cnt l0 .live s.log := syncPh_live hds ▸ h.shape

theorem DirSync.term {s : St α} (h : DirSync c l0 s) (hst : s.d.stopped = true) :
    Facts c c.cnt l0 (.term s.o.wasInvoked) s.log := syncPh_term hst ▸ h.shape

theorem DirSync.hasTerm {s : St α} (h : DirSync c l0 s) : hasTerm s.log = s.d.stopped := by
  rcases Bool.eq_false_or_eq_true s.d.stopped with hst | hst <;> rw [hst]
  · exact (h.term hst).trm _ rfl
  · exact (h.live hst).live rfl

theorem dirSync_init (h0 : NoMark l0) (n : Nat) : DirSync c l0 { log := l0, o := { acts := n } } :=
  ⟨rfl, rfl, fun h => (by cases h), rfl, rfl, rfl, rfl, fun h => (by cases h), rfl, Facts.start h0⟩

theorem dirSync_log (s : St α) (X : List (Eff α)) (h : DirSync c l0 s) (hX : Inert X) :
    DirSync c l0 { s with log := s.log ++ X } :=
  { h with shape := h.shape.inert hX }

theorem dirSync_terminal (H : Hooks c) (s : St α) (t : Notif α)
    (ht : t.isTerminal = true) (h : DirSync c l0 s) (hus : s.u.stopped = false) :
    DirSync c l0 (hTerminal c t { s with u.stopped := true }).1 ∧
    (hTerminal c t { s with u.stopped := true }).1.d.stopped = true ∧
    (hTerminal c t { s with u.stopped := true }).1.u.live = s.u.live := by
  have hds : s.d.stopped = false := by rw [← h.ust, hus]
  have hw := h.wi_false (Or.inl hds)
  obtain ⟨o, A, F, B, hA, ho, hg, hAr, hF⟩ := H.sync { s with u.stopped := true } t ht hds (h.dst ▸ hds) h.cur hw
  rw [hA]
  have hs := h.live hds
  exact ⟨{ cur := rfl, rd := ho.trans h.rd, dst := rfl, ust := rfl, ret := h.ret, hdl := h.hdl, nsub := h.nsub
           wi := fun h => ⟨rfl, hg h⟩, usd := fun _ => rfl
           shape := by simpa [syncPh_term] using hs.term o.wasInvoked ht hAr hF }, rfl, rfl⟩

theorem dirSync_uDispose (s : St α) (h : DirSync c l0 s) (hus : s.u.stopped = true) :
    DirSync c l0 (uDispose c s).1 := by
  rw [uDispose_fst]
  exact { dirSync_log s _ h (inert_srcIf _) with ust := hus.symm.trans h.ust, usd := fun _ => rfl }

theorem dirSync_notify (H : Hooks c) (s : St α) (n : Notif α) (h : DirSync c l0 s) :
    DirSync c l0 (uNotify c n s).1 ∧ (uNotify c n s).1.u.live = s.u.live := by
  cases hus : s.u.stopped
  · have term : ∀ t : Notif α, t.isTerminal = true →
        DirSync c l0 (uNotify c t s).1 ∧ (uNotify c t s).1.u.live = s.u.live := by
      intro t ht
      rw [uNotify_term_fst c s t ht hus]
      obtain ⟨h1, h2, h3⟩ := dirSync_terminal H s t ht h hus
      exact ⟨dirSync_uDispose _ h1 (h1.ust.trans h2), by rw [uDispose_fst]; exact h3⟩
    cases n with
    | next v =>
      have hds : s.d.stopped = false := by rw [← h.ust, hus]
      obtain ⟨A, B, e, hA⟩ := H.next_live s v hds
      rw [uNotify_next, hus, if_neg Bool.false_ne_true, e]
      exact ⟨{ h with shape := by simpa [syncPh_live, hds] using (h.live hds).next hA }, rfl⟩
    | error e => exact term _ rfl
    | completed => exact term _ rfl
  · rw [uNotify_stopped c n s hus]; exact ⟨h, rfl⟩

theorem dirSync_u (s : St α) (h : DirSync c l0 s) (cur live : Bool) :
    DirSync c l0 { s with u.cur := cur, u.live := live } :=
  ⟨h.cur, h.rd, h.wi, h.dst, h.ust, h.ret, h.hdl, h.usd, h.nsub, h.shape⟩

/-- what `source.subscribe(…)` leaves (`R` does not exist yet) -/
structure DirSub (c : Cfg) (l0 : List (Eff α)) (r : St α × Option Err) : Prop where
  inv : DirSync c l0 r.1
  out : (r.1.d.stopped = true ∧ (r.1.u.live = false ∨ r.1.u.sad = true)) ∨ (r.2 = none ∧ r.1.u.live = true)

theorem dirSync_srcSubscribe (H : Hooks c) (sp : SyncPhase α) (s : St α) (h : DirSync c l0 s)
    (hl : s.u.live = false) : DirSub c l0 (srcSubscribe c sp s) := by
  refine srcSubscribe_inv (I := fun s => DirSync c l0 s ∧ s.u.live = false) sp s
    (emitSync_inv (I := fun s => DirSync c l0 s ∧ s.u.live = false)
      (fun s n h => ⟨(dirSync_notify H s n h.1).1, (dirSync_notify H s n h.1).2.trans h.2⟩)
      (fun s e h => ⟨dirSync_log s _ h.1 (inert_escape e), h.2⟩) sp.propagate sp.emits s ⟨h, hl⟩) ?_ ?_
  · -- `if not auto_detach_observer.fail(ex): raise`
    intro e s1 ⟨h1, hl1⟩
    split
    next hst => exact ⟨h1, Or.inl ⟨h1.ust ▸ hst, Or.inl hl1⟩⟩
    next hst =>
      obtain ⟨h2, h3, h4⟩ := dirSync_terminal H s1 (.error e) rfl h1 (by simpa using hst)
      exact ⟨h2, Or.inl ⟨h3, Or.inl (h4.trans hl1)⟩⟩
  · intro s1 ⟨h1, hl1⟩
    split
    next hsad =>
      exact ⟨dirSync_log _ _ (dirSync_u s1 h1 s1.u.cur true) (inert_srcIf true),
        Or.inl ⟨h1.ust ▸ h1.usd hsad, Or.inr hsad⟩⟩
    next => exact ⟨dirSync_u s1 h1 true true, Or.inr ⟨rfl, rfl⟩⟩

def invPh {α} (s : St α) : Ph := if s.d.sad then .done else .live

theorem invPh_live {α} {s : St α} (h : s.d.sad = false) : invPh s = .live := by simp [invPh, h]

theorem invPh_done {α} {s : St α} (h : s.d.sad = true) : invPh s = .done := by simp [invPh, h]

theorem invPh_res {α} (s : St α) (n : Nat) : (invPh s).res n = if s.d.sad then n else 0 := by
  unfold invPh; split <;> rfl

theorem invPh_fin {α} (s : St α) (n : Nat) : (invPh s).fin n = if s.d.sad then n else 0 := by
  unfold invPh; split <;> rfl

/-- at event boundaries after `subscribe`: `D`, `R` and the action's guard are all live or all disposed (`dst`–`wi`),
disposed iff a terminal was delivered or the subscriber disposed (`trg`) -/
structure DirInv (c : Cfg) (l0 : List (Eff α)) (s : St α) (b : Bool) : Prop where
  dst : s.d.stopped = s.d.sad
  cur : s.d.cur = !s.d.sad
  rd : s.o.rDisposed = (c.guarded && s.d.sad)
  wi : s.o.wasInvoked = (c.flag && s.d.sad)
  trg : s.d.sad = (hasTerm s.log || s.d.retDisposed)
  ret : s.d.retDisposed = (b && s.d.handle)
  nh : s.d.handle = false → s.d.sad = true
  shape : Facts c c.cnt l0 (invPh s) s.log
  ust : s.u.stopped = true → s.d.sad = true
  sub : s.d.sad = false → s.u.subDisposed = false
  lv : s.d.sad = false → s.u.live = true
  uh : c.flag = false → s.d.sad = true → s.u.stopped = true ∧ s.u.sad = true

variable {s : St α} {b : Bool}

theorem DirInv.live (h : DirInv c l0 s b) (hsad : s.d.sad = false) : Facts c c.cnt l0 .live s.log :=
  invPh_live hsad ▸ h.shape

theorem DirInv.res (h : DirInv c l0 s b) : resCount s.log = if s.d.sad then c.cnt.nr else 0 := by
  rw [h.shape.res, invPh_res]

theorem DirInv.fin (h : DirInv c l0 s b) : actCount .fin s.log = if s.d.sad then c.cnt.nf else 0 := by
  rw [h.shape.fin, invPh_fin]

theorem DirInv.dsp (h : DirInv c l0 s b) : actCount .dispose s.log = if s.d.sad then c.cnt.nd else 0 := by
  rw [h.shape.dsp, invPh_res]

theorem DirInv.done (hst : s.d.stopped = true) (hsad : s.d.sad = true) (hcur : s.d.cur = false)
    (hrd : s.o.rDisposed = c.guarded) (hwi : s.o.wasInvoked = c.flag)
    (htrg : (hasTerm s.log || s.d.retDisposed) = true) (hret : s.d.retDisposed = (b && s.d.handle))
    (hsh : Facts c c.cnt l0 .done s.log)
    (huh : c.flag = false → s.u.stopped = true ∧ s.u.sad = true) : DirInv c l0 s b where
  dst := hst.trans hsad.symm
  cur := by simp [hcur, hsad]
  rd := by simp [hrd, hsad]
  wi := by simp [hwi, hsad]
  trg := by rw [hsad, htrg]
  ret := hret
  nh := fun _ => hsad
  shape := invPh_done hsad ▸ hsh
  ust := fun _ => hsad
  sub := fun h => by simp [hsad] at h
  lv := fun h => by simp [hsad] at h
  uh := fun hg _ => huh hg

/-- no hypothesis on the handle: without one `subscribe` raised, which it does only when `D` is disposed -/
theorem DirInv.sad_eq (h : DirInv c l0 s b) : s.d.sad = (hasTerm s.log || b) := by
  have := h.trg; have := h.ret; have := h.nh
  cases hh : s.d.handle <;> simp_all

theorem DirInv.released (h : DirInv c l0 s b) (hf : c.oper ≠ .doFinally) (ht : hasTerm s.log = true ∨ b = true) :
    s.d.sad = true ∧ s.u.sad = true :=
  have hs : s.d.sad = true := by rw [h.sad_eq]; simpa using ht
  ⟨hs, (h.uh (Bool.eq_false_iff.2 (mt flag_iff.1 hf)) hs).2⟩

theorem dirInv_log (s : St α) (b : Bool) (h : DirInv c l0 s b) (Y : List (Eff α)) (hY : Inert Y) :
    DirInv c l0 { s with log := s.log ++ Y } b :=
  { h with
    trg := by simpa [hasTerm_of_noEmit Y hY.ne] using h.trg
    shape := h.shape.inert hY }

theorem dirInv_esc (x : Option Err) (s : St α) (b : Bool) (h : DirInv c l0 s b) :
    DirInv c l0 (esc x s) b := by
  cases x with
  | none => exact h
  | some e => exact dirInv_log s b h _ (inert_escape e)

theorem dirInv_uDispose (s : St α) (b : Bool) (h : DirInv c l0 s b) (hsad : s.d.sad = true) :
    DirInv c l0 (uDispose c s).1 b := by
  rw [uDispose_fst]
  exact { dirInv_log s b h _ (inert_srcIf _) with
    ust := fun _ => hsad
    sub := fun hs => by simp [hsad] at hs
    lv := fun hs => by simp [hsad] at hs
    uh := fun _ _ => ⟨rfl, rfl⟩ }

/-- `D.dispose()` on a live pair, from a state that differs from `s` in fields `DirInv` does not read before it (`us ds rd' k n`).
`X`, `Y`: what a terminal handler logs before and after `D.dispose()` (nothing when the subscriber disposes). -/
theorem dirInv_release (rel : Releases c) (s : St α) (b b' : Bool) (h : DirInv c l0 s b)
    (hsad : s.d.sad = false) (us ds rd' : Bool) (k n : Nat) (X Y : List (Eff α))
    (hsh : ∀ R, Marks c.cnt.nr c.cnt.nf c.cnt.nd R → Facts c c.cnt l0 .done (s.log ++ X ++ R ++ Y))
    (htr : (hasTerm X || rd') = true) (hb : rd' = (b' && s.d.handle)) :
    ∃ s', (dDispose c { s with o.acts := n, u.stopped := us, d.stopped := ds, d.cbs := k, d.retDisposed := rd',
                                log := s.log ++ X }).1 = s' ∧
      DirInv c l0 (logs Y s') b' ∧ s'.d.sad = true := by
  have w0 : s.o.wasInvoked = false := by simpa [hsad] using h.wi
  simp only [dDispose_fst, hsad, h.cur, Bool.false_eq_true, if_false, Bool.not_false, if_true]
  obtain ⟨o, u, R, r⟩ := rel
    { s with o.acts := n, u.stopped := us, d.stopped := true, d.cbs := k, d.retDisposed := rd', d.sad := true,
             d.cur := false, log := s.log ++ X } (by simpa [hsad] using h.rd)
  rw [r.eq]
  refine ⟨_, rfl, DirInv.done rfl rfl rfl r.rd (by simp [r.wi, w0])
    (by rcases Bool.or_eq_true_iff.1 htr with h | h <;> simp [h]) (by simp [hb])
    (hsh R (by simpa [w0] using r.marks (by simp [w0]))) (r.uh (h.sub hsad)), rfl⟩

theorem step_src_disposed (H : Hooks c) (s : St α) (n : Notif α)
    (hds : s.d.stopped = true) (hw : s.o.wasInvoked = c.flag) (hu : c.flag = false → s.u.stopped = true) :
    step c s (.src n) = s ∨ ∃ x, step c s (.src n) = esc x (uDispose c { s with u.stopped := true }).1 := by
  rcases Bool.eq_false_or_eq_true s.u.live with hl | hl
  · rcases Bool.eq_false_or_eq_true s.u.stopped with hus | hus
    · exact Or.inl (by simp [step, swallow, uNotify_stopped c n s hus, hl])
    -- `U` live beside a disposed `D`: only after a hook of `do_finally` raised
    have hg : c.flag = true := by
      rcases Bool.eq_false_or_eq_true c.flag with hg | hg
      · exact hg
      · rw [hu hg] at hus; cases hus
    cases hn : n.isTerminal
    · obtain ⟨v, rfl⟩ := eq_next_of_not_terminal hn
      exact Or.inl (by simp [step, hl, swallow, uNotify_next, hus, H.next_stopped hg s v hds])
    · have e : step c s (.src n) = esc (uNotify c n s).2 (uNotify c n s).1 := by
        simp only [step, hl, if_true, swallow_eq]
      rw [e, uNotify_term_fst c s n hn hus, H.term_stopped hg { s with u.stopped := true } n hn hds (hw.trans hg)]
      exact Or.inr ⟨_, rfl⟩
  · exact Or.inl (by simp [step, hl])

theorem dirInv_src_live (H : Hooks c) (s : St α) (n : Notif α) (b : Bool)
    (h : DirInv c l0 s b) (hsad : s.d.sad = false) :
    DirInv c l0 (step c s (.src n)) b ∧ (n.isTerminal = true → (step c s (.src n)).d.sad = true) := by
  have hus : s.u.stopped = false := by cases hus : s.u.stopped <;> simp_all [h.ust]
  have hds : s.d.stopped = false := h.dst.trans hsad
  have hs := h.live hsad
  simp only [step, h.lv hsad, if_true, swallow_eq]
  cases hn : n.isTerminal
  · obtain ⟨v, rfl⟩ := eq_next_of_not_terminal hn
    obtain ⟨A, B, e, hA⟩ := H.next_live s v hds
    rw [uNotify_next, hus, if_neg Bool.false_ne_true, e]
    refine ⟨dirInv_esc _ _ _ ?_, fun h => by cases h⟩
    exact { h with
      trg := by simpa [hasTerm_of_noEmit A hA.a.ne, hasTerm_of_noEmit B hA.b.ne] using h.trg
      shape := by simpa [invPh_live, hsad] using hs.next hA }
  · obtain ⟨A, B, e, hA⟩ := H.handed { s with u.stopped := true } n hn hds hsad (by simp [h.cur, hsad])
      (by simp [h.rd, hsad])
    rw [uNotify_term_fst c s n hn hus, e, dTerminal_fst]
    simp only [logs, hds, Bool.false_eq_true, if_false]
    rw [userCb_fst]
    obtain ⟨s', e', h1, h2⟩ := dirInv_release H.release s b b h hsad true true s.d.retDisposed (s.d.cbs + 1)
      (s.o.acts + A.length) (A ++ [.emit n (c.subRaises s.d.cbs)]) B
      (fun R hR => by simpa using hs.handed hA hR) (by simp [hn]) h.ret
    simp only [List.append_assoc] at e' ⊢
    rw [e']
    exact ⟨dirInv_esc _ _ _ (dirInv_uDispose _ b h1 h2), fun _ => by simpa using h2⟩

theorem dirInv_src (H : Hooks c) (s : St α) (n : Notif α) (b : Bool) (h : DirInv c l0 s b) :
    DirInv c l0 (step c s (.src n)) b ∧
    (s.d.sad = true ∨ n.isTerminal = true → (step c s (.src n)).d.sad = true) := by
  rcases Bool.eq_false_or_eq_true s.d.sad with hsad | hsad
  · rcases step_src_disposed H s n (h.dst.trans hsad) (by rw [h.wi, hsad, Bool.and_true])
      (fun hg => (h.uh hg hsad).1) with e | ⟨x, e⟩ <;> rw [e]
    · exact ⟨h, fun _ => hsad⟩
    · exact ⟨dirInv_esc _ _ _
        (dirInv_uDispose _ b { h with ust := fun _ => hsad, uh := fun hg hs => ⟨rfl, (h.uh hg hs).2⟩ } hsad),
        fun _ => by simpa using hsad⟩
  · obtain ⟨h1, h2⟩ := dirInv_src_live H s n b h hsad
    exact ⟨h1, fun ht => h2 (by simpa [hsad] using ht)⟩

theorem dirInv_dispose (rel : Releases c) (s : St α) (b : Bool) (h : DirInv c l0 s b) :
    DirInv c l0 (step c s .dispose) true := by
  cases hh : s.d.handle
  · have : step c s .dispose = s := by simp [step, swallow, handleDispose, hh]
    rw [this]; exact { h with ret := by simp [hh, h.ret] }
  cases hrd : s.d.retDisposed
  · have : handleDispose c s = dDispose c { s with d.retDisposed := true } := by simp [handleDispose, hh, hrd]
    simp only [step, swallow_eq, this]
    apply dirInv_esc
    rcases Bool.eq_false_or_eq_true s.d.sad with hsad | hsad
    · rw [dDispose_fst, if_pos (show ({ s with d.retDisposed := true } : St α).d.sad = true from hsad)]
      exact { h with dst := hsad.symm, trg := by simp [hsad], ret := by simp [hh] }
    · have hs := h.live hsad
      obtain ⟨s', e', h1, -⟩ := dirInv_release rel s b true h hsad s.u.stopped s.d.stopped true s.d.cbs s.o.acts
        [] [] (fun R hR => by simpa using hs.dispose hR) rfl (by simp [hh])
      simp only [List.append_nil, logs_nil] at e' h1
      rw [e']; exact h1
  · have : step c s .dispose = s := by simp [step, swallow, handleDispose, hrd]
    rw [this]; exact { h with ret := by simp [hh, hrd] }

theorem dirInv_run (H : Hooks c) (evs : List (Ev α)) (s : St α) (b : Bool)
    (h : DirInv c l0 s b) :
    DirInv c l0 (runFrom c s evs) (b || hasDispose evs) ∧
    (s.d.sad = true ∨ hasSrcTerminal evs = true → (runFrom c s evs).d.sad = true) := by
  induction evs generalizing s b with
  | nil => exact ⟨by simpa [runFrom, hasDispose] using h, by simp [runFrom, hasSrcTerminal]⟩
  | cons e es ih =>
    cases e with
    | src n =>
      obtain ⟨h1, h2⟩ := dirInv_src H s n b h
      obtain ⟨h3, h4⟩ := ih _ _ h1
      refine ⟨by simpa [runFrom, hasDispose] using h3, fun ht => h4 ?_⟩
      cases hn : n.isTerminal
      · exact ht.imp (fun ht => h2 (Or.inl ht)) (fun ht => by simpa [hasSrcTerminal, hn] using ht)
      · exact Or.inl (h2 (Or.inr hn))
    | dispose =>
      have h1 := dirInv_dispose H.release s b h
      obtain ⟨h3, h4⟩ := ih _ _ h1
      exact ⟨by simpa [runFrom, hasDispose] using h3, fun _ => h4 (Or.inl (by rw [h1.sad_eq]; simp))⟩

/-- `subscribe` raised -/
structure Raised (c : Cfg) (l0 : List (Eff α)) (p : Ph) (s : St α) : Prop where
  frz : Frozen s
  rel : s.u.live = false ∨ s.u.sad = true
  trm : hasTerm s.log = true
  shape : Facts c c.cnt l0 p s.log

theorem dirInv_subscribed (H : Hooks c) (sp : SyncPhase α) (s1 : St α)
    (ho : opSubscribe c sp ({} : St α) = (s1, none)) (h : DirSub c l0 (s1, none)) :
    DirInv c l0 (subscribePhase c sp : St α) false := by
  have inv : DirSync c l0 s1 := h.inv
  have out : s1.d.stopped = true ∧ _ ∨ _ ∧ s1.u.live = true := h.out
  have htm := inv.hasTerm
  simp only [subscribePhase, outerSubscribe, ho]
  rcases Bool.eq_false_or_eq_true s1.d.sad with hsad | hsad
  · have hst := inv.dst.trans hsad
    simp only [hsad, if_true]
    obtain ⟨o, u, R, r⟩ := H.release s1 inv.rd
    have hwg : o.wasInvoked = c.flag := by
      rw [r.wi]; cases hw1 : s1.o.wasInvoked
      · simp
      · simp [(inv.wi hw1).2]
    -- `R` disposed; the subscriber gets a handle unless `R.dispose()` raised
    have h2 : DirInv c l0 (rDispose c s1).1 false := by
      rw [r.eq]
      exact DirInv.done hst hsad inv.cur r.rd hwg (by simp [htm, hst]) (by simp [inv.ret])
        ((inv.term hst).release (r.marks fun h => (inv.wi h).2)) (r.uh inv.nsub)
    generalize rDispose c s1 = r at h2
    obtain ⟨s2, _ | e⟩ := r
    · exact { h2 with ret := by simpa using h2.ret, nh := fun h => by cases h }
    · exact dirInv_esc (some e) s2 false h2
  · have hst := inv.dst.trans hsad
    simp only [hsad, Bool.false_eq_true, if_false]
    have hw := inv.wi_false (Or.inl hst)
    exact {
      dst := hst, cur := rfl, rd := by simp [inv.rd], wi := by simp [hw]
      trg := by simp [htm, hst, inv.ret], ret := by simp [inv.ret], nh := fun h => by cases h
      shape := by simpa [invPh_live] using inv.live hst
      ust := fun h => by rw [inv.ust, hst] at h; cases h
      sub := fun _ => inv.nsub
      lv := fun _ => by simpa [hst] using out
      uh := fun _ h => by cases h }

theorem DirSub.raised {s1 : St α} {e : Err} (h : DirSub c l0 (s1, some e)) :
    s1.d.stopped = true ∧ Raised c l0 (.term s1.o.wasInvoked) s1 := by
  have inv : DirSync c l0 s1 := h.inv
  obtain ⟨hst, hl⟩ : s1.d.stopped = true ∧ (s1.u.live = false ∨ s1.u.sad = true) := by simpa using h.out
  exact ⟨hst, ⟨inv.hdl, hl.imp id inv.usd⟩, hl, by simp [inv.hasTerm, hst], inv.term hst⟩

theorem Raised.append {p p' : Ph} {s : St α} (h : Raised c l0 p s) (n : Nat) (Y : List (Eff α))
    (hs : Facts c c.cnt l0 p' (s.log ++ Y)) : Raised c l0 p' { s with o.acts := n, log := s.log ++ Y } :=
  ⟨⟨h.frz.hdl, h.frz.dead⟩, h.rel, by simp [h.trm], hs⟩

theorem dirInv_subscribePhase (H : Hooks c) (sp : SyncPhase α) (hf : c.oper ≠ .finallyAction)
    (hs : c.oper = .doOnSubscribe → c.actRaises 0 = false) :
    ∃ w, DirInv c c.opPre (subscribePhase c sp : St α) false ∨
      Raised c c.opPre (.term w) (subscribePhase c sp : St α) := by
  have h : DirSub c c.opPre (opSubscribe c sp ({} : St α)) := by
    rw [opSubscribe_eq c sp _ hf hs]
    exact dirSync_srcSubscribe H _ _ (dirSync_init (noMark_opPre c) _) rfl
  rcases ho : opSubscribe c sp ({} : St α) with ⟨s1, _ | e⟩ <;> rw [ho] at h
  · exact ⟨false, Or.inl (dirInv_subscribed H sp s1 ho h)⟩
  · obtain ⟨hst, hr⟩ := h.raised
    simp only [subscribePhase, outerSubscribe, ho, hst, if_true]
    exact ⟨_, Or.inr (hr.append _ _ (hr.shape.inert (inert_escape e)))⟩

theorem run_phase (H : Hooks c) (sp : SyncPhase α) (evs : List (Ev α)) {p : Ph}
    (h : DirInv c l0 (subscribePhase c sp : St α) false ∨ Raised c l0 p (subscribePhase c sp : St α)) :
    DirInv c l0 (run c sp evs) (hasDispose evs) ∧ (hasSrcTerminal evs = true → (run c sp evs).d.sad = true) ∨
    Raised c l0 p (subscribePhase c sp : St α) ∧ run c sp evs = subscribePhase c sp :=
  h.imp (fun h => by simpa [run] using (dirInv_run H evs _ _ h).imp id (· ∘ Or.inr)) fun hf => ⟨hf, frozen_run c _ evs hf.frz⟩

theorem run_inv (H : Hooks c) (sp : SyncPhase α) (evs : List (Ev α)) (hf : c.oper ≠ .finallyAction)
    (hs : c.oper = .doOnSubscribe → c.actRaises 0 = false) :
    ∃ w, DirInv c c.opPre (run c sp evs) (hasDispose evs) ∧ (hasSrcTerminal evs = true → (run c sp evs).d.sad = true) ∨
      Raised c c.opPre (.term w) (subscribePhase c sp : St α) ∧ run c sp evs = subscribePhase c sp :=
  (dirInv_subscribePhase H sp hf hs).imp fun _ => run_phase H sp evs

/-- no hypothesis on the handle: when `subscribe` raised nothing is held either (`Raised.rel`) -/
theorem run_released (H : Hooks c) (hf : c.oper ≠ .doFinally) (sp : SyncPhase α) (evs : List (Ev α)) {p : Ph}
    (h : DirInv c l0 (subscribePhase c sp : St α) false ∨ Raised c l0 p (subscribePhase c sp : St α))
    (ht : hasTerm (run c sp evs).log = true ∨ hasDispose evs = true) :
    (run c sp evs).u.sad = true ∨ (run c sp evs).u.live = false := by
  rcases run_phase H sp evs h with ⟨hr, -⟩ | ⟨hf, e⟩
  · exact Or.inl (hr.released hf ht).2
  · rw [e]; exact hf.rel.symm

/-- a marker that the operator logs once per release (`h.fin` with `cnt_nf`, `h.dsp` with `cnt_nd`) -/
theorem DirInv.once (h : DirInv c l0 s b) {k : ActK} {n : Nat} (hk : actCount k s.log = if s.d.sad then n else 0)
    (hn : n = 1) : actCount k s.log ≤ 1 ∧ (actCount k s.log = 1 ↔ (hasTerm s.log = true ∨ b = true)) := by
  rw [hk, hn, h.sad_eq]
  cases hasTerm s.log <;> cases b <;> simp

end

theorem hooks_direct {c : Cfg} (hd : Direct c) (rel : Releases c) : Hooks c := by
  have hf : c.oper ≠ .doFinally := fun h => by simp [Direct, h] at hd
  exact {
    next := fun v => by rw [hNext_direct hd, (direct_noCb hd _).1, (direct_noCb hd _).2, wrap_nil]
    term := fun t ht => by
      rw [hTerminal_direct hd t ht, (direct_noCb hd t).1, (direct_noCb hd t).2, wrap_nil, if_neg (mt flag_iff.1 hf)]
    fixed := fun h => absurd h hf
    quiet := fun t h => absurd (direct_noCb hd t).2 h
    release := rel }

theorem marks_resIf {α} (c : Cfg) : Marks (α := α) c.hasRes.toNat 0 0 (resIf c) := by
  simp only [resIf]
  split
  next h => rw [h]; exact ⟨rfl, rfl, rfl, rfl, rfl, rfl⟩
  next h => rw [Bool.eq_false_iff.2 h]; exact inert_nil

theorem releases (c : Cfg) (h : RelOk c) : Releases c := by
  intro α s hrd
  have e := rDispose_rel c h s hrd
  refine ⟨relO c s, relU c s, relLog c s,
    { eq := by rw [e], rd := ?rd, wi := ?wi, src := ?src, noexn := ?noexn, marks := ?marks }⟩
  case rd => cases hop : c.oper <;> simp [relO, Cfg.guarded, hop, hrd] <;> split <;> rfl
  case wi => cases hop : c.oper <;> simp [relO, Cfg.flag, hop] <;> split <;> simp_all
  case src =>
    cases hh : hookRaises c s
    · refine Or.inl ⟨by simp [relU, hh], ?_⟩
      cases hop : c.oper <;> simp [relLog, hop]
      cases hw : s.o.wasInvoked <;> cases hra : c.actRaises s.o.acts <;> simp_all [hookRaises]
    · have := hh
      simp only [hookRaises, Bool.and_eq_true, beq_iff_eq, Bool.not_eq_eq_eq_not, Bool.not_true] at this
      exact Or.inr ⟨by simp [Cfg.flag, this.1.1], by rw [e]; simp [relExn, this.1.1, hh]⟩
  case noexn =>
    intro hnr hsd
    rw [e]
    cases hop : c.oper <;> simp [relExn, hop, hookRaises, hnr, srcExn, hsd]
  case marks =>
    intro hpre
    cases hop : c.oper <;> simp only [Cfg.cnt, relLog, hop, reduceCtorEq, if_false, if_true, or_false,
      or_true, ite_self]
    case «using» => exact (marks_resIf c).srcIf_left _
    case finallyAction =>
      have hw : s.o.wasInvoked = false := by cases hw : s.o.wasInvoked <;> simp_all [Cfg.flag]
      rw [hw]; exact (marks_fin _).srcIf_left _
    case doFinally =>
      cases hw : s.o.wasInvoked <;> cases hra : c.actRaises s.o.acts <;> simp only [Bool.false_eq_true, if_false, if_true]
      · exact (marks_fin false).srcIf_right _
      · exact marks_fin true
      · exact inert_srcIf _
      · exact inert_srcIf _
    case doOnDispose => exact marks_dispose.srcIf_right _
    all_goals exact inert_srcIf _

theorem hooks_using (c : Cfg) (hsd : c.srcDisposeRaises = false) (hc : c.oper = .using) : Hooks c :=
  hooks_direct (by simp [Direct, hc]) (releases c ⟨fun _ => hsd, fun h => by simp [hc] at h, fun h => by simp [hc] at h⟩)

theorem hooks_fin (c : Cfg) (hc : c.oper = .finallyAction) : Hooks c :=
  hooks_direct (by simp [Direct, hc])
    (releases c ⟨fun h => by simp [hc] at h, fun h => by simp [hc] at h, fun h => by simp [hc] at h⟩)

theorem hooks_dod (c : Cfg) (hsd : c.srcDisposeRaises = false) (hc : c.oper = .doOnDispose) (hnr : ∀ k, c.actRaises k = false) : Hooks c :=
  hooks_direct (by simp [Direct, hc]) (releases c ⟨fun _ => hsd, fun _ => hnr, fun h => by simp [hc] at h⟩)

theorem releases_unguarded (c : Cfg) (hg : c.guarded = false) : Releases c :=
  releases c ⟨fun h => by rcases h with h | h | h <;> simp [Cfg.guarded, h] at hg,
    fun h => by simp [Cfg.guarded, h] at hg, fun h => by simp [Cfg.guarded, h] at hg⟩

theorem hooks_ident (c : Cfg) : Hooks c.ident :=
  hooks_direct (direct_ident c) (releases_unguarded c.ident rfl)

/-- `finally_action_`'s own `subscribe` raises after running the action in its `except` -/
theorem fin_subscribePhase {α} (c : Cfg) (hc : c.oper = .finallyAction) (sp : SyncPhase α) :
    DirInv c [] (subscribePhase c sp : St α) false ∨ Raised c [] .done (subscribePhase c sp : St α) := by
  have h := dirSync_srcSubscribe (hooks_fin c hc) sp ({} : St α) (dirSync_init NoMark.nil 0) rfl
  rcases hs : srcSubscribe c sp ({} : St α) with ⟨s1, _ | e⟩
  · have ho : opSubscribe c sp ({} : St α) = (s1, none) := by simp [opSubscribe, hc, hs]
    exact Or.inl (dirInv_subscribed (hooks_fin c hc) sp s1 ho (hs ▸ h))
  · rw [hs] at h
    obtain ⟨hst, hr⟩ := h.raised
    have hw := h.inv.wi_false (Or.inr (by simp [Cfg.flag, hc]))
    have shape := hr.shape
    rw [hw] at shape
    right
    simp only [subscribePhase, outerSubscribe, opSubscribe, hc, hs, action]
    -- the action runs; its exception, or else the one of `source.subscribe`, goes on to the caller
    cases c.actRaises s1.o.acts <;>
    (simp only [if_true, Bool.false_eq_true, if_false, hst, List.append_assoc]
     refine hr.append _ _ ?_
     rw [← List.append_assoc]
     exact (shape.release (by simpa [Cfg.cnt, hc] using marks_fin _)).inert (inert_escape _))

theorem hooks_dofin (c : Cfg) (hsd : c.srcDisposeRaises = false) (hc : c.oper = .doFinally)
    (hfx : c.doFinallyAsIs = false ∨ ∀ k, c.actRaises k = false) :
    Hooks c where
  next := fun v => by simp [hNext, hc, pre, preCb, post, postCb, wrap_nil]
  term := fun t ht => by rw [hTerminal_dofin hc t ht, if_pos (flag_iff.2 hc)]
  fixed := fun _ => hfx
  quiet := fun t h => by simp [post, postCb, hc] at h
  release := releases c ⟨fun _ => hsd, fun h => by simp [hc] at h, fun _ => hfx⟩

theorem hooks_quiet (c : Cfg) (q : Quiet c) : Hooks c where
  next := fun v => hNext_quiet c q v
  term := fun t ht => by
    by_cases hf : c.oper = .doFinally
    · rw [hTerminal_dofin hf t ht, if_pos (flag_iff.2 hf)]
    · rw [hTerminal_quiet c q.nr hf t ht, if_neg (mt flag_iff.1 hf)]
  fixed := fun _ => Or.inr q.nr
  quiet := fun _ _ => ⟨q.sd, q.nr⟩
  release := releases c ⟨fun _ => q.sd, fun _ => q.nr, fun _ => Or.inr q.nr⟩

end WinFin
