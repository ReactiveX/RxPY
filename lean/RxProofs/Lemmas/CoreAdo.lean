import RxModel.Core
/-! The equation of `Ado.delivered` and what one call on an `AutoDetachObserver` can do, and how a `Grammar` list is built and cut:
the facts about `RxModel/Core.lean` that the property files (C01) and the operator lemmas share. -/
namespace C01

theorem delivered_cons {α} (raises : Nat → Bool) (s : Ado) (c : ObsCall α) (cs : List (ObsCall α)) :
    Ado.delivered raises s (c :: cs) =
      (Ado.step raises s c).2.delivered.toList ++ Ado.delivered raises (Ado.step raises s c).1 cs := by
  simp only [Ado.delivered, Ado.runOuts, List.filterMap_cons]
  cases (Ado.step raises s c).2.delivered <;> rfl

theorem step_stopped {α} (raises : Nat → Bool) (s : Ado) (c : ObsCall α) (h : s.stopped = true) :
    (Ado.step raises s c).2.delivered = none ∧ (Ado.step raises s c).1.stopped = true := by
  cases c <;> simp [Ado.step, h]

theorem step_running {α} (raises : Nat → Bool) (s : Ado) (c : ObsCall α) (n : Notif α)
    (h : (Ado.step raises s c).1.stopped = false) (hd : (Ado.step raises s c).2.delivered = some n) :
    n.isTerminal = false := by
  cases c <;> cases hs : s.stopped <;> simp_all [Ado.step] <;> subst hd <;> rfl

theorem stopped_silent {α} (raises : Nat → Bool) (s : Ado) (cs : List (ObsCall α)) (h : s.stopped = true) :
    Ado.delivered raises s cs = [] := by
  induction cs generalizing s with
  | nil => rfl
  | cons c cs ih =>
    obtain ⟨h1, h2⟩ := step_stopped raises s c h
    rw [delivered_cons, h1, ih _ h2]; rfl

theorem final_delivered_append {α} (raises : Nat → Bool) (s : Ado) (a b : List (ObsCall α)) :
    Ado.delivered raises s (a ++ b) = Ado.delivered raises s a ++ Ado.delivered raises (Ado.final raises s a) b := by
  induction a generalizing s with
  | nil => rfl
  | cons c cs ih => rw [List.cons_append, delivered_cons, delivered_cons, ih, List.append_assoc]; rfl

end C01

theorem Grammar.of_nonterminal {α} (l : List (Notif α)) (h : ∀ n ∈ l, n.isTerminal = false) : Grammar l := by
  induction l with
  | nil => trivial
  | cons a l ih =>
    cases l with
    | nil => trivial
    | cons b l => exact ⟨h a (by simp), ih fun n hn => h n (by simp [hn])⟩

theorem Grammar.snoc {α} (l : List (Notif α)) (c : Notif α) (h : ∀ n ∈ l, n.isTerminal = false) : Grammar (l ++ [c]) := by
  induction l with
  | nil => trivial
  | cons a l ih =>
    have := ih fun n hn => h n (by simp [hn])
    cases l with
    | nil => exact ⟨h a (by simp), trivial⟩
    | cons b l => exact ⟨h a (by simp), this⟩

theorem Grammar.prefix {α} (a b : List (Notif α)) (h : Grammar (a ++ b)) : Grammar a := by
  induction a with
  | nil => trivial
  | cons x a ih =>
    cases a with
    | nil => trivial
    | cons y a => exact ⟨h.1, ih h.2⟩
