import RxProofs.Lemmas.SubjLog
/-!
# Per-observer order = call order, each call at most once (plain Subject)

`emits tr` — the notifications the subject accepted, oldest first.  Invariant: what an observer has been
handed is a subsequence of it (a pending delivery carries the latest accepted notification and its
observer has so far only been handed earlier ones; pending deliveries are for pairwise distinct
observers).
-/

namespace Subj
variable {α : Type}

def emits : List (Ev α) → List (Notif α)
  | [] => []
  | .emit n :: tr => emits tr ++ [n]
  | _ :: tr => emits tr

def deliverId : Task α → Option Id
  | .deliver i _ => some i
  | _ => none

theorem lastEmit_eq (tr : List (Ev α)) : lastEmit tr = (emits tr).getLast? := by
  induction tr with
  | nil => rfl
  | cons e tr ih => cases e <;> simp [lastEmit, emits, ih]

structure OInv (st : St α) (ag : List (Task α)) : Prop where
  sub : ∀ i, List.Sublist (recvs i st.tr) (emits st.tr) ∨ (recvs i st.tr = [.error disposedExn] ∧ st.disposed = true)
  pend : ∀ i n, Task.deliver i n ∈ ag →
    (emits st.tr).getLast? = some n ∧ List.Sublist (recvs i st.tr) (emits st.tr).dropLast
  distinct : (ag.filterMap deliverId).Nodup
  unseen : ∀ j, st.seen j = false → recvs j st.tr = []
  shape : ∀ n, Task.emit n ∈ ag → ag = [Task.emit n]

theorem sublist_snoc_of_dropLast {l e : List (Notif α)} {n : Notif α} (h1 : e.getLast? = some n)
    (h2 : List.Sublist l e.dropLast) : List.Sublist (l ++ [n]) e := by
  obtain ⟨ys, rfl⟩ := List.getLast?_eq_some_iff.mp h1
  simpa using h2

theorem filterMap_deliverId_map (l : List Id) (n : Notif α) :
    (l.map (Task.deliver · n)).filterMap deliverId = l := by
  induction l with
  | nil => rfl
  | cons i is ih => simp [deliverId, ih]

theorem filterMap_deliverId_reactions (cfg : Cfg) (st : St α) (i : Id) :
    (reactions cfg st i).filterMap deliverId = [] := by
  exact List.filterMap_eq_nil_iff.mpr fun t ht => by obtain ⟨a, rfl⟩ := mem_reactions ht; rfl

theorem mem_filterMap_deliverId {ag : List (Task α)} {i : Id} :
    i ∈ ag.filterMap deliverId ↔ ∃ n, Task.deliver i n ∈ ag := by
  simp only [List.mem_filterMap]
  constructor
  · rintro ⟨t, ht, hd⟩
    cases t <;> simp [deliverId] at hd
    subst hd
    exact ⟨_, ht⟩
  · rintro ⟨n, hn⟩
    exact ⟨_, hn, rfl⟩

namespace OInv
variable {st st' : St α} {t : Task α} {ts new : List (Task α)}

theorem tail_distinct (o : OInv st (t :: ts)) : (ts.filterMap deliverId).Nodup := by
  have := o.distinct
  simp only [List.filterMap_cons] at this
  split at this
  · exact this
  · exact (List.nodup_cons.mp this).2

theorem alone (o : OInv st (t :: ts)) (ht : t.isEmit = true) : ts = [] := by
  cases t with
  | emit m => exact (List.cons.inj (o.shape m (List.mem_cons_self ..))).2
  | _ => cases ht

theorem tail_noemit (o : OInv st (t :: ts)) (n : Notif α) : Task.emit n ∉ ts := by
  intro hn
  have hlen := congrArg List.length (o.shape n (List.mem_cons_of_mem _ hn))
  simp at hlen
  subst hlen
  simp at hn

theorem rest (o : OInv st (t :: ts)) (hnew : new.filterMap deliverId = []) (hnoemit : ∀ t' ∈ new, t'.isEmit = false) :
    ((new ++ ts).filterMap deliverId).Nodup ∧ (∀ k m, Task.deliver k m ∈ new ++ ts → Task.deliver k m ∈ ts) ∧
      ∀ m, Task.emit m ∈ new ++ ts → new ++ ts = [Task.emit m] := by
  refine ⟨by rw [List.filterMap_append, hnew]; exact o.tail_distinct, fun k m hm => ?_, fun m hm => ?_⟩
  · rcases List.mem_append.mp hm with hm | hm
    · have : k ∈ new.filterMap deliverId := mem_filterMap_deliverId.mpr ⟨m, hm⟩
      rw [hnew] at this; exact absurd this (by simp)
    · exact hm
  · exact ((List.mem_append.mp hm).elim (fun h => nomatch hnoemit _ h) (o.tail_noemit m)).elim

theorem quiet (o : OInv st (t :: ts)) (hre : ∀ k, recvs k st'.tr = recvs k st.tr) (hem : emits st'.tr = emits st.tr)
    (hseen : ∀ j, st'.seen j = false → st.seen j = false) (hdisp : st.disposed = true → st'.disposed = true)
    (hnew : new.filterMap deliverId = []) (hnoemit : ∀ t' ∈ new, t'.isEmit = false) : OInv st' (new ++ ts) := by
  obtain ⟨r1, r2, r3⟩ := o.rest hnew hnoemit
  refine ⟨fun k => ?_, fun k m hm => ?_, r1, fun j hj => by rw [hre]; exact o.unseen j (hseen j hj), r3⟩
  · rw [hre, hem]
    exact (o.sub k).imp id fun h' => ⟨h'.1, hdisp h'.2⟩
  · rw [hre, hem]; exact o.pend k m (List.mem_cons_of_mem _ (r2 k m hm))

theorem recvd (o : OInv st (t :: ts)) {i : Id} {n : Notif α} (htr : st'.tr = .recv i n :: st.tr)
    (hsub : List.Sublist (recvs i st.tr ++ [n]) (emits st.tr) ∨
      (recvs i st.tr ++ [n] = [.error disposedExn] ∧ st.disposed = true))
    (hnotin : ∀ m, Task.deliver i m ∉ ts) (hseen : ∀ k, st'.seen k = false → st.seen k = false ∧ i ≠ k)
    (hdisp : st'.disposed = st.disposed) (hnew : new.filterMap deliverId = []) (hnoemit : ∀ t' ∈ new, t'.isEmit = false) :
    OInv st' (new ++ ts) := by
  obtain ⟨r1, r2, r3⟩ := o.rest hnew hnoemit
  refine ⟨fun k => ?_, fun k m hm => ?_, r1, fun j hj => ?_, r3⟩
  · rw [htr, hdisp]
    simp only [recvs, emits]
    by_cases hki : i = k
    · subst hki
      simpa only [if_true] using hsub
    · simpa [hki] using o.sub k
  · have hm := r2 k m hm
    have hki : i ≠ k := fun e => hnotin m (e ▸ hm)
    rw [htr]
    simp only [recvs, emits, hki, if_false]
    exact o.pend k m (List.mem_cons_of_mem _ hm)
  · rw [htr]
    simp only [recvs, (hseen j hj).2, if_false]
    exact o.unseen j (hseen j hj).1

theorem accept {n : Notif α} (o : OInv st (t :: ts)) (ht : t.isEmit = true) (hI : SInv st) (hd : st.disposed = false)
    (htr : st'.tr = .emit n :: st.tr) (hseen : st'.seen = st.seen) (hdisp : st'.disposed = st.disposed) :
    OInv st' (st.observers.map (Task.deliver · n) ++ ts) := by
  obtain rfl := o.alone ht
  refine ⟨fun i => ?_, fun i m hm => ?_, ?_, fun j hj => ?_, fun m hm => by simp at hm⟩
  · rw [htr, hdisp]
    simp only [recvs, emits]
    exact (o.sub i).imp (fun h' => h'.trans (List.sublist_append_left _ _)) id
  · simp only [List.append_nil, List.mem_map] at hm
    obtain ⟨a, ha, he⟩ := hm
    simp only [Task.deliver.injEq] at he
    obtain ⟨rfl, rfl⟩ := he
    rw [htr]
    simp only [recvs, emits]
    refine ⟨by simp, ?_⟩
    rcases o.sub a with h' | h'
    · simpa using h'
    · rw [hd] at h'; exact absurd h'.2 (by simp)
  · simp only [List.append_nil]
    rw [filterMap_deliverId_map]
    exact hI.nodup
  · rw [htr]; simp only [recvs]
    exact o.unseen j (by rw [← hseen]; exact hj)

theorem late (o : OInv st (t :: ts)) {j : Id} {n : Notif α} (hlast : (emits st.tr).getLast? = some n)
    (hrj : recvs j st.tr = []) (hts : ∀ m, Task.deliver j m ∉ ts) (htr : st'.tr = st.tr) (hdisp : st'.disposed = st.disposed)
    (hseen : ∀ k, st'.seen k = false → st.seen k = false) :
    OInv st' ([Task.deliver j n, Task.finish j (some .noop)] ++ ts) := by
  refine ⟨by rw [htr, hdisp]; exact o.sub, fun k m hm => ?_, ?_, fun k hk => by rw [htr]; exact o.unseen k (hseen k hk),
    fun m hm => ?_⟩
  · rw [htr]
    simp only [List.cons_append, List.nil_append, List.mem_cons, Task.deliver.injEq, reduceCtorEq, false_or] at hm
    rcases hm with ⟨rfl, rfl⟩ | hm
    · rw [hrj]; exact ⟨hlast, List.nil_sublist _⟩
    · exact o.pend k m (List.mem_cons_of_mem _ hm)
  · simp only [List.cons_append, List.nil_append, List.filterMap_cons, deliverId]
    exact List.nodup_cons.mpr ⟨fun hm => by
      obtain ⟨m, hm⟩ := mem_filterMap_deliverId.mp hm
      exact hts m hm, o.tail_distinct⟩
  · simp only [List.cons_append, List.nil_append, List.mem_cons, reduceCtorEq, false_or] at hm
    exact absurd hm (o.tail_noemit m)

end OInv

theorem Step.oinv {cfg : Cfg} {v : Option α} (hk : cfg.kind = .subject) {st st' : St α} {t : Task α}
    {ts new : List (Task α)} {b : Bool} (h : Step cfg st t st' new b) (hI : SInv st) (hT : ∀ t' ∈ t :: ts, TaskOK st t')
    (hV : VInv cfg v st) (o : OInv st (t :: ts)) : OInv st' (nextAgenda (st', new, b) ts) := by
  have hne := h.new_noEmit
  have first : ∀ {j}, st.seen j = false → recvs j st.tr = [] ∧ (∀ m, Task.deliver j m ∉ ts) ∧
      ∀ k, upd st.seen j true k = false → st.seen k = false ∧ j ≠ k := fun {j} hj =>
    ⟨o.unseen j hj, fun m hm => by
      have := (hT (Task.deliver j m) (List.mem_cons_of_mem _ hm)).1
      rw [hj] at this; exact absurd this (by simp), fun k hk => by
      by_cases hkj : k = j
      · subst hkj; simp at hk
      · exact ⟨by simpa [hkj] using hk, Ne.symm hkj⟩⟩
  have turn : ∀ {i n}, t = Task.deliver i n → List.Sublist (recvs i st.tr ++ [n]) (emits st.tr) ∧
      (∀ m, Task.deliver i m ∉ ts) ∧ ∀ k, st.seen k = false → st.seen k = false ∧ i ≠ k := by
    intro i n ht
    subst ht
    have hp := o.pend i n (List.mem_cons_self ..)
    have hi : st.seen i = true := (hT _ (List.mem_cons_self ..)).1
    refine ⟨sublist_snoc_of_dropLast hp.1 hp.2, fun m hm => ?_, fun k hk => ⟨hk, fun e => ?_⟩⟩
    · have := o.distinct
      simp only [List.filterMap_cons, deliverId] at this
      exact (List.nodup_cons.mp this).1 (mem_filterMap_deliverId.mpr ⟨m, hm⟩)
    · subst e; rw [hk] at hi; exact absurd hi (by simp)
  have hnodel_r : ∀ (s : St α) (i : Id) (t : Task α), deliverId t = none → (reactions cfg s i ++ [t]).filterMap deliverId = [] := by
    intro s i t ht; rw [List.filterMap_append, filterMap_deliverId_reactions]; simp [ht]
  have hlast : st.disposed = false → st.stopped = true → (emits st.tr).getLast? = some (termOf st) := fun hd hs => by
    rw [← lastEmit_eq]; exact lastEmit_of_terminated ((hV.term hd).1 hs)
  cases h with
  | idle | raise => exact o.quiet (fun _ => rfl) rfl (fun _ h => h) id rfl hne
  | next x y c ht hd hs => rw [if_neg (by simp [hk])]; exact o.accept ht hI hd rfl rfl rfl
  | error e ht hd => exact o.accept ht hI hd rfl rfl rfl
  | completed new ht hd hs hn =>
    rcases hn with rfl | ⟨hk', _⟩
    · exact o.accept ht hI hd rfl rfl rfl
    · rw [hk] at hk'; cases hk'
  | subRefused who j hj hd he =>
    obtain ⟨hrj, hts, hup⟩ := first hj
    exact o.recvd rfl (by rw [hrj]; exact Or.inr ⟨rfl, hd⟩) hts hup rfl (hnodel_r _ _ _ rfl) hne
  | subRaise who j e sd hj he hc hsd =>
    obtain ⟨hrj, hts, hup⟩ := first hj
    have hsub : List.Sublist [Notif.error e] (emits st.tr) ∨ ((Notif.error e : Notif α) = .error disposedExn ∧ st.disposed = true) := by
      rcases hc with ⟨hd, rfl⟩ | ⟨hd, hs, hx⟩
      · exact Or.inr ⟨rfl, hd⟩
      · exact Or.inl (List.singleton_sublist.mpr (by simpa [termOf, hx] using List.mem_of_getLast? (hlast hd hs)))
    cases who <;> exact o.recvd (new := []) rfl (by rw [hrj]; simpa using hsub) hts hup rfl rfl hne
  | subLive who j new hj hs hn =>
    rcases hn with rfl | ⟨hk', _⟩
    · exact o.quiet (fun k => by simp [recvs]) (by simp [emits]) (fun k hk => ((first hj).2.2 k hk).1) id rfl hne
    · rw [hk] at hk'; cases hk'
  | subLate who j pre hj hd hs hp =>
    obtain ⟨hrj, hts, hup⟩ := first hj
    rcases hp with rfl | ⟨hk', _⟩
    · exact o.late (hlast hd hs) hrj hts rfl rfl fun k hk => (hup k hk).1
    · rw [hk] at hk'; cases hk'
  | unsub who j hh =>
    obtain ⟨sd, c, obs, e⟩ := sadDispose_writes { st with tr := .unsub j :: st.tr, adoStopped := upd st.adoStopped j true } j
    rw [e]; exact o.quiet (new := []) (fun _ => rfl) rfl (fun _ h => h) id rfl hne
  | dispose => exact o.quiet (new := []) (fun k => rfl) rfl (fun j hj => hj) (fun _ => rfl) rfl hne
  | deliverNext i x hs =>
    obtain ⟨h1, h2, h3⟩ := turn rfl
    exact o.recvd rfl (Or.inl h1) h2 h3 rfl (filterMap_deliverId_reactions _ _ _) hne
  | deliverTerm i n hs hn hu =>
    obtain ⟨h1, h2, h3⟩ := turn rfl
    exact o.recvd rfl (Or.inl h1) h2 h3 rfl (hnodel_r _ _ _ rfl) hne
  | deliverRaise i e he =>
    -- the exception escapes to the emitter: the rest of the agenda is dropped
    obtain ⟨h1, h2, h3⟩ := turn rfl
    obtain ⟨sd, c, obs, e'⟩ :=
      sadDispose_writes { st with adoStopped := upd st.adoStopped i true, tr := .recv i (.error e) :: st.tr } i
    rw [e']
    have := o.recvd (new := []) (i := i) (n := .error e)
      (st' := { st with adoStopped := upd st.adoStopped i true, tr := .recv i (.error e) :: st.tr, sadDisposed := sd,
                        cur := c, observers := obs, raisedNow := some e }) rfl (Or.inl h1) h2 h3 rfl rfl hne
    exact ⟨this.sub, nofun, List.nodup_nil, this.unseen, nofun⟩
  | fin j hh => rw [finish_eq]; exact o.quiet (new := []) (fun _ => rfl) rfl (fun _ h => h) (fun h => h) rfl hne
  | sad i =>
    obtain ⟨sd, c, obs, e⟩ := sadDispose_writes st i
    rw [e]; exact o.quiet (new := []) (fun _ => rfl) rfl (fun _ h => h) id rfl hne

theorem reachable_oinv {cfg : Cfg} {v : Option α} (hk : cfg.kind = .subject) {st : St α}
    {ag : List (Task α)} (h : Reachable cfg v st ag) : OInv st ag := by
  induction h with
  | init =>
    have : (init cfg v).tr = [] ∧ (init cfg v).seen = fun _ => false := by simp [init, hk]
    exact ⟨fun i => Or.inl (by rw [this.1]; simp [recvs]), by simp, by simp,
      fun j _ => by rw [this.1]; rfl, by simp⟩
  | @call st c hr ih =>
    have hnil : OInv st [] := ih
    refine ⟨?_, ?_, ?_, ?_, ?_⟩
    · exact hnil.sub
    · intro i n hm
      simp only [List.mem_singleton] at hm
      cases c <;> simp [Call.toTask] at hm
    · cases c <;> simp [Call.toTask, deliverId, List.filterMap_cons]
    · exact hnil.unseen
    · intro n hn
      simp only [List.mem_singleton] at hn
      rw [hn]
  | @step st t ts hr ih =>
    exact (step1_step cfg st t).oinv hk (reachable_inv hr).1 (reachable_inv hr).2 (reachable_vinv hr) ih
  | @oof st ag hr ih => exact ⟨ih.sub, by simp, by simp, ih.unseen, by simp⟩

end Subj
