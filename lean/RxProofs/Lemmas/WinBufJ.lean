import RxProofs.Lemmas.WinOps
import RxModel.WinBuf
/-!
# The log/state invariant `J`: what the subscriber of a window has received = what was pushed into it.
-/
namespace Win
variable {α : Type}

theorem itemsOf_append (l l' : List (Nat × Out α)) (id : Nat) : itemsOf (l ++ l') id = itemsOf l id ++ itemsOf l' id := by
  simp [itemsOf, List.filterMap_append]

theorem itemsOf_single (t : Nat) (o : Out α) (id : Nat) :
    itemsOf [(t, o)] id = match o with | .win i (.next x) => if i = id then [x] else [] | _ => [] := by
  cases o with
  | win i n =>
    cases n with
    | next x => by_cases h : i = id <;> simp [itemsOf, h]
    | error e => simp [itemsOf]
    | completed => simp [itemsOf]
  | _ => simp [itemsOf]

theorem endLogged_append (l l' : List (Nat × Out α)) (id : Nat) : endLogged (l ++ l') id ↔ endLogged l id ∨ endLogged l' id := by
  simp only [endLogged, List.mem_append]
  constructor
  · rintro ⟨t, n, h | h, hn⟩
    · exact Or.inl ⟨t, n, h, hn⟩
    · exact Or.inr ⟨t, n, h, hn⟩
  · rintro (⟨t, n, h, hn⟩ | ⟨t, n, h, hn⟩)
    · exact ⟨t, n, Or.inl h, hn⟩
    · exact ⟨t, n, Or.inr h, hn⟩

theorem endLogged_single (t : Nat) (o : Out α) (id : Nat) :
    endLogged [(t, o)] id ↔ ∃ n, o = .win id n ∧ n.isTerminal = true := by
  simp only [endLogged, List.mem_singleton, Prod.mk.injEq]
  constructor
  · rintro ⟨t', n, ⟨_, h⟩, hn⟩; exact ⟨n, h.symm, hn⟩
  · rintro ⟨n, h, hn⟩; exact ⟨t, n, ⟨rfl, h.symm⟩, hn⟩

/-- the subscriber of a window that is attached (or whose terminal was delivered)
has received exactly the elements pushed into the window. -/
structure J (b : Base α) : Prop where
  items : ∀ id w, b.wins[id]? = some w → (w.attached = true ∨ endLogged b.log id) → itemsOf b.log id = w.pushed
  ended : ∀ id, endLogged b.log id → ∃ w, b.wins[id]? = some w ∧ w.ended.isSome = true ∧ w.attached = false
  fresh : ∀ id, b.wins.length ≤ id → itemsOf b.log id = [] ∧ ¬ endLogged b.log id

theorem J_frame {b b' : Base α} (hw : b'.wins = b.wins) (l : List (Nat × Out α)) (hl : b'.log = b.log ++ l)
    (hnw : ∀ t o, (t, o) ∈ l → ∀ i n, o ≠ .win i n) (h : J b) : J b' := by
  have hit : ∀ id, itemsOf l id = [] := by
    intro id; simp only [itemsOf, List.filterMap_eq_nil_iff]
    rintro ⟨t, o⟩ hm
    cases o with
    | win i n => exact absurd rfl (hnw t _ hm i n)
    | _ => rfl
  have hel : ∀ id, ¬ endLogged l id := by
    rintro id ⟨t, n, hm, _⟩; exact hnw t _ hm id n rfl
  refine ⟨?_, ?_, ?_⟩
  · intro id w hg ha
    rw [hl, itemsOf_append, hit, List.append_nil]
    rw [hw] at hg
    apply h.items id w hg
    rcases ha with ha | ha
    · exact Or.inl ha
    · rw [hl, endLogged_append] at ha; exact Or.inr (ha.resolve_right (hel id))
  · intro id he
    rw [hl, endLogged_append] at he
    rw [hw]; exact h.ended id (he.resolve_right (hel id))
  · intro id hid
    rw [hw] at hid
    rw [hl, itemsOf_append, hit, List.append_nil, endLogged_append]
    exact ⟨(h.fresh id hid).1, fun e => (e.elim (h.fresh id hid).2 (hel id))⟩

namespace Base

theorem J_emit (b : Base α) (o : Out α) (ho : ∀ i n, o ≠ .win i n) (h : J b) : J (b.emit o) :=
  J_frame (b := b) (b' := b.emit o) rfl [(b.now, o)] rfl (by intro t o' hm i n; simp at hm; rw [hm.2]; exact ho i n) h

theorem J_now (b : Base α) (t : Nat) (h : J b) : J ({ b with now := t } : Base α) := ⟨h.items, h.ended, h.fresh⟩
theorem J_subscribe (b : Base α) (k) (h : J b) : J (b.subscribe k) :=
  J_frame (b := b) (b' := b.subscribe k) rfl [(b.now, .sub k)] rfl (by intro t o' hm i n; simp at hm; rw [hm.2]; exact fun e => by cases e) h

theorem J_unsub (b : Base α) (k) (h : J b) : J (b.unsub k) := by
  unfold unsub; split
  · exact J_frame (b := b) rfl [(b.now, .unsub k)] rfl (by intro t o' hm i n; simp at hm; rw [hm.2]; exact fun e => by cases e) h
  · exact h

theorem J_disposeUnderlying (b : Base α) (h : J b) : J b.disposeUnderlying := List.foldl_pres _ J_unsub _ h

theorem J_flags (b : Base α) (p r os : Bool) (c : Nat) (h : J b) :
    J ({ b with primary := p, rcDisposed := r, outerStopped := os, count := c } : Base α) := ⟨h.items, h.ended, h.fresh⟩

theorem J_settle (b : Base α) (h : J b) : J b.settle := by
  rcases settle_cases b with ⟨he, -⟩ | he <;> rw [he]
  · exact J_disposeUnderlying b h
  · exact h

theorem J_rcDispose (b : Base α) (h : J b) : J b.rcDispose := by
  rcases rcDispose_cases b with he | ⟨-, -, he⟩ <;> rw [he]
  · exact h
  · exact J_settle _ (J_flags b true (b.count == 0) b.outerStopped b.count h)

theorem J_rcRelease (b : Base α) (h : J b) : J b.rcRelease := by
  rcases rcRelease_cases b with he | ⟨-, he⟩ <;> rw [he]
  · exact h
  · exact J_settle _ (J_flags b b.primary (b.count - 1 == 0 && b.primary) b.outerStopped (b.count - 1) h)

theorem J_outerEnd (b : Base α) (e) (h : J b) : J (b.outerEnd e) := by
  unfold outerEnd; split; exact h
  apply J_rcDispose
  exact J_emit _ _ (fun i n e => by cases e) (J_flags b b.primary b.rcDisposed true b.count h)

theorem J_outerDispose (b : Base α) (h : J b) : J b.outerDispose := by
  unfold outerDispose; exact J_rcDispose _ (J_flags b b.primary b.rcDisposed true b.count h)

theorem J_setWin {b : Base α} {i : Nat} {w : W α} (w' : W α) (l : List (Nat × Out α)) (hw : b.wins[i]? = some w)
    (hl : ∀ id, id ≠ i → itemsOf l id = [] ∧ ¬ endLogged l id)
    (hit : (w'.attached = true ∨ endLogged (b.log ++ l) i) → itemsOf (b.log ++ l) i = w'.pushed)
    (hend : endLogged (b.log ++ l) i → w'.ended.isSome = true ∧ w'.attached = false)
    (h : J b) : J (b.setWin i w' l) := by
  have hi : i < b.wins.length := (List.getElem?_eq_some_iff.mp hw).1
  have hother : ∀ id, id ≠ i → itemsOf (b.log ++ l) id = itemsOf b.log id ∧ (endLogged (b.log ++ l) id ↔ endLogged b.log id) := by
    intro id hid
    rw [itemsOf_append, endLogged_append, (hl id hid).1, List.append_nil]
    exact ⟨rfl, fun h => h.resolve_right (hl id hid).2, Or.inl⟩
  refine ⟨fun id w0 hg hp => ?_, fun id hlg => ?_, fun id hid => ?_⟩
  · simp only [setWin] at hg hp ⊢
    by_cases hid : id = i
    · subst hid; rw [List.getElem?_set_self hi] at hg; cases hg; exact hit hp
    · rw [List.getElem?_set_ne (Ne.symm hid)] at hg
      rw [(hother id hid).1]; exact h.items id w0 hg (hp.imp_right (hother id hid).2.mp)
  · simp only [setWin] at hlg ⊢
    by_cases hid : id = i
    · subst hid; exact ⟨w', List.getElem?_set_self hi, hend hlg⟩
    · obtain ⟨w2, hw2, hs, hat⟩ := h.ended id ((hother id hid).2.mp hlg)
      exact ⟨w2, by rw [List.getElem?_set_ne (Ne.symm hid)]; exact hw2, hs, hat⟩
  · simp only [setWin, List.length_set] at hid ⊢
    have hne : id ≠ i := by omega
    rw [(hother id hne).1, (hother id hne).2]; exact h.fresh id hid

theorem J_setWin_nil {b : Base α} {i : Nat} {w : W α} (w' : W α) (hw : b.wins[i]? = some w)
    (hit : (w'.attached = true ∨ endLogged b.log i) → itemsOf b.log i = w'.pushed)
    (hend : endLogged b.log i → w'.ended.isSome = true ∧ w'.attached = false)
    (h : J b) : J (b.setWin i w' []) :=
  J_setWin w' [] hw (fun id _ => ⟨rfl, fun ⟨_, _, hm, _⟩ => by cases hm⟩) (by rw [List.append_nil]; exact hit)
    (by rw [List.append_nil]; exact hend) h

theorem J.not_logged {b : Base α} (h : J b) {i : Nat} {w : W α} (ho : b.OpenAt i w) : ¬ endLogged b.log i := fun hl => by
  obtain ⟨w2, hw2, hs, _⟩ := h.ended i hl
  rw [ho.get] at hw2; cases hw2; rw [ho.ended] at hs; cases hs

theorem J_winNext (b : Base α) (i : Nat) (x : α) (h : J b) : J (b.winNext i x) := by
  rcases winNext_cases b i x with ⟨-, he⟩ | ⟨w, ho, he⟩ <;> rw [he]
  · exact h
  have hnl := J.not_logged h ho
  have hw := ho.get
  by_cases ha : w.attached = true
  · simp only [ha, if_true]
    have hnl' : ¬ endLogged (b.log ++ [(b.now, Out.win i (.next x))]) i := by
      rw [endLogged_append, endLogged_single]
      rintro (hl | ⟨n, hn, ht⟩)
      · exact hnl hl
      · cases hn; cases ht
    refine J_setWin _ _ hw (fun id hid => ?_) (fun _ => ?_) (fun hl => absurd hl hnl') h
    · rw [itemsOf_single, endLogged_single]
      exact ⟨if_neg (Ne.symm hid), fun ⟨n, hn, _⟩ => by cases hn; exact hid rfl⟩
    · show itemsOf (b.log ++ [(b.now, Out.win i (.next x))]) i = w.pushed ++ [x]
      rw [itemsOf_append, itemsOf_single, h.items i w hw (Or.inl ha)]; simp
  · have ha' : w.attached = false := by simpa using ha
    simp only [ha', Bool.false_eq_true, if_false]
    refine J_setWin_nil _ hw (fun hp => ?_) (fun hl => absurd hl hnl) h
    rcases hp with hp | hp
    · cases hp
    · exact absurd hp hnl

theorem isTerminal_endNotif (e : Option Err) : (endNotif (α := α) e).isTerminal = true := by cases e <;> rfl

theorem J_winEnd (b : Base α) (i : Nat) (e : Option Err) (h : J b) : J (b.winEnd i e) := by
  rcases winEnd_cases b i e with ⟨-, he⟩ | ⟨w, ho, he⟩ <;> rw [he]
  · exact h
  have hnl := J.not_logged h ho
  have hw := ho.get
  split
  · next ha =>
    apply J_rcRelease
    have hnil : ∀ id, itemsOf [(b.now, Out.win i (endNotif (α := α) e))] id = [] := by
      intro id; rw [itemsOf_single]; cases e <;> rfl
    refine J_setWin _ _ hw (fun id hid => ⟨hnil id, ?_⟩) (fun _ => ?_) (fun _ => ⟨rfl, rfl⟩) h
    · rw [endLogged_single]; exact fun ⟨n, hn, _⟩ => by cases hn; exact hid rfl
    · show itemsOf (b.log ++ [(b.now, Out.win i (endNotif e))]) i = w.pushed
      rw [itemsOf_append, hnil, List.append_nil, h.items i w hw (Or.inl ha)]
  · refine J_setWin_nil _ hw (fun hp => ?_) (fun _ => ⟨rfl, rfl⟩) h
    rcases hp with hp | hp
    · cases hp
    · exact absurd hp hnl

theorem J_winDetach (b : Base α) (i : Nat) (h : J b) : J (b.winDetach i) := by
  rcases winDetach_cases b i with he | ⟨w, hw, ha, he⟩ <;> rw [he]
  · exact h
  apply J_rcRelease
  refine J_setWin_nil _ hw (fun _ => h.items i w hw (Or.inl ha)) (fun hl => ?_) h
  obtain ⟨w2, hw2, hs, hat⟩ := h.ended i hl
  rw [hw] at hw2; cases hw2; exact ⟨hs, rfl⟩

theorem J_disposeEv (b : Base α) (w : Bool) (h : J b) : J (b.disposeEv w) := by
  unfold disposeEv; simp only []; split
  · exact List.foldl_pres _ J_winDetach _ (J_outerDispose b h)
  · exact J_outerDispose b h

/-- `Subject()` + `observer.on_next(add_ref(...))` + the recorder attaching. -/
theorem J_open (b : Base α) (h : J b) : J (b.newWin.1.outerNext b.wins.length) := by
  -- `J` survives a fresh window `w0` and a logged `l` if `w0` is empty and open and `l` holds no window entry
  have key : ∀ (w0 : W α) (l : List (Nat × Out α)) (b' : Base α), w0.pushed = [] → w0.ended = none →
      (∀ t o, (t, o) ∈ l → ∀ i n, o ≠ .win i n) → b'.wins = b.wins ++ [w0] → b'.log = b.log ++ l → J b' := by
    intro w0 l b' hp he hl hw hlog
    have hb : J ({ b with log := b.log ++ l } : Base α) := J_frame (b := b) rfl l rfl hl h
    refine ⟨fun id w hg ha => ?_, fun id hlg => ?_, fun id hid => ?_⟩
    · rw [hw] at hg; rw [hlog] at ha ⊢
      by_cases hid : id < b.wins.length
      · rw [List.getElem?_append_left hid] at hg; exact hb.items id w hg ha
      · have hle : b.wins.length ≤ id := Nat.le_of_not_lt hid
        rw [List.getElem?_append_right hle] at hg
        obtain rfl : w = w0 := by simpa using List.mem_of_getElem? hg
        rw [(hb.fresh id hle).1, hp]
    · rw [hlog] at hlg; rw [hw]
      obtain ⟨w2, hw2, hs, hat⟩ := hb.ended id hlg
      exact ⟨w2, by rw [List.getElem?_append_left (List.getElem?_eq_some_iff.mp hw2).1]; exact hw2, hs, hat⟩
    · rw [hw, List.length_append, List.length_singleton] at hid; rw [hlog]
      exact hb.fresh id (show b.wins.length ≤ id by omega)
  rcases open_cases b with ⟨-, he⟩ | ⟨-, he⟩ <;> rw [he]
  · exact key {} [] _ rfl rfl nofun rfl (List.append_nil _).symm
  · exact key { attached := true } [(b.now, .outer (.next b.wins.length))] _ rfl rfl
      (fun t o hm i n => by simp at hm; rw [hm.2]; nofun) rfl rfl

end Base

theorem J_empty (t0 : Nat) : J ({ now := t0 } : Base α) :=
  ⟨by intro id w hg; simp at hg, by rintro id ⟨t, n, hm, _⟩; simp at hm, by intro id _; exact ⟨rfl, by rintro ⟨t, n, hm, _⟩; simp at hm⟩⟩

open Base in
theorem J.inv {keep closed : Prop} : Base.Inv keep closed (fun (b : Base α) _ => J b) where
  now t _ _ h := Base.J_now _ t h
  ops h hj := by
    induction h with
    | refl => exact hj
    | emit o ho _ ih => exact J_emit _ o ho ih
    | subscribe k _ _ ih => exact J_subscribe _ k ih
    | subscribeDead k _ _ ih => exact J_unsub _ k (J_subscribe _ k ih)
    | unsub k _ _ ih => exact J_unsub _ k ih
    | push i x _ _ ih => exact J_winNext _ i x ih
    | winEnd i e _ ih => exact J_winEnd _ i e ih
    | open_ _ ih => exact J_open _ ih
    | outerEnd e _ ih => exact J_outerEnd _ e ih
    | disposeEv w _ ih => exact J_disposeEv _ w ih
    | drop _ _ _ _ ih => exact ih

end Win
