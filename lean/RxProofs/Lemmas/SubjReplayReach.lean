import RxProofs.Lemmas.SubjReplayThm
import RxProofs.Lemmas.SubjReplayLive
import RxProofs.Lemmas.SubjReplaySpec
/-!
# ReplaySubject: the invariant of every reachable state

Safety (`RInv`), what reaches the user (`UInv`), agreement with the specification (`SpecInv`) and draining (`LInv`) are
one invariant of `Step`, hence of `Reach`, by one induction.
-/

namespace SubjReplay
open Subj (Call)
variable {α : Type}

/-- States reachable by `VirtualTimeScheduler.start()` from the scheduled history. -/
inductive Reach (cfg : Cfg α) (calls : List (Nat × Call α)) : St α → Prop
  | init : Reach cfg calls (schedule calls)
  | step {st : St α} : Reach cfg calls st → Reach cfg calls (step cfg st)

theorem steps_inv {cfg : Cfg α} {P : St α → Prop} (hstep : ∀ s, P s → P (step cfg s)) (f : Nat) {st : St α} (h : P st) :
    P (steps cfg f st) := by
  induction f generalizing st with
  | zero => exact h
  | succ f ih =>
    simp only [steps]
    split
    · exact h
    · exact ih (hstep st h)

structure Inv (cfg : Cfg α) (st : St α) : Prop where
  r : RInv cfg st
  u : UInv st
  s : SpecInv cfg st
  l : LInv st

theorem Inv.step {cfg : Cfg α} {st st' : St α} (h : Inv cfg st) (s : Step cfg st st') : Inv cfg st' :=
  ⟨s.inv h.r, h.u.step (s.ado h.r), s.specinv h.r h.s, s.linv h.l⟩

theorem reach_Inv {cfg : Cfg α} {calls : List (Nat × Call α)} {st : St α} (h : Reach cfg calls st) : Inv cfg st := by
  induction h with
  | init =>
    have w := schedule_go_writes calls 0 ({} : St α)
    exact ⟨init_inv cfg w, init_uinv w, init_specinv cfg w, init_linv calls⟩
  | step _ ih => exact ih.step (step_Step cfg _)

theorem steps_silent {cfg : Cfg α} {st : St α} (h : RInv cfg st) (i : Id) (hs : st.adoStopped i = true) (f : Nat) :
    (steps cfg f st).log i = st.log i ∧ (steps cfg f st).adoStopped i = true :=
  (steps_inv (P := fun s => RInv cfg s ∧ s.log i = st.log i ∧ s.adoStopped i = true)
    (fun s ⟨hr, hl, ha⟩ =>
      have q := ((step_Step cfg s).ado hr).quiet i ha
      ⟨(step_Step cfg s).inv hr, q.1.trans hl, q.2⟩) f ⟨h, rfl, hs⟩).2

end SubjReplay
