/-!
# The sequential bookkeeping of `reactivex.disposable.RefCountDisposable`

Between two calls the object is four numbers: `p` = `is_primary_disposed`, `d` = `is_disposed`, `n` = `count`, `k` = the `InnerDisposable`s
handed out by the `.disposable` getter and not yet disposed.
-/

structure RC (p d : Bool) (n k : Nat) : Prop where
  cnt : n = k
  /-- in the order in which `release()` tests it: `count == 0 and is_primary_disposed` -/
  disp : d = (n == 0 && p)

namespace RC
variable {p d : Bool} {n k : Nat}

theorem init : RC false false 0 0 := ⟨rfl, rfl⟩

theorem congr {n' k' : Nat} (h : RC p d n k) (hn : n' = n) (hk : k' = k) : RC p d n' k' := hn ▸ hk ▸ h

/-- the `.disposable` getter: a counted `InnerDisposable`, or an inert `Disposable()` once disposed -/
theorem acquire (h : RC p d n k) : RC p d (if d then n else n + 1) (if d then k else k + 1) := by
  obtain ⟨rfl, hd⟩ := h
  cases d with
  | true => exact ⟨rfl, hd⟩
  | false => exact ⟨rfl, rfl⟩

/-- `InnerDisposable.dispose()` → `release()` by one of the `k + 1` holders -/
theorem release (h : RC p d n (k + 1)) : d = false ∧ RC p (n - 1 == 0 && p) (n - 1) k := by
  obtain ⟨rfl, hd⟩ := h
  exact ⟨hd, by simp, rfl⟩

theorem dispose (h : RC p d n k) : RC true (n == 0) n k := ⟨h.cnt, (Bool.and_true _).symm⟩

theorem disp_prim (h : RC p d n k) (hd : d = true) : p = true := by
  have := h.disp; rw [hd] at this; exact (Bool.and_eq_true_iff.mp this.symm).2

theorem no_holder (h : RC p d n k) (hd : d = true) : k = 0 := by
  have := h.disp; rw [hd] at this; exact h.cnt ▸ beq_iff_eq.mp (Bool.and_eq_true_iff.mp this.symm).1

theorem pos (h : RC p d n k) (hp : p = true) (hd : d = false) : 0 < n := by
  have := h.disp; rw [hd, hp, Bool.and_true] at this
  exact Nat.pos_of_ne_zero fun h0 => by rw [h0] at this; cases this

theorem released (h : RC p d n k) (hp : p = true) (hk : k = 0) : d = true := by
  rw [h.disp, hp, h.cnt, hk]; rfl

end RC
