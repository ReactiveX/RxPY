import RxModel.Vts
import RxProofs.Lemmas.VtsPQ
import RxProofs.Lemmas.VtsRun
import RxProofs.Lemmas.Basics
/-!
The `VTS` model (C28, C29, C42): what one iteration can be, and an invariant principle that reduces "P holds after
any run" to "P is preserved by the primitive effects" (dequeue+clock update, log, enqueue, cancel, stop, sleep,
handler call).
-/

namespace Vts

theorem loop_unfold (cfg : Cfg) (tgt : Option Int) (s : St) :
    loop cfg tgt s =
      match iter cfg tgt s with
      | .exit s' => (s', .ok)
      | .next _ s' => loop cfg tgt s'
      | .raised s' e => (s', .raised e)
      | .stuck s' => (s', .stuck) := by
  rw [loop]
  split <;> simp_all

/-- `fun_induction loop`: `case1`–`case4` are the iteration's `.exit`, `.next` (with the hypothesis for the rest of
the run), `.raised`, `.stuck`. -/
theorem loop_inv {cfg : Cfg} {tgt : Option Int} (P : St → Prop)
    (h : ∀ s, P s → P (iter cfg tgt s).st) (s : St) : P s → P (loop cfg tgt s).1 := by
  fun_induction loop cfg tgt s with
  | case1 s s' hi => exact fun hp => by simpa [hi, Iter.st] using h s hp
  | case2 s x s' hi ih => exact fun hp => ih (by simpa [hi, Iter.st] using h s hp)
  | case3 s s' e hi => exact fun hp => by simpa [hi, Iter.st] using h s hp
  | case4 s s' hi => exact fun hp => by simpa [hi, Iter.st] using h s hp

theorem loop_eq_loopFuel (cfg : Cfg) (tgt : Option Int) : ∀ (n : Nat) (s : St), s.queue.nodes < n →
    loop cfg tgt s = loopFuel cfg tgt n s := by
  intro n
  induction n with
  | zero => intro s h; omega
  | succ n ih =>
    intro s h
    rw [loop_unfold, loopFuel]
    cases hi : iter cfg tgt s with
    | next x s' =>
      simp only
      exact ih s' (by have := iter_next_nodes hi; omega)
    | _ => rfl

theorem start_eq (cfg : Cfg) (s : St) :
    start cfg s = if s.enabled then (s, .ok)
      else closeRun .ok (fun s' => { s' with enabled := false }) (loop cfg none { s with enabled := true, spin := 0 }) := by
  unfold start closeRun
  rcases loop cfg none { s with enabled := true, spin := 0 } with ⟨a, _ | e | _⟩ <;> rfl

theorem advanceTo_eq (cfg : Cfg) (T : Int) (s : St) :
    advanceTo cfg T s = if s.clock > T then (s, .raised aoor) else if s.clock = T ∨ s.enabled = true then (s, .ok)
      else closeRun .ok (fun s' => { s' with enabled := false, clock := T }) (loop cfg (some T) { s with enabled := true }) := by
  unfold advanceTo closeRun
  rcases loop cfg (some T) { s with enabled := true } with ⟨a, _ | e | _⟩ <;> rfl

/-- the clock right after the locked block of one iteration, for dequeued item `x` -/
def tickClock (cfg : Cfg) (tgt : Option Int) (s : St) (x : Item) : Int :=
  if x.due > s.clock then x.due
  else if tgt.isNone && decide (s.spin > cfg.maxSpin) then s.clock + cfg.bump
  else s.clock

theorem tick_cases (cfg : Cfg) (tgt : Option Int) (s : St) (x : Item) (q' : PQ Item) :
    match tick cfg tgt s x q' with
    | none => cfg.spinDeadlock = true
    | some s1 => ∃ sp, s1 = { s with clock := tickClock cfg tgt s x, spin := sp, queue := q' } := by
  unfold tick
  by_cases h1 : x.due > s.clock
  · rw [if_pos h1]; exact ⟨if tgt.isNone then 0 else s.spin, by simp [tickClock, h1]⟩
  rw [if_neg h1]
  by_cases h2 : (tgt.isNone && decide (s.spin > cfg.maxSpin)) = true
  · rw [if_pos h2]
    by_cases h3 : cfg.spinDeadlock = true
    · rw [if_pos h3]; exact h3
    · rw [if_neg h3]; exact ⟨0, by simp [tickClock, h1, h2]⟩
  · rw [if_neg h2]; exact ⟨s.spin, by simp [tickClock, h1, h2]⟩

def Iter.ofInvoke (tgt : Option Int) (x : Item) : St × Option Err → Iter
  | (s', none) => .next x { s' with spin := if tgt.isNone then s'.spin + 1 else s'.spin }
  | (s', some e) => .raised s' e

theorem iter_invokes {cfg : Cfg} {tgt : Option Int} {s s1 : St} {x : Item} {q' : PQ Item}
    (hen : s.enabled = true) (hd : s.queue.dequeue? Item.due = some (x, q')) (hpt : pastTarget tgt x = false)
    (ht : tick cfg tgt s x q' = some s1) (hc : x.cancelled = false) :
    iter cfg tgt s = .ofInvoke tgt x (invoke cfg x s1) := by
  simp only [iter, hen, hd, hpt, ht, fin, hc]
  rcases invoke cfg x s1 with ⟨s', _ | e⟩ <;> simp [Iter.ofInvoke]

/-- What one iteration can be: one case per branch of `iter`, with the tests that lead there.  Left out: the spin
counter `sp` after the locked block (`IterInv` quantifies over it) and what `invoke` does. -/
inductive IterIs (cfg : Cfg) (tgt : Option Int) (s : St) : Iter → Prop
  | disabled (hen : s.enabled = false) : IterIs cfg tgt s (.exit s)
  | empty (hd : s.queue.dequeue? Item.due = none) : IterIs cfg tgt s (.exit s)
  | pastTarget {x q'} (hd : s.queue.dequeue? Item.due = some (x, q')) (hpt : pastTarget tgt x = true) :
      IterIs cfg tgt s (.exit s)
  | blocked {x q'} (hen : s.enabled = true) (hd : s.queue.dequeue? Item.due = some (x, q'))
      (hpt : pastTarget tgt x = false) (hdl : cfg.spinDeadlock = true) : IterIs cfg tgt s (.stuck s)
  | skipped {x q' sp} (hen : s.enabled = true) (hd : s.queue.dequeue? Item.due = some (x, q'))
      (hpt : pastTarget tgt x = false) (hc : x.cancelled = true) :
      IterIs cfg tgt s (.next x
        { s with clock := tickClock cfg tgt s x, spin := sp, queue := q', skipped := s.skipped ++ [x.id] })
  | invoked {x q' sp} (hen : s.enabled = true) (hd : s.queue.dequeue? Item.due = some (x, q'))
      (hpt : pastTarget tgt x = false) (hc : x.cancelled = false) :
      IterIs cfg tgt s
        (.ofInvoke tgt x (invoke cfg x { s with clock := tickClock cfg tgt s x, spin := sp, queue := q' }))

theorem iter_is (cfg : Cfg) (tgt : Option Int) (s : St) : IterIs cfg tgt s (iter cfg tgt s) := by
  by_cases hen : s.enabled = false
  · simp only [iter, if_pos hen]; exact .disabled hen
  cases hd : s.queue.dequeue? Item.due with
  | none => simp only [iter, if_neg hen, hd]; exact .empty hd
  | some xq =>
    obtain ⟨x, q'⟩ := xq
    cases hpt : pastTarget tgt x with
    | true => simp only [iter, if_neg hen, hd, hpt, if_true]; exact .pastTarget hd hpt
    | false =>
      have hen' : s.enabled = true := by simpa using hen
      have htc := tick_cases cfg tgt s x q'
      cases ht : tick cfg tgt s x q' with
      | none =>
        rw [ht] at htc
        simp only [iter, if_neg hen, hd, hpt, ht, Bool.false_eq_true, if_false]
        exact .blocked hen' hd hpt htc
      | some s1 =>
        rw [ht] at htc
        obtain ⟨sp, rfl⟩ := htc
        cases hc : x.cancelled with
        | true =>
          simp only [iter, if_neg hen, hd, hpt, ht, fin, hc, Bool.false_eq_true, if_false, if_true]
          exact .skipped hen' hd hpt hc
        | false => rw [iter_invokes hen' hd hpt ht hc]; exact .invoked hen' hd hpt hc

theorem Iter.ofInvoke_log (tgt : Option Int) (x : Item) (r : St × Option Err) :
    (Iter.ofInvoke tgt x r).st.log = r.1.log := by
  rcases r with ⟨a, _ | e⟩ <;> rfl

theorem Iter.ofInvoke_cases (tgt : Option Int) (x : Item) (r : St × Option Err) :
    (∃ s1, Iter.ofInvoke tgt x r = .next x s1) ∨ ∃ e, Iter.ofInvoke tgt x r = .raised r.1 e ∧ r.2 = some e := by
  rcases r with ⟨a, _ | e⟩
  · exact .inl ⟨_, rfl⟩
  · exact .inr ⟨e, rfl, rfl⟩

theorem iter_exit {cfg : Cfg} {tgt : Option Int} {s s' : St} (h : iter cfg tgt s = .exit s') :
    s' = s ∧ (s.enabled = false ∨ s.queue.items = [] ∨
      ∃ x q', s.queue.dequeue? Item.due = some (x, q') ∧ pastTarget tgt x = true) := by
  have hi := iter_is cfg tgt s
  generalize hr : iter cfg tgt s = r at hi
  replace hr := hr.symm.trans h
  cases hi with
  | disabled hen => cases hr; exact ⟨rfl, .inl hen⟩
  | empty hd => cases hr; exact ⟨rfl, .inr (.inl ((PQ.dequeue_none Item.due).1 hd))⟩
  | pastTarget hd hpt => cases hr; exact ⟨rfl, .inr (.inr ⟨_, _, hd, hpt⟩)⟩
  | blocked | skipped => cases hr
  | @invoked x q' sp => rcases Iter.ofInvoke_cases tgt x _ with ⟨s1, h1⟩ | ⟨e, h1, _⟩ <;> cases h1.symm.trans hr

theorem iter_stuck {cfg : Cfg} {tgt : Option Int} {s s' : St} (h : iter cfg tgt s = .stuck s') :
    cfg.spinDeadlock = true := by
  have hi := iter_is cfg tgt s
  generalize hr : iter cfg tgt s = r at hi
  replace hr := hr.symm.trans h
  cases hi with
  | blocked _ _ _ hdl => exact hdl
  | disabled | empty | pastTarget | skipped => cases hr
  | @invoked x q' sp => rcases Iter.ofInvoke_cases tgt x _ with ⟨s1, h1⟩ | ⟨e, h1, _⟩ <;> cases h1.symm.trans hr

theorem iter_raised {cfg : Cfg} {tgt : Option Int} {s s' : St} {e : Err} (h : iter cfg tgt s = .raised s' e) :
    ∃ x q' sp, s.queue.dequeue? Item.due = some (x, q') ∧
      invoke cfg x { s with clock := tickClock cfg tgt s x, spin := sp, queue := q' } = (s', some e) := by
  have hi := iter_is cfg tgt s
  generalize hr : iter cfg tgt s = r at hi
  replace hr := hr.symm.trans h
  cases hi with
  | disabled | empty | pastTarget | blocked | skipped => cases hr
  | @invoked x q' sp hen hd =>
    refine ⟨x, q', sp, hd, ?_⟩
    rcases Iter.ofInvoke_cases tgt x (invoke cfg x { s with clock := tickClock cfg tgt s x, spin := sp, queue := q' })
      with ⟨s1, h1⟩ | ⟨e', h1, h2⟩
    · cases h1.symm.trans hr
    · cases h1.symm.trans hr
      exact Prod.ext rfl h2

theorem invoke_cases (cfg : Cfg) (x : Item) (s : St) :
    let r := exec x.wrapped x.body
      { s with log := s.log ++ [{ id := x.id, at_ := s.clock, due := x.due, seq := x.seq }] }
    (r.2 = none ∧ invoke cfg x s = (r.1.attachRet x.id x.body.retOf, none)) ∨
    (∃ e, r.2 = some e ∧ x.wrapped = false ∧ invoke cfg x s = (r.1, some e)) ∨
    (∃ e, r.2 = some e ∧ x.wrapped = true ∧
      invoke cfg x s = ({ r.1 with hlog := r.1.hlog ++ [e] }, if cfg.handler r.1.hlog.length e then none else some e)) := by
  intro r
  simp only [invoke]
  rcases hr : r with ⟨s1, o⟩
  have : exec x.wrapped x.body
      { s with log := s.log ++ [{ id := x.id, at_ := s.clock, due := x.due, seq := x.seq }] } = (s1, o) := hr
  rw [this]
  cases o with
  | none => left; simp
  | some e =>
    right
    cases hw : x.wrapped with
    | false => left; exact ⟨e, rfl, rfl, by simp⟩
    | true =>
      right
      refine ⟨e, rfl, rfl, ?_⟩
      simp only [if_true]
      split <;> simp

/-- shallow description of one step of an action body -/
inductive Step where
  | raise (e : Err)
  | sched (via : Via) (m : Mode) (t : Int) (cid : Nat)
  | cancel (id : Nat)
  | stop
  | sleep (t : Int)
  | ctl (c : Ctl)

/-- every step of the action and of all its descendants satisfies `φ` -/
def Act.All (φ : Step → Prop) : Act → Prop
  | .done => True
  | .raise e => φ (.raise e)
  | .sched via m t cid c r => φ (.sched via m t cid) ∧ c.All φ ∧ r.All φ
  | .cancel id r => φ (.cancel id) ∧ r.All φ
  | .stop r => φ .stop ∧ r.All φ
  | .sleep t r => φ (.sleep t) ∧ r.All φ
  | .ctl c r => φ (.ctl c) ∧ r.All φ
  | .ret _ => True

/-- where an exception escaping an action body can come from: a `raise`, a negative `sleep`, an out-of-range
re-entrant `advance_to`/`advance_by` that the action does not catch -/
def RaisedBy (φ : Step → Prop) (e : Err) : Prop :=
  φ (.raise e) ∨ (∃ t, φ (.sleep t) ∧ t < 0 ∧ e = aoor) ∨ (∃ c, φ (.ctl c) ∧ e = aoor)

def QAll (φ : Step → Prop) (s : St) : Prop := ∀ e ∈ s.queue.items, e.1.body.All φ

theorem qall_enqueue {φ} {s : St} (h : QAll φ s) (id : Nat) (due : Int) (b : Act) (w : Bool) (hb : b.All φ) :
    QAll φ (s.enqueue id due b w) := by
  intro e he
  simp only [St.enqueue, PQ.enqueue, List.mem_append, List.mem_singleton] at he
  rcases he with he | rfl
  · exact h e he
  · exact hb

theorem cancelEntry_cancelled (id : Nat) (e : Item × Int) :
    (cancelEntry id e).1.cancelled = (decide (e.1.id = id) || e.1.cancelled) := by
  simp only [cancelEntry]; split <;> simp [*]

theorem cancelEntry_id (id : Nat) (e : Item × Int) : (cancelEntry id e).1.id = e.1.id := by
  simp only [cancelEntry]; split <;> rfl

theorem cancelEntry_due (id : Nat) (e : Item × Int) : (cancelEntry id e).1.due = e.1.due := by
  simp only [cancelEntry]; split <;> rfl

theorem cancelEntry_seq (id : Nat) (e : Item × Int) : (cancelEntry id e).1.seq = e.1.seq := by
  simp only [cancelEntry]; split <;> rfl

theorem cancelEntry_snd (id : Nat) (e : Item × Int) : (cancelEntry id e).2 = e.2 := by
  simp only [cancelEntry]; split <;> rfl

theorem mem_cancel {s : St} {id : Nat} {e : Item × Int} :
    e ∈ (s.cancel id).queue.items ↔ ∃ e0 ∈ s.queue.items, cancelEntry id e0 = e := by
  simp only [St.cancel, List.mem_map]

theorem qall_cancel {φ} {s : St} (h : QAll φ s) (id : Nat) : QAll φ (s.cancel id) := by
  intro e he
  obtain ⟨e0, he0, rfl⟩ := mem_cancel.1 he
  have := h e0 he0
  simp only [cancelEntry]
  split <;> exact this

theorem linkClosure_head (links : List (Nat × Nat)) (n c : Nat) : ∃ t, linkClosure links n c = c :: t := by
  cases n with
  | zero => exact ⟨[], rfl⟩
  | succ n =>
    simp only [linkClosure]
    split
    · exact ⟨_, rfl⟩
    · exact ⟨[], rfl⟩

theorem dispose_inv {R : St → Prop} (hcancel : ∀ s id, R s → R (s.cancel id)) (s : St) (id : Nat) (h : R s) :
    R (s.dispose id) :=
  List.foldl_pres St.cancel hcancel _ h

theorem qall_dispose {φ} {s : St} (h : QAll φ s) (id : Nat) : QAll φ (s.dispose id) :=
  dispose_inv (R := QAll φ) (fun _ id h => qall_cancel h id) s id h

theorem attachRet_inv {R : St → Prop} (hcancel : ∀ s id, R s → R (s.cancel id))
    (hlink : ∀ s l, R s → R { s with links := l }) (s : St) (id : Nat) (r : Option Nat) (h : R s) :
    R (s.attachRet id r) := by
  cases r with
  | none => exact h
  | some c =>
    simp only [St.attachRet]
    split
    · exact dispose_inv hcancel _ c (hlink s _ h)
    · exact hlink s _ h

/-- The effect of running an action body, step by step: `R` is preserved by the primitive effects. -/
theorem exec_inv (φ : Step → Prop) (R : St → Prop) (w : Bool)
    (henq : ∀ s via m t cid child, φ (.sched via m t cid) → child.All φ → R s →
      R (s.enqueue cid (dueOf s.clock m t) child (childWrapped w via)))
    (hcancel : ∀ s id, R s → R (s.cancel id))
    (hstop : ∀ s, φ .stop → R s → R { s with enabled := false })
    (hsleep : ∀ s t, φ (.sleep t) → 0 ≤ t → R s → R { s with clock := s.clock + t }) :
    ∀ (a : Act) (s : St), a.All φ → QAll φ s → R s →
      R (exec w a s).1 ∧ QAll φ (exec w a s).1 ∧
      (∀ e, (exec w a s).2 = some e → RaisedBy φ e) := by
  intro a
  induction a with
  | done => intro s _ hq hr; simp [exec, hq, hr]
  | raise e => intro s ha hq hr; simp only [exec]; exact ⟨hr, hq, by intro e' he'; simp at he'; subst he'; exact Or.inl ha⟩
  | sched via m t cid child rest _ ih =>
    intro s ha hq hr
    obtain ⟨h1, h2, h3⟩ := ha
    simp only [exec]
    exact ih _ h3 (qall_enqueue hq _ _ _ _ h2) (henq s via m t cid child h1 h2 hr)
  | cancel id rest ih =>
    intro s ha hq hr
    simp only [exec]
    exact ih _ ha.2 (qall_dispose hq id) (dispose_inv hcancel s id hr)
  | stop rest ih =>
    intro s ha hq hr
    simp only [exec]
    exact ih _ ha.2 hq (hstop s ha.1 hr)
  | sleep t rest ih =>
    intro s ha hq hr
    simp only [exec]
    split
    · next hlt => exact ⟨hr, hq, by intro e he; simp at he; exact Or.inr (Or.inl ⟨t, ha.1, hlt, he.symm⟩)⟩
    · next hge => exact ih _ ha.2 hq (hsleep s t ha.1 (by omega) hr)
  | ctl c rest ih =>
    intro s ha hq hr
    simp only [exec]
    split
    · exact ⟨hr, hq, by intro e he; simp at he; exact Or.inr (Or.inr ⟨c, ha.1, he.symm⟩)⟩
    · exact ih _ ha.2 hq hr
  | ret c => intro s _ hq hr; simp [exec, hq, hr]

/-- What has to be shown for an invariant `P` (between iterations) / `R x` (while item `x` runs). -/
structure IterInv (cfg : Cfg) (tgt : Option Int) (φ : Step → Prop) (P : St → Prop) (R : Item → St → Prop) : Prop where
  skip : ∀ s x q' sp, P s → QAll φ s → s.enabled = true → s.queue.dequeue? Item.due = some (x, q') →
    pastTarget tgt x = false → x.cancelled = true →
    P { s with clock := tickClock cfg tgt s x, spin := sp, queue := q', skipped := s.skipped ++ [x.id] }
  begin : ∀ s x q' sp, P s → QAll φ s → s.enabled = true → s.queue.dequeue? Item.due = some (x, q') →
    pastTarget tgt x = false → x.cancelled = false →
    R x { s with clock := tickClock cfg tgt s x, spin := sp, queue := q',
                 log := s.log ++ [{ id := x.id, at_ := tickClock cfg tgt s x, due := x.due, seq := x.seq }] }
  enq : ∀ x s via m t cid child, φ (.sched via m t cid) → child.All φ → R x s →
    R x (s.enqueue cid (dueOf s.clock m t) child (childWrapped x.wrapped via))
  cancel : ∀ x s id, R x s → R x (s.cancel id)
  /-- the bookkeeping of returned disposables (`links`) does not matter -/
  link : ∀ x s l, R x s → R x { s with links := l }
  stop : ∀ x s, φ .stop → R x s → R x { s with enabled := false }
  sleep : ∀ x s t, φ (.sleep t) → 0 ≤ t → R x s → R x { s with clock := s.clock + t }
  handled : ∀ x s e, x.wrapped = true → RaisedBy φ e → R x s →
    R x { s with hlog := s.hlog ++ [e] }
  finish : ∀ x s sp, R x s → P { s with spin := sp }

theorem iter_inv {cfg : Cfg} {tgt : Option Int} {φ : Step → Prop} {P : St → Prop} {R : Item → St → Prop}
    (I : IterInv cfg tgt φ P R) (s : St) (hP : P s) (hQ : QAll φ s) :
    P (iter cfg tgt s).st ∧ QAll φ (iter cfg tgt s).st := by
  have hQ' : ∀ {x : Item} {q' : PQ Item}, s.queue.dequeue? Item.due = some (x, q') → ∀ st : St, st.queue = q' → QAll φ st :=
    fun hd st hst e he => hQ e ((PQ.dequeue_mem hd).2 e (hst ▸ he))
  have hi := iter_is cfg tgt s
  generalize iter cfg tgt s = r at hi ⊢
  cases hi with
  | disabled | empty | pastTarget | blocked => exact ⟨hP, hQ⟩
  | @skipped x q' sp hen hd hpt hc => exact ⟨I.skip s x q' _ hP hQ hen hd hpt hc, hQ' hd _ rfl⟩
  | @invoked x q' sp hen hd hpt hc =>
    obtain ⟨⟨c, hxc⟩, _⟩ := PQ.dequeue_mem hd
    obtain ⟨hR', hQ'', hraise⟩ := exec_inv φ (R x) x.wrapped (I.enq x) (I.cancel x) (I.stop x) (I.sleep x) x.body _
      (hQ _ hxc)
      (hQ' hd { s with clock := tickClock cfg tgt s x, spin := sp, queue := q',
                       log := s.log ++ [{ id := x.id, at_ := tickClock cfg tgt s x, due := x.due, seq := x.seq }] } rfl)
      (I.begin s x q' sp hP hQ hen hd hpt hc)
    rcases invoke_cases cfg x { s with clock := tickClock cfg tgt s x, spin := sp, queue := q' } with
      ⟨_, h2⟩ | ⟨e', h1, _, h2⟩ | ⟨e', h1, hw, h2⟩ <;> rw [h2]
    · exact ⟨I.finish x _ _ (attachRet_inv (I.cancel x) (I.link x) _ _ _ hR'),
        attachRet_inv (R := QAll φ) (fun _ id h => qall_cancel h id) (fun _ _ h => h) _ _ _ hQ''⟩
    · exact ⟨I.finish x _ (exec x.wrapped x.body _).1.spin hR', hQ''⟩
    · have hh := I.handled x _ e' hw (hraise e' h1) hR'
      split
      · exact ⟨I.finish x _ _ hh, hQ''⟩
      · exact ⟨I.finish x _ (exec x.wrapped x.body _).1.spin hh, hQ''⟩

theorem IterInv.loop {cfg : Cfg} {tgt : Option Int} {φ : Step → Prop} {P : St → Prop} {R : Item → St → Prop}
    (I : IterInv cfg tgt φ P R) (s : St) (hP : P s) (hQ : QAll φ s) :
    P (loop cfg tgt s).1 ∧ QAll φ (loop cfg tgt s).1 :=
  loop_inv (fun s => P s ∧ QAll φ s) (fun s h => iter_inv I s h.1 h.2) s ⟨hP, hQ⟩

theorem IterInv.and {cfg : Cfg} {tgt : Option Int} {φ : Step → Prop} {P₁ P₂ : St → Prop} {R₁ R₂ : Item → St → Prop}
    (I₁ : IterInv cfg tgt φ P₁ R₁) (I₂ : IterInv cfg tgt φ P₂ R₂) :
    IterInv cfg tgt φ (fun s => P₁ s ∧ P₂ s) (fun x s => R₁ x s ∧ R₂ x s) where
  skip s x q' sp h hq he hd hp hc := ⟨I₁.skip s x q' sp h.1 hq he hd hp hc, I₂.skip s x q' sp h.2 hq he hd hp hc⟩
  begin s x q' sp h hq he hd hp hc := ⟨I₁.begin s x q' sp h.1 hq he hd hp hc, I₂.begin s x q' sp h.2 hq he hd hp hc⟩
  enq x s via m t cid child h1 h2 h := ⟨I₁.enq x s via m t cid child h1 h2 h.1, I₂.enq x s via m t cid child h1 h2 h.2⟩
  cancel x s id h := ⟨I₁.cancel x s id h.1, I₂.cancel x s id h.2⟩
  link x s l h := ⟨I₁.link x s l h.1, I₂.link x s l h.2⟩
  stop x s hs h := ⟨I₁.stop x s hs h.1, I₂.stop x s hs h.2⟩
  sleep x s t hs ht h := ⟨I₁.sleep x s t hs ht h.1, I₂.sleep x s t hs ht h.2⟩
  handled x s e hw hr h := ⟨I₁.handled x s e hw hr h.1, I₂.handled x s e hw hr h.2⟩
  finish x s sp h := ⟨I₁.finish x s sp h.1, I₂.finish x s sp h.2⟩

theorem loop_raised_inv {cfg : Cfg} {tgt : Option Int} {φ : Step → Prop} {P : St → Prop} {R : Item → St → Prop}
    (I : IterInv cfg tgt φ P R) (s : St) : P s → QAll φ s → ∀ s' e, loop cfg tgt s = (s', .raised e) →
      ∃ s1, P s1 ∧ iter cfg tgt s1 = .raised s' e := by
  fun_induction loop cfg tgt s with
  | case1 => rintro _ _ _ _ ⟨⟩
  | case2 s x s1 hi ih =>
    intro hP hQ
    have := iter_inv I s hP hQ
    rw [hi] at this
    exact ih this.1 this.2
  | case3 s s1 e1 hi => rintro hP _ s' e ⟨⟩; exact ⟨s, hP, hi⟩
  | case4 => rintro _ _ _ _ ⟨⟩

theorem loop_ok_exit {cfg : Cfg} {tgt : Option Int} (s s' : St) : loop cfg tgt s = (s', .ok) →
    s'.enabled = false ∨ s'.queue.items = [] ∨
      ∃ x q', s'.queue.dequeue? Item.due = some (x, q') ∧ pastTarget tgt x = true := by
  fun_induction loop cfg tgt s with
  | case1 s s1 hi => rintro ⟨⟩; obtain ⟨rfl, hc⟩ := iter_exit hi; exact hc
  | case2 s x s1 hi ih => exact ih
  | case3 => rintro ⟨⟩
  | case4 => rintro ⟨⟩

def noStop : Step → Prop
  | .stop => False
  | _ => True

theorem enabledInv (cfg : Cfg) (tgt : Option Int) :
    IterInv cfg tgt noStop (fun s => s.enabled = true) (fun _ s => s.enabled = true) where
  skip _ _ _ _ h _ _ _ _ _ := h
  begin _ _ _ _ h _ _ _ _ _ := h
  enq _ _ _ _ _ _ _ _ _ h := h
  cancel _ _ _ h := h
  link _ _ _ h := h
  stop _ _ hs _ := absurd hs (by simp [noStop])
  sleep _ _ _ _ _ h := h
  handled _ _ _ _ _ h := h
  finish _ _ _ h := h

theorem loop_ok_drained {cfg : Cfg} {tgt : Option Int} {s s' : St} (hq : QAll noStop s) (hen : s.enabled = true)
    (h : loop cfg tgt s = (s', .ok)) :
    s'.queue.items = [] ∨ ∃ x q', s'.queue.dequeue? Item.due = some (x, q') ∧ pastTarget tgt x = true := by
  have hen' := (IterInv.loop (enabledInv cfg tgt) s hen hq).1
  rw [h] at hen'
  rcases loop_ok_exit s s' h with h1 | h1
  · rw [hen'] at h1; cases h1
  · exact h1

theorem loop_not_stuck (cfg : Cfg) (hfix : cfg.spinDeadlock = false) (tgt : Option Int) (s : St) :
    (loop cfg tgt s).2 ≠ .stuck := by
  fun_induction loop cfg tgt s with
  | case1 => simp
  | case2 s x s' hi ih => exact ih
  | case3 => simp
  | case4 s s' hi => rw [iter_stuck hi] at hfix; cases hfix

theorem start_ok {cfg : Cfg} {s s' : St} (hen : s.enabled = false) (h : start cfg s = (s', .ok)) :
    ∃ s'', loop cfg none { s with enabled := true, spin := 0 } = (s'', .ok) ∧ s' = { s'' with enabled := false } := by
  rw [start_eq, if_neg (by simp [hen])] at h
  obtain ⟨h1, h2⟩ := closeRun_ok h
  exact ⟨_, h1, h2⟩

theorem advanceTo_ok {cfg : Cfg} {T : Int} {s s' : St} (hen : s.enabled = false) (hne : s.clock ≠ T)
    (h : advanceTo cfg T s = (s', .ok)) :
    ∃ s'', loop cfg (some T) { s with enabled := true } = (s'', .ok) ∧
      s' = { s'' with enabled := false, clock := T } := by
  rw [advanceTo_eq] at h
  split at h
  · cases h
  · rw [if_neg (by simp [hen, hne])] at h
    obtain ⟨h1, h2⟩ := closeRun_ok h
    exact ⟨_, h1, h2⟩

def anyStep : Step → Prop := fun _ => True

theorem all_any (a : Act) : a.All anyStep := by
  induction a <;> simp_all [Act.All, anyStep]

theorem qall_any (s : St) : QAll anyStep s := fun e _ => all_any e.1.body

theorem exec_proj {α : Type} (f : St → α) (henq : ∀ s id due b w, f (s.enqueue id due b w) = f s)
    (hcancel : ∀ s id, f (s.cancel id) = f s) (hstop : ∀ s : St, f { s with enabled := false } = f s)
    (hsleep : ∀ (s : St) c, f { s with clock := c } = f s) (w : Bool) (a : Act) (s : St) : f (exec w a s).1 = f s :=
  (exec_inv anyStep (fun s' => f s' = f s) w (fun s' _ _ _ _ _ _ _ h => (henq s' _ _ _ _).trans h)
    (fun s' id h => (hcancel s' id).trans h) (fun s' _ h => (hstop s').trans h) (fun s' _ _ _ h => (hsleep s' _).trans h)
    a s (all_any a) (qall_any s) rfl).1

theorem exec_log (w : Bool) (a : Act) (s : St) : (exec w a s).1.log = s.log :=
  exec_proj St.log (fun _ _ _ _ _ => rfl) (fun _ _ => rfl) (fun _ => rfl) (fun _ _ => rfl) w a s

theorem exec_hlog (w : Bool) (a : Act) (s : St) : (exec w a s).1.hlog = s.hlog :=
  exec_proj St.hlog (fun _ _ _ _ _ => rfl) (fun _ _ => rfl) (fun _ => rfl) (fun _ _ => rfl) w a s

theorem attachRet_proj {α : Type} (f : St → α) (hcancel : ∀ s id, f (s.cancel id) = f s)
    (hlink : ∀ (s : St) l, f { s with links := l } = f s) (s : St) (id : Nat) (r : Option Nat) :
    f (s.attachRet id r) = f s :=
  attachRet_inv (R := fun s' => f s' = f s) (fun s' id h => (hcancel s' id).trans h) (fun s' l h => (hlink s' l).trans h)
    s id r rfl

theorem attachRet_log (s : St) (id : Nat) (r : Option Nat) : (s.attachRet id r).log = s.log :=
  attachRet_proj St.log (fun _ _ => rfl) (fun _ _ => rfl) s id r

theorem attachRet_hlog (s : St) (id : Nat) (r : Option Nat) : (s.attachRet id r).hlog = s.hlog :=
  attachRet_proj St.hlog (fun _ _ => rfl) (fun _ _ => rfl) s id r

theorem invoke_log (cfg : Cfg) (x : Item) (s : St) :
    (invoke cfg x s).1.log = s.log ++ [{ id := x.id, at_ := s.clock, due := x.due, seq := x.seq }] := by
  rcases invoke_cases cfg x s with ⟨_, h⟩ | ⟨e, _, _, h⟩ | ⟨e, _, _, h⟩ <;> rw [h] <;> simp [exec_log, attachRet_log]

theorem iter_log (cfg : Cfg) (tgt : Option Int) (s : St) :
    (iter cfg tgt s).st.log = s.log ∨
    ∃ x q', s.queue.dequeue? Item.due = some (x, q') ∧ pastTarget tgt x = false ∧
      x.cancelled = false ∧
      (iter cfg tgt s).st.log = s.log ++ [{ id := x.id, at_ := tickClock cfg tgt s x, due := x.due, seq := x.seq }] := by
  have hi := iter_is cfg tgt s
  generalize iter cfg tgt s = r at hi ⊢
  cases hi with
  | disabled | empty | pastTarget | blocked | skipped => exact .inl rfl
  | @invoked x q' sp hen hd hpt hc =>
    refine .inr ⟨x, q', hd, hpt, hc, ?_⟩
    rw [Iter.ofInvoke_log]
    exact invoke_log cfg x { s with clock := tickClock cfg tgt s x, spin := sp, queue := q' }

theorem tickClock_ge (cfg : Cfg) (hb : 0 ≤ cfg.bump) (tgt : Option Int) (s : St) (x : Item) :
    s.clock ≤ tickClock cfg tgt s x ∧ x.due ≤ tickClock cfg tgt s x := by
  simp only [tickClock]
  split
  · omega
  · split <;> omega

theorem tickClock_eq_max (cfg : Cfg) (tgt : Option Int) (s : St) (x : Item) (h : tgt.isSome ∨ s.spin ≤ cfg.maxSpin) :
    tickClock cfg tgt s x = max s.clock x.due := by
  have hs : (tgt.isNone && decide (s.spin > cfg.maxSpin)) = false := by
    rcases h with h | h
    · cases tgt <;> simp_all
    · simp; intro _; omega
  simp only [tickClock, hs, Bool.false_eq_true, if_false]
  split <;> omega

def noSleep : Step → Prop
  | .sleep _ => False
  | _ => True

theorem clockLeInv (cfg : Cfg) (T : Int) (φ : Step → Prop) (hφ : ∀ st, φ st → noSleep st) :
    IterInv cfg (some T) φ (fun s => s.clock ≤ T) (fun _ s => s.clock ≤ T) where
  skip := by
    intro s x q' sp hP _ _ _ hpt _
    simp only [pastTarget, decide_eq_false_iff_not] at hpt
    simp only [tickClock_eq_max cfg (some T) s x (.inl rfl)]; omega
  begin := by
    intro s x q' sp hP _ _ _ hpt _
    simp only [pastTarget, decide_eq_false_iff_not] at hpt
    simp only [tickClock_eq_max cfg (some T) s x (.inl rfl)]; omega
  enq := by intro x s via m t cid child _ _ h; simpa [St.enqueue] using h
  cancel := by intro x s id h; simpa [St.cancel] using h
  link := by intro x s l h; exact h
  stop := by intro x s _ h; simpa using h
  sleep := by intro x s t hs _ _; exact absurd (hφ _ hs) (by simp [noSleep])
  handled := by intro x s e _ _ h; simpa using h
  finish := by intro x s sp h; simpa using h

/-- `top id mode t` constrains the top-level scheduling calls, `φ` the steps of all actions -/
def Op.AllT (top : Nat → Mode → Int → Prop) (φ : Step → Prop) : Op → Prop
  | .sched _ m t id body => top id m t ∧ body.All φ
  | _ => True

def Op.All (φ : Step → Prop) : Op → Prop := Op.AllT (fun _ _ _ => True) φ

/-- What has to be shown for `P` to hold after any script of calls satisfying `ok`.  `clock`: either `P` ignores the
clock, or it tolerates forward moves and no action sleeps (`advance_to` assigns the clock when its loop ends). -/
structure RunInv (cfg : Cfg) (φ : Step → Prop) (ok : Op → Prop) (P : St → Prop) : Prop where
  iter : ∀ tgt, ∃ R, IterInv cfg tgt φ P R
  flag : ∀ s b sp, P s → P { s with enabled := b, spin := sp }
  body : ∀ w m t id b, ok (.sched w m t id b) → b.All φ
  enq : ∀ s w m t id b, ok (.sched w m t id b) → P s → P (s.enqueue id (dueOf s.clock m t) b w)
  cancel : ∀ s id, P s → P (s.cancel id)
  clock : (∀ s c, P s → P { s with clock := c }) ∨
          ((∀ s c, s.clock ≤ c → P s → P { s with clock := c }) ∧ ∀ st, φ st → noSleep st)

theorem RunInv.doOp_inv {cfg : Cfg} {φ : Step → Prop} {ok : Op → Prop} {P : St → Prop} (I : RunInv cfg φ ok P)
    (s : St) (op : Op) (hop : ok op) (hP : P s) (hQ : QAll φ s) :
    P (doOp cfg s op).1 ∧ QAll φ (doOp cfg s op).1 := by
  obtain ⟨I, hflag, hbody, henq, hcancel, hclk⟩ := I
  have hadv : ∀ T, P (advanceTo cfg T s).1 ∧ QAll φ (advanceTo cfg T s).1 := by
    intro T
    rw [advanceTo_eq]
    split
    · exact ⟨hP, hQ⟩
    split
    · exact ⟨hP, hQ⟩
    next hle _ =>
    obtain ⟨_, IT⟩ := I (some T)
    have h1 := IT.loop { s with enabled := true } (hflag s true s.spin hP) hQ
    refine ⟨closeRun_inv (fun h => ?_) h1.1, closeRun_inv (P := QAll φ) id h1.2⟩
    have h2 := hflag _ false (loop cfg (some T) { s with enabled := true }).1.spin h
    rcases hclk with hc | ⟨hc, hns⟩
    · exact hc _ T h2
    · refine hc _ T ?_ h2
      exact (IterInv.loop (clockLeInv cfg T φ hns) { s with enabled := true } (by show s.clock ≤ T; omega) hQ).1
  cases op with
  | sched w m t id body => exact ⟨henq s w m t id body hop hP, qall_enqueue hQ _ _ _ _ (hbody w m t id body hop)⟩
  | cancel id => exact ⟨dispose_inv hcancel s id hP, qall_dispose hQ id⟩
  | stop =>
    have := hflag s false s.spin hP
    exact ⟨this, hQ⟩
  | sleep t =>
    simp only [doOp, sleep]
    split
    · exact ⟨hP, hQ⟩
    · refine ⟨?_, hQ⟩
      rcases hclk with h | ⟨h, _⟩
      · exact h s _ hP
      · exact h s _ (by omega) hP
  | start =>
    show P (start cfg s).1 ∧ QAll φ (start cfg s).1
    rw [start_eq]
    split
    · exact ⟨hP, hQ⟩
    · obtain ⟨_, I0⟩ := I none
      have h1 := I0.loop { s with enabled := true, spin := 0 } (hflag s true 0 hP) hQ
      exact ⟨closeRun_inv (hflag _ false _) h1.1, closeRun_inv (P := QAll φ) id h1.2⟩
  | advanceTo T => exact hadv T
  | advanceBy t => exact hadv _

theorem RunInv.runOps_inv {cfg : Cfg} {φ : Step → Prop} {ok : Op → Prop} {P : St → Prop} (I : RunInv cfg φ ok P) :
    ∀ (ops : List Op) (s : St), (∀ op ∈ ops, ok op) → P s → QAll φ s →
      P (runOps cfg s ops).1 ∧ QAll φ (runOps cfg s ops).1 := by
  intro ops
  induction ops with
  | nil => intro s _ hP hQ; exact ⟨hP, hQ⟩
  | cons op ops ih =>
    intro s hops hP hQ
    have h1 := I.doOp_inv s op (hops op (by simp)) hP hQ
    simp only [runOps]
    rcases hd : doOp cfg s op with ⟨s', o⟩
    rw [hd] at h1
    cases o with
    | stuck => exact h1
    | ok => exact ih s' (fun op h => hops op (by simp [h])) h1.1 h1.2
    | raised e => exact ih s' (fun op h => hops op (by simp [h])) h1.1 h1.2

theorem trivInv (cfg : Cfg) (tgt : Option Int) (φ : Step → Prop) : IterInv cfg tgt φ (fun _ => True) (fun _ _ => True) where
  skip := by intros; trivial
  begin := by intros; trivial
  enq := by intros; trivial
  cancel := by intros; trivial
  link := by intros; trivial
  stop := by intros; trivial
  sleep := by intros; trivial
  handled := by intros; trivial
  finish := by intros; trivial

theorem trivRun (cfg : Cfg) (φ : Step → Prop) : RunInv cfg φ (Op.All φ) (fun _ => True) where
  iter tgt := ⟨_, trivInv cfg tgt φ⟩
  flag _ _ _ _ := trivial
  body _ _ _ _ _ h := h.2
  enq _ _ _ _ _ _ _ _ := trivial
  cancel _ _ _ := trivial
  clock := .inl fun _ _ _ => trivial

/-! fuel versions of `start`/`advance_to` (evaluable by `decide`) -/

def startFuel (cfg : Cfg) (n : Nat) (s : St) : St × Out :=
  if s.enabled then (s, .ok)
  else closeRun .ok (fun s' => { s' with enabled := false }) (loopFuel cfg none n { s with enabled := true, spin := 0 })

def advanceToFuel (cfg : Cfg) (n : Nat) (T : Int) (s : St) : St × Out :=
  if s.clock > T then (s, .raised aoor)
  else if s.clock = T ∨ s.enabled = true then (s, .ok)
  else closeRun .ok (fun s' => { s' with enabled := false, clock := T }) (loopFuel cfg (some T) n { s with enabled := true })

theorem start_eq_fuel (cfg : Cfg) (n : Nat) (s : St) (h : s.queue.nodes < n) :
    start cfg s = startFuel cfg n s := by
  rw [start_eq, loop_eq_loopFuel cfg none n _ (by simpa using h)]
  rfl

theorem advanceTo_eq_fuel (cfg : Cfg) (n : Nat) (T : Int) (s : St) (h : s.queue.nodes < n) :
    advanceTo cfg T s = advanceToFuel cfg n T s := by
  rw [advanceTo_eq, loop_eq_loopFuel cfg (some T) n _ (by simpa using h)]
  rfl

end Vts
