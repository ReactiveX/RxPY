import RxProofs.Lemmas.TimedBase
/-! The bridge: the scheduler simulation (`simRun`, queue ordered by (due, insertion)) equals the two-stream runs, for an action
scheduled after the source's messages (ties go to the source). -/

namespace Timed

theorem cancelTimers_cons_src {α P} (t : Nat) (n : Notif α) (q : SQueue α P) :
    cancelTimers ((t, SItem.src n) :: q) = (t, SItem.src n) :: cancelTimers q := by
  simp [cancelTimers, SItem.isTimer]

theorem cancelTimers_cons_timer {α P} (t : Nat) (p : P) (q : SQueue α P) :
    cancelTimers ((t, SItem.timer p) :: q) = cancelTimers q := by
  simp [cancelTimers, SItem.isTimer]

theorem cancelTimers_srcItems {α P} (msgs : TL α) : cancelTimers (srcItems (P := P) msgs) = srcItems msgs := by
  induction msgs with
  | nil => rfl
  | cons a r ih =>
    show cancelTimers ((a.1, SItem.src a.2) :: srcItems r) = (a.1, SItem.src a.2) :: srcItems r
    rw [cancelTimers_cons_src, ih]

theorem cancelTimers_insert {α P} (due : Nat) (p : P) (msgs : TL α) :
    cancelTimers (insertEv (due, SItem.timer p) (srcItems msgs)) = srcItems msgs := by
  induction msgs with
  | nil => simp [srcItems, insertEv, cancelTimers, SItem.isTimer]
  | cons a r ih =>
    obtain ⟨t, n⟩ := a
    show cancelTimers (insertEv (due, SItem.timer p) ((t, SItem.src n) :: srcItems r)) = (t, SItem.src n) :: srcItems r
    by_cases h : due < t
    · simp only [insertEv, h, if_true]
      rw [cancelTimers_cons_timer, cancelTimers_cons_src, cancelTimers_srcItems]
    · simp only [insertEv, h, if_false]
      rw [cancelTimers_cons_src, ih]

theorem applyEff_queue {α P} (eff : TEff P) (rest : TL α) (tm : Option (Nat × P)) :
    applyEff eff (simQueue rest tm) = simQueue rest (effTm eff tm) := by
  cases tm with
  | none =>
    cases eff with
    | keep => rfl
    | cancel => simp [timeline_simp, applyEff, simQueue, cancelTimers_srcItems]
    | arm due p => simp [timeline_simp, applyEff, simQueue, cancelTimers_srcItems]
  | some dp =>
    obtain ⟨due0, p0⟩ := dp
    cases eff with
    | keep => rfl
    | cancel => simp [timeline_simp, applyEff, simQueue, cancelTimers_insert]
    | arm due p => simp [timeline_simp, applyEff, simQueue, cancelTimers_insert]

theorem simRun_nil {σ α β P} (op : SimOp σ α β P) (other : Nat → TL β) (fuel clk : Nat) (s : σ) :
    simRun op other fuel clk [] s = [] := by
  cases fuel <;> rfl

theorem simRun_cons_src {σ α β P} (op : SimOp σ α β P) (other : Nat → TL β) (fuel clk due : Nat) (n : Notif α)
    (q : SQueue α P) (s : σ) :
    simRun op other (fuel + 1) clk ((due, .src n) :: q) s =
      at_ (max clk due) (op.onSrc (max clk due) s n).2.1 ++
        (if hasTerm (op.onSrc (max clk due) s n).2.1 then []
         else simRun op other fuel (max clk due) (applyEff (op.onSrc (max clk due) s n).2.2 q) (op.onSrc (max clk due) s n).1) := rfl

theorem simRun_cons_timer {σ α β P} (op : SimOp σ α β P) (other : Nat → TL β) (fuel clk due : Nat) (p : P)
    (q : SQueue α P) (s : σ) :
    simRun op other (fuel + 1) clk ((due, .timer p) :: q) s =
      at_ (max clk due) (op.onTimer (max clk due) s p).2.1 ++
        (if (op.onTimer (max clk due) s p).2.2 then other (max clk due)
         else if hasTerm (op.onTimer (max clk due) s p).2.1 then []
         else simRun op other fuel (max clk due) q (op.onTimer (max clk due) s p).1) := rfl

theorem twoStream_none_cons {σ α β P} (op : SimOp σ α β P) (other : Nat → TL β) (clk : Nat) (s : σ) (t : Nat)
    (n : Notif α) (rest : TL α) :
    twoStream op other clk none s ((t, n) :: rest) =
      at_ (max clk t) (op.onSrc (max clk t) s n).2.1 ++
        (if hasTerm (op.onSrc (max clk t) s n).2.1 then []
         else twoStream op other (max clk t) (effTm (op.onSrc (max clk t) s n).2.2 none) (op.onSrc (max clk t) s n).1 rest) := by
  rw [twoStream]
  simp only [preFire, List.nil_append, Bool.false_eq_true, if_false]
  rfl

theorem twoStream_some_cons_lt {σ α β P} (op : SimOp σ α β P) (other : Nat → TL β) (clk due : Nat) (p : P) (s : σ)
    (t : Nat) (n : Notif α) (rest : TL α) (hlt : due < t) :
    twoStream op other clk (some (due, p)) s ((t, n) :: rest) =
      at_ (max clk due) (op.onTimer (max clk due) s p).2.1 ++
        (if (op.onTimer (max clk due) s p).2.2 then other (max clk due)
         else if hasTerm (op.onTimer (max clk due) s p).2.1 then []
         else twoStream op other (max clk due) none (op.onTimer (max clk due) s p).1 ((t, n) :: rest)) := by
  rw [twoStream_none_cons, twoStream]
  simp only [preFire, hlt, decide_true, if_true]
  cases (op.onTimer (max clk due) s p).2.2 <;> cases hasTerm (op.onTimer (max clk due) s p).2.1 <;> simp

theorem twoStream_some_cons_ge {σ α β P} (op : SimOp σ α β P) (other : Nat → TL β) (clk due : Nat) (p : P) (s : σ)
    (t : Nat) (n : Notif α) (rest : TL α) (hge : ¬ due < t) :
    twoStream op other clk (some (due, p)) s ((t, n) :: rest) =
      at_ (max clk t) (op.onSrc (max clk t) s n).2.1 ++
        (if hasTerm (op.onSrc (max clk t) s n).2.1 then []
         else twoStream op other (max clk t) (effTm (op.onSrc (max clk t) s n).2.2 (some (due, p))) (op.onSrc (max clk t) s n).1 rest) := by
  rw [twoStream]
  simp only [preFire, hge, decide_false, Bool.false_eq_true, if_false, List.nil_append]

theorem twoStream_nil {σ α β P} (op : SimOp σ α β P) (other : Nat → TL β) (clk : Nat) (tm : Option (Nat × P)) (s : σ) :
    twoStream op other clk tm s ([] : TL α) =
      match tm with
      | none => []
      | some (due, p) =>
        at_ (max clk due) (op.onTimer (max clk due) s p).2.1 ++ (if (op.onTimer (max clk due) s p).2.2 then other (max clk due) else []) := by
  cases tm with
  | none => simp [twoStream, preFire]
  | some dp => obtain ⟨due, p⟩ := dp; simp [twoStream, preFire]

/-- Running the queue (source messages scheduled first, then the operator's action, later
actions scheduled by the handlers) is the same as the two-stream run that compares `due < t`. -/
theorem sim_eq_twoStream {σ α β P} (op : SimOp σ α β P) (other : Nat → TL β) :
    ∀ (fuel : Nat) (msgs : TL α) (tm : Option (Nat × P)) (clk : Nat) (s : σ),
      2 * msgs.length + (if tm.isSome then 1 else 0) ≤ fuel →
      simRun op other fuel clk (simQueue msgs tm) s = twoStream op other clk tm s msgs := by
  intro fuel
  induction fuel with
  | zero =>
    intro msgs tm clk s h
    cases msgs with
    | nil =>
      cases tm with
      | none => rw [twoStream_nil]; rfl
      | some dp => simp at h
    | cons a r => simp at h
  | succ fuel ih =>
    intro msgs tm clk s h
    cases msgs with
    | nil =>
      cases tm with
      | none => rw [twoStream_nil]; exact simRun_nil ..
      | some dp =>
        obtain ⟨due, p⟩ := dp
        show simRun op other (fuel + 1) clk [(due, .timer p)] s = _
        simp only [twoStream_nil, simRun_cons_timer, simRun_nil]
        cases (op.onTimer (max clk due) s p).2.2 <;> cases hasTerm (op.onTimer (max clk due) s p).2.1 <;> simp
    | cons a r =>
      obtain ⟨t, n⟩ := a
      cases tm with
      | none =>
        have hf : 2 * r.length + (if (effTm (op.onSrc (max clk t) s n).2.2 (none : Option (Nat × P))).isSome then 1 else 0) ≤ fuel := by
          simp only [List.length_cons] at h; split <;> omega
        have q : simQueue ((t, n) :: r) (none : Option (Nat × P)) = (t, SItem.src n) :: simQueue r none := rfl
        rw [q, twoStream_none_cons, simRun_cons_src, applyEff_queue, ih r _ _ _ hf]
      | some dp =>
        obtain ⟨due, p⟩ := dp
        by_cases hlt : due < t
        · have q : simQueue ((t, n) :: r) (some (due, p)) = (due, SItem.timer p) :: simQueue ((t, n) :: r) none := by
            simp [simQueue, srcItems, insertEv, hlt]
          have hf : 2 * ((t, n) :: r).length + (if (none : Option (Nat × P)).isSome then 1 else 0) ≤ fuel := by
            simp only [List.length_cons, Option.isSome_some, if_true] at h; simp; omega
          rw [q, simRun_cons_timer, ih ((t, n) :: r) none _ _ hf, twoStream_some_cons_lt _ _ _ _ _ _ _ _ _ hlt]
        · have q : simQueue ((t, n) :: r) (some (due, p)) = (t, SItem.src n) :: simQueue r (some (due, p)) := by
            simp [simQueue, srcItems, insertEv, hlt]
          have hf : 2 * r.length + (if (effTm (op.onSrc (max clk t) s n).2.2 (some (due, p))).isSome then 1 else 0) ≤ fuel := by
            simp only [List.length_cons] at h; split <;> omega
          rw [q, simRun_cons_src, applyEff_queue, ih r _ _ _ hf, twoStream_some_cons_ge _ _ _ _ _ _ _ _ _ hlt]

theorem simStart_eq_twoStream {σ α β P} (op : SimOp σ α β P) (other : Nat → TL β) (clk : Nat) (tm : Option (Nat × P))
    (s : σ) (msgs : TL α) : simStart op other clk tm s msgs = twoStream op other clk tm s msgs := by
  unfold simStart
  apply sim_eq_twoStream
  split <;> omega

/-! The model writes `debRun`, `toRun`, `twtRun`, `swtRun`, `tfRun` out and does not define them as `twoStream (…Op)`: they also cover a
timer scheduled before a cold source's messages (`timerFirst`, `cold1`), which `twoStream` does not, and have no clock argument. -/

theorem debOp_onSrc_next {α} (d now : Nat) (s : DebSt α) (x : α) :
    (debOp d).onSrc now s (.next x) = (debOnNext d now s x, [], .arm (now + d) (s.id + 1)) := rfl

theorem debOp_onSrc_error {α} (d now : Nat) (s : DebSt α) (e : Err) :
    (debOp d).onSrc now s (.error e) = ((debOnError s e).1, (debOnError s e).2, .cancel) := rfl

theorem debOp_onSrc_completed {α} (d now : Nat) (s : DebSt α) :
    (debOp d).onSrc now s .completed = ((debOnCompleted s).1, (debOnCompleted s).2, .cancel) := rfl

theorem debOp_onTimer {α} (d now : Nat) (s : DebSt α) (cur : Nat) :
    (debOp d).onTimer now s cur = ((debAction s cur).1, (debAction s cur).2, false) := rfl

theorem toOp_onSrc_next {α} (mode : Due) (now : Nat) (s : ToSt) (v : α) (h : s.switched = false) :
    (toOp mode).onSrc now s (.next v) =
      (toCreateTimer mode now false { s with id := s.id + 1 }, [.next v],
        .arm (mode.at now) { due := mode.at now, fireAt := max (mode.at now) now, myId := s.id + 1, first := false }) := by
  obtain ⟨id, sw, tm⟩ := s
  cases h
  rfl

theorem toOp_onSrc_terminal {α} (mode : Due) (now : Nat) (s : ToSt) (n : Notif α) (h : s.switched = false)
    (hn : isNext n = false) : (toOp mode).onSrc now s n = ({ s with id := s.id + 1 }, [n], .keep) := by
  obtain ⟨id, sw, tm⟩ := s
  cases h
  cases n with
  | next v => cases hn
  | error e => rfl
  | completed => rfl

theorem toOp_onSrc_switched {α} (mode : Due) (now : Nat) (s : ToSt) (n : Notif α) (h : s.switched = true) :
    (toOp mode).onSrc now s n = (s, [], .keep) := by
  obtain ⟨id, sw, tm⟩ := s
  cases h
  cases n <;> cases tm <;> rfl

theorem to_twoStream_eq_run {α} (mode : Due) (other : Nat → TL α) (msgs : TL α) :
    ∀ (s : ToSt) (clk : Nat) (tm : ToTimer), Mono clk msgs → s.switched = false → s.timer = some tm →
      tm.myId = s.id → tm.fireAt = max tm.due clk →
      twoStream (toOp mode) other clk (some (tm.due, tm)) s msgs = toRun mode false other s msgs := by
  induction msgs with
  | nil =>
    intro s clk tm _ hsw ht hid hfire
    rw [twoStream_nil]
    have e0 : (toOp (α := α) mode).onTimer (max clk tm.due) s tm = (toAction s tm, [], (toAction s tm).switched) := rfl
    have hs : (toAction s tm).switched = true := by simp [toAction, hid]
    simp only [timeline_simp, e0, hs, if_true, List.nil_append, toRun, ht]
    rw [hfire, Nat.max_comm]
  | cons a r ih =>
    obtain ⟨t, n⟩ := a
    intro s clk tm hm hsw ht hid hfire
    have hs : (toAction s tm).switched = true := by simp [toAction, hid]
    by_cases hlt : tm.due < t
    · rw [twoStream_some_cons_lt _ _ _ _ _ _ _ _ _ hlt]
      have e0 : (toOp (α := α) mode).onTimer (max clk tm.due) s tm = (toAction s tm, [], (toAction s tm).switched) := rfl
      simp only [timeline_simp, e0, hs, if_true, List.nil_append]
      simp only [toRun, toFire, ht, Bool.and_false, timerBefore, Bool.false_eq_true, if_false, hlt, decide_true, if_true, hs]
      rw [hfire, Nat.max_comm]
    · rw [twoStream_some_cons_ge _ _ _ _ _ _ _ _ _ hlt, Nat.max_eq_right hm.1]
      have hfire0 : toFire false s t = none := by simp [toFire, ht, timerBefore, hlt]
      simp only [toRun, hfire0]
      cases n with
      | next v =>
        have e1 : toOnNext mode t s v = (toCreateTimer mode t false { s with id := s.id + 1 }, [Notif.next v]) := by
          simp [toOnNext, hsw]
        rw [toOp_onSrc_next mode t s v hsw]
        simp only [timeline_simp, toHandle, e1, if_true, Bool.not_true,
          Bool.or_false, Bool.false_eq_true, if_false]
        congr 1
        exact ih _ t { due := mode.at t, fireAt := max (mode.at t) t, myId := s.id + 1, first := false } hm.2
          hsw rfl rfl rfl
      | error e =>
        rw [toOp_onSrc_terminal mode t s _ hsw rfl]
        simp [timeline_simp, toOnTerminal, hsw, toHandle]
      | completed =>
        rw [toOp_onSrc_terminal mode t s _ hsw rfl]
        simp [timeline_simp, toOnTerminal, hsw, toHandle]

theorem twt_twoStream_eq_run {α} (other : Nat → TL α) (due fireAt : Nat) (msgs : TL α) :
    ∀ (clk : Nat), Mono clk msgs → max clk due = fireAt →
      twoStream (twtOp (α := α)) other clk (some (due, ())) () msgs = twtRun false due fireAt msgs := by
  induction msgs with
  | nil =>
    intro clk _ hf
    rw [twoStream_nil]
    simp [timeline_simp, twtOp, twtRun, hf]
  | cons a r ih =>
    obtain ⟨t, n⟩ := a
    intro clk hm hf
    by_cases hlt : due < t
    · rw [twoStream_some_cons_lt _ _ _ _ _ _ _ _ _ hlt]
      simp [timeline_simp, twtOp, twtRun, timerBefore, hlt, hf]
    · rw [twoStream_some_cons_ge _ _ _ _ _ _ _ _ _ hlt, Nat.max_eq_right hm.1]
      have hnext : max t due = fireAt := by have := hm.1; rw [← hf]; omega
      cases n with
      | next v =>
        have := ih t hm.2 hnext
        simp [timeline_simp, twtOp, twtRun, timerBefore, hlt] at this ⊢
        exact this
      | error e => simp [timeline_simp, twtOp, twtRun, timerBefore, hlt]
      | completed => simp [timeline_simp, twtOp, twtRun, timerBefore, hlt]

theorem swt_open_twoStream_eq_run {α} (other : Nat → TL α) (due : Nat) (msgs : TL α) :
    ∀ (clk : Nat), Mono clk msgs →
      twoStream (swtOp (α := α)) other clk none true msgs = swtRun false due true msgs := by
  induction msgs with
  | nil => intro clk _; rw [twoStream_nil]; simp [swtRun]
  | cons a r ih =>
    obtain ⟨t, n⟩ := a
    intro clk hm
    rw [twoStream_none_cons, Nat.max_eq_right hm.1]
    cases n with
    | next v =>
      have := ih t hm.2
      have e0 : (swtOp (α := α)).onSrc t true (Notif.next v) = (true, swtOnNext true v, TEff.keep) := rfl
      rw [e0]
      simp only [timeline_simp, swtOnNext, if_true, Bool.not_true, Bool.or_false,
        Bool.false_eq_true, if_false, this, swtRun, Bool.true_or]
    | error e => simp [timeline_simp, swtOp, swtRun]
    | completed => simp [timeline_simp, swtOp, swtRun]

theorem swt_twoStream_eq_run {α} (other : Nat → TL α) (due : Nat) (msgs : TL α) :
    ∀ (clk : Nat), Mono clk msgs →
      twoStream (swtOp (α := α)) other clk (some (due, ())) false msgs = swtRun false due false msgs := by
  induction msgs with
  | nil => intro clk _; rw [twoStream_nil]; simp [timeline_simp, swtOp, swtRun]
  | cons a r ih =>
    obtain ⟨t, n⟩ := a
    intro clk hm
    by_cases hlt : due < t
    · rw [twoStream_some_cons_lt _ _ _ _ _ _ _ _ _ hlt]
      have hcd : max clk due ≤ t := by have := hm.1; omega
      have e0 : (swtOp (α := α)).onTimer (max clk due) false () = (true, [], false) := rfl
      rw [e0]
      simp only [timeline_simp, Bool.false_eq_true, if_false, List.nil_append]
      rw [swt_open_twoStream_eq_run other due ((t, n) :: r) (max clk due) ⟨hcd, hm.2⟩]
      cases n <;> simp [swtRun, timerBefore, hlt]
    · rw [twoStream_some_cons_ge _ _ _ _ _ _ _ _ _ hlt, Nat.max_eq_right hm.1]
      cases n with
      | next v =>
        have := ih t hm.2
        have e0 : (swtOp (α := α)).onSrc t false (Notif.next v) = (false, swtOnNext false v, TEff.keep) := rfl
        rw [e0]
        simp only [timeline_simp, swtOnNext, Bool.false_eq_true, if_false, this, swtRun, timerBefore, hlt,
          decide_false, Bool.or_self, List.nil_append]
      | error e => simp [timeline_simp, swtOp, swtRun]
      | completed => simp [timeline_simp, swtOp, swtRun]

theorem tf_twoStream_eq_run {α} (w : Nat) (other : Nat → TL α) (msgs : TL α) :
    ∀ (last : Option Nat) (clk : Nat), Mono clk msgs →
      twoStream (tfOp (α := α) w) other clk none last msgs = tfRun w last msgs := by
  induction msgs with
  | nil => intro last clk _; rw [twoStream_nil]; simp [tfRun]
  | cons a r ih =>
    obtain ⟨t, n⟩ := a
    intro last clk hm
    rw [twoStream_none_cons, Nat.max_eq_right hm.1]
    cases n with
    | next x =>
      have := ih (tfOnNext w t last x).1 t hm.2
      have hterm : hasTerm (tfOnNext w t last x).2 = false := by
        unfold tfOnNext
        cases last with
        | none => rfl
        | some l => dsimp only; split <;> rfl
      have e0 : (tfOp w).onSrc t last (Notif.next x) = ((tfOnNext w t last x).1, (tfOnNext w t last x).2, TEff.keep) := rfl
      rw [e0]
      simp only [timeline_simp, hterm, Bool.false_eq_true, if_false, this, tfRun]
    | error e => simp [timeline_simp, tfOp, tfRun]
    | completed => simp [timeline_simp, tfOp, tfRun]

end Timed
