import RxProofs.Lemmas.TimedRate
/-! The scheduler's tie rule for `sample`, derived: its queue is the stable merge of two pre-scheduled event lists, for either
scheduling order, and `sampSim` over that queue is `sampRun`. -/

namespace Timed

/-- `SortedQ`, under the name `C16.sample_tie_rule_derived` uses -/
def SortedT {β} (l : List (Nat × β)) : Prop := l.Pairwise (fun a b => a.1 ≤ b.1)

/-- the scheduler queue of `sample`: source messages and sampler events, each list pre-scheduled as a block;
`samplerFirst` = the sampler's block was scheduled before the source's -/
def sampQueue {α} (samplerFirst : Bool) (msgs : TL α) (ticks : List (Nat × SampEv)) : List (Nat × SampItem α) :=
  mergeBlocks samplerFirst (sampSrcItems msgs) (sampTickItems ticks)

theorem sampQueue_nil_ticks {α} (tf : Bool) (msgs : TL α) : sampQueue tf msgs [] = sampSrcItems msgs :=
  mergeBlocks_nil_right tf _

theorem sampQueue_nil_msgs {α} (tf : Bool) (ticks : List (Nat × SampEv)) :
    sampQueue (α := α) tf [] ticks = sampTickItems ticks :=
  mergeBlocks_nil_left tf _

theorem sampQueue_cons_cons {α} (tf : Bool) (t : Nat) (n : Notif α) (r : TL α) (k : Nat) (ev : SampEv)
    (T : List (Nat × SampEv)) :
    sampQueue tf ((t, n) :: r) ((k, ev) :: T) =
      if timerBefore tf k t then (k, SampItem.samp ev) :: sampQueue tf ((t, n) :: r) T
      else (t, SampItem.src n) :: sampQueue tf r ((k, ev) :: T) :=
  mergeBlocks_cons_cons tf (t, SampItem.src n) (k, SampItem.samp ev) _ _

theorem sampSim_ticks {α} (tf b : Bool) (T : List (Nat × SampEv)) : ∀ s : SampSt α,
    sampSim (sampTickItems T) b s = sampRun tf s [] T := by
  induction T with
  | nil => intro s; simp [sampTickItems, sampSim, sampRun]
  | cons a T ih =>
    obtain ⟨k, ev⟩ := a
    intro s
    have ih' := ih (sampTick s).1
    simp only [sampTickItems] at ih'
    cases ev with
    | tick => simp [sampTickItems, sampSim, sampRun, ih']
    | err e => simp [sampTickItems, sampSim, sampRun]

theorem sampSim_skip {α} (tf : Bool) (T : List (Nat × SampEv)) : ∀ (r : TL α) (s : SampSt α),
    sampSim (sampQueue tf r T) false s = sampSim (sampTickItems T) false s := by
  induction T with
  | nil =>
    intro r
    induction r with
    | nil => intro s; simp [sampQueue_nil_ticks, sampSrcItems, sampTickItems]
    | cons a r ih =>
      intro s
      have := ih s
      rw [sampQueue_nil_ticks] at this ⊢
      simp only [sampSrcItems, List.map_cons, sampSim, Bool.false_eq_true, if_false] at this ⊢
      exact this
  | cons b T ihT =>
    obtain ⟨k, ev⟩ := b
    intro r
    induction r with
    | nil => intro s; rw [sampQueue_nil_msgs]
    | cons a r ihr =>
      obtain ⟨t, n⟩ := a
      intro s
      rw [sampQueue_cons_cons]
      by_cases hb : timerBefore tf k t = true
      · simp only [hb, if_true]
        cases ev with
        | tick =>
          have := ihT ((t, n) :: r) (sampTick s).1
          simp [sampSim, sampTickItems, this]
        | err e => simp [sampSim, sampTickItems]
      · simp only [hb, if_false, sampSim, Bool.false_eq_true]
        exact ihr s

theorem sampSim_eq_run {α} (tf : Bool) (T : List (Nat × SampEv)) : ∀ (msgs : TL α) (s : SampSt α),
    sampSim (sampQueue tf msgs T) true s = sampRun tf s msgs T := by
  induction T with
  | nil =>
    intro msgs
    induction msgs with
    | nil => intro s; simp [sampQueue_nil_ticks, sampSrcItems, sampSim, sampRun]
    | cons a r ih =>
      obtain ⟨t, n⟩ := a
      intro s
      rw [sampQueue_nil_ticks]
      cases n with
      | next v =>
        have := ih (sampOnNext s v)
        rw [sampQueue_nil_ticks] at this
        simp only [sampSrcItems, List.map_cons, sampSim, if_true] at this ⊢
        rw [this, sampRun]
      | error e => simp [sampSrcItems, sampSim, sampRun]
      | completed =>
        have := sampSim_skip tf [] r (sampOnCompleted s)
        rw [sampQueue_nil_ticks] at this
        simp only [sampSrcItems, List.map_cons, sampSim, if_true] at this ⊢
        rw [this]
        simp [sampTickItems, sampSim, sampRun]
  | cons b T ihT =>
    obtain ⟨k, ev⟩ := b
    intro msgs
    induction msgs with
    | nil => intro s; rw [sampQueue_nil_msgs]; exact sampSim_ticks tf true _ s
    | cons a r ihr =>
      obtain ⟨t, n⟩ := a
      intro s
      rw [sampQueue_cons_cons, sampRun_cons_cons]
      by_cases hb : timerBefore tf k t = true
      · simp only [hb, if_true]
        cases ev with
        | tick => simp [sampSim, ihT ((t, n) :: r) (sampTick s).1]
        | err e => simp [sampSim]
      · have hb' : timerBefore tf k t = false := by simpa using hb
        simp only [hb', Bool.false_eq_true, if_false]
        cases n with
        | next v => simp [sampSim, ihr (sampOnNext s v)]
        | error e => simp [sampSim]
        | completed =>
          simp only [sampSim, if_true]
          rw [sampSim_skip tf ((k, ev) :: T) r (sampOnCompleted s), sampSim_ticks tf false]

end Timed
