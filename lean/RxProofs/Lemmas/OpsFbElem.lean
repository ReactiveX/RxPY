import RxProofs.Lemmas.OpsFb
/-!
# The split (re-entrant) operators of `RxModel/OpsFb.lean`: each denotes its atomic model and commits its state before
its downstream calls (`*_sound : ROp.Sound`).
-/
namespace Ops
variable {α β κ : Type}
open HOutR.Committed

def mapR_sound (f : α → Except Err β) : (mapR f).Sound (mapOp f) :=
  .of _ (fun _ => false) rfl (fun _ _ h => nomatch h) (fun s x => by
    simp only [mapR]
    cases f x with
    | error e => exact ⟨rfl, fun _ => terminal rfl [] rfl⟩
    | ok y => exact ⟨rfl, fun _ => one y rfl⟩) (fun _ _ => rfl) (fun _ => rfl)

def filterR_sound (p : α → Except Err Bool) : (filterR p).Sound (filterOp p) :=
  .of _ (fun _ => false) rfl (fun _ _ h => nomatch h) (fun s x => by
    simp only [filterR]
    cases p x with
    | error e => exact ⟨rfl, fun _ => terminal rfl [] rfl⟩
    | ok b =>
      cases b
      · exact ⟨rfl, fun _ => silent rfl⟩
      · exact ⟨rfl, fun _ => one x rfl⟩) (fun _ _ => rfl) (fun _ => rfl)

def filterIndexedR_sound (p : Option (α → Nat → Except Err Bool)) : (filterIndexedR p).Sound (filterIndexedOp p) :=
  .of _ (fun _ => false) rfl (fun _ _ h => nomatch h) (fun s x => by
    simp only [filterIndexedR]
    cases p with
    | none => exact ⟨rfl, fun _ => one x rfl⟩
    | some p =>
      simp only
      cases p x s with
      | error e => exact ⟨rfl, fun _ => terminal rfl [] rfl⟩
      | ok b =>
        cases b
        · exact ⟨rfl, fun _ => silent rfl⟩
        · exact ⟨rfl, fun _ => one x rfl⟩) (fun _ _ => rfl) (fun _ => rfl)

def skipR_sound (n : Nat) : (skipR (α := α) n).Sound (skipOp n) :=
  .of _ (fun _ => false) rfl (fun _ _ h => nomatch h) (fun (rem : Nat) x => by
    simp only [skipR]
    by_cases h : rem ≤ 0 <;> simp only [h, ↓reduceIte]
    · exact ⟨rfl, fun _ => one x rfl⟩
    · exact ⟨rfl, fun _ => silent rfl⟩) (fun _ _ => rfl) (fun _ => rfl)

def skipWhileR_sound (p : α → Except Err Bool) : (skipWhileR p).Sound (skipWhileOp p) :=
  .of _ (fun _ => false) rfl (fun _ _ h => nomatch h) (fun running x => by
    simp only [skipWhileR]
    cases running with
    | true => exact ⟨rfl, fun _ => one x rfl⟩
    | false =>
      simp only [Bool.not_false, if_true]
      cases p x with
      | error e => exact ⟨rfl, fun _ => terminal rfl [] rfl⟩
      | ok b =>
        cases b
        · exact ⟨rfl, fun _ => one x rfl⟩
        · exact ⟨rfl, fun _ => silent rfl⟩) (fun _ _ => rfl) (fun _ => rfl)

def distinctR_sound (key : α → Except Err κ) (cmp : κ → κ → Except Err Bool) :
    (distinctR key cmp).Sound (distinctOp key cmp) :=
  .of _ (fun _ => false) rfl (fun _ _ h => nomatch h) (fun s x => by
    simp only [distinctR]
    cases key x with
    | error e => exact ⟨rfl, fun _ => terminal rfl [] rfl⟩
    | ok k =>
      simp only
      cases findMatch cmp k s with
      | error e => exact ⟨rfl, fun _ => terminal rfl [] rfl⟩
      | ok b =>
        cases b
        · exact ⟨rfl, fun _ => one x rfl⟩
        · exact ⟨rfl, fun _ => silent rfl⟩) (fun _ _ => rfl) (fun _ => rfl)

def ducR_sound (key : α → Except Err κ) (cmp : κ → κ → Except Err Bool) :
    (distinctUntilChangedR key cmp).Sound (distinctUntilChangedOp key cmp) :=
  .of _ (fun _ => false) rfl (fun _ _ h => nomatch h) (fun s x => by
    simp only [distinctUntilChangedR]
    cases key x with
    | error e => exact ⟨rfl, fun _ => terminal rfl [] rfl⟩
    | ok k =>
      cases s with
      | none => exact ⟨rfl, fun _ => one x rfl⟩
      | some c =>
        simp only
        cases cmp c k with
        | error e => exact ⟨rfl, fun _ => terminal rfl [] rfl⟩
        | ok b =>
          cases b
          · exact ⟨rfl, fun _ => one x rfl⟩
          · exact ⟨rfl, fun _ => silent rfl⟩) (fun _ _ => rfl) (fun _ => rfl)

def pairwiseR_sound : (pairwiseR (α := α)).Sound pairwiseOp :=
  .of _ (fun _ => false) rfl (fun _ _ h => nomatch h) (fun s x => by
    cases s
    · exact ⟨rfl, fun _ => silent rfl⟩
    · exact ⟨rfl, fun _ => one _ rfl⟩) (fun _ _ => rfl) (fun _ => rfl)

def startWithR_sound (args : List α) : (startWithR args).Sound (startWithOp args) :=
  .of _ (fun _ => false) rfl (fun _ _ h => nomatch h) (fun _ x => ⟨rfl, fun _ => one x rfl⟩) (fun _ _ => rfl)
    (fun _ => rfl)

def defaultIfEmptyR_sound (d : α) : (defaultIfEmptyR d).Sound (defaultIfEmptyOp d) :=
  .of _ (fun _ => false) rfl (fun _ _ h => nomatch h) (fun _ x => ⟨rfl, fun _ => one x rfl⟩) (fun _ _ => rfl)
    (fun found => by cases found <;> rfl)

def ignoreElementsR_sound : (ignoreElementsR (α := α)).Sound ignoreElementsOp :=
  .of _ (fun _ => false) rfl (fun _ _ h => nomatch h) (fun _ _ => ⟨rfl, fun _ => silent rfl⟩) (fun _ _ => rfl)
    (fun _ => rfl)

def takeLastR_sound (n : Int) : (takeLastR (α := α) n).Sound (takeLastOp n) :=
  .of _ (fun _ => false) rfl (fun _ _ h => nomatch h) (fun _ _ => ⟨rfl, fun _ => silent rfl⟩) (fun _ _ => rfl)
    (fun q => by simp [takeLastR, remit, emit, HOutR.atomic])

def takeLastBufferR_sound (n : Int) : (takeLastBufferR (α := α) n).Sound (takeLastBufferOp n) :=
  .of _ (fun _ => false) rfl (fun _ _ h => nomatch h) (fun _ _ => ⟨rfl, fun _ => silent rfl⟩) (fun _ _ => rfl)
    (fun _ => rfl)

def skipLastR_sound (n : Int) : (skipLastR (α := α) n).Sound (skipLastOp n) :=
  .of _ (fun _ => false) rfl (fun _ _ h => nomatch h) (fun (q : List α) x => by
    simp only [skipLastR]
    by_cases h : ((q ++ [x]).length : Int) > n <;> simp only [h, ↓reduceIte]
    · cases q ++ [x] with
      | nil => exact ⟨rfl, fun _ => silent rfl⟩
      | cons front rest => exact ⟨rfl, fun _ => one front rfl⟩
    · exact ⟨rfl, fun _ => silent rfl⟩) (fun _ _ => rfl) (fun _ => rfl)

def materializeR_sound : (materializeR (α := α)).Sound materializeOp :=
  .of _ (fun _ => false) rfl (fun _ _ h => nomatch h) (fun _ x => ⟨rfl, fun _ => one (Notif.next x) rfl⟩)
    (fun _ _ => rfl) (fun _ => rfl)

def dematerializeR_sound : (dematerializeR (α := α)).Sound dematerializeOp :=
  .of _ (fun _ => false) rfl (fun _ _ h => nomatch h) (fun s n => by
    cases n with
    | next v => exact ⟨rfl, fun _ => one v rfl⟩
    | error e => exact ⟨rfl, fun _ => terminal rfl [] rfl⟩
    | completed => exact ⟨rfl, fun _ => terminal rfl [] rfl⟩) (fun _ _ => rfl) (fun _ => rfl)

def scanSeedR_sound (f : β → α → Except Err β) (seed : β) : (scanSeedR f seed).Sound (scanSeedOp f seed) :=
  .of _ (fun _ => false) rfl (fun _ _ h => nomatch h) (fun s x => by
    simp only [scanSeedR]
    cases f (s.getD seed) x with
    | error e => exact ⟨rfl, fun _ => terminal rfl [] rfl⟩
    | ok a => exact ⟨rfl, fun _ => one a rfl⟩) (fun _ _ => rfl) (fun _ => rfl)

def emptyR_sound : (emptyR (α := α) (β := β)).Sound emptyOp :=
  .of _ (fun _ => false) rfl (fun _ _ h => nomatch h) (fun _ _ => ⟨rfl, fun _ => silent rfl⟩) (fun _ _ => rfl)
    (fun _ => rfl)

/-! ### operators that decide to terminate: the decision is committed before the element is emitted -/

def takePosR_sound (n : Nat) (hn : 0 < n) : (takePosR (α := α) n).Sound (takePosOp n) :=
  .of _ (fun (rem : Nat) => decide (rem = 0)) (decide_eq_false (Nat.ne_of_gt hn) : decide (n = 0) = false)
    (fun (rem : Nat) x h => by
      have h0 : rem = 0 := of_decide_eq_true h
      subst h0; rfl)
    (fun (rem : Nat) x => by
      simp only [takePosR]
      by_cases hpos : rem > 0 <;> simp only [hpos, ↓reduceIte]
      · refine ⟨by by_cases h2 : rem - 1 = 0 <;> simp [h2, emit, HOutR.atomic], fun _ => ?_⟩
        simpa only [decide_eq_true_eq] using
          oneThen (done := fun (rem : Nat) => decide (rem = 0)) (st := rem - 1) x (T := [.completed]) rfl
            (List.cons_ne_nil _ _)
      · exact ⟨rfl, fun h => absurd (Nat.eq_zero_of_not_pos hpos) (of_decide_eq_false h)⟩)
    (fun _ _ => rfl) (fun _ => rfl)

def takeR_sound (n : Nat) : (takeR (α := α) n).Sound (takeOp n) := by
  unfold takeR takeOp; split
  · exact emptyR_sound
  · exact takePosR_sound n (by omega)

def takeWhileR_sound (p : α → Except Err Bool) (incl : Bool) : (takeWhileR p incl).Sound (takeWhileOp p incl) :=
  .of _ (fun running => !running) rfl
    (fun running x h => by
      cases running
      · rfl
      · cases h)
    (fun running x => by
      cases running
      · exact ⟨rfl, fun h => nomatch h⟩
      simp only [takeWhileR, Bool.not_true, Bool.false_eq_true, if_false]
      cases p x with
      | error e => exact ⟨rfl, fun _ => terminal rfl [] rfl⟩
      | ok b =>
        cases b
        · cases incl
          · exact ⟨rfl, fun _ => terminal rfl [] rfl⟩
          · exact ⟨rfl, fun _ => last x rfl rfl (List.cons_ne_nil _ _)⟩
        · exact ⟨rfl, fun _ => one x rfl⟩) (fun _ _ => rfl) (fun _ => rfl)

def takeWhileIndexedR_sound (p : α → Nat → Except Err Bool) (incl : Bool) :
    (takeWhileIndexedR p incl).Sound (takeWhileIndexedOp p incl) :=
  .of _ (fun s => !s.1) rfl
    (fun s x h => by
      obtain ⟨running, i⟩ := s
      cases running
      · rfl
      · cases h)
    (fun s x => by
      obtain ⟨running, i⟩ := s
      cases running
      · exact ⟨rfl, fun h => nomatch h⟩
      simp only [takeWhileIndexedR, Bool.not_true, Bool.false_eq_true, if_false]
      cases p x i with
      | error e => exact ⟨rfl, fun _ => terminal rfl [] rfl⟩
      | ok b =>
        cases b
        · cases incl
          · exact ⟨rfl, fun _ => terminal rfl [] rfl⟩
          · exact ⟨rfl, fun _ => last x rfl rfl (List.cons_ne_nil _ _)⟩
        · exact ⟨rfl, fun _ => one x rfl⟩) (fun _ _ => rfl) (fun _ => rfl)

def elementAtR_sound (index : Nat) (dflt : Option α) :
    (elementAtOrDefaultR index dflt).Sound (elementAtOrDefaultOp index dflt) :=
  .of _ (fun (i : Int) => decide (i < 0)) (decide_eq_false (Int.not_lt.mpr (Int.natCast_nonneg index)) :)
    (fun (i : Int) x h => by
      have hi : i < 0 := of_decide_eq_true h
      simp only [elementAtOrDefaultR]
      rw [if_neg (by omega), if_neg (by omega)])
    (fun (i : Int) x => by
      simp only [elementAtOrDefaultR]
      by_cases h1 : i > 0 <;> simp only [h1, ↓reduceIte]
      · exact ⟨rfl, fun _ => silent (decide_eq_false (by omega))⟩
      · by_cases h2 : i = 0 <;> simp only [h2, ↓reduceIte]
        · exact ⟨rfl, fun _ => last x rfl rfl (List.cons_ne_nil _ _)⟩
        · exact ⟨rfl, fun h => absurd (of_decide_eq_false h) (by omega)⟩)
    (fun _ _ => rfl) (fun s => by cases dflt <;> rfl)

def findValueR_sound (p : α → Nat → Except Err Bool) (yes : α → Nat → β) (no : β) :
    (findValueR p yes no).Sound (findValueOp p yes no) :=
  .of _ (fun s => s.2) rfl
    (fun s x h => by
      obtain ⟨i, found⟩ := s
      cases found
      · cases h
      · rfl)
    (fun s x => by
      obtain ⟨i, found⟩ := s
      cases found
      case true => exact ⟨rfl, fun h => nomatch h⟩
      simp only [findValueR, Bool.false_eq_true, if_false]
      cases p x i with
      | error e => exact ⟨rfl, fun _ => terminal rfl [] rfl⟩
      | ok b =>
        cases b
        · exact ⟨rfl, fun _ => silent rfl⟩
        · exact ⟨rfl, fun _ => last _ rfl rfl (List.cons_ne_nil _ _)⟩) (fun _ _ => rfl) (fun _ => rfl)

end Ops
