import RxProofs.Lemmas.SubjReact
/-!
# Flat histories (no reactions): a closed form for every observer's log (plain Subject)

When callbacks do nothing but record, observers do not interact: what observer `i` sees is determined by
its own reading of the history — a three-state fold (`fresh → live → done`) that is the property text
itself: "subscribed and not unsubscribed when the call is made", terminal-only for late subscribers,
`DisposedException` after `dispose()`.

No reactions is a case of "reactions only unsubscribe", so the machine computes `absRun`; what remains is that `i`'s
reading agrees with `absCall`, and a bound on the fuel of a call.
-/

namespace Subj
variable {α : Type}

inductive OState where
  | fresh | live | done
deriving DecidableEq, Repr

/-- What observer `i` needs to know: its own state and the subject's (terminated? disposed?). -/
structure Flat (α : Type) where
  o : OState := .fresh
  term : Option (Notif α) := none
  disp : Bool := false

/-- One history call, read by observer `i`: new state and what `i` is handed by this call. -/
def flatStep (i : Id) (s : Flat α) : Call α → Flat α × List (Notif α)
  | .sub j =>
    if j = i ∧ s.o = .fresh then
      if s.disp then ({ s with o := .done }, [.error disposedExn])
      else
        match s.term with
        | some t => ({ s with o := .done }, [t])
        | none => ({ s with o := .live }, [])
    else (s, [])
  | .unsub j => if j = i ∧ s.o = .live then ({ s with o := .done }, []) else (s, [])
  | .next v =>
    if s.disp ∨ s.term.isSome then (s, [])
    else (s, if s.o = .live then [.next v] else [])
  | .error e =>
    if s.disp ∨ s.term.isSome then (s, [])
    else ({ s with term := some (.error e), o := if s.o = .live then .done else s.o }, if s.o = .live then [.error e] else [])
  | .completed =>
    if s.disp ∨ s.term.isSome then (s, [])
    else ({ s with term := some .completed, o := if s.o = .live then .done else s.o }, if s.o = .live then [.completed] else [])
  | .dispose => ({ s with disp := true, o := if s.o = .live then .done else s.o }, [])

def flatLog (i : Id) : Flat α → List (Call α) → List (Notif α)
  | _, [] => []
  | s, c :: cs => (flatStep i s c).2 ++ flatLog i (flatStep i s c).1 cs

/-- A plain Subject, no reactions, every observer has an `on_error` handler. -/
structure FlatCfg (cfg : Cfg) : Prop where
  kind : cfg.kind = .subject
  react : ∀ i k, cfg.react i k = []
  err : ∀ i, cfg.hasErr i = true

theorem reactions_nil {cfg : Cfg} (hc : FlatCfg cfg) (st : St α) (i : Id) : reactions cfg st i = [] := by
  simp [reactions, hc.react]

theorem FlatCfg.unsub {cfg : Cfg} (hc : FlatCfg cfg) : UnsubCfg cfg :=
  ⟨hc.kind, hc.err, fun i k a h => by rw [hc.react] at h; cases h⟩

theorem targets_flat {cfg : Cfg} (hc : FlatCfg cfg) (i : Id) (k : Nat) : targets cfg i k = [] := by
  simp [targets, hc.react]

/-- Observer `i`'s reading of the history agrees with the closed form's state. -/
structure FSim (i : Id) (a : AbsSt α) (s : Flat α) : Prop where
  disp : a.disp = s.disp
  term : a.term = s.term
  fresh : s.o = .fresh ↔ a.seen i = false
  live : s.o = .live ↔ i ∈ a.members
  liveOk : s.o = .live → a.detached i = false ∧ a.handle i = true

theorem absBcast_flat {cfg : Cfg} (hc : FlatCfg cfg) (n : Notif α) (l : List Id) (hl : l.Nodup) (a : AbsSt α) :
    absBcast cfg n l a = { a with
      log := fun i => if i ∈ l ∧ a.detached i = false then a.log i ++ [n] else a.log i
      cnt := fun i => if i ∈ l ∧ a.detached i = false then a.cnt i + 1 else a.cnt i
      detached := fun i => a.detached i || (n.isTerminal && decide (i ∈ l)) } := by
  induction l generalizing a with
  | nil => simp [absBcast]
  | cons k ks ih =>
    obtain ⟨hk, hks⟩ := List.nodup_cons.mp hl
    have hg : absGive cfg a k n = if a.detached k then a else
        { a with log := upd a.log k (a.log k ++ [n]), cnt := upd a.cnt k (a.cnt k + 1),
                 detached := if n.isTerminal then upd a.detached k true else a.detached } := by
      simp [absGive, targets_flat hc]
    rw [absBcast, ih hks, hg]
    -- `k ∉ ks`: the rest of the loop does not touch `k` again
    cases hd : a.detached k <;> cases hn : n.isTerminal <;>
      simp only [Bool.false_eq_true, if_false, if_true, AbsSt.mk.injEq, true_and, and_true] <;>
      refine ⟨?_, ?_, ?_⟩ <;> funext i <;> by_cases hik : i = k <;> simp [*]

namespace FSim
variable {i : Id} {a : AbsSt α} {s : Flat α}

theorem not_mem (h : FSim i a s) (ho : s.o ≠ .live) : i ∉ a.members := fun hm => ho (h.live.mpr hm)

theorem other (h : FSim i a s) {a' : AbsSt α} (hd : a'.disp = a.disp) (ht : a'.term = a.term) (hs : a'.seen i = a.seen i)
    (hm : i ∈ a'.members ↔ i ∈ a.members) (hdet : a'.detached i = a.detached i) (hh : a'.handle i = a.handle i) :
    FSim i a' s :=
  ⟨hd.trans h.disp, ht.trans h.term, by rw [hs]; exact h.fresh, by rw [hm]; exact h.live,
    fun ho => by rw [hdet, hh]; exact h.liveOk ho⟩

/-- A delivery loop over the members hands `n` to `i` iff `i` is live. -/
theorem handed (h : FSim i a s) (n : Notif α) :
    (if i ∈ a.members ∧ a.detached i = false then a.log i ++ [n] else a.log i) =
      a.log i ++ if s.o = .live then [n] else [] := by
  by_cases hl : s.o = .live
  · simp [hl, h.live.mp hl, (h.liveOk hl).1]
  · simp [hl, h.not_mem hl]

theorem drop (h : FSim i a s) (ok : AbsOK a) {a' : AbsSt α} {s' : Flat α} (hd : a'.disp = s'.disp) (ht : a'.term = s'.term)
    (hs : a'.seen = a.seen) (hm : a'.members = []) (ho : s'.o = if s.o = .live then .done else s.o) : FSim i a' s' := by
  refine ⟨hd, ht, ?_, ?_, fun hl => ?_⟩
  · rw [hs, ho]
    by_cases hl : s.o = .live
    · simp [hl, ok.seen i (h.live.mp hl)]
    · simpa [hl] using h.fresh
  · rw [hm, ho]; by_cases hl : s.o = .live <;> simp [hl]
  · rw [ho] at hl; by_cases hl' : s.o = .live <;> simp [hl'] at hl

end FSim

theorem absCall_flat {cfg : Cfg} (hc : FlatCfg cfg) (i : Id) {a : AbsSt α} {s : Flat α} (ok : AbsOK a) (h : FSim i a s)
    (c : Call α) :
    FSim i (absCall cfg a c) (flatStep i s c).1 ∧ (absCall cfg a c).log i = a.log i ++ (flatStep i s c).2 ∧
    (absCall cfg a c).members.length ≤ a.members.length + 1 := by
  have hopen : (s.disp = true ∨ s.term.isSome = true) ↔ (a.disp || a.term.isSome) = true := by
    rw [← h.disp, ← h.term, Bool.or_eq_true]
  have term : ∀ (n : Notif α) (c : Call α),
      absCall cfg a c = (if a.disp || a.term.isSome then a else absBcast cfg n a.members { a with term := some n, members := [] }) →
      flatStep i s c = (if s.disp ∨ s.term.isSome then (s, []) else
        ({ s with term := some n, o := if s.o = .live then .done else s.o }, if s.o = .live then [n] else [])) →
      FSim i (absCall cfg a c) (flatStep i s c).1 ∧ (absCall cfg a c).log i = a.log i ++ (flatStep i s c).2 ∧
      (absCall cfg a c).members.length ≤ a.members.length + 1 := by
    intro n c ha hs
    rw [ha, hs]
    by_cases hdt : (a.disp || a.term.isSome) = true
    · rw [if_pos hdt, if_pos (hopen.mpr hdt)]
      exact ⟨h, (List.append_nil _).symm, Nat.le_succ _⟩
    · rw [if_neg hdt, if_neg (mt hopen.mp hdt), absBcast_flat hc n a.members ok.nodup]
      exact ⟨h.drop ok h.disp rfl rfl rfl rfl, h.handed n, Nat.zero_le _⟩
  cases c with
  | next v =>
    by_cases hdt : (a.disp || a.term.isSome) = true
    · simp only [absCall, flatStep, hdt, if_true, if_pos (hopen.mpr hdt)]
      exact ⟨h, (List.append_nil _).symm, Nat.le_succ _⟩
    · simp only [absCall, flatStep, hdt, if_neg (mt hopen.mp hdt)]
      rw [absBcast_flat hc (.next v) a.members ok.nodup]
      exact ⟨⟨h.disp, h.term, h.fresh, h.live, fun ho => by simpa [Notif.isTerminal] using h.liveOk ho⟩, h.handed _,
        Nat.le_succ _⟩
  | error e => exact term (.error e) (.error e) rfl rfl
  | completed => exact term .completed .completed rfl rfl
  | dispose => exact ⟨h.drop ok rfl h.term rfl rfl rfl, (List.append_nil _).symm, Nat.zero_le _⟩
  | unsub j =>
    have hlen : (a.members.erase j).length ≤ a.members.length + 1 := Nat.le_trans List.length_erase_le (Nat.le_succ _)
    simp only [absCall, absUnsub, flatStep]
    by_cases hh : a.handle j = true
    · rw [if_pos hh]
      by_cases hji : j = i
      · subst hji
        by_cases hl : s.o = .live
        · simp only [hl, and_self, if_true, List.append_nil]
          exact ⟨⟨h.disp, h.term, by simp [ok.seen j (h.live.mp hl)], by simp [List.Nodup.mem_erase_iff ok.nodup], by simp⟩,
            trivial, hlen⟩
        · simp only [hl, and_false, if_false, List.append_nil]
          exact ⟨⟨h.disp, h.term, h.fresh,
            ⟨fun ho => absurd ho hl, fun hm' => absurd (List.mem_of_mem_erase hm') (h.not_mem hl)⟩,
            fun ho => absurd ho hl⟩, trivial, hlen⟩
      · have hij : i ≠ j := fun e => hji e.symm
        simp only [hji, false_and, if_false, List.append_nil]
        exact ⟨h.other rfl rfl rfl (List.mem_erase_of_ne hij) (by simp [hij]) rfl, trivial, hlen⟩
    · -- a live `i` holds its handle
      have hh' : a.handle j = false := by simpa using hh
      have : ¬(j = i ∧ s.o = .live) := fun ⟨e, hl⟩ => by rw [e, (h.liveOk hl).2] at hh'; cases hh'
      rw [if_neg hh, if_neg this]
      exact ⟨h, (List.append_nil _).symm, Nat.le_succ _⟩
  | sub j =>
    by_cases hj : a.seen j = true
    · have : ¬(j = i ∧ s.o = .fresh) := fun ⟨e, ho⟩ => by rw [e, h.fresh.mp ho] at hj; cases hj
      simp only [absCall, flatStep, hj, if_true, if_neg this]
      exact ⟨h, (List.append_nil _).symm, Nat.le_succ _⟩
    · have hj : a.seen j = false := by simpa using hj
      have hjm : j ∉ a.members := fun hm' => by rw [ok.seen j hm'] at hj; cases hj
      have give : ∀ n : Notif α, absGive cfg { a with seen := upd a.seen j true } j n =
          { a with seen := upd a.seen j true, log := upd a.log j (a.log j ++ [n]), cnt := upd a.cnt j (a.cnt j + 1),
                   detached := if n.isTerminal then upd a.detached j true else a.detached } := fun n => by
        simp [absGive, targets_flat hc, ok.unseen j hj]
      -- `i` reads its own first subscription like the closed form: done if something is handed over at once, else live
      have hfs : flatStep i s (.sub j) = if j = i then (match a.late with
            | some n => ({ s with o := .done }, [n])
            | none => ({ s with o := .live }, [])) else (s, []) := by
        by_cases hji : j = i
        · subst hji
          simp only [flatStep, h.fresh.mpr hj, and_self, if_true, AbsSt.late, h.disp, h.term]
          cases s.disp <;> cases s.term <;> rfl
        · simp [flatStep, hji]
      rw [absCall_sub cfg hj, hfs]
      cases a.late with
      | some n =>
        simp only [give]
        by_cases hji : j = i
        · subst hji
          rw [if_pos rfl]
          exact ⟨⟨h.disp, h.term, by simp [absHandle], by simp [absHandle, hjm], nofun⟩, by simp [absHandle], by simp [absHandle]⟩
        · have hij : i ≠ j := fun e => hji e.symm
          rw [if_neg hji]
          exact ⟨h.other rfl rfl (by simp [absHandle, hij]) Iff.rfl (by cases n.isTerminal <;> simp [absHandle, hij])
            (by simp [absHandle, hij]), by simp [absHandle, hij], by simp [absHandle]⟩
      | none =>
        by_cases hji : j = i
        · subst hji
          rw [if_pos rfl]
          exact ⟨⟨h.disp, h.term, by simp [absHandle], by simp [absHandle], fun _ => ⟨ok.unseen j hj, by simp [absHandle]⟩⟩,
            by simp [absHandle], by simp [absHandle]⟩
        · have hij : i ≠ j := fun e => hji e.symm
          rw [if_neg hji]
          exact ⟨h.other rfl rfl (by simp [absHandle, hij]) (by simp [absHandle, hij]) rfl (by simp [absHandle, hij]),
            by simp [absHandle], by simp [absHandle]⟩

/-- A bound on the steps a task takes, with all it pushes, when nobody reacts (`subscribe`: itself, a delivery with its
`finally`, `finish`).  Top-level emissions are counted in `call_fuel`: what they push depends on the state. -/
def Task.weight : Task α → Nat
  | .act _ (.sub _) => 4
  | .deliver _ _ => 2
  | .emit _ | .act _ (.unsub _) | .act _ .dispose | .finish _ _ | .sadDispose _ => 1

theorem Task.weight_pos (t : Task α) : 0 < t.weight := by
  unfold Task.weight; split <;> decide

theorem Step.lighter {cfg : Cfg} (hc : FlatCfg cfg) {st st' : St α} {t : Task α} {new : List (Task α)} {b : Bool}
    (h : Step cfg st t st' new b) (ht : t.isEmit = false) : (new.map Task.weight).sum < t.weight := by
  have hk : cfg.kind = .subject := hc.kind
  cases h with
  | idle | subRaise | unsub | dispose | deliverRaise | fin | sad => exact Task.weight_pos _
  | raise he | next _ _ _ he | error _ he | completed _ he => rw [ht] at he; cases he
  | subRefused who j => simp [reactions_nil hc, Task.weight]
  | subLive who j new _ _ hn =>
    rcases hn with rfl | ⟨hk', _⟩
    · simp [Task.weight]
    · rw [hk] at hk'; cases hk'
  | subLate who j pre _ _ _ hp =>
    rcases hp with rfl | ⟨hk', _⟩
    · simp [Task.weight]
    · rw [hk] at hk'; cases hk'
  | deliverNext i v => simp [reactions_nil hc, Task.weight]
  | deliverTerm i n => simp [reactions_nil hc, Task.weight]

theorem Step.emitted {cfg : Cfg} (hc : FlatCfg cfg) {st st' : St α} {t : Task α} {new : List (Task α)} {b : Bool}
    (h : Step cfg st t st' new b) (ht : t.isEmit = true) : (new.map Task.weight).sum ≤ 2 * st.observers.length := by
  have loop : ∀ m : Notif α, ((st.observers.map (Task.deliver · m)).map Task.weight).sum ≤ 2 * st.observers.length :=
    fun m => by
    induction st.observers with
    | nil => simp
    | cons k ks ih => simp only [List.map_cons, List.sum_cons, List.length_cons, Task.weight] at ih ⊢; omega
  cases h with
  | idle | raise => exact Nat.zero_le _
  | next => rw [if_neg (by simp [hc.kind])]; exact loop _
  | error => exact loop _
  | completed new _ _ _ hn =>
    rcases hn with rfl | ⟨hk', _⟩
    · exact loop _
    · rw [hc.kind] at hk'; cases hk'
  | subRefused | subRaise | subLive | subLate | unsub | dispose | deliverNext | deliverTerm | deliverRaise | fin | sad =>
    cases ht

theorem exec_fuel {cfg : Cfg} (hc : FlatCfg cfg) : ∀ (f : Nat) (st : St α) (ag : List (Task α)),
    (∀ t ∈ ag, t.isEmit = false) → (ag.map Task.weight).sum ≤ f → (exec cfg f st ag).oof = st.oof := by
  intro f
  induction f with
  | zero =>
    intro st ag _ hf
    cases ag with
    | nil => rfl
    | cons t ts => have := t.weight_pos; simp at hf; omega
  | succ f ih =>
    intro st ag he hf
    cases ag with
    | nil => rfl
    | cons t ts =>
      have h1 := (step1_step cfg st t).lighter hc (he t (List.mem_cons_self ..))
      rw [exec_one, ih, (step1_frame cfg st t).oof]
      · exact fun t' ht' => (mem_nextAgenda ht').elim ((step1_step cfg st t).new_noEmit t') fun h =>
          he t' (List.mem_cons_of_mem _ h)
      · unfold nextAgenda
        split
        · exact Nat.zero_le _
        · simp only [List.map_cons, List.sum_cons, List.map_append, List.sum_append] at hf ⊢; omega

theorem call_fuel {cfg : Cfg} (hc : FlatCfg cfg) (st : St α) (c : Call α) (f : Nat) (hf : 2 * st.observers.length + 4 ≤ f) :
    (call cfg f st c).oof = st.oof := by
  cases he : c.toTask.isEmit with
  | false =>
    refine exec_fuel hc f _ _ (by simpa using he) ?_
    have : c.toTask.weight ≤ 4 := by unfold Task.weight; split <;> decide
    simp only [List.map_cons, List.map_nil, List.sum_cons, List.sum_nil]; omega
  | true =>
    obtain ⟨f, rfl⟩ : ∃ f', f = f' + 1 := ⟨f - 1, by omega⟩
    have hstep := step1_step cfg { st with raisedNow := none } c.toTask
    have h1 := hstep.emitted hc he
    unfold call
    rw [exec_one, exec_fuel hc f, (step1_frame cfg _ _).oof]
    · exact fun t' ht' => (mem_nextAgenda ht').elim (hstep.new_noEmit t') nofun
    · unfold nextAgenda; split
      · exact Nat.zero_le _
      · have : ({ st with raisedNow := none } : St α).observers.length = st.observers.length := rfl
        simp only [List.append_nil]; omega

theorem run_flat_aux {cfg : Cfg} (hc : FlatCfg cfg) (i : Id) (fuel : Nat) (cs : List (Call α)) :
    ∀ (st : St α) (a : AbsSt α) (s : Flat α), Reachable cfg none st [] → Rel st a → FSim i a s → st.oof = false →
      2 * (st.observers.length + cs.length) + 4 ≤ fuel →
      (run cfg fuel st cs).1.log i = st.log i ++ flatLog i s cs := by
  induction cs with
  | nil => intro st a s _ _ _ _ _; simp [run, flatLog]
  | cons c cs ih =>
    intro st a s hr h hs ho hf
    simp only [List.length_cons] at hf
    have hoof : (call cfg fuel st c).oof = false := by rw [call_fuel hc st c fuel (by omega)]; exact ho
    obtain ⟨hR, hr'⟩ := call_rel hc.unsub fuel c hr h hoof
    obtain ⟨k1, k2, k3⟩ := absCall_flat hc i (h.absOK hr) hs c
    have e3 := congrArg List.length hR.members
    have e4 := congrArg List.length h.members
    simp only [run, flatLog]
    rw [ih _ _ _ hr' hR k1 hoof (by omega), ← hR.log, k2, h.log, List.append_assoc]

end Subj
