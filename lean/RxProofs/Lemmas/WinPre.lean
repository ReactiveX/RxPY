import RxProofs.Lemmas.WinOps
import RxModel.WinBuf
/-!
# The log of a window machine only grows (`Pre` is `<+:`).
-/
namespace Win
variable {α : Type}

def Pre (L : List (Nat × Out α)) (b : Base α) : Prop := ∃ l, b.log = L ++ l

theorem Pre.trans {L : List (Nat × Out α)} {b b' : Base α} (h : Pre L b) (h' : Pre b.log b') : Pre L b' := by
  obtain ⟨l, hl⟩ := h; obtain ⟨l', hl'⟩ := h'
  exact ⟨l ++ l', by rw [hl', hl, List.append_assoc]⟩

theorem Pre.refl (b : Base α) : Pre b.log b := ⟨[], by simp⟩

theorem Pre.isPrefix {L : List (Nat × Out α)} {b : Base α} (h : Pre L b) : L <+: b.log :=
  let ⟨l, hl⟩ := h; ⟨l, hl.symm⟩

namespace Base
variable {L : List (Nat × Out α)}

theorem ext_emit (b : Base α) (o) : Pre b.log (b.emit o) := ⟨[(b.now, o)], rfl⟩
theorem ext_subscribe (b : Base α) (k) : Pre b.log (b.subscribe k) := ⟨[(b.now, .sub k)], rfl⟩
theorem ext_unsub (b : Base α) (k) : Pre b.log (b.unsub k) := by
  unfold unsub; split
  · exact ⟨[(b.now, .unsub k)], rfl⟩
  · exact Pre.refl b
theorem ext_disposeUnderlying (b : Base α) : Pre b.log b.disposeUnderlying :=
  List.foldl_pres _ (fun c k h => h.trans (ext_unsub c k)) _ (Pre.refl b)
theorem ext_settle (b : Base α) : Pre b.log b.settle := by
  rcases settle_cases b with ⟨he, -⟩ | he <;> rw [he]
  · exact ext_disposeUnderlying b
  · exact Pre.refl b
theorem ext_rcDispose (b : Base α) : Pre b.log b.rcDispose := by
  rcases rcDispose_cases b with he | ⟨-, -, he⟩ <;> rw [he]
  · exact Pre.refl b
  · exact ext_settle _
theorem ext_rcRelease (b : Base α) : Pre b.log b.rcRelease := by
  rcases rcRelease_cases b with he | ⟨-, he⟩ <;> rw [he]
  · exact Pre.refl b
  · exact ext_settle _
theorem ext_outerEnd (b : Base α) (e) : Pre b.log (b.outerEnd e) := by
  unfold outerEnd; split; exact Pre.refl b
  exact Pre.trans (b := emit { b with outerStopped := true } (.outer (endNotif e))) ⟨[(b.now, _)], rfl⟩ (ext_rcDispose _)
theorem ext_outerDispose (b : Base α) : Pre b.log b.outerDispose := by
  unfold outerDispose; exact ext_rcDispose ({ b with outerStopped := true } : Base α)
theorem ext_setWin (b : Base α) (i w' l) : Pre b.log (b.setWin i w' l) := ⟨l, rfl⟩
theorem ext_winNext (b : Base α) (i x) : Pre b.log (b.winNext i x) := by
  rcases winNext_cases b i x with ⟨-, h⟩ | ⟨w, -, h⟩ <;> rw [h]
  · exact Pre.refl b
  · exact ext_setWin ..
theorem ext_winEnd (b : Base α) (i e) : Pre b.log (b.winEnd i e) := by
  rcases winEnd_cases b i e with ⟨-, h⟩ | ⟨w, -, h⟩ <;> rw [h]
  · exact Pre.refl b
  · split
    · exact (ext_setWin ..).trans (ext_rcRelease _)
    · exact ext_setWin ..
theorem ext_winDetach (b : Base α) (i) : Pre b.log (b.winDetach i) := by
  rcases winDetach_cases b i with h | ⟨w, -, -, h⟩ <;> rw [h]
  · exact Pre.refl b
  · exact (ext_setWin ..).trans (ext_rcRelease _)
theorem ext_disposeEv (b : Base α) (w) : Pre b.log (b.disposeEv w) := by
  unfold disposeEv; simp only []; split
  · exact List.foldl_pres _ (fun c i h => h.trans (ext_winDetach c i)) _ (ext_outerDispose b)
  · exact ext_outerDispose b

theorem ext_open (b : Base α) : Pre b.log (b.newWin.1.outerNext b.wins.length) := by
  rcases open_cases b with ⟨-, h⟩ | ⟨-, h⟩ <;> rw [h]
  · exact Pre.refl b
  · exact ⟨_, rfl⟩

theorem Pre_outerDispose (b : Base α) (h : Pre L b) : Pre L b.outerDispose := h.trans (ext_outerDispose b)
theorem Pre_winDetach (b : Base α) (i) (h : Pre L b) : Pre L (b.winDetach i) := h.trans (ext_winDetach b i)

end Base

open Base in
theorem Pre.of_ops {keep closed quiet : Prop} {b b' : Base α} {o o' : List Nat} (h : Ops keep closed quiet b o b' o') : Pre b.log b' := by
  induction h with
  | refl => exact Pre.refl _
  | emit o _ _ ih => exact ih.trans (ext_emit _ o)
  | subscribe k _ _ ih => exact ih.trans (ext_subscribe _ k)
  | subscribeDead k _ _ ih => exact (ih.trans (ext_subscribe _ k)).trans (ext_unsub _ k)
  | unsub k _ _ ih => exact ih.trans (ext_unsub _ k)
  | push i x _ _ ih => exact ih.trans (ext_winNext _ i x)
  | winEnd i e _ ih => exact ih.trans (ext_winEnd _ i e)
  | open_ _ ih => exact ih.trans (ext_open _)
  | outerEnd e _ ih => exact ih.trans (ext_outerEnd _ e)
  | disposeEv w _ ih => exact ih.trans (ext_disposeEv _ w)
  | drop _ _ _ _ ih => exact ih

theorem Pre.inv {keep closed : Prop} (L : List (Nat × Out α)) : Base.Inv keep closed (fun (b : Base α) _ => Pre L b) where
  now _ _ _ h := h
  ops h hp := hp.trans (Pre.of_ops h)

variable {L : List (Nat × Out α)}

theorem Pre_fold {σ : Type} (m : Mach σ α) (base : σ → Base α) (hstep : ∀ s t e, Pre L (base s) → Pre L (base (m.step s t e)))
    (evs : List (Nat × Ev α)) (s : σ) (h : Pre L (base s)) : Pre L (base (m.fold s evs)) :=
  List.foldl_pres _ (fun s te h => hstep s te.1 te.2 h) evs h

end Win
