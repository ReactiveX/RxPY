import RxProofs.Lemmas.WinFin
/-!
# The `do_*` handlers when no callback of the operator raises

Then a callback is only an entry in the log, every handler is `D`'s own method between such entries (`wrap`), and `expect`
lists the same entries around the delivery (`expect_emit`).
-/
namespace WinFin

def logs {α} (A : List (Eff α)) (s : St α) : St α := { s with o.acts := s.o.acts + A.length, log := s.log ++ A }

/-- `p` between callbacks that only log: `A` before it, `B` after it unless it raised -/
def wrap {α} (A B : List (Eff α)) (p : P α) : P α := fun s =>
  match p (logs A s) with
  | (s', none) => (logs B s', none)
  | r => r

def cbEff {α} (p : CbK × Option (Notif α)) : Eff α := .act p.1.act p.2 false

/-- the callbacks invoked before the delivery of `n` -/
def preCb {α} (c : Cfg) (n : Notif α) : List (CbK × Option (Notif α)) :=
  match c.oper with
  | .doAction => if c.hasCb n then [(cbKind n, cbArg n)] else []
  | .doOnTerminate => if n.isTerminal then [(.terminate, none)] else []
  | _ => []

/-- … and after it, if the subscriber's callback returned -/
def postCb {α} (c : Cfg) (n : Notif α) : List (CbK × Option (Notif α)) :=
  match c.oper with
  | .doAfterNext => (match n with | .next v => [(.afterNext, some (.next v))] | _ => [])
  | .doAfterTerminate => if n.isTerminal then [(.afterTerminate, none)] else []
  | _ => []

def pre {α} (c : Cfg) (n : Notif α) : List (Eff α) := (preCb c n).map cbEff
def post {α} (c : Cfg) (n : Notif α) : List (Eff α) := (postCb c n).map cbEff

theorem expect_emit {α} (c : Cfg) (n : Notif α) (r : Bool) :
    expect c (.emit n r) = pre c n ++ .emit n r :: (if r then [] else post c n) := by
  cases hop : c.oper <;> simp only [expect, pre, preCb, post, postCb, hop, List.map_nil, List.nil_append, ite_self]
  case doAction => cases n <;> simp only [Cfg.hasCb] <;> split <;> simp_all [cbEff, cbKind, cbArg, CbK.act]
  case doAfterNext => cases n <;> cases r <;> rfl
  case doOnTerminate => cases n.isTerminal <;> rfl
  case doAfterTerminate => cases n.isTerminal <;> cases r <;> rfl

structure OnlyCbs {α} (X : List (Eff α)) : Prop where
  ne : X.all (fun x => !x.isEmit) = true
  res : resCount X = 0
  fin : actCount .fin X = 0
  dsp : actCount .dispose X = 0
  sub : actCount .subscribe X = 0
  cb : X.filter Eff.isCb = X
  view : view X = []

theorem onlyCbs_map {α} (l : List (CbK × Option (Notif α))) : OnlyCbs (l.map cbEff) := by
  induction l with
  | nil => exact ⟨rfl, rfl, rfl, rfl, rfl, rfl, rfl⟩
  | cons p l ih =>
    obtain ⟨k, a⟩ := p
    have hk : (cbEff (k, a) : Eff α).isCb = true ∧ (ActK.fin == k.act) = false ∧ (ActK.dispose == k.act) = false ∧
        (ActK.subscribe == k.act) = false := by cases k <;> exact ⟨rfl, rfl, rfl, rfl⟩
    exact {
      ne := by simp [cbEff, ih.ne], res := by simp [cbEff, ih.res], fin := by simp [cbEff, hk.2.1, ih.fin]
      dsp := by simp [cbEff, hk.2.2.1, ih.dsp], sub := by simp [cbEff, hk.2.2.2, ih.sub]
      cb := by simp only [List.map_cons, List.filter_cons_of_pos hk.1, ih.cb]
      view := by simp [cbEff, ih.view] }

theorem onlyCbs_pre {α} (c : Cfg) (n : Notif α) : OnlyCbs (pre c n) := onlyCbs_map _

theorem onlyCbs_post {α} (c : Cfg) (n : Notif α) (r : Bool) : OnlyCbs (if r then [] else post c n) := by
  cases r
  · exact onlyCbs_map _
  · exact onlyCbs_map []

@[simp] theorem logs_nil {α} (s : St α) : logs [] s = s := by simp [logs]

@[simp] theorem logs_d {α} (A : List (Eff α)) (s : St α) : (logs A s).d = s.d := rfl
@[simp] theorem logs_log {α} (A : List (Eff α)) (s : St α) : (logs A s).log = s.log ++ A := rfl
@[simp] theorem logs_wasInvoked {α} (A : List (Eff α)) (s : St α) : (logs A s).o.wasInvoked = s.o.wasInvoked := rfl

theorem wrap_nil {α} (p : P α) : wrap [] [] p = p := by
  funext s
  simp only [wrap, logs_nil]
  rcases p s with ⟨s', _ | e⟩ <;> rfl

theorem wrap_fst {α} (A B : List (Eff α)) (p : P α) (s : St α) :
    (wrap A B p s).1 = logs (if (p (logs A s)).2 = none then B else []) (p (logs A s)).1 := by
  simp only [wrap]
  rcases p (logs A s) with ⟨s', _ | e⟩ <;> simp

theorem dNext_noraise {α} (c : Cfg) (hsr : ∀ k, c.subRaises k = false) (v : α) (s : St α) : (dNext c v s).2 = none := by
  simp only [dNext, userCb, hsr]; split <;> simp

section
variable {α : Type} {c : Cfg} (hnr : ∀ k, c.actRaises k = false)
include hnr

theorem action_quiet (k : ActK) (a : Option (Notif α)) (s : St α) :
    action c k a s = (logs [.act k a false] s, none) := by
  simp [action, hnr, logs]

/-- `try: cb() except: …`, then `p` -/
theorem wrap_before (k : ActK) (a : Option (Notif α)) (h : Err → P α) (p : P α) :
    seq (tryCatch (action c k a) h) p = wrap [.act k a false] [] p := by
  funext s
  simp only [seq, tryCatch, action_quiet hnr, wrap, logs_nil]
  rcases p _ with ⟨s', _ | e⟩ <;> rfl

/-- `try: cb() except: … else: p` -/
theorem wrap_else (k : ActK) (h : Err → P α) (p : P α) :
    branch (action c k none) p h = wrap [.act k none false] [] p := by
  funext s
  simp only [branch, action_quiet hnr, wrap, logs_nil]
  rcases p _ with ⟨s', _ | e⟩ <;> rfl

/-- `p`, then `try: cb() except: …` -/
theorem wrap_after (k : ActK) (a : Option (Notif α)) (h : Err → P α) (p : P α) :
    seq p (tryCatch (action c k a) h) = wrap [] [.act k a false] p := by
  funext s
  simp only [seq, tryCatch, wrap, logs_nil]
  rcases p s with ⟨s', _ | e⟩ <;> simp [action_quiet hnr]

end

theorem hNext_quiet {α} (c : Cfg) (q : Quiet c) (v : α) :
    hNext c v = wrap (pre c (.next v)) (post c (.next v)) (dNext c v) := by
  cases hop : c.oper <;>
    simp only [hNext, hop, pre, preCb, post, postCb, List.map_nil, List.map_cons, cbEff, CbK.act, wrap_nil,
      isTerminal_next, Bool.false_eq_true, if_false]
  case doAction => cases h : c.hasNext <;> simp [Cfg.hasCb, cbKind, cbArg, cbEff, CbK.act, h, wrap_nil, wrap_before q.nr]
  case doAfterNext =>
    -- `observer.on_next` does not raise (`Quiet.an`), so the `except` around both is never entered
    funext s
    have := dNext_noraise c (q.an hop) v s
    simp only [seq, tryCatch, wrap, logs_nil]
    rcases hd : dNext c v s with ⟨s', _ | e⟩
    · simp [action_quiet q.nr]
    · rw [hd] at this; cases this

/-- not `do_finally`: its action is guarded by a flag -/
theorem hTerminal_quiet {α} (c : Cfg) (hnr : ∀ k, c.actRaises k = false) (hf : c.oper ≠ .doFinally) (t : Notif α)
    (ht : t.isTerminal = true) : hTerminal c t = wrap (pre c t) (post c t) (dTerminal c t) := by
  rw [hTerminal_eq c t ht]
  cases hop : c.oper <;> simp only [hop, pre, preCb, post, postCb, List.map_nil, List.map_cons, cbEff, ht,
    if_true, wrap_nil, wrap_after hnr, wrap_else hnr]
  case doAction => cases c.hasCb t <;> simp [cbEff, wrap_nil, wrap_before hnr]
  case doAfterNext => cases t <;> simp_all [wrap_nil]
  case doOnTerminate => rfl
  case doAfterTerminate => rfl
  case doFinally => exact absurd hop hf

/-- operators that hand `D`'s own methods to the source (`source.subscribe(observer)` or
`observer.on_next, observer.on_error, observer.on_completed`); `do_action` without callbacks is `Cfg.ident` -/
def Direct (c : Cfg) : Prop :=
  match c.oper with
  | .doFinally | .doAfterNext | .doOnTerminate | .doAfterTerminate => False
  | .doAction => c.hasNext = false ∧ c.hasError = false ∧ c.hasCompleted = false
  | _ => True

theorem direct_ident (c : Cfg) : Direct c.ident := ⟨rfl, rfl, rfl⟩

theorem direct_noCb {α} {c : Cfg} (hd : Direct c) (n : Notif α) : pre c n = [] ∧ post c n = [] := by
  cases hop : c.oper <;> simp_all [Direct, pre, preCb, post, postCb]
  cases n <;> simp [Cfg.hasCb, hd]

theorem hNext_direct {α} {c : Cfg} (hd : Direct c) (v : α) : hNext c v = dNext c v := by
  cases hop : c.oper <;> simp_all [Direct, hNext]

theorem hTerminal_direct {α} {c : Cfg} (hd : Direct c) (t : Notif α) (ht : t.isTerminal = true) :
    hTerminal c t = dTerminal c t := by
  rw [hTerminal_eq c t ht]
  cases hop : c.oper <;> simp_all [Direct]
  cases t <;> simp [Cfg.hasCb, hd]

theorem hTerminal_dofin {α} {c : Cfg} (hc : c.oper = .doFinally) (t : Notif α) (ht : t.isTerminal = true) :
    hTerminal c t = seq (dTerminal c t) (tryCatch (finGuard c) (fun e' => dTerminal c (.error e'))) := by
  rw [hTerminal_eq c t ht]; simp only [hc]

end WinFin
