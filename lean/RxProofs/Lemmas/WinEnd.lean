import RxProofs.Lemmas.WinMachOps
import RxProofs.Lemmas.WinClosed
/-!
# A terminal of a source the operator listens to ends its open windows (`Base.endAll`).
-/
namespace Win
variable {α : Type}

/-- what a terminal `e` that reaches the open windows `l` leaves of `b`. -/
structure EndsAll (b b' : Base α) (l : List Nat) (e : Option Err) : Prop where
  len : b'.wins.length = b.wins.length
  ends : ∀ id ∈ l, id < b.wins.length → b.endedOf id = none → b'.endedOf id = some e
  kept : ∀ j, (b.endedOf j).isSome = true → b'.endedOf j = b.endedOf j
  stopped : b'.outerStopped = true

namespace Base

/-- what every operator does when a source `k` it listens to terminates with `e`: the windows of its open set `l` get the
terminal, then the outer observer; the source's own `AutoDetachObserver` removes the subscription. -/
def endAll (b : Base α) (l : List Nat) (e : Option Err) (k : Nat) : Base α :=
  ((l.foldl (fun b id => b.winEnd id e) b).outerEnd e).unsub k

theorem endAll_spec {b b' : Base α} {t : Nat} {l : List Nat} {e : Option Err} {k : Nat}
    (h : b' = ({ b with now := t } : Base α).endAll l e k) : EndsAll b b' l e := by
  subst h
  obtain ⟨h1, -, h3, h4⟩ := foldl_winEnd l e ({ b with now := t } : Base α)
  refine ⟨by simp only [endAll, length_unsub, length_outerEnd]; exact h1, fun id hid hlt hn => ?_, fun j hj => ?_, ?_⟩
  · simp only [endAll, endedOf_unsub, endedOf_outerEnd]; rw [h4 id hlt hn, if_pos hid]
  · simp only [endAll, endedOf_unsub, endedOf_outerEnd]; exact h3 j hj
  · simp only [endAll, os_unsub]; exact os_outerEnd _ _

end Base

theorem Cnt.step_end (count skip : Nat) (s : Cnt α) (t : Nat) (e : Option Err) (hl : s.b.live.contains 0 = true) :
    ((Cnt.mach count skip).step s t (.src 0 (endNotif e))).b = ({ s.b with now := t } : Base α).endAll s.q e 0 := by
  have hl' : ({ s with b := { s.b with now := t } } : Cnt α).b.live.contains 0 = true := hl
  cases e <;> simp only [Cnt.mach, Cnt.step, hl', if_true, endNotif, Cnt.onEnd, Base.endAll]

theorem Tim.step_end (shift : Nat) (s : Tim α) (t : Nat) (e : Option Err) (hl : s.b.live.contains 0 = true) :
    ((Tim.mach shift).step s t (.src 0 (endNotif e))).b = ({ s.b with now := t } : Base α).endAll s.queue e 0 := by
  have hl' : ({ s with b := { s.b with now := t } } : Tim α).b.live.contains 0 = true := hl
  cases e <;> simp only [Tim.mach, Tim.step, hl', if_true, endNotif, Tim.onEnd, Tim.sync_b, Base.endAll]

theorem Toc.step_end (span count : Nat) (s : Toc α) (t : Nat) (e : Option Err) (hl : s.b.live.contains 0 = true) :
    ((Toc.mach span count).step s t (.src 0 (endNotif e))).b = ({ s.b with now := t } : Base α).endAll [s.s] e 0 := by
  have hl' : ({ s with b := { s.b with now := t } } : Toc α).b.live.contains 0 = true := hl
  cases e <;> simp only [Toc.mach, Toc.step, hl', if_true, endNotif, Toc.onEnd, Toc.sync_b, Base.endAll, List.foldl_cons, List.foldl_nil]

theorem Bnd.step_end (s : Bnd α) (t k : Nat) (hk : k = 0 ∨ k = 1) (e : Option Err) (hl : s.b.live.contains k = true) :
    (Bnd.mach.step s t (.src k (endNotif e))).b = ({ s.b with now := t } : Base α).endAll [s.cur] e k := by
  have hl' : ({ s with b := { s.b with now := t } } : Bnd α).b.live.contains k = true := hl
  have hk' : (k == 0 || k == 1) = true := by rcases hk with rfl | rfl <;> rfl
  cases e <;> simp only [Bnd.mach, Bnd.step, hl', hk', Bool.and_self, if_true, endNotif, Bnd.onEnd, Base.endAll, List.foldl_cons, List.foldl_nil]

theorem Whn.step_end (r : Option Nat) (pool : Nat) (s : Whn α) (t : Nat) (e : Option Err) (hl : s.b.live.contains 0 = true) :
    ((Whn.mach r pool).step s t (.src 0 (endNotif e))).b = ({ s.b with now := t } : Base α).endAll [s.cur] e 0 := by
  have hl' : ({ s with b := { s.b with now := t } } : Whn α).b.live.contains 0 = true := hl
  cases e <;> simp only [Whn.mach, Whn.step, hl', if_true, beq_self_eq_true, endNotif, Whn.onEnd, Base.endAll, List.foldl_cons, List.foldl_nil]

theorem Tgl.step_error (r : Option Nat) (pool : Nat) (s : Tgl α) (t : Nat) (err : Err) (hl : s.b.live.contains 0 = true) :
    ((Tgl.mach r pool).step s t (.src 0 (.error err))).b =
      ({ s.b with now := t } : Base α).endAll (Tgl.openOf s) (some err) 0 := by
  have hl' : ({ s with b := { s.b with now := t } } : Tgl α).b.live.contains 0 = true := hl
  simp only [Tgl.mach, Tgl.step, hl', if_true, beq_self_eq_true, Tgl.errAll, Base.endAll, Tgl.openOf, List.foldl_map]

/-- every window outside the open set had ended, the open ones get the terminal: none is left. -/
theorem all_ended_of {b b' : Base α} {t : Nat} {o : List Nat} {e : Option Err} {k : Nat} (hc : ClosedB b o)
    (h : b' = ({ b with now := t } : Base α).endAll o e k) : ∀ id, id < b'.wins.length → (b'.endedOf id).isSome = true := by
  have he := Base.endAll_spec h
  intro id hid
  rw [he.len] at hid
  cases hn : b.endedOf id with
  | some x => rw [he.kept id (by rw [hn]; rfl), hn]; rfl
  | none =>
    rcases hc id hid with h1 | h1
    · rw [he.ends id h1 hid hn]; rfl
    · rw [hn] at h1; cases h1

end Win
