import RxProofs.Lemmas.WinOps
/-!
# The operator's open set: it lists distinct existing windows (`Good`), and every window outside it has already ended (`ClosedB`).
-/
namespace Win
variable {α : Type}

/-- every window the operator ever created is either in its open set or has already ended. -/
def ClosedB (b : Base α) (open_ : List Nat) : Prop :=
  ∀ id, id < b.wins.length → id ∈ open_ ∨ (b.endedOf id).isSome = true

namespace Base

theorem closed_frame {b b' : Base α} {o : List Nat} (hl : b'.wins.length = b.wins.length)
    (hm : ∀ id, (b.endedOf id).isSome = true → (b'.endedOf id).isSome = true) (h : ClosedB b o) : ClosedB b' o := by
  intro id hid
  rcases h id (hl ▸ hid) with h1 | h1
  · exact Or.inl h1
  · exact Or.inr (hm id h1)

theorem closed_same {b b' : Base α} {o : List Nat} (hl : b'.wins.length = b.wins.length)
    (he : ∀ id, b'.endedOf id = b.endedOf id) (h : ClosedB b o) : ClosedB b' o :=
  closed_frame hl (fun id hh => by rw [he]; exact hh) h

theorem closed_winEnd (b : Base α) (i : Nat) (e : Option Err) (o : List Nat) (h : ClosedB b o) : ClosedB (b.winEnd i e) o :=
  closed_frame (by simp) (fun id hh => endedOf_winEnd_mono b i id e hh) h

theorem closed_open {b : Base α} {o : List Nat} (h : ClosedB b o) :
    ClosedB (b.newWin.1.outerNext b.wins.length) (o ++ [b.wins.length]) := by
  intro id hid
  simp only [length_open] at hid
  simp only [endedOf_open, List.mem_append, List.mem_singleton]
  by_cases h1 : id = b.wins.length
  · exact Or.inl (Or.inr h1)
  · exact (h id (by omega)).imp_left Or.inl

theorem closed_drop {b : Base α} {o o' : List Nat}
    (hc : ∀ i ∈ o, i ∉ o' → i < b.wins.length → (b.endedOf i).isSome = true) (h : ClosedB b o) : ClosedB b o' := by
  intro id hid
  rcases h id hid with h1 | h1
  · by_cases h2 : id ∈ o'
    · exact Or.inl h2
    · exact Or.inr (hc id h1 h2 hid)
  · exact Or.inr h1

theorem closed_nil (b : Base α) (h : b.wins = [] := by rfl) : ClosedB b [] :=
  fun _ hid => absurd hid (by rw [h]; exact Nat.not_lt_zero _)

end Base

open Base in
theorem ClosedB.inv {keep : Prop} : Base.Inv keep True (ClosedB (α := α)) where
  now _ _ _ h := h
  ops h ho := by
    induction h with
    | refl => exact ho
    | emit out _ _ ih => exact ih
    | subscribe k _ _ ih => exact ih
    | subscribeDead k _ _ ih => exact closed_same (by simp) (by simp) ih
    | unsub k _ _ ih => exact closed_same (by simp) (by simp) ih
    | push i x _ _ ih => exact closed_same (by simp) (by simp) ih
    | winEnd i e _ ih => exact closed_winEnd _ i e _ ih
    | open_ _ ih => exact closed_open ih
    | outerEnd e _ ih => exact closed_same (by simp) (by simp) ih
    | disposeEv w _ ih => exact closed_same (by simp) (by simp) ih
    | drop o3 _ hd _ ih => exact closed_drop (hd trivial) ih
namespace Base

/-- the open set lists distinct, existing windows (what the routing proofs need of `q` / `queue` / `left_map`). -/
def Good (b : Base α) (o : List Nat) : Prop := o.Nodup ∧ ∀ id ∈ o, id < b.wins.length

theorem Good.mono {b b' : Base α} {o o' : List Nat} (h : Good b o) (hs : o'.Sublist o)
    (hl : b.wins.length ≤ b'.wins.length) : Good b' o' :=
  ⟨h.1.sublist hs, fun id hid => Nat.lt_of_lt_of_le (h.2 id (hs.subset hid)) hl⟩

theorem Good.same {b b' : Base α} {o : List Nat} (h : Good b o) (hl : b'.wins.length = b.wins.length) : Good b' o :=
  h.mono (List.Sublist.refl _) (Nat.le_of_eq hl.symm)

theorem Good.open_ {b : Base α} {o : List Nat} (h : Good b o) :
    Good (b.newWin.1.outerNext b.wins.length) (o ++ [b.wins.length]) := by
  refine ⟨List.nodup_append.mpr ⟨h.1, by simp, ?_⟩, fun id hid => ?_⟩
  · intro a ha c hc; simp at hc; subst hc; have := h.2 a ha; omega
  · simp only [length_open]
    rcases List.mem_append.mp hid with h1 | h1
    · have := h.2 id h1; omega
    · simp at h1; omega

theorem Good.inv {keep closed : Prop} : Inv keep closed (Good (α := α)) where
  now _ _ _ h := h
  ops h hg := by
    induction h with
    | refl => exact hg
    | emit out _ _ ih => exact ih
    | subscribe k _ _ ih => exact ih
    | subscribeDead k _ _ ih => exact ih.same (by simp)
    | unsub k _ _ ih => exact ih.same (by simp)
    | push i x _ _ ih => exact ih.same (by simp)
    | winEnd i e _ ih => exact ih.same (by simp)
    | open_ _ ih => exact ih.open_
    | outerEnd e _ ih => exact ih.same (by simp)
    | disposeEv w _ ih => exact ih.same (by simp)
    | drop o3 hs _ _ ih => exact ih.mono hs (Nat.le_refl _)

end Base
end Win
