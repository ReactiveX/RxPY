import RxProofs.Lemmas.DispBase
/-!
# Invariants behind C27 (RefCountDisposable)
-/
namespace Disp

/-- a dependent that still points to its parent (it will decrement `count` when disposed) -/
def depLive : Dep → Nat
  | .inner true => 1
  | _ => 0

/-- a thread between "InnerDisposable gave up its parent" and the `count -= 1` of `release()` -/
def rInflight (t : RTh) : Nat :=
  match t.pc with
  | .releasing => 1
  | .relChecked => 1
  | _ => 0

/-- a thread that decided under the lock to dispose the underlying resource and has not called it yet -/
def rUndPend (t : RTh) : Nat :=
  match t.pc with
  | .undPend => 1
  | _ => 0

/-- primary `dispose()` calls not yet past their first steps -/
def rProgDisp (t : RTh) : Nat :=
  (match t.pc with | .dispChecked => 1 | _ => 0) + t.prog.count .dispose

/-- The counting clauses are not conserved move by move (a release that finds `is_disposed` set would break them): they hold
together with the flag clauses, which rule that move out. -/
structure RInv (s : Sys RSh RTh) : Prop where
  count_eq : s.sh.count = (wsum depLive s.sh.deps : Int) + (wsum rInflight s.pcs : Int)
  und_eq : s.sh.und + wsum rUndPend s.pcs = s.sh.isDisposed.toNat
  disposed : s.sh.isDisposed = true → s.sh.isPrimaryDisposed = true ∧ s.sh.count = 0
  primary : s.sh.isPrimaryDisposed = true → s.sh.isDisposed = true ∨ 0 < s.sh.count
  incdec : s.sh.incs = s.sh.decs + wsum depLive s.sh.deps + wsum rInflight s.pcs
  pcalls : 0 < s.sh.pcalls → s.sh.isPrimaryDisposed = true

theorem rRel_sh (s : RSh) (t : RTh) (p : List ROp) (h : Nat) :
    (rRel s t p h).1 = { s with deps := (rRel s t p h).1.deps, log := (rRel s t p h).1.log } ∧ (rRel s t p h).2.prog = p ∧
      ((rRel s t p h).2.pc = .idle ∨ (rRel s t p h).2.pc = .releasing) := by
  unfold rRel
  cases s.deps[h]? with
  | none => exact ⟨rfl, rfl, .inl rfl⟩
  | some d => rcases d with b | _ | _ <;> first | exact ⟨rfl, rfl, .inl rfl⟩ | exact ⟨rfl, rfl, .inr rfl⟩

/-- the sums over the threads, split at the thread that moves, with the weights evaluated -/
macro "rsplit" : tactic => `(tactic| simp only [wsum_append, wsum_cons, wsum_nil, rInflight, rUndPend, RSh.ev])

theorem rRel_inv (sh : RSh) (l₁ l₂ : List RTh) (t : RTh) (p : List ROp) (h : Nat) (ht : t.pc = .idle)
    (hi : RInv ⟨sh, l₁ ++ t :: l₂⟩) : RInv ⟨(rRel sh t p h).1, l₁ ++ (rRel sh t p h).2 :: l₂⟩ := by
  obtain ⟨hcount, hund, hdisp, hprim, hincdec, hpcalls⟩ := hi
  simp only [wsum_append, wsum_cons, rInflight, rUndPend, ht] at hcount hund hincdec
  unfold rRel
  cases hd : sh.deps[h]? with
  | none => constructor <;> rsplit <;> assumption
  | some d =>
    have hs := fun d' => wsum_set depLive sh.deps h d d' hd
    rcases d with b | _ | _
    · have := hs (.inert true)
      constructor <;> rsplit <;> first | assumption | (simp only [depLive] at this; omega)
    · constructor <;> rsplit <;> assumption
    · have := hs (.inner false)
      simp only [depLive] at this
      constructor <;> rsplit <;> first | assumption | omega

theorem rInv_pres (t : RTh) : Sys.Pres rStep RInv t := by
  obtain ⟨pc, prog, mine⟩ := t
  intro sh l₁ l₂ h
  have hrel := fun p j => rRel_inv sh l₁ l₂ ⟨pc, prog, mine⟩ p j
  -- `is_disposed` implies `count = 0`, so it is still false while a release is in flight
  have hnd : 0 < sh.count → sh.isDisposed = false := fun hc => by
    cases hd : sh.isDisposed
    · rfl
    · exact absurd (h.disposed hd).2 (by omega : ¬sh.count = 0)
  cases pc
  all_goals
    have ⟨hcount, hund, hdisp, hprim, hincdec, hpcalls⟩ := h
    simp only [wsum_append, wsum_cons, rInflight, rUndPend] at hcount hund hdisp hprim hincdec hpcalls
  case idle =>
    cases prog with
    | nil => constructor <;> rsplit <;> assumption
    | cons op prog =>
      cases op with
      | get =>
        simp only [rStep]
        split
        · constructor <;> rsplit <;> first | assumption | (simp only [depLive]; omega)
        · rename_i hd
          constructor <;> rsplit
          case count_eq => simp only [depLive]; omega
          case und_eq => exact hund
          case disposed => exact fun h => absurd h hd
          case primary => exact fun h => (hprim h).imp id (by omega)
          case incdec => simp only [depLive]; omega
          case pcalls => exact hpcalls
      | rel j => exact hrel prog j rfl h
      | relMine j =>
        simp only [rStep]
        split
        · exact hrel prog _ rfl h
        · constructor <;> rsplit <;> assumption
      | dispose =>
        simp only [rStep]
        split
        · rename_i hd
          exact ⟨by rsplit; exact hcount, by rsplit; exact hund, hdisp, hprim, by rsplit; exact hincdec, fun _ => (hdisp hd).1⟩
        · constructor <;> rsplit <;> assumption
  case releasing =>
    simp only [rStep]
    split
    · rename_i hd
      rw [hnd (by omega)] at hd; cases hd
    · constructor <;> rsplit <;> assumption
  case relChecked =>
    have hd := hnd (by omega)
    simp only [hd, Bool.toNat_false] at hund
    simp only [rStep]
    split
    · rename_i hc
      simp only [Bool.and_eq_true, beq_iff_eq] at hc
      constructor <;> rsplit
      case count_eq => omega
      case und_eq => simp only [Bool.toNat_true]; omega
      case disposed => exact fun _ => ⟨hc.2, hc.1⟩
      case primary => exact fun _ => .inl trivial
      case incdec => omega
      case pcalls => exact hpcalls
    · rename_i hc
      simp only [Bool.and_eq_true, beq_iff_eq, not_and] at hc
      constructor <;> rsplit
      case count_eq => omega
      case und_eq => simp only [hd, Bool.toNat_false]; omega
      case disposed => exact fun h => absurd (hd ▸ h) Bool.false_ne_true
      case primary => exact fun hp => .inr (by have := mt hc (not_not_intro hp); omega)
      case incdec => omega
      case pcalls => exact hpcalls
  case undPend =>
    simp only [rStep]
    constructor <;> rsplit <;> first | assumption | omega
  case dispChecked =>
    simp only [rStep]
    split
    · rename_i hp
      constructor <;> rsplit <;> first | assumption | exact fun _ => hp
    · rename_i hp
      have hd : sh.isDisposed = false := by
        cases hd : sh.isDisposed
        · rfl
        · exact absurd (hdisp hd).1 hp
      simp only [hd, Bool.toNat_false] at hund
      split
      · rename_i hc
        simp only [beq_iff_eq] at hc
        constructor <;> rsplit
        case count_eq => exact hcount
        case und_eq => simp only [Bool.toNat_true]; omega
        case disposed => exact fun _ => ⟨trivial, hc⟩
        case primary => exact fun _ => .inl trivial
        case incdec => exact hincdec
        case pcalls => exact fun _ => trivial
      · rename_i hc
        simp only [beq_iff_eq] at hc
        constructor <;> rsplit
        case count_eq => exact hcount
        case und_eq => simp only [hd, Bool.toNat_false]; omega
        case disposed => exact fun h => absurd (hd ▸ h) Bool.false_ne_true
        case primary => exact fun _ => .inr (by omega)
        case incdec => exact hincdec
        case pcalls => exact fun _ => trivial

structure RConserve (s : RSh) (t : RTh) (r : RSh × RTh) : Prop where
  released : s.isDisposed = true → r.1.isDisposed = true
  calls : r.1.pcalls + rProgDisp r.2 = s.pcalls + rProgDisp t

theorem rStep_conserve (s : RSh) (t : RTh) : RConserve s t (rStep s t) := by
  obtain ⟨pc, prog, mine⟩ := t
  have hrel : ∀ op p j, op ≠ .dispose → RConserve s ⟨.idle, op :: p, mine⟩ (rRel s ⟨.idle, op :: p, mine⟩ p j) := by
    intro op p j hop
    obtain ⟨a, b, c⟩ := rRel_sh s ⟨.idle, op :: p, mine⟩ p j
    constructor
    · rw [a]; exact id
    · rw [a]; unfold rProgDisp; rw [b]
      rcases c with c | c <;> rw [c] <;> simp [hop]
  cases pc with
  | idle =>
    cases prog with
    | nil => exact ⟨id, rfl⟩
    | cons op prog =>
      cases op with
      | get => simp only [rStep]; split <;> constructor <;> simp [RSh.ev, rProgDisp]
      | rel j => exact hrel _ prog j nofun
      | relMine j =>
        simp only [rStep]
        split
        · exact hrel _ prog _ nofun
        · constructor <;> simp [RSh.ev, rProgDisp]
      | dispose => simp only [rStep]; split <;> constructor <;> simp [RSh.ev, rProgDisp] <;> omega
  | releasing => simp only [rStep]; split <;> constructor <;> simp [RSh.ev, rProgDisp]
  | relChecked => simp only [rStep]; split <;> constructor <;> simp [RSh.ev, rProgDisp]
  | undPend => constructor <;> simp [rStep, RSh.ev, rProgDisp]
  | dispChecked =>
    simp only [rStep]; repeat' split
    all_goals constructor <;> simp [RSh.ev, rProgDisp] <;> omega

theorem rInv_init (progs : List (List ROp)) : RInv (rInit progs) := by
  have z1 : wsum rInflight (rInit progs).pcs = 0 := wsum_map_zero _ _ _ fun _ => rfl
  have z2 : wsum rUndPend (rInit progs).pcs = 0 := wsum_map_zero _ _ _ fun _ => rfl
  constructor
  case count_eq => rw [z1]; simp [rInit]
  case und_eq => rw [z2]; simp [rInit]
  case incdec => rw [z1]; simp [rInit]
  all_goals simp [rInit]

theorem rInv_run (progs : List (List ROp)) (sched : List Nat) :
    RInv ((rInit progs).run rStep sched) ∧
    ((rInit progs).run rStep sched).sh.pcalls + wsum rProgDisp ((rInit progs).run rStep sched).pcs
      = wsum (fun p => p.count ROp.dispose) progs :=
  ⟨Sys.run_inv rStep RInv rInv_pres _ sched (rInv_init progs),
   Sys.run_inv rStep _ (Sys.conserve_const rStep (·.pcalls) rProgDisp _ fun s t => (rStep_conserve s t).calls) _ sched
    (by simp [rInit, wsum_map, rProgDisp])⟩

theorem RInv.idle {s : RSh} {t : RTh} (h : RInv ⟨s, [t]⟩) (ht : t.pc = .idle) :
    s.count = (wsum depLive s.deps : Int) ∧ s.isDisposed = (s.isPrimaryDisposed && (wsum depLive s.deps == 0)) ∧
      decide (0 < s.und) = s.isDisposed := by
  obtain ⟨c1, c2, c3, c4, _, _⟩ := h
  simp only [wsum_cons, wsum_nil, rInflight, rUndPend, ht] at c1 c2 c3 c4
  refine ⟨by omega, ?_, ?_⟩
  · cases hd : s.isDisposed
    · cases hp : s.isPrimaryDisposed
      · rfl
      · have := (c4 hp).resolve_left (by simp [hd])
        have : wsum depLive s.deps ≠ 0 := by omega
        simp [this]
    · obtain ⟨hp, hc⟩ := c3 hd
      have : wsum depLive s.deps = 0 := by omega
      simp [hp, this]
  · cases hd : s.isDisposed <;> simp [hd] at c2 ⊢ <;> omega

def rQuiet (s : Sys RSh RTh) : Prop := ∀ t ∈ s.pcs, t.pc = RPc.idle ∧ t.prog = []
instance (s : Sys RSh RTh) : Decidable (rQuiet s) := by unfold rQuiet; infer_instance

theorem rQuiet_zero (s : Sys RSh RTh) (h : rQuiet s) :
    wsum rInflight s.pcs = 0 ∧ wsum rUndPend s.pcs = 0 ∧ wsum rProgDisp s.pcs = 0 := by
  refine ⟨?_, ?_, ?_⟩ <;>
    (apply wsum_eq_zero; intro a ha; obtain ⟨h1, h2⟩ := h a ha
     simp [rInflight, rUndPend, rProgDisp, h1, h2])

end Disp
