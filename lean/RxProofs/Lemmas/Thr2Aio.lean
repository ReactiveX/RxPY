import RxModel.Thr2Aio
import RxProofs.Lemmas.Thr2Reach
/-! # Lemmas for C33 — the reachable-set argument -/

namespace Thr2Aio
open Thr2Reach

theorem step_none_of_not_act (c : Cfg) (s : St) (a : Nat) (h : a ∉ acts) : step c s a = none := by
  simp only [acts, List.mem_cons, List.not_mem_nil, or_false, not_or] at h
  obtain ⟨h0, h1, h2, h3, h4, h5⟩ := h
  match a, h0, h1, h2, h3, h4, h5 with
  | a + 6, _, _, _, _, _, _ => simp [step, stepL]

theorem mem_succs {c : Cfg} {s t : St} {a : Nat} (h : step c s a = some t) : t ∈ succs c s :=
  List.mem_filterMap.2 ⟨a, Decidable.byContradiction fun ha => by simp [step_none_of_not_act c s a ha] at h, h⟩

theorem userStep_started (c : Cfg) (s : St) : ∀ p ∈ userStep c s, p.1.started = s.started := by
  -- `simp` leaves the `if a = 1` of pcs 14 and 15
  fun_cases userStep c s <;> simp <;> split <;> rfl

theorem collectStep_started (c : Cfg) (s : St) : ∀ p ∈ collectStep c s, p.1.started = s.started := by
  fun_cases collectStep c s <;> simp

theorem step_started {c : Cfg} {s t : St} {a : Nat} (h : step c s a = some t) (ha : a ≠ 0) :
    t.started = s.started := by
  refine of_outcomes (P := fun t => t.started = s.started) ?_ h
  fun_cases stepL c s a
  · contradiction
  · exact userStep_started c s
  all_goals first | exact collectStep_started c s | simp

def fixedCfgs : List Cfg :=
  [Flavour.plain, .ts].flatMap fun f => [Kind.soon, .rel].flatMap fun k =>
    [SMode.onLoop, .foreign, .pre].flatMap fun sm =>
      [Mode.onLoop, .foreign, .notRunning].map fun m => ⟨f, k, sm, m, .fixed⟩

theorem mem_fixedCfgs (c : Cfg) (h : c.test = .fixed) : c ∈ fixedCfgs := by
  obtain ⟨f, k, sm, m, t⟩ := c
  simp only at h; subst h
  simp only [fixedCfgs, List.mem_flatMap, List.mem_map]
  exact ⟨f, by cases f <;> simp, k, by cases k <;> simp, sm, by cases sm <;> simp, m, by cases m <;> simp, rfl⟩

/-- mixed radix over the fields that vary (handle numbers are below 4) -/
def key (s : St) : Nat :=
  let digits (l : List Nat) : Nat := l.foldl (fun a x => 4 * a + x) 1
  s.up + 32 * (s.lp + 4 * (s.l1.ctorIdx + 4 * (s.l2.ctorIdx + 4 * (s.l3.ctorIdx + 4 * (s.c1.toNat + 2 * (s.c2.toNat +
    2 * (s.due.toNat + 2 * (s.running.toNat + 2 * (s.fut.toNat + 2 * (s.started.toNat + 2 * (s.returned.toNat +
    2 * (digits s.hs + 64 * digits s.rq))))))))))))

theorem fixed_reach_ok :
    fixedCfgs.all (fun c => (explore key (succs c) 128 [init c] [init c]).any (·.all safe)) = true := by
  decide +kernel

theorem fixed_safe (c : Cfg) (h : c.test = .fixed) (sch : List Nat) :
    (run c (init c) sch).late = false ∧ (run c (init c) sch).early = false := by
  obtain ⟨R, hR, hsafe⟩ := (Option.any_eq_true _ _).1 (List.all_eq_true.1 fixed_reach_ok c (mem_fixedCfgs c h))
  have hmem := run_mem (run := run c) (fun _ => rfl) (fun _ _ _ => rfl) (fun _ _ _ => mem_succs) hR sch
  simpa [safe] using List.all_eq_true.1 hsafe _ hmem

end Thr2Aio
