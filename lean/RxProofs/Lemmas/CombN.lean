import RxModel.CombPhase
import RxProofs.Lemmas.Comb

namespace Comb

def col {α} (i : Nat) (outs : List (List α)) : List α := outs.filterMap (·[i]?)

theorem col_append {α} (i : Nat) (a b : List (List α)) : col i (a ++ b) = col i a ++ col i b := by
  simp [col]

theorem fm_range {α} (f : Nat → Option α) (n : Nat) (h : ∀ j, j < n → ∃ v, f j = some v) :
    ((List.range n).filterMap f).length = n ∧ ∀ j, j < n → ((List.range n).filterMap f)[j]? = f j := by
  induction n with
  | zero => simp
  | succ n ih =>
    have ih' := ih (fun j hj => h j (Nat.lt_succ_of_lt hj))
    obtain ⟨v, hv⟩ := h n (Nat.lt_succ_self n)
    rw [List.range_succ, List.filterMap_append]
    simp only [List.filterMap_cons, hv, List.filterMap_nil, List.length_append, List.length_singleton]
    refine ⟨by omega, ?_⟩
    intro j hj
    by_cases hjn : j < n
    · rw [List.getElem?_append_left (by omega)]; exact ih'.2 j hjn
    · have : j = n := by omega
      subst this
      rw [List.getElem?_append_right (by omega)]
      simp [ih'.1, hv]

theorem valsOf_cons_error {α} (k : Nat) (er : Err) (r : List (Nat × Notif α)) (i : Nat) :
    valsOf ((k, Notif.error er) :: r) i = valsOf r i := by
  by_cases h : k = i <;> simp [valsOf, h]

theorem valsOf_cons_completed {α} (k : Nat) (r : List (Nat × Notif α)) (i : Nat) :
    valsOf ((k, Notif.completed) :: r) i = valsOf r i := by
  by_cases h : k = i <;> simp [valsOf, h]

theorem valsOf_cons_next {α} (k : Nat) (v : α) (r : List (Nat × Notif α)) (i : Nat) :
    valsOf ((k, Notif.next v) :: r) i = (if k = i then [v] else []) ++ valsOf r i := by
  by_cases h : k = i <;> simp [valsOf, h]

theorem zip_no_sub {α} (n : Nat) (s : ZipSt α) (k : Nat) (x : Notif α) (j : Nat) :
    Act.sub j ∉ (zipHandler n s k x).2 := by
  fun_cases zipHandler n s k x <;> simp <;> split <;> simp

theorem pop_heads {α} (n : Nat) (q : Nat → List α) (hall : ((List.range n).all fun j => !(q j).isEmpty) = true) :
    ((List.range n).filterMap fun j => (q j).head?).length = n ∧
    ∀ i, i < n → q i = col i [(List.range n).filterMap fun j => (q j).head?] ++ (q i).tail := by
  have hne : ∀ j, j < n → ∃ w, (q j).head? = some w := by
    intro j hj
    have := (List.all_eq_true.mp hall) j (List.mem_range.mpr hj)
    cases hq : q j with
    | nil => simp [hq] at this
    | cons w ws => exact ⟨w, rfl⟩
  have hfm := fm_range (fun j => (q j).head?) n hne
  refine ⟨hfm.1, fun i hi => ?_⟩
  obtain ⟨w, hw⟩ := hne i hi
  cases hq : q i with
  | nil => simp [hq] at hw
  | cons a as => simp [col, hfm.2 i hi, hq]

/-- the queues against the values delivered (`acc`) and sent (`ems`) so far -/
structure ZVal {α} (n : Nat) (acc : List (Nat × Notif α)) (ems : List (Notif (List α))) (s : ZipSt α) : Prop where
  hist : ∀ i, i < n → valsOf acc i = col i (nextVals ems) ++ s.q i
  len : ∀ t, t ∈ nextVals ems → t.length = n
  emp : n = 0 ∨ ∃ i, i < n ∧ s.q i = []

/-- the completion flags against the completions delivered and the terminals sent. `nd` is stated with "nothing terminal went
out" and not with the plumbing's `done`, so that it stays true after `dispose` -/
structure ZComp {α} (n : Nat) (acc : List (Nat × Notif α)) (ems : List (Notif (List α))) (s : ZipSt α) : Prop where
  cmp : ∀ i, i < n → (s.comp i = true ↔ (i, Notif.completed) ∈ acc)
  nd : (∀ x, x ∈ ems → x.isTerminal = false) → ∀ i, i < n → s.comp i = true → s.q i ≠ []
  fin : Notif.completed ∈ ems → ∃ i, i < n ∧ s.comp i = true ∧ s.q i = []

structure ZInv {α} (n : Nat) (acc : List (Nat × Notif α)) (ems : List (Notif (List α))) (s : ZipSt α) : Prop where
  val : ZVal n acc ems s
  comp : ZComp n acc ems s

/-- `zipHandler`'s branches: 1 an element that fills a tuple, 2 one that does not; 3 an error; 4 a completion. -/
theorem zip_handler_val {α} (n : Nat) (acc : List (Nat × Notif α)) (ems : List (Notif (List α))) (s : ZipSt α)
    (k : Nat) (x : Notif α) (h : ZVal n acc ems s) :
    ZVal n (acc ++ [(k, x)]) (ems ++ cut (actEmits (zipHandler n s k x).2)) (zipHandler n s k x).1 := by
  -- a delivered terminal: no value is delivered, none goes out, the queues stay
  have hterm : ∀ (x : Notif α) (acts : List (Act (List α))), valsOf [(k, x)] = (fun _ => []) →
      nextVals (actEmits acts) = [] → ZVal n (acc ++ [(k, x)]) (ems ++ cut (actEmits acts)) s := by
    intro x acts hx ha
    have hnv : nextVals (ems ++ cut (actEmits acts)) = nextVals ems := by
      rw [nextVals_append, nextVals_cut_nil _ ha, List.append_nil]
    exact ⟨fun i hi => by rw [valsOf_append, hx, List.append_nil, hnv]; exact h.hist i hi, by rw [hnv]; exact h.len, h.emp⟩
  have hD : ∀ v i, i < n → valsOf (acc ++ [(k, Notif.next v)]) i
      = col i (nextVals ems) ++ upd s.q k (s.q k ++ [v]) i := by
    intro v i hi
    rw [valsOf_append, valsOf_cons_next, h.hist i hi]
    simp only [upd, valsOf_nil, List.append_nil]
    by_cases hik : i = k
    · subst hik; simp
    · have : ¬ k = i := fun h => hik h.symm
      simp [hik, this]
  fun_cases zipHandler n s k x
  case case3 er =>
    exact hterm _ _ (funext fun i => valsOf_cons_error ..) rfl
  case case4 =>
    have h' := hterm .completed (if (s.q k).isEmpty then [Act.emit .completed] else [])
      (funext fun i => valsOf_cons_completed ..) (by split <;> rfl)
    exact ⟨h'.hist, h'.len, h'.emp⟩
  case case2 v q1 hall =>
    simp only [actEmits, cut, List.append_nil]
    refine ⟨hD v, h.len, h.emp.imp id fun _ => ?_⟩
    obtain ⟨j, hjm, hjq⟩ := List.all_eq_false.mp (Bool.eq_false_iff.mpr hall)
    refine ⟨j, List.mem_range.mp hjm, ?_⟩
    cases hq : q1 j with
    | nil => exact hq
    | cons a as => simp [hq] at hjq
  case case1 v q1 hall tup q2 fin =>
    obtain ⟨htl, hpop⟩ := pop_heads n q1 hall
    have hnv : nextVals (ems ++ cut (actEmits (Act.emit (Notif.next tup) :: if fin = true then [Act.emit .completed] else [])))
        = nextVals ems ++ [tup] := by
      rw [nextVals_append]; split <;> simp [actEmits, cut, nextVals, Notif.isTerminal]
    refine ⟨fun i hi => ?_, fun t ht => ?_, h.emp.imp id fun ⟨i0, hi0, hq0⟩ => ?_⟩
    · rw [hnv, hD v i hi, col_append, List.append_assoc]; exact congrArg _ (hpop i hi)
    · rw [hnv] at ht
      rcases List.mem_append.mp ht with ht | ht
      · exact h.len t ht
      · simp at ht; subst ht; exact htl
    · -- the queue of k had to be empty before: it is empty again
      have := (List.all_eq_true.mp hall) i0 (List.mem_range.mpr hi0)
      by_cases hik : i0 = k
      · subst hik; exact ⟨i0, hi0, by simp [q2, q1, upd, hq0]⟩
      · simp [q1, upd, hik, hq0] at this

theorem zip_handler_comp {α} (n : Nat) (acc : List (Nat × Notif α)) (ems : List (Notif (List α))) (s : ZipSt α)
    (k : Nat) (x : Notif α) (hkn : k < n) (hnt : ∀ y, y ∈ ems → y.isTerminal = false) (h : ZComp n acc ems s) :
    ZComp n (acc ++ [(k, x)]) (ems ++ cut (actEmits (zipHandler n s k x).2)) (zipHandler n s k x).1 := by
  have hnc : Notif.completed ∉ ems := fun hc => by have := hnt _ hc; cases this
  have hX := h.nd hnt
  -- once a terminal goes out, the clause about "nothing terminal went out" has nothing left to say
  have hterm : ∀ (l : List (Notif (List α))) (y : Notif (List α)), y ∈ l → y.isTerminal = true →
      ¬ (∀ z, z ∈ ems ++ l → z.isTerminal = false) := fun l y hy hyt hz => by
    rw [hz y (List.mem_append_right _ hy)] at hyt; cases hyt
  have hcmp : ∀ v i, i < n → (s.comp i = true ↔ (i, Notif.completed) ∈ acc ++ [(k, Notif.next v)]) := by
    intro v i hi; rw [h.cmp i hi]; simp
  fun_cases zipHandler n s k x
  case case3 er =>
    simp only [show cut (actEmits [Act.emit (Notif.error (α := List α) er)]) = [.error er] from rfl]
    refine ⟨fun i hi => by rw [h.cmp i hi]; simp, fun hz => absurd hz (hterm _ (.error er) (by simp) rfl), fun hc' => ?_⟩
    simp at hc'; exact absurd hc' hnc
  case case4 =>
    have hdone : ∀ i, i < n → (upd s.comp k true i = true ↔ (i, Notif.completed) ∈ acc ++ [(k, Notif.completed)]) := by
      intro i hi
      simp only [upd, List.mem_append, List.mem_singleton, Prod.mk.injEq, and_true]
      by_cases hik : i = k
      · simp [hik]
      · simpa [hik] using h.cmp i hi
    by_cases hq : (s.q k).isEmpty = true
    · rw [if_pos hq]
      simp only [show cut (actEmits [Act.emit (Notif.completed (α := List α))]) = [.completed] from rfl]
      exact ⟨hdone, fun hz => absurd hz (hterm _ .completed (by simp) rfl),
        fun _ => ⟨k, hkn, by simp [upd], by simpa using hq⟩⟩
    · rw [if_neg hq]
      simp only [actEmits, cut, List.append_nil]
      refine ⟨hdone, fun _ i hi hci => ?_, fun hc => absurd hc hnc⟩
      by_cases hik : i = k
      · subst hik; intro h0; exact hq (by rw [show s.q i = [] from h0]; rfl)
      · simp only [upd, hik, if_false] at hci; exact hX i hi hci
  case case2 v q1 hall =>
    simp only [actEmits, cut, List.append_nil]
    refine ⟨hcmp v, fun _ i hi hci => ?_, fun hc => absurd hc hnc⟩
    have := hX i hi hci
    by_cases hik : i = k
    · subst hik; simp [q1, upd]
    · simpa [q1, upd, hik] using this
  case case1 v q1 hall tup q2 fin => -- a tuple goes out, and `completed` after it iff a completed source's queue ran empty
    by_cases hfin : fin = true
    · rw [if_pos hfin]
      simp only [actEmits, cut, Notif.isTerminal, Bool.false_eq_true, if_false, if_true]
      refine ⟨hcmp v, fun hz => absurd hz (hterm _ .completed (by simp) rfl), fun _ => ?_⟩
      obtain ⟨j, hj, hjc⟩ := List.any_eq_true.mp hfin
      simp only [Bool.and_eq_true] at hjc
      exact ⟨j, List.mem_range.mp hj, hjc.1, by simpa using hjc.2⟩
    · rw [if_neg hfin]
      simp only [actEmits, cut, Notif.isTerminal, Bool.false_eq_true, if_false]
      refine ⟨hcmp v, fun _ i hi hci h0 => ?_, fun hc => ?_⟩
      · have hci' : s.comp i = true := hci
        have h0' : q2 i = [] := h0
        exact hfin (List.any_eq_true.mpr ⟨i, List.mem_range.mpr hi, by simp [hci', h0']⟩)
      · simp at hc; exact absurd hc hnc
theorem zip_init_inv {α} (n : Nat) : ZInv (α := α) n [] [] {} := by
  refine ⟨⟨fun i _ => rfl, ?_, ?_⟩, ⟨fun i _ => ⟨?_, ?_⟩, ?_, ?_⟩⟩
  · intro t ht; cases ht
  · cases n with
    | zero => exact Or.inl rfl
    | succ n => exact Or.inr ⟨0, Nat.succ_pos n, rfl⟩
  · intro hc; cases hc
  · intro hc; cases hc
  · intro _ i _ hc; cases hc
  · intro hc; cases hc

theorem zip_run_inv {α} (n : Nat) (es : List (Ev α)) :
    ZInv n (accepted (zipM n) (zipInit n) es) (emits (run (zipM n) (zipInit n) es)) (final (zipM n) (zipInit n) es).s ∧
    ((final (zipM n) (zipInit n) es).p.done = false →
      ∀ x, x ∈ emits (run (zipM (α := α) n) (zipInit n) es) → x.isTerminal = false) := by
  -- nothing is ever subscribed, so the live ids stay below `n`
  have hI : ∀ (st : St (ZipSt α)) e, (st.p.WF ∧ ∀ k, k ∈ st.p.live → k < n) →
      (step (zipM n) st e).1.p.WF ∧ ∀ k, k ∈ (step (zipM n) st e).1.p.live → k < n :=
    fun st e h => ⟨step_WF _ st e h.1, fun k hk =>
      (mem_liveFold _ k _ ((live_step_sublist _ st e h.1).subset hk)).elim (h.2 k) fun hs => absurd hs
        (fired_cases _ st e (Q := fun r _ => Act.sub k ∉ r.2) nofun (fun j x _ => zip_no_sub n st.s j x k) nofun)⟩
  have := run_obs (zipM (α := α) n) (fun st => st.p.WF ∧ ∀ k, k ∈ st.p.live → k < n) hI
    (Q := fun s acc ems _ => ZInv n acc ems s) (fun st acc ems _ k x hlt hk hnt h =>
      ⟨zip_handler_val n acc ems st.s k x h.val, zip_handler_comp n acc ems st.s k x (hlt.2 k hk) hnt h.comp⟩)
    (fun st acc ems _ _ h => by
      have : (if st.p.done = true then [] else cut (actEmits ((zipM (α := α) n).tick st.s st.p.done).2)) = [] := by
        split <;> rfl
      rw [this, List.append_nil]; exact h) es (zipInit n) [] [] []
    (WF_of_not_done _ rfl) ⟨WF_of_not_done _ rfl, by intro k hk; simpa [zipInit, startAll] using hk⟩ (fun _ _ hx => by cases hx)
    (zip_init_inv n)
  simpa using this

theorem col_get {α} (i : Nat) (outs : List (List α)) (h : ∀ t, t ∈ outs → i < t.length) :
    (col i outs).length = outs.length ∧ ∀ k : Nat, (col i outs)[k]? = (outs[k]?).bind (fun (t : List α) => t[i]?) := by
  induction outs with
  | nil => simp [col]
  | cons t ts ih =>
    have ht := h t (List.mem_cons_self ..)
    have ih' := ih (fun t' ht' => h t' (List.mem_cons_of_mem _ ht'))
    have hti : t[i]? = some t[i] := List.getElem?_eq_getElem ht
    have hc : col i (t :: ts) = t[i] :: col i ts := by simp [col, hti]
    rw [hc]
    refine ⟨by simp [ih'.1], ?_⟩
    intro k
    cases k with
    | zero => simp [hti]
    | succ k => simpa using ih'.2 k

theorem zip_columns {α} (n : Nat) (es : List (Ev α)) :
    (∀ t, t ∈ outVals (run (zipM (α := α) n) (zipInit n) es) → t.length = n) ∧
    ∀ i, i < n →
      valsOf (accepted (zipM n) (zipInit n) es) i
        = col i (outVals (run (zipM n) (zipInit n) es)) ++ (final (zipM (α := α) n) (zipInit n) es).s.q i ∧
      (col i (outVals (run (zipM (α := α) n) (zipInit n) es))).length = (outVals (run (zipM (α := α) n) (zipInit n) es)).length ∧
      ∀ k : Nat, (col i (outVals (run (zipM (α := α) n) (zipInit n) es)))[k]?
        = ((outVals (run (zipM (α := α) n) (zipInit n) es))[k]?).bind (fun (t : List α) => t[i]?) := by
  have h := (zip_run_inv (α := α) n es).1.val
  rw [outVals_eq_nextVals]
  exact ⟨h.len, fun i hi => ⟨h.hist i hi, col_get i _ (fun t ht => by rw [h.len t ht]; exact hi)⟩⟩

/-- the sources that lose when `i` notifies first, in the order in which the nested binary ambs dispose them -/
def ambLosers (n i : Nat) : List Nat := (List.range i).reverse ++ (List.range n).filter (fun j => i < j)

theorem ambLosers_nodup (n i : Nat) : (ambLosers n i).Nodup := by
  simp only [ambLosers]
  rw [List.nodup_append]
  have hrev : (List.range i).reverse.Nodup := by
    unfold List.Nodup; rw [List.pairwise_reverse]
    exact (List.nodup_range (n := i)).imp (fun h => Ne.symm h)
  refine ⟨hrev, List.nodup_range.filter _, ?_⟩
  intro a ha b hb
  simp at ha hb
  omega

theorem mem_ambLosers (n i j : Nat) (hi : i < n) : j ∈ ambLosers n i ↔ j < n ∧ j ≠ i := by
  simp [ambLosers]; omega

/-- the live ids are distinct and `< n`, and once a source is chosen it is the only one live -/
structure AInv (n : Nat) (st : St AmbSt) : Prop where
  wf : st.p.WF
  nd : st.p.live.Nodup
  lt : ∀ k, k ∈ st.p.live → k < n
  ch : ∀ w, st.s.choice = some w → ∀ k, k ∈ st.p.live → k = w

theorem amb_choice_step {α} (n : Nat) (st : St AmbSt) (k : Nat) (x : Notif α) (h : AInv n st)
    (hk : k ∈ st.p.live) (hc : st.s.choice = none) :
    (step (ambM (α := α) n) st (.src k x)).2
      = ((ambLosers n k).filter (fun j => st.p.live.contains j)).map Eff.unsub ++ [Eff.emit x]
        ++ (if x.isTerminal then [Eff.unsub k] else []) ∧
    (step (ambM (α := α) n) st (.src k x)).1.s.choice = some k ∧
    (step (ambM (α := α) n) st (.src k x)).1.p.live = (if x.isTerminal then [] else [k]) := by
  have hkn := h.lt k hk
  have hu := folds_unsubs (β := α) (ambLosers n k) st.p.live (ambLosers_nodup n k) h.nd
  have hacts : (ambHandler (α := α) n st.s k x).2 = (ambLosers n k).map Act.unsub ++ [Act.emit x] := by
    simp [ambHandler, hc, ambLosers]
  have hs : (ambHandler (α := α) n st.s k x).1.choice = some k := by simp [ambHandler, hc]
  -- after the removals exactly k is in the container
  have hlive1 : liveFold (β := α) st.p.live ((ambLosers n k).map Act.unsub) = [k] := by
    have hmem := hu.2.2
    have hnd1 := hu.2.1
    have hk1 : k ∈ liveFold (β := α) st.p.live ((ambLosers n k).map Act.unsub) :=
      (hmem k).mpr ⟨hk, fun hh => ((mem_ambLosers n k k hkn).mp hh).2 rfl⟩
    have hall : ∀ j, j ∈ liveFold (β := α) st.p.live ((ambLosers n k).map Act.unsub) → j = k := by
      intro j hj
      have := (hmem j).mp hj
      by_cases hjk : j = k
      · exact hjk
      · exact absurd ((mem_ambLosers n k j hkn).mpr ⟨h.lt j this.1, hjk⟩) this.2
    generalize liveFold (β := α) st.p.live ((ambLosers n k).map Act.unsub) = l at hk1 hall hnd1
    match l, hk1, hall, hnd1 with
    | [a], hk1, hall, _ => simp [hall a (by simp)]
    | a :: b :: r, _, hall, hnd1 =>
      have ha := hall a (by simp); have hb := hall b (by simp)
      subst ha; subst hb; simp at hnd1
  -- the losers are removed, then the notification and the source's own unsubscribe meet the container `[k]`
  rw [step_src_live (ambM (α := α) n) st k x h.wf hk,
    show ((ambM (α := α) n).handler st.s k x) = ambHandler n st.s k x from rfl, hacts, List.append_assoc,
    openEffs_append _ _ _ (by rw [actEmits_map_unsub]; rfl), liveFold_append, hu.1, hlive1, actEmits_append,
    actEmits_map_unsub]
  refine ⟨?_, hs, ?_⟩ <;> cases ht : x.isTerminal <;> simp [ht, actEmits, C02Comb.lateEffs]

theorem amb_step_inv {α} (n : Nat) (st : St AmbSt) (e : Ev α) (h : AInv n st) :
    AInv n (step (ambM (α := α) n) st e).1 := by
  refine step_inv_static (ambM (α := α) n) (fun _ _ => rfl) st e h (fun k x hk => ?_)
    ⟨fun _ => rfl, List.nodup_nil, fun _ hk => (by cases hk), fun _ _ _ hk => (by cases hk)⟩
  have hwf := step_WF (ambM (α := α) n) st (.src k x) h.wf
  cases hc : st.s.choice with
  | none =>
    have hcs := amb_choice_step n st k x h hk hc
    refine ⟨hwf, ?_, ?_, ?_⟩
    · rw [hcs.2.2]; split <;> simp
    · rw [hcs.2.2]; split
      · simp
      · intro j hj; simp at hj; subst hj; exact h.lt _ hk
    · intro w hw j hj
      rw [hcs.2.1] at hw; cases hw
      rw [hcs.2.2] at hj; split at hj <;> simp at hj; exact hj
  | some w =>
    -- the choice notifies: it is forwarded, and a terminal closes everything
    have hkw : k = w := h.ch w hc k hk
    subst hkw
    have hst : (step (ambM (α := α) n) st (.src k x)).1.s = st.s := by
      rw [step_src_state _ _ _ _ hk]; simp [ambM, ambHandler, hc]
    have hl : (step (ambM (α := α) n) st (.src k x)).1.p.live = [] ∨
        (step (ambM (α := α) n) st (.src k x)).1.p.live = st.p.live := by
      rw [step_src_emits _ st k x h.wf hk [x] (by simp [ambM, ambHandler, hc])]
      cases hx : x.isTerminal <;> simp [hx]
    rcases hl with hl | hl
    · exact ⟨hwf, by rw [hl]; exact List.nodup_nil, by rw [hl]; exact nofun, by rw [hl]; exact fun _ _ _ hj => nomatch hj⟩
    · exact ⟨hwf, by rw [hl]; exact h.nd, by rw [hl]; exact h.lt, by rw [hl, hst]; exact h.ch⟩

theorem amb_init_inv (n : Nat) : AInv n (ambInit n) := by
  refine ⟨by intro h; simp [ambInit] at h, ?_, ?_, by simp [ambInit]⟩
  · simp only [ambInit]
    unfold List.Nodup; rw [List.pairwise_reverse]
    exact (List.nodup_range (n := n)).imp (fun h => Ne.symm h)
  · intro k hk; simpa [ambInit] using hk

theorem amb2_init_inv : AInv 2 amb2Init := by
  refine ⟨by intro h; simp [amb2Init, startAll] at h, by simpa [amb2Init, startAll] using List.nodup_range (n := 2), ?_, by simp [amb2Init, startAll]⟩
  intro k hk; simpa [amb2Init, startAll] using hk

theorem amb_handler_mirror {α} (n : Nat) (s : AmbSt) (k : Nat) (x : Notif α) (hw : ∀ w, s.choice = some w → k = w) :
    cut (actEmits (ambHandler n s k x).2) = [x] ∧ (ambHandler n s k x).1.choice = some k := by
  fun_cases ambHandler n s k x   -- 1 no choice yet, 2 the choice notifies, 3 another source
  case case1 =>
    exact ⟨by rw [actEmits_append, actEmits_map_unsub]; exact cut_singleton x, rfl⟩
  case case2 hc => exact ⟨cut_singleton x, hc⟩
  case case3 w hc hwk => exact absurd (hw w hc).symm hwk

theorem amb_mirrors {α} (n : Nat) (es : List (Ev α)) (st : St AmbSt) (h : AInv n st) :
    emits (run (ambM (α := α) n) st es) = (accepted (ambM (α := α) n) st es).map (·.2) ∧
    ∃ w, ∀ kn, kn ∈ accepted (ambM (α := α) n) st es → kn.1 = w := by
  have hh := (run_obs (ambM (α := α) n) (AInv n) (amb_step_inv n)
    (Q := fun s acc ems _ => ems = acc.map (·.2) ∧ ∀ kn, kn ∈ acc → s.choice = some kn.1)
    (fun st' acc ems _ k x hI hk _ ⟨ho, hs⟩ => ?_) (fun _ _ _ _ _ hq => by simpa [ambM, actEmits, actSubs, cut] using hq)
    es st [] [] [] h.wf h (fun _ _ hx => nomatch hx) ⟨rfl, nofun⟩).1
  · simp only [List.nil_append] at hh
    refine ⟨hh.1, ?_⟩
    cases hc : (final (ambM (α := α) n) st es).s.choice with
    | none => exact ⟨0, fun kn hkn => by have := hh.2 kn hkn; rw [hc] at this; cases this⟩
    | some w => exact ⟨w, fun kn hkn => by have := hh.2 kn hkn; rw [hc] at this; exact (Option.some.inj this).symm⟩
  · -- a live source is the choice, if there is one
    have hw : ∀ w, st'.s.choice = some w → k = w := fun w hw => hI.ch w hw k hk
    obtain ⟨h1, h2⟩ := amb_handler_mirror n st'.s k x hw
    refine ⟨by rw [show (ambM (α := α) n).handler = ambHandler n from rfl, h1, ho, List.map_append]; rfl, fun kn hkn => ?_⟩
    rcases List.mem_append.mp hkn with hkn | hkn
    · rw [← hw _ (hs kn hkn)]; exact h2
    · rw [List.mem_singleton.mp hkn]; exact h2

/-- the rule: remember the latest element of every source; an element goes out as the tuple of latest values as
soon as every source has one -/
def clStep {α} (vals : Nat → Option α) : Nat × Notif α → Nat → Option α
  | (i, .next x) => upd vals i (some x)
  | _ => vals

def clOut {α} (n : Nat) (vals : Nat → Option α) : Nat × Notif α → List (List α)
  | (i, .next x) =>
    if (List.range n).all (fun j => (upd vals i (some x) j).isSome) then
      [(List.range n).filterMap (upd vals i (some x))] else []
  | _ => []

/-- the flags `has_value`, `has_value_all` say what `values` says -/
structure ClOk {α} (n : Nat) (s : ClSt α) : Prop where
  has : ∀ j, s.has j = (s.vals j).isSome
  all : s.hasAll = (List.range n).all s.has

structure ClInv {α} (n : Nat) (st : St (ClSt α)) : Prop where
  wf : st.p.WF
  has : ∀ j, st.s.has j = (st.s.vals j).isSome
  all : st.s.hasAll = (List.range n).all st.s.has

theorem ClInv.ok {α} {n : Nat} {st : St (ClSt α)} (h : ClInv n st) : ClOk n st.s := ⟨h.has, h.all⟩

theorem cl_no_sub {α} (n : Nat) (s : ClSt α) (k : Nat) (x : Notif α) (j : Nat) :
    Act.sub j ∉ (clHandler n s k x).2 := by
  fun_cases clHandler n s k x <;> simp <;> split <;> simp

theorem clHandler_next_state {α} (n : Nat) (s : ClSt α) (k : Nat) (v : α) :
    (clHandler n s k (.next v)).1 =
      ⟨upd s.has k true, s.hasAll || (List.range n).all (upd s.has k true), s.isDone, upd s.vals k (some v)⟩ := by
  simp only [clHandler]; split <;> (try split) <;> rfl

theorem cl_hasAll_upd {α} (n : Nat) (s : ClSt α) (k : Nat) (h : ClOk n s) :
    (s.hasAll || (List.range n).all (upd s.has k true)) = (List.range n).all (upd s.has k true) := by
  cases hh : s.hasAll
  · rfl
  · have hall : (List.range n).all s.has = true := by rw [← h.all, hh]
    rw [List.all_eq_true] at hall
    rw [Bool.true_or, eq_comm, List.all_eq_true]
    intro j hj
    simp only [upd]; split
    · rfl
    · exact hall j hj

theorem cl_handler_inv {α} (n : Nat) (s : ClSt α) (k : Nat) (x : Notif α) (h : ClOk n s) :
    ClOk n (clHandler n s k x).1 := by
  cases x with
  | error er => exact h
  | completed => exact ⟨h.has, h.all⟩
  | next v =>
    rw [clHandler_next_state]
    refine ⟨fun j => ?_, ?_⟩
    · simp only [upd]; split <;> simp [h.has j]
    · exact cl_hasAll_upd n s k h

theorem cl_handler_out {α} (n : Nat) (s : ClSt α) (k : Nat) (x : Notif α) (h : ClOk n s) :
    nextVals (cut (actEmits (clHandler n s k x).2)) = clOut n s.vals (k, x) ∧
    (clHandler n s k x).1.vals = clStep s.vals (k, x) := by
  cases x with
  | error er => exact ⟨rfl, rfl⟩
  | completed =>
    simp only [clHandler, clOut, clStep]
    split <;> simp [actEmits, cut, nextVals, Notif.isTerminal]
  | next v =>
    refine ⟨?_, by rw [clHandler_next_state]; rfl⟩
    -- the operator's `has_value_all` flag says that every source has a latest value
    have hall : (s.hasAll || (List.range n).all (upd s.has k true))
        = (List.range n).all (fun j => (upd s.vals k (some v) j).isSome) := by
      have e1 : (List.range n).all (upd s.has k true)
          = (List.range n).all (fun j => (upd s.vals k (some v) j).isSome) :=
        congrArg (fun f => (List.range n).all f)
          (funext fun j => by simp only [upd]; split <;> simp [h.has j])
      rw [← e1, cl_hasAll_upd n s k h]
    simp only [clHandler, clOut, hall]
    split
    · simp [actEmits, cut, nextVals, Notif.isTerminal]
    · split <;> simp [actEmits, cut, nextVals, Notif.isTerminal]

theorem cl_step_inv {α} (n : Nat) (st : St (ClSt α)) (e : Ev α) (h : ClInv n st) :
    ClInv n (step (clM n) st e).1 :=
  have ok := step_obs_static (clM n) (fun _ _ => rfl) st e h.wf (Q := fun s' _ _ _ => ClOk n s') h.ok
    (fun k x _ => cl_handler_inv n st.s k x h.ok)
  ⟨step_WF (clM n) st e h.wf, ok.has, ok.all⟩

theorem cl_step_out {α} (n : Nat) (st : St (ClSt α)) (e : Ev α) (h : ClInv n st) :
    outVals (step (clM n) st e).2 = specRun clStep (clOut n) st.s.vals (accOne st e) ∧
    (step (clM n) st e).1.s.vals = (accOne st e).foldl clStep st.s.vals := by
  rw [outVals_eq_nextVals]
  exact step_obs_static (clM n) (fun _ _ => rfl) st e h.wf
    (Q := fun s' acc ems _ => nextVals ems = specRun clStep (clOut n) st.s.vals acc ∧ s'.vals = acc.foldl clStep st.s.vals)
    ⟨rfl, rfl⟩ (fun k x _ => by simp only [specRun, List.append_nil]; exact cl_handler_out n st.s k x h.ok)

theorem clRefines {α} (n : Nat) : Refines (clM (α := α) n) nextVals (ClInv n) (·.vals) clStep (clOut n) where
  step := cl_step_inv n
  handler := fun st k x h _ => cl_handler_out n st.s k x h.ok
  tick := fun _ _ => ⟨rfl, rfl⟩

/-- `combine_latest()` without sources raises ValueError: n ≥ 1 -/
theorem cl_init_inv {α} (n : Nat) (hn : 0 < n) : ClInv (α := α) n (clInit n) := by
  refine ⟨WF_of_not_done _ rfl, fun j => rfl, ?_⟩
  show false = _
  symm
  rw [List.all_eq_false]
  exact ⟨0, List.mem_range.mpr hn, nofun⟩

theorem cl_spec_silent {α} (n i : Nat) (hi : i < n) (acc : List (Nat × Notif α)) : ∀ vals : Nat → Option α,
    vals i = none → valsOf acc i = [] → specRun clStep (clOut n) vals acc = [] := by
  induction acc with
  | nil => intro _ _ _; rfl
  | cons a r ih =>
    intro vals hv hacc
    obtain ⟨k, x⟩ := a
    cases x with
    | next v =>
      rw [valsOf_cons_next] at hacc
      have hki : k ≠ i := by
        intro hk; simp [hk] at hacc
      have hv' : upd vals k (some v) i = none := by simp [upd, Ne.symm hki, hv]
      have hacc' : valsOf r i = [] := by simpa [hki] using hacc
      have hout : clOut n vals (k, Notif.next v) = [] := by
        simp only [clOut]
        split
        · rename_i hall
          have := (List.all_eq_true.mp hall) i (List.mem_range.mpr hi)
          rw [hv'] at this; cases this
        · rfl
      simp only [specRun, hout, List.nil_append, clStep]
      exact ih _ hv' hacc'
    | error er =>
      rw [valsOf_cons_error] at hacc
      simpa [specRun, clOut, clStep] using ih vals hv hacc
    | completed =>
      rw [valsOf_cons_completed] at hacc
      simpa [specRun, clOut, clStep] using ih vals hv hacc

def wlfStep {α} (vals : Nat → Option α) : Nat × Notif α → Nat → Option α
  | (i, .next x) => if i = 0 then vals else upd vals i (some x)
  | _ => vals

/-- only an element of the primary source (id 0) produces an output, and only when every other source has a value -/
def wlfOut {α} (m : Nat) (vals : Nat → Option α) : Nat × Notif α → List (List α)
  | (i, .next x) =>
    if i = 0 ∧ (List.range m).all (fun j => (vals (j + 1)).isSome) then
      [x :: (List.range m).filterMap (fun j => vals (j + 1))] else []
  | _ => []

theorem wlf_handler_out {α} (m : Nat) (s : WlfSt α) (k : Nat) (x : Notif α) :
    nextVals (cut (actEmits (wlfHandler m s k x).2)) = wlfOut m s.vals (k, x) ∧
    (wlfHandler m s k x).1.vals = wlfStep s.vals (k, x) := by
  fun_cases wlfHandler m s k x <;> simp [wlfOut, wlfStep, actEmits, cut, nextVals, Notif.isTerminal, *]

theorem wlfRefines {α} (m : Nat) : Refines (wlfM (α := α) m) nextVals (fun _ => True) (·.vals) wlfStep (wlfOut m) where
  step := fun _ _ _ => trivial
  handler := fun st k x _ _ => wlf_handler_out m st.s k x
  tick := fun _ _ => ⟨rfl, rfl⟩

theorem wlf_spec_heads {α} (m : Nat) (acc : List (Nat × Notif α)) : ∀ vals : Nat → Option α,
    ((specRun wlfStep (wlfOut m) vals acc).filterMap List.head?).Sublist (valsOf acc 0) := by
  induction acc with
  | nil => intro _; simp [specRun, valsOf]
  | cons a r ih =>
    intro vals
    obtain ⟨k, x⟩ := a
    cases x with
    | error er => rw [valsOf_cons_error]; simpa [specRun, wlfOut, wlfStep] using ih vals
    | completed => rw [valsOf_cons_completed]; simpa [specRun, wlfOut, wlfStep] using ih vals
    | next v =>
      rw [valsOf_cons_next]
      simp only [specRun, List.filterMap_append]
      by_cases hk0 : k = 0
      · simp only [wlfOut, hk0, true_and, wlfStep, if_true]
        split
        · simpa using (ih vals).cons_cons v
        · simpa using (ih vals).cons v
      · simpa [wlfOut, hk0, wlfStep] using ih (upd vals k (some v))

/-- the reference: latest values, which sources are finished, whether the result is finished — no plumbing -/
structure WRef (α : Type) where
  vals : Nat → Option α := fun _ => none
  dead : Nat → Bool := fun _ => false
  fin : Bool := false

/-- a notification of a source that is still running, while the result is still running -/
def wlfRefLive {α} (m : Nat) (r : WRef α) (k : Nat) : Notif α → WRef α × List (Notif (List α))
  | .next x =>
    if k = 0 then
      (r, if (List.range m).all (fun j => (r.vals (j + 1)).isSome) then
            [.next (x :: (List.range m).filterMap (fun j => r.vals (j + 1)))] else [])
    else ({ r with vals := upd r.vals k (some x) }, [])
  | .error e => ({ r with fin := true }, [.error e])
  | .completed =>
    if k = 0 then ({ r with fin := true }, [.completed]) else ({ r with dead := upd r.dead k true }, [])

def wlfRefStep {α} (m : Nat) (r : WRef α) : Ev α → WRef α × List (Notif (List α))
  | .tick => (r, [])
  | .dispose => ({ r with fin := true }, [])
  | .src k n =>
    if r.fin || r.dead k || decide (m < k) then (r, [])      -- result finished / that source finished / not a source
    else wlfRefLive m r k n

def wlfRefRun {α} (m : Nat) : WRef α → List (Ev α) → List (Notif (List α))
  | _, [] => []
  | r, e :: es => (wlfRefStep m r e).2 ++ wlfRefRun m (wlfRefStep m r e).1 es

/-- the reference against the machine: same latest values, finished = stopped, and (while running) the live ids are
the sources `≤ m` that are not finished -/
structure WSim {α} (m : Nat) (r : WRef α) (st : St (WlfSt α)) : Prop where
  wf : st.p.WF
  nd : st.p.live.Nodup
  vals : st.s.vals = r.vals
  fin : st.p.done = r.fin
  live : r.fin = false → ∀ k, (k ∈ st.p.live ↔ (k ≤ m ∧ r.dead k = false))

theorem wlf_handler_ref {α} (m : Nat) (s : WlfSt α) (r : WRef α) (k : Nat) (n : Notif α) (hv : s.vals = r.vals) :
    (wlfHandler m s k n).2 = (wlfRefLive m r k n).2.map Act.emit ∧ cut (wlfRefLive m r k n).2 = (wlfRefLive m r k n).2 ∧
    (wlfHandler m s k n).1.vals = (wlfRefLive m r k n).1.vals ∧
    (wlfRefLive m r k n).1.fin = (r.fin || (wlfRefLive m r k n).2.any Notif.isTerminal) ∧
    ((wlfRefLive m r k n).1.fin = false →
      (wlfRefLive m r k n).1.dead = if n.isTerminal then upd r.dead k true else r.dead) := by
  obtain ⟨v⟩ := s
  obtain rfl : v = r.vals := hv
  fun_cases wlfHandler m ⟨r.vals⟩ k n <;> simp [wlfRefLive, cut, Notif.isTerminal, *] <;> split <;> rfl

theorem wlf_ref_step {α} (m : Nat) (r : WRef α) (st : St (WlfSt α)) (e : Ev α) (h : WSim m r st) :
    emits (step (wlfM m) st e).2 = (wlfRefStep m r e).2 ∧ WSim m (wlfRefStep m r e).1 (step (wlfM m) st e).1 := by
  cases e with
  | tick =>
    rw [step_tick_silent _ st rfl]; exact ⟨rfl, h⟩
  | dispose => exact ⟨by rw [step_dispose, emits_map_unsub]; rfl, ⟨fun _ => rfl, List.nodup_nil, h.vals, rfl, nofun⟩⟩
  | src k n =>
    by_cases hk : k ∈ st.p.live
    · have hnd := not_done_of_live h.wf hk
      have hfin : r.fin = false := by rw [← h.fin]; exact hnd
      have hkl := (h.live hfin k).mp hk
      have hstep : wlfRefStep m r (Ev.src k n) = wlfRefLive m r k n := by
        have : (r.fin || r.dead k || decide (m < k)) = false := by simp [hfin, hkl.2]; omega
        simp only [wlfRefStep, this]; rfl
      obtain ⟨hxs, hcut, hvals, hf, hdead⟩ := wlf_handler_ref m st.s r k n h.vals
      have hp := step_src_emits (wlfM m) st k n h.wf hk _ hxs
      rw [hstep]
      refine ⟨?_, ?_⟩
      · rw [emits_step, fired_src _ _ _ _ hk, hnd]
        show cut (actEmits (wlfHandler m st.s k n).2) = _
        rw [hxs, actEmits_map_emit, hcut]
      rw [hfin, Bool.false_or] at hf
      refine ⟨step_WF _ st _ h.wf, ?_, by rw [step_src_state _ _ _ _ hk]; exact hvals, ?_, fun hf' j => ?_⟩
      · rw [hp]; split
        · exact List.nodup_nil
        · split
          · exact h.nd.erase k
          · exact h.nd
      · rw [hp, hf]; cases (wlfRefLive m r k n).2.any Notif.isTerminal <;> rfl
      · have hT := hf.symm.trans hf'
        rw [hp, hT, hdead hf']; simp only [Bool.false_eq_true, if_false]
        split
        · -- a source that completes is closed
          simp only [upd]
          by_cases hjk : j = k
          · subst hjk; simp [h.nd.not_mem_erase]
          · simp only [hjk, if_false]
            rw [List.mem_erase_of_ne hjk]; exact h.live hfin j
        · exact h.live hfin j
    · rw [step_src_not_live _ _ _ _ hk]
      have hno : (wlfRefStep m r (Ev.src k n)) = (r, []) := by
        cases hf : r.fin
        · have : ¬ (k ≤ m ∧ r.dead k = false) := fun hh => hk ((h.live hf k).mpr hh)
          simp only [wlfRefStep]
          have : (r.fin || r.dead k || decide (m < k)) = true := by
            by_cases hkm : k ≤ m
            · have hd : r.dead k = true := by
                cases hd : r.dead k
                · exact absurd ⟨hkm, hd⟩ this
                · rfl
              simp [hd]
            · simp; right; omega
          simp [this]
        · simp [wlfRefStep, hf]
      rw [hno]; exact ⟨rfl, h⟩

theorem wlf_ref_run {α} (m : Nat) (es : List (Ev α)) : ∀ (r : WRef α) (st : St (WlfSt α)), WSim m r st →
    emits (run (wlfM m) st es) = wlfRefRun m r es := by
  induction es with
  | nil => intro _ _ _; rfl
  | cons e es ih =>
    intro r st h
    have hs := wlf_ref_step m r st e h
    rw [run_cons, emits_append, hs.1, ih _ _ hs.2]; rfl

theorem wlf_init_sim {α} (m : Nat) : WSim (α := α) m {} (wlfInit m) := by
  refine ⟨WF_of_not_done _ rfl, by simpa [wlfInit] using List.nodup_range, rfl, rfl, ?_⟩
  intro _ k; simp [wlfInit]; omega

structure FjSpec (α : Type) where
  last : Nat → Option α := fun _ => none
  dn : Nat → Bool := fun _ => false

def fjStep {α} (t : FjSpec α) : Nat × Notif α → FjSpec α
  | (i, .next x) => { t with last := upd t.last i (some x) }
  | (i, .completed) => { t with dn := upd t.dn i true }
  | _ => t

/-- the rule: an error goes out; a completion of a source that never delivered an element completes at once; the completion
that makes all sources complete emits the tuple of last values (if all have one) and completes; nothing else -/
def fjOut {α} (n : Nat) (t : FjSpec α) : Nat × Notif α → List (Notif (List α))
  | (_, .next _) => []
  | (_, .error e) => [.error e]
  | (i, .completed) =>
    if (t.last i).isNone then [.completed]
    else if (List.range n).all (upd t.dn i true) then
      (if (List.range n).all (fun j => (t.last j).isSome) then [.next ((List.range n).filterMap t.last), .completed]
       else [.completed])
    else []

/-- `has_value` says what `values` says -/
structure FjInv {α} (s : FjSt α) : Prop where
  has : ∀ j, s.has j = (s.vals j).isSome

def fjAbs {α} (s : FjSt α) : FjSpec α := { last := s.vals, dn := s.isDone }

theorem fjHandler_completed_state {α} (n : Nat) (s : FjSt α) (k : Nat) :
    (fjHandler n s k .completed).1 = { s with isDone := upd s.isDone k true } := by
  simp only [fjHandler]; split <;> (try split) <;> (try split) <;> rfl

theorem fj_handler_inv {α} (n : Nat) (s : FjSt α) (k : Nat) (x : Notif α) (h : FjInv s) :
    FjInv (fjHandler n s k x).1 := by
  cases x with
  | next v => exact ⟨fun j => by simp only [fjHandler, upd]; split <;> simp [h.has j]⟩
  | error er => exact h
  | completed => rw [fjHandler_completed_state]; exact ⟨h.has⟩

theorem cut_two {β} (a b : Notif β) (ha : a.isTerminal = false) (hb : b.isTerminal = true) : cut [a, b] = [a, b] := by
  simp [cut, ha, hb]

theorem fj_handler_out {α} (n : Nat) (s : FjSt α) (k : Nat) (x : Notif α) (h : FjInv s) :
    cut (actEmits (fjHandler n s k x).2) = fjOut n (fjAbs s) (k, x) ∧
    fjAbs (fjHandler n s k x).1 = fjStep (fjAbs s) (k, x) := by
  cases x with
  | next v => exact ⟨rfl, rfl⟩
  | error er => exact ⟨rfl, rfl⟩
  | completed =>
    refine ⟨?_, by rw [fjHandler_completed_state]; rfl⟩
    have hhas : (List.range n).all s.has = (List.range n).all (fun j => (s.vals j).isSome) :=
      congrArg (fun f => (List.range n).all f) (funext h.has)
    have hk1 : (!s.has k) = (s.vals k).isNone := by rw [h.has k]; cases s.vals k <;> rfl
    simp only [fjHandler, fjOut, fjAbs, hk1, hhas]
    by_cases hA : (s.vals k).isNone = true
    · simp [hA, actEmits, cut, Notif.isTerminal]
    · simp only [hA, if_false, Bool.false_eq_true]
      by_cases hB : (List.range n).all (upd s.isDone k true) = true
      · simp only [hB, if_true]
        by_cases hC : (List.range n).all (fun j => (s.vals j).isSome) = true
        · simp [hC, actEmits, cut, Notif.isTerminal]
        · simp [hC, actEmits, cut, Notif.isTerminal]
      · simp [hB, actEmits, cut]

theorem fjRefines {α} (n : Nat) : Refines (fjM (α := α) n) id (fun st => FjInv st.s) fjAbs fjStep (fjOut n) where
  step := step_inv_state _ (fj_handler_inv n) (fun _ _ h => h)
  handler := fun st k x h _ => fj_handler_out n st.s k x h
  tick := fun _ _ => ⟨rfl, rfl⟩

theorem fj_fold_last {α} (k : Nat) (acc : List (Nat × Notif α)) : ∀ t : FjSpec α,
    (acc.foldl fjStep t).last k = ((valsOf acc k).getLast?).or (t.last k) := by
  induction acc with
  | nil => intro t; simp [valsOf]
  | cons a r ih =>
    intro t
    obtain ⟨i, x⟩ := a
    cases x with
    | error er => rw [valsOf_cons_error]; simpa [fjStep] using ih t
    | completed => rw [valsOf_cons_completed]; simpa [fjStep] using ih _
    | next v =>
      rw [valsOf_cons_next, List.foldl_cons, ih]
      by_cases hik : i = k
      · subst hik
        simp only [fjStep, upd, if_true]
        cases hr : valsOf r i with
        | nil => simp
        | cons b bs =>
          obtain ⟨z, hz⟩ : ∃ z, (b :: bs).getLast? = some z := ⟨_, List.getLast?_eq_some_getLast (by simp)⟩
          simp [List.getLast?_cons_cons]
          rw [hz]; rfl
      · simp [fjStep, upd, hik, Ne.symm hik]

theorem range'_eq_filter_gt (n k : Nat) : List.range' (k + 1) (n - (k + 1)) = (List.range n).filter (fun j => k < j) := by
  induction n with
  | zero => simp
  | succ n ih =>
    rw [List.range_succ, List.filter_append, ← ih]
    by_cases hk : k < n
    · have : n + 1 - (k + 1) = (n - (k + 1)) + 1 := by omega
      rw [this, List.range'_concat]
      simp [hk]; omega
    · have h1 : n + 1 - (k + 1) = 0 := by omega
      have h2 : n - (k + 1) = 0 := by omega
      simp [h1, h2, hk]

/-- climbing through levels that have not chosen yet: each of them chooses "R" and closes its own source -/
theorem ambUp_none {β} (f : Nat) : ∀ (j : Nat) (ch : Nat → Option Bool), (∀ i, j ≤ i → i < j + f → ch i = none) →
    ambUp (β := β) f j ch
      = (fun i => if j ≤ i ∧ i < j + f then some false else ch i, (List.range' j f).map Act.unsub, true) := by
  induction f with
  | zero => intro j ch _; simp [ambUp]; funext i; simp; omega
  | succ f ih =>
    intro j ch h
    have hj : ch j = none := h j (Nat.le_refl _) (by omega)
    have ih' := ih (j + 1) (upd ch j (some false)) (by
      intro i h1 h2
      have : ¬ i = j := by omega
      simp only [upd, this, if_false]; exact h i (by omega) (by omega))
    simp only [ambUp, hj, ih', List.range'_succ, List.map_cons]
    refine Prod.ext ?_ rfl
    funext i
    simp only [upd]
    by_cases h1 : i = j
    · subst h1; simp
    · simp only [h1, if_false]
      by_cases h2 : j + 1 ≤ i ∧ i < j + 1 + f
      · have : j ≤ i ∧ i < j + (f + 1) := by omega
        simp [h2, this]
      · have : ¬ (j ≤ i ∧ i < j + (f + 1)) := by omega
        simp [h2, this]

/-- climbing through levels that already chose "R": forwarded untouched -/
theorem ambUp_false {β} (f : Nat) : ∀ (j : Nat) (ch : Nat → Option Bool), (∀ i, j ≤ i → i < j + f → ch i = some false) →
    ambUp (β := β) f j ch = (ch, [], true) := by
  induction f with
  | zero => intro j ch _; rfl
  | succ f ih =>
    intro j ch h
    have hj : ch j = some false := h j (Nat.le_refl _) (by omega)
    simp only [ambUp, hj]
    exact ih (j + 1) ch (fun i h1 h2 => h i (by omega) (by omega))

/-- the simulation relation: no level has chosen / the winner's level chose its own source and every level above chose "R" -/
def AmbSim (n : Nat) (s1 : AmbNSt) (s2 : AmbSt) : Prop :=
  match s2.choice with
  | none => ∀ j, s1.ch j = none
  | some w => s1.ch w = some true ∧ ∀ j, w < j → j < n → s1.ch j = some false

theorem amb_handler_sim {α} (n : Nat) (s1 : AmbNSt) (s2 : AmbSt) (k : Nat) (x : Notif α) (hk : k < n)
    (hsim : AmbSim n s1 s2) (hw : ∀ w, s2.choice = some w → k = w) :
    (ambNestedHandler n s1 k x).2 = (ambHandler n s2 k x).2 ∧
    AmbSim n (ambNestedHandler n s1 k x).1 (ambHandler n s2 k x).1 := by
  cases hc : s2.choice with
  | none =>
    simp only [AmbSim, hc] at hsim
    have hup := ambUp_none (β := α) (n - (k + 1)) (k + 1) (upd s1.ch k (some true)) (by
      intro i h1 h2
      have : ¬ i = k := by omega
      simp only [upd, this, if_false]; exact hsim i)
    simp only [ambNestedHandler, hsim k, hup, ambHandler, hc, if_true, range'_eq_filter_gt, List.map_append]
    refine ⟨by simp, ?_⟩
    simp only [AmbSim]
    refine ⟨?_, ?_⟩
    · have : ¬ (k + 1 ≤ k ∧ k < k + 1 + (n - (k + 1))) := by omega
      simp [this, upd]
    · intro j h1 h2
      have : k + 1 ≤ j ∧ j < k + 1 + (n - (k + 1)) := by omega
      simp [this]
  | some w =>
    have hkw := hw w hc
    subst hkw
    simp only [AmbSim, hc] at hsim
    have hup := ambUp_false (β := α) (n - (k + 1)) (k + 1) s1.ch (fun i h1 h2 => hsim.2 i (by omega) (by omega))
    simp only [ambNestedHandler, hsim.1, hup, ambHandler, hc, if_true]
    refine ⟨by simp, ?_⟩
    simp only [AmbSim, hc]; exact hsim

theorem amb_nested_run {α} (n : Nat) (es : List (Ev α)) (st1 : St AmbNSt) (st2 : St AmbSt)
    (hp : st1.p = st2.p) (hsim : AmbSim n st1.s st2.s) (hinv : AInv n st2) :
    run (ambNestedM (α := α) n) st1 es = run (ambM (α := α) n) st2 es :=
  sim_run _ _ (AmbSim n) (AInv n) (amb_step_inv n)
    (fun s1 st2 k x hR h hk => amb_handler_sim n s1 st2.s k x (h.lt k hk) hR (fun w hw => h.ch w hw k hk))
    (fun _ _ _ hR => ⟨rfl, hR⟩) es st1 st2 hp hsim hinv

theorem phased_after_loop {σ ι β} (m : Machine σ ι β) (htick : ∀ s d, m.tick s d = (s, [])) (es : List (Ev ι))
    (s : σ) (p : Plumb) : run (phased m) ⟨⟨s, []⟩, p⟩ es = run m ⟨s, p⟩ es :=
  sim_run (phased m) m (fun ps s => ps = ⟨s, []⟩) (fun _ => True) (fun _ _ _ => trivial)
    (fun _ _ _ _ hR _ _ => by subst hR; exact ⟨rfl, rfl⟩)
    (fun _ _ _ hR => by subst hR; simp [phased, htick]) es _ _ rfl rfl trivial

theorem phased_loop {σ ι β} (m : Machine σ ι β) (s : σ) : ∀ (order live : List Nat),
    run (phased m) ⟨⟨s, order⟩, { done := false, live := live }⟩ (List.replicate order.length (Ev.tick (ι := ι)))
      = order.map Eff.sub ∧
    final (phased m) ⟨⟨s, order⟩, { done := false, live := live }⟩ (List.replicate order.length (Ev.tick (ι := ι)))
      = ⟨⟨s, []⟩, { done := false, live := live ++ order }⟩ := by
  intro order
  induction order with
  | nil => intro live; simp [final]
  | cons k r ih =>
    intro live
    have e1 : step (phased m) ⟨⟨s, k :: r⟩, { done := false, live := live }⟩ (Ev.tick (ι := ι))
        = (⟨⟨s, r⟩, { done := false, live := live ++ [k] }⟩, [Eff.sub k]) := by
      rw [step_open _ _ .tick (by simp) rfl]; simp [phased, actEmits]
    simp only [List.length_cons, List.replicate_succ, run_cons, final, e1, List.map_cons]
    have := ih (live ++ [k])
    refine ⟨by rw [this.1]; rfl, by rw [this.2]; simp⟩

theorem phased_tick_silent {σ ι β} (m : Machine σ ι β) (ps : PhSt σ) (d : Bool) :
    cut (actEmits ((phased m).tick ps d).2) = [] ∧ ((phased m).tick ps d).1.s = ps.s := by
  obtain ⟨s, pend⟩ := ps
  cases pend <;> exact ⟨rfl, rfl⟩

/-- the loop only subscribes; the container it builds is not the machine's own, hence an invariant of the operator state -/
theorem Refines.phased {σ ι β τ γ : Type} {m : Machine σ ι β} {φ : List (Notif β) → List γ} {inv : σ → Prop} {abs : σ → τ}
    {sstep : τ → Nat × Notif ι → τ} {sout : τ → Nat × Notif ι → List γ} (hφ : φ [] = [])
    (R : Refines m φ (fun st => inv st.s) abs sstep sout) :
    Refines (Comb.phased m) φ (fun st => inv st.s.s) (fun ps => abs ps.s) sstep sout where
  step := step_inv_state (Comb.phased m) (inv := fun ps => inv ps.s)
    (fun ps k n h => by
      have : inv (Comb.step m ⟨ps.s, ⟨false, [k]⟩⟩ (.src k n)).1.s := R.step ⟨ps.s, ⟨false, [k]⟩⟩ _ h
      rwa [step_src_state _ _ _ _ (List.mem_singleton.mpr rfl)] at this)
    (fun ps d h => (phased_tick_silent m ps d).2 ▸ h)
  handler := fun st k n h hk => R.handler ⟨st.s.s, st.p⟩ k n h hk
  tick := fun st _ =>
    ⟨by rw [(phased_tick_silent m st.s st.p.done).1, hφ], congrArg abs (phased_tick_silent m st.s st.p.done).2⟩

end Comb
