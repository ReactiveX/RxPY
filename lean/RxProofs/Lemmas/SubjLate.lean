import RxProofs.Lemmas.SubjRuns
/-!
# Inside `subscribe`: nobody can detach the subscriber before `subscribe` returns

While an observer `j` is still inside its own `subscribe` (it has no handle yet) nothing that its callbacks' reactions
(or anybody's) do can stop its AutoDetachObserver or touch its log: the handle is only handed out when `subscribe` returns.
Used for the late AsyncSubject subscriber, who is handed the value *and then* the completion.
-/

namespace Subj
variable {α : Type}

/-- Tasks that cannot concern observer `j` while it has no handle: no top-level emission, no delivery to
/ completion of the subscription of / disposal for `j`. -/
def NotJ (j : Id) : Task α → Prop
  | .emit _ => False
  | .act _ _ => True
  | .deliver i _ => i ≠ j
  | .finish i _ => i ≠ j
  | .sadDispose i => i ≠ j

theorem NotJ.noEmit {j : Id} {t : Task α} (h : NotJ j t) : t.isEmit = false := by
  cases t with
  | emit n => exact h.elim
  | _ => rfl

theorem notJ_reactions (cfg : Cfg) (st : St α) (i j : Id) : ∀ t ∈ reactions cfg st i, NotJ j t := by
  intro t ht
  obtain ⟨a, rfl⟩ := mem_reactions ht
  trivial

theorem Step.notJ {cfg : Cfg} {st st' : St α} {t : Task α} {new : List (Task α)} {b : Bool} (h : Step cfg st t st' new b)
    {j : Id} (ht : NotJ j t) (hw : t.target ≠ some j) : ∀ t' ∈ new, NotJ j t' := by
  have nil : ∀ t' ∈ ([] : List (Task α)), NotJ j t' := nofun
  have own : ∀ {k : Id} {l : List (Task α)}, some k ≠ some j → (∀ t' ∈ l, t'.target = some k ∧ t'.isEmit = false) →
      ∀ t' ∈ l, NotJ j t' := fun hk hl t' h' => by
    obtain ⟨h1, h2⟩ := hl t' h'
    rcases t' with n | ⟨w, a⟩ | ⟨i, n⟩ | ⟨i, h⟩ | i
    · cases h2
    · trivial
    all_goals exact fun e => hk (by rw [← h1, e]; rfl)
  have app : ∀ {a c : List (Task α)}, (∀ t' ∈ a, NotJ j t') → (∀ t' ∈ c, NotJ j t') → ∀ t' ∈ a ++ c, NotJ j t' :=
    fun ha hc t' h' => (List.mem_append.mp h').elim (ha t') (hc t')
  cases h with
  | idle | raise | subRaise | unsub | dispose | deliverRaise | fin | sad => exact nil
  | next _ _ _ he | error _ he | completed _ he => rw [ht.noEmit] at he; cases he
  | subRefused who k => exact app (notJ_reactions _ _ _ _) (own hw (by simp [Task.target, Task.isEmit]))
  | subLive who k new _ _ hn =>
    rcases hn with rfl | ⟨_, v, rfl⟩ <;> exact own hw (by simp [Task.target, Task.isEmit])
  | subLate who k pre _ _ _ hp =>
    rcases hp with rfl | ⟨_, v, rfl⟩ <;> exact own hw (by simp [Task.target, Task.isEmit])
  | deliverNext i v => exact notJ_reactions _ _ _ _
  | deliverTerm i n => exact app (notJ_reactions _ _ _ _) (own hw (by simp [Task.target, Task.isEmit]))

theorem step1_notJ (cfg : Cfg) (j : Id) (st : St α) (t : Task α) (ht : NotJ j t) (hseen : st.seen j = true)
    (hh : st.handle j = false) :
    (step1 cfg st t).1.log j = st.log j ∧ (step1 cfg st t).1.adoStopped j = st.adoStopped j ∧
    (step1 cfg st t).1.handle j = false ∧ (step1 cfg st t).1.seen j = true ∧
    ∀ t' ∈ (step1 cfg st t).2.1, NotJ j t' := by
  by_cases hw : t.target = some j
  · -- `sub j` is not a first `subscribe`, `unsub j` finds no handle; the other tasks for `j` are not `NotJ j`
    rcases t with n | ⟨w, k | k | _⟩ | ⟨k, n⟩ | ⟨k, h⟩ | k <;>
      simp only [Task.target, Option.some.injEq, reduceCtorEq] at hw <;> subst hw
    · rw [step1_unsub, doUnsub_none hh]; exact ⟨rfl, rfl, hh, hseen, nofun⟩
    · rw [step1_sub (doSub_seen cfg w hseen)]; exact ⟨rfl, rfl, hh, hseen, nofun⟩
    all_goals exact absurd rfl ht
  · obtain ⟨f1, f2, f3, f4⟩ := (step1_frame cfg st t).other j hw
    exact ⟨f1, f2, f3.trans hh, f4.trans hseen, (step1_step cfg st t).notJ ht hw⟩

theorem RunsTo.frame {cfg : Cfg} {j : Id} {st st' : St α} {pre : List (Task α)} (h : RunsTo cfg st pre st')
    (hpre : ∀ t ∈ pre, NotJ j t) (hseen : st.seen j = true) (hh : st.handle j = false) :
    st'.log j = st.log j ∧ st'.adoStopped j = st.adoStopped j ∧ st'.handle j = false ∧ st'.seen j = true := by
  induction h with
  | nil => exact ⟨rfl, rfl, hh, hseen⟩
  | @cons st st2 st3 t ts _ _ _ ih1 ih2 =>
    obtain ⟨s1, s2, s3, s4, s5⟩ := step1_notJ cfg j st t (hpre t (by simp)) hseen hh
    obtain ⟨a1, a2, a3, a4⟩ := ih1 s5 s4 s3
    obtain ⟨b1, b2, b3, b4⟩ := ih2 (fun t' ht' => hpre t' (by simp [ht'])) a4 a3
    exact ⟨b1.trans (a1.trans s1), b2.trans (a2.trans s2), b3, b4⟩

end Subj
