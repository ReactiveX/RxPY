import RxModel.WinBuf
/-!
# The schedule a window machine follows (`Mach.sched`): `Mach.run` is the fold over it; it is fair for time-sorted elements.

The cases of `Mach.sched.induct`: no fuel; no event: timer due / not due / none; an event: timer first / event first / no timer.
-/
namespace Win
variable {σ α : Type}

@[simp] theorem Mach.fold_nil (m : Mach σ α) (s : σ) : m.fold s [] = s := rfl

@[simp] theorem Mach.fold_cons (m : Mach σ α) (s : σ) (t : Nat) (e : Ev α) (es : List (Nat × Ev α)) :
    m.fold s ((t, e) :: es) = m.fold (m.step s t e) es := rfl

theorem Mach.fold_append (m : Mach σ α) (s : σ) (l1 l2 : List (Nat × Ev α)) :
    m.fold s (l1 ++ l2) = m.fold (m.fold s l1) l2 := List.foldl_append ..

theorem Mach.run_eq_fold (m : Mach σ α) (horizon fuel : Nat) (s : σ) (evs : List (Nat × Ev α)) :
    m.run horizon fuel s evs = m.fold s (m.sched horizon fuel s evs) := by
  induction fuel, s, evs using Mach.sched.induct m horizon with
  | case1 => rfl
  | case2 fuel s d hp hd ih => simp only [Mach.run, Mach.sched, hp, hd, if_true]; exact ih
  | case3 fuel s d hp hd => simp only [Mach.run, Mach.sched, hp, hd, if_false]; rfl
  | case4 fuel s hp => simp only [Mach.run, Mach.sched, hp]; rfl
  | case5 fuel s t e es d hp hd ih => simp only [Mach.run, Mach.sched, hp, hd, if_true]; exact ih
  | case6 fuel s t e es d hp hd ih => simp only [Mach.run, Mach.sched, hp, hd, if_false]; exact ih
  | case7 fuel s t e es hp ih => simp only [Mach.run, Mach.sched, hp]; exact ih

theorem Mach.run_eq_fold_of (m : Mach σ α) (run : σ → List (Nat × Ev α) → σ) (h0 : ∀ s, run s [] = s)
    (h1 : ∀ s t e es, run s ((t, e) :: es) = run (m.step s t e) es) (s : σ) (evs : List (Nat × Ev α)) :
    run s evs = m.fold s evs := by
  induction evs generalizing s with
  | nil => exact h0 s
  | cons te es ih => rw [h1, ih, fold_cons]

namespace Cnt
/-- the source `on_next` events of a timed list of elements. -/
def nexts (tx : List (Nat × α)) : List (Nat × Ev α) := tx.map fun (t, x) => (t, Ev.src 0 (.next x))
end Cnt

/-- the source elements (with their arrival times) among a list of events. -/
def elemsOf : List (Nat × Ev α) → List (Nat × α)
  | [] => []
  | (t, .src 0 (.next x)) :: L => (t, x) :: elemsOf L
  | _ :: L => elemsOf L

/-- a schedule of source elements and timer firings in which each timer fires at its due time, strictly before every
later element, and an element is processed only when no armed timer is due strictly earlier (the source wins ties). -/
def Fair (m : Mach σ α) : σ → List (Nat × Ev α) → Prop
  | _, [] => True
  | s, (t, e) :: L =>
    (match e with
     | .tick => m.pending s = some t ∧ ∀ p ∈ elemsOf L, t < p.1
     | .src 0 (.next _) => (∀ d, m.pending s = some d → t ≤ d) ∧ ∀ p ∈ elemsOf L, t ≤ p.1
     | _ => False) ∧ Fair m (m.step s t e) L

theorem elemsOf_nexts (tx : List (Nat × α)) : elemsOf (Cnt.nexts tx) = tx := by
  induction tx with
  | nil => rfl
  | cons p tx ih => obtain ⟨t, x⟩ := p; simp only [Cnt.nexts, List.map_cons, elemsOf] at ih ⊢; rw [ih]

theorem elemsOf_cons (te : Nat × Ev α) (L : List (Nat × Ev α)) : elemsOf (te :: L) = elemsOf [te] ++ elemsOf L := by
  obtain ⟨t, e⟩ := te
  cases e with
  | src k n => cases k <;> cases n <;> rfl
  | dispose w => rfl
  | tick => rfl

theorem mem_of_mem_elemsOf {p : Nat × α} : ∀ {L : List (Nat × Ev α)}, p ∈ elemsOf L → (p.1, Ev.src 0 (.next p.2)) ∈ L := by
  intro L
  induction L using elemsOf.induct with
  | case1 => nofun
  | case2 t x L ih =>
    intro h
    rcases List.mem_cons.mp h with rfl | h
    · exact List.mem_cons_self
    · exact List.mem_cons_of_mem _ (ih h)
  | case3 te L hne ih => intro h; rw [elemsOf.eq_3 _ _ hne] at h; exact List.mem_cons_of_mem _ (ih h)

namespace Mach

theorem sched_elems (m : Mach σ α) (horizon fuel : Nat) (s : σ) (evs : List (Nat × Ev α)) :
    ∃ rest, elemsOf evs = elemsOf (m.sched horizon fuel s evs) ++ rest := by
  induction fuel, s, evs using Mach.sched.induct m horizon with
  | case1 s evs => exact ⟨elemsOf evs, rfl⟩
  | case2 fuel s d hp hd ih => simp only [sched, hp, hd, if_true]; exact ih
  | case3 fuel s d hp hd => exact ⟨[], by simp only [sched, hp, hd, if_false]; rfl⟩
  | case4 fuel s hp => exact ⟨[], by simp only [sched, hp]; rfl⟩
  | case5 fuel s t e es d hp hd ih => simp only [sched, hp, hd, if_true]; exact ih
  | case6 fuel s t e es d hp hd ih =>
    obtain ⟨r, h⟩ := ih
    exact ⟨r, by simp only [sched, hp, hd, if_false]; rw [elemsOf_cons, h, elemsOf_cons _ (sched ..), List.append_assoc]⟩
  | case7 fuel s t e es hp ih =>
    obtain ⟨r, h⟩ := ih
    exact ⟨r, by simp only [sched, hp]; rw [elemsOf_cons, h, elemsOf_cons _ (sched ..), List.append_assoc]⟩

/-- the schedule of time-sorted source elements is fair: an element the schedule gets to later is an element of the input left. -/
theorem sched_fair_of (m : Mach σ α) (horizon fuel : Nat) (s : σ) (evs : List (Nat × Ev α))
    (hel : ∀ te ∈ evs, ∃ x, te.2 = Ev.src 0 (.next x)) (hs : evs.Pairwise (fun p q => p.1 ≤ q.1)) :
    Fair m s (m.sched horizon fuel s evs) := by
  have later : ∀ {fuel s' L p}, p ∈ elemsOf (m.sched horizon fuel s' L) → ∃ te ∈ L, te.1 = p.1 := by
    intro fuel s' L p hp
    obtain ⟨r, h⟩ := m.sched_elems horizon fuel s' L
    exact ⟨_, mem_of_mem_elemsOf (h ▸ List.mem_append_left r hp), rfl⟩
  induction fuel, s, evs using Mach.sched.induct m horizon with
  | case1 s evs => trivial
  | case2 fuel s d hp hd ih =>
    simp only [sched, hp, hd, if_true, Fair]
    exact ⟨⟨trivial, fun p hp => by obtain ⟨_, h, -⟩ := later hp; cases h⟩, ih hel hs⟩
  | case3 fuel s d hp hd => simp only [sched, hp, hd, if_false]; trivial
  | case4 fuel s hp => simp only [sched, hp]; trivial
  | case5 fuel s t e es d hp hd ih =>
    simp only [sched, hp, hd, if_true, Fair]
    refine ⟨⟨trivial, fun p hp => ?_⟩, ih hel hs⟩
    obtain ⟨te, h, hte⟩ := later hp
    rcases List.mem_cons.mp h with rfl | h
    · omega
    · have := (List.pairwise_cons.mp hs).1 te h; omega
  | case6 fuel s t e es d hp hd ih =>
    obtain ⟨x, rfl⟩ := hel _ List.mem_cons_self
    simp only [sched, hp, hd, if_false, Fair]
    refine ⟨⟨fun d' hd' => by cases hd'; omega, fun p hp => ?_⟩, ih (fun te h => hel te (List.mem_cons_of_mem _ h)) (List.pairwise_cons.mp hs).2⟩
    obtain ⟨te, h, hte⟩ := later hp
    have := (List.pairwise_cons.mp hs).1 te h; omega
  | case7 fuel s t e es hp ih =>
    obtain ⟨x, rfl⟩ := hel _ List.mem_cons_self
    simp only [sched, hp, Fair]
    refine ⟨⟨nofun, fun p hp => ?_⟩, ih (fun te h => hel te (List.mem_cons_of_mem _ h)) (List.pairwise_cons.mp hs).2⟩
    obtain ⟨te, h, hte⟩ := later hp
    have := (List.pairwise_cons.mp hs).1 te h; omega

theorem sched_fair (m : Mach σ α) (horizon : Nat) :
    ∀ (fuel : Nat) (s : σ) (tx : List (Nat × α)), tx.Pairwise (fun p q => p.1 ≤ q.1) →
      Fair m s (m.sched horizon fuel s (Cnt.nexts tx)) ∧
      ∃ rest, tx = elemsOf (m.sched horizon fuel s (Cnt.nexts tx)) ++ rest := by
  intro fuel s tx hs
  refine ⟨m.sched_fair_of horizon fuel s _ ?_ (List.Pairwise.map _ (fun _ _ h => h) hs), ?_⟩
  · intro te hte
    obtain ⟨p, -, rfl⟩ := List.mem_map.mp hte
    exact ⟨p.2, rfl⟩
  · simpa only [elemsOf_nexts] using m.sched_elems horizon fuel s (Cnt.nexts tx)

end Mach

end Win
