import RxModel.VtsPeriodic
import RxProofs.Lemmas.VtsPQ
import RxProofs.Lemmas.VtsRun
/-! The periodic model (C35, C42).  Everything goes through two analyses: what one call of the `periodic` closure does
(`runTick_eq`, `runTick_rule`) and what one loop iteration can be (`IterIs`). -/
namespace Per
open Vts
variable {σ : Type}

def Iter.st : Iter σ → St σ
  | .exit s => s
  | .next s => s
  | .raised s _ => s
  | .stuck s => s

def Iter.ofTick : St σ × Option Err → Iter σ
  | (s, none) => .next s
  | (s, some e) => .raised s e

theorem Iter.ofTick_st (r : St σ × Option Err) : (Iter.ofTick r).st = r.1 := by
  rcases r with ⟨s, _ | e⟩ <;> rfl

theorem getTask_setTask (s : St σ) (pid pid' : Nat) (t : Task) :
    getTask (setTask s pid t) pid' = if pid' = pid then (getTask s pid').map (fun _ => t) else getTask s pid' := by
  simp only [getTask, setTask]
  induction s.tasks with
  | nil => simp
  | cons p ps ih =>
    simp only [List.map_cons, List.find?_cons]
    by_cases h1 : p.1 = pid
    · subst h1
      by_cases h2 : pid' = p.1
      · subst h2; simp
      · have : (p.1 == pid') = false := by simp; exact fun h => h2 h.symm
        simp [this, h2] at ih ⊢
        exact ih
    · have hb : (p.1 == pid) = false := by simp [h1]
      simp only [hb, Bool.false_eq_true, if_false]
      by_cases h2 : p.1 = pid'
      · subst h2; simp [h1]
      · have : (p.1 == pid') = false := by simp [h2]
        simp only [this]
        exact ih

theorem getTask_append_some (s : St σ) (pid : Nat) (t : Task) (extra : List (Nat × Task)) (h : getTask s pid = some t) :
    getTask { s with tasks := s.tasks ++ extra } pid = some t := by
  simp only [getTask] at h ⊢
  rw [List.find?_append]
  cases hf : s.tasks.find? (fun x => x.1 == pid) with
  | none => rw [hf] at h; simp at h
  | some p => rw [hf] at h; simpa using h

theorem disposeTask_clock (s : St σ) (pid : Nat) : (disposeTask s pid).clock = s.clock := by
  simp only [disposeTask]; split <;> rfl

theorem disposeTask_log (s : St σ) (pid : Nat) : (disposeTask s pid).log = s.log := by
  simp only [disposeTask]; split <;> rfl

theorem disposeTask_hlog (s : St σ) (pid : Nat) : (disposeTask s pid).hlog = s.hlog := by
  simp only [disposeTask]; split <;> rfl

theorem getTask_disposeTask_self (s : St σ) (pid : Nat) (t : Task) (hg : getTask s pid = some t) :
    getTask (disposeTask s pid) pid = some { t with disposed := true } := by
  simp only [disposeTask, hg]
  show getTask (setTask s pid { t with disposed := true }) pid = _
  rw [getTask_setTask, if_pos rfl, hg]; rfl

theorem weight_cancel (T : Int) (pid : Nat) (l : List (Item σ × Int)) :
    weight T (l.map (cancelEntry pid)) = weight T l := by
  simp only [weight, List.map_map]
  congr 1
  apply List.map_congr_left
  intro e _
  simp only [Function.comp, cancelEntry]
  split <;> rfl

theorem disposeTask_weight (T : Int) (s : St σ) (pid : Nat) :
    weight T (disposeTask s pid).queue.items = weight T s.queue.items := by
  simp only [disposeTask]
  split
  · rfl
  · simp only [setTask]; exact weight_cancel T pid _

theorem weight_enqueue (T : Int) (s : St σ) (it : Item σ) :
    weight T (enqueue s it).queue.items = weight T s.queue.items + ((T + 1 - it.due).toNat + 1) := by
  simp [enqueue, PQ.enqueue, weight]

theorem dequeue_weight (T : Int) {q q' : PQ (Item σ)} {x : Item σ} (h : q.dequeue? Item.due = some (x, q')) :
    weight T q.items = ((T + 1 - x.due).toNat + 1) + weight T q'.items :=
  let ⟨_, hs⟩ := PQ.dequeue_sum _ h; hs

/-- the state right after the user's call inside a tick of task `pid` -/
def afterCall (f : Nat → σ → Tick σ) (s : St σ) (pid : Nat) (st : σ) : St σ :=
  let s1 := { s with log := s.log ++ [{ pid, at_ := s.clock, st }], clock := s.clock + (f pid st).sleep }
  if (f pid st).dispose then disposeTask s1 pid else s1

theorem afterCall_log (f : Nat → σ → Tick σ) (s : St σ) (pid : Nat) (st : σ) :
    (afterCall f s pid st).log = s.log ++ [{ pid, at_ := s.clock, st }] := by
  simp only [afterCall]; split
  · rw [disposeTask_log]
  · rfl

theorem afterCall_hlog (f : Nat → σ → Tick σ) (s : St σ) (pid : Nat) (st : σ) :
    (afterCall f s pid st).hlog = s.hlog := by
  simp only [afterCall]; split
  · rw [disposeTask_hlog]
  · rfl

theorem afterCall_weight (T : Int) (f : Nat → σ → Tick σ) (s : St σ) (pid : Nat) (st : σ) :
    weight T (afterCall f s pid st).queue.items = weight T s.queue.items := by
  simp only [afterCall]; split
  · rw [disposeTask_weight]
  · rfl

theorem afterCall_getTask (f : Nat → σ → Tick σ) (s : St σ) (pid : Nat) (st : σ) (t : Task)
    (hg : getTask s pid = some t) : ∃ t2, getTask (afterCall f s pid st) pid = some t2 := by
  simp only [afterCall]; split
  · exact ⟨_, getTask_disposeTask_self _ pid t hg⟩
  · exact ⟨t, hg⟩

/-- `runTick` with the drift term worked out: `time = seconds - (scheduler.now - now)` added to `scheduler.now`
is `now + seconds`, so every reschedule is due one period after the START of the call, whatever it slept. -/
theorem runTick_eq (handler : Err → Bool) (f : Nat → σ → Tick σ) (s : St σ) (pid : Nat) (t : Task) (st : σ) :
    runTick handler f s pid t st =
      if t.disposed then (s, none)
      else if t.catch_ && t.failed then (enqueue s { due := s.clock + t.period, kind := .tick pid st }, none)
      else
        let s2 := afterCall f s pid st
        match (f pid st).next with
        | .ok st' =>
          (enqueue s2 { due := s.clock + t.period, kind := .tick pid st',
                        cancelled := ((getTask s2 pid).map (·.disposed)).getD false }, none)
        | .error e =>
          if t.catch_ then
            let s3 := setTask { s2 with hlog := s2.hlog ++ [e] } pid { ((getTask s2 pid).getD t) with failed := true }
            if handler e then
              (enqueue (disposeTask s3 pid) { due := s.clock + t.period, kind := .tick pid st, cancelled := true }, none)
            else (disposeTask s3 pid, some e)
          else (disposeTask s2 pid, some e) := by
  have hd : ∀ a n p : Int, a + (p - (a - n)) = n + p := by intros; omega
  unfold runTick afterCall
  simp -zeta only [hd]
  rfl

/-- One call of the `periodic` closure, as an invariant rule: `R` has to survive the user's call, a `dispose()`, the
CatchScheduler's record of a failure, and — weakened to `R'` — the one reschedule. -/
theorem runTick_rule {R R' : St σ → Prop} (handler : Err → Bool) (f : Nat → σ → Tick σ) (s : St σ) (pid : Nat) (t : Task)
    (st : σ) (hcall : R s → R (afterCall f s pid st)) (hdisp : ∀ s', R s' → R (disposeTask s' pid))
    (hfail : ∀ s' hl t', R s' → R (setTask { s' with hlog := hl } pid t'))
    (henq : ∀ s' st' c, R s' → R' (enqueue s' { due := s.clock + t.period, kind := .tick pid st', cancelled := c }))
    (hw : ∀ s', R s' → R' s') (h : R s) : R' (runTick handler f s pid t st).1 := by
  rw [runTick_eq]
  by_cases c1 : t.disposed = true
  · rw [if_pos c1]; exact hw _ h
  rw [if_neg c1]
  by_cases c2 : (t.catch_ && t.failed) = true
  · rw [if_pos c2]; exact henq _ _ _ h
  rw [if_neg c2]
  cases (f pid st).next with
  | ok st' => exact henq _ _ _ (hcall h)
  | error e =>
    dsimp only
    by_cases c3 : t.catch_ = true
    · rw [if_pos c3]
      by_cases c4 : handler e = true
      · rw [if_pos c4]; exact henq _ _ _ (hdisp _ (hfail _ _ _ (hcall h)))
      · rw [if_neg c4]; exact hw _ (hdisp _ (hfail _ _ _ (hcall h)))
    · rw [if_neg c3]; exact hw _ (hdisp _ (hcall h))

theorem runTick_weight (handler : Err → Bool) (f : Nat → σ → Tick σ) (T : Int) (s : St σ) (pid : Nat) (t : Task)
    (st : σ) (hp : 1 ≤ t.period) :
    weight T (runTick handler f s pid t st).1.queue.items ≤
      weight T s.queue.items + ((T + 1 - (s.clock + 1)).toNat + 1) :=
  runTick_rule (R := fun s' => weight T s'.queue.items = weight T s.queue.items)
    (R' := fun s' => weight T s'.queue.items ≤ weight T s.queue.items + ((T + 1 - (s.clock + 1)).toNat + 1))
    handler f s pid t st
    (fun h => (afterCall_weight T f s pid st).trans h) (fun s' h => (disposeTask_weight T s' pid).trans h)
    (fun _ _ _ h => h) (fun s' st' c h => by simp only [weight_enqueue, h]; omega)
    (fun s' h => by simp only [h]; omega) rfl

theorem runTick_ok (handler : Err → Bool) (f : Nat → σ → Tick σ) (s : St σ) (pid : Nat) (t : Task) (st st' : σ)
    (hg : getTask s pid = some t) (hl : t.disposed = false) (hcf : (t.catch_ && t.failed) = false)
    (hok : (f pid st).next = .ok st') (hnd : (f pid st).dispose = false) :
    runTick handler f s pid t st =
      (enqueue { s with log := s.log ++ [{ pid, at_ := s.clock, st }], clock := s.clock + (f pid st).sleep }
        { due := s.clock + t.period, kind := .tick pid st', cancelled := false }, none) := by
  have ha : afterCall f s pid st =
      { s with log := s.log ++ [{ pid, at_ := s.clock, st }], clock := s.clock + (f pid st).sleep } := by
    simp only [afterCall, hnd, Bool.false_eq_true, if_false]
  have hg' : getTask { s with log := s.log ++ [{ pid, at_ := s.clock, st }], clock := s.clock + (f pid st).sleep } pid
      = some t := hg
  rw [runTick_eq]
  simp only [hl, hcf, hok, ha, hg', Bool.false_eq_true, if_false, Option.map_some, Option.getD_some]

theorem iter_tick (handler : Err → Bool) (f : Nat → σ → Tick σ) (T : Int) (s : St σ) (x : Item σ) (q' : PQ (Item σ))
    (pid : Nat) (st : σ) (t : Task)
    (hen : s.enabled = true) (hd : s.queue.dequeue? Item.due = some (x, q')) (hdue : x.due ≤ T)
    (hc : x.cancelled = false) (hk : x.kind = .tick pid st) (hg : getTask s pid = some t) (hp : 1 ≤ t.period) :
    iter handler f T s =
      .ofTick (runTick handler f { s with clock := if x.due > s.clock then x.due else s.clock, queue := q' } pid t st) := by
  have hg' : getTask { s with clock := if x.due > s.clock then x.due else s.clock, queue := q' } pid = some t := hg
  have h0 : ¬ s.enabled = false := by simp [hen]
  have h1 : ¬ x.due > T := by omega
  have h2 : ¬ t.period ≤ 0 := by omega
  simp only [iter, if_neg h0, hd, h1, hc, hk, hg', h2, Bool.false_eq_true, if_false]
  rcases runTick handler f _ pid t st with ⟨s2, _ | e⟩ <;> rfl

/-- A tick that runs is left as `runTick`. -/
inductive IterIs (handler : Err → Bool) (f : Nat → σ → Tick σ) (T : Int) (s : St σ) : Iter σ → Prop
  | disabled (hen : s.enabled = false) : IterIs handler f T s (.exit s)
  | empty (hd : s.queue.dequeue? Item.due = none) : IterIs handler f T s (.exit s)
  | pastTarget {x q'} (hd : s.queue.dequeue? Item.due = some (x, q')) (hT : x.due > T) : IterIs handler f T s (.exit s)
  | cancelled {x q'} (hd : s.queue.dequeue? Item.due = some (x, q')) (hdue : x.due ≤ T) (hc : x.cancelled = true) :
      IterIs handler f T s (.next { s with clock := if x.due > s.clock then x.due else s.clock, queue := q' })
  | dispose {x q' pid} (hd : s.queue.dequeue? Item.due = some (x, q')) (hdue : x.due ≤ T) (hc : x.cancelled = false)
      (hk : x.kind = .dispose pid) :
      IterIs handler f T s
        (.next (disposeTask { s with clock := if x.due > s.clock then x.due else s.clock, queue := q' } pid))
  | unknownTask {x q' pid st} (hd : s.queue.dequeue? Item.due = some (x, q')) (hdue : x.due ≤ T)
      (hc : x.cancelled = false) (hk : x.kind = .tick pid st) (hg : getTask s pid = none) :
      IterIs handler f T s (.next { s with clock := if x.due > s.clock then x.due else s.clock, queue := q' })
  | noPeriod {x q' pid st t} (hd : s.queue.dequeue? Item.due = some (x, q')) (hdue : x.due ≤ T)
      (hc : x.cancelled = false) (hk : x.kind = .tick pid st) (hg : getTask s pid = some t) (hp : t.period ≤ 0) :
      IterIs handler f T s (.stuck s)
  | tick {x q' pid st t} (hd : s.queue.dequeue? Item.due = some (x, q')) (hdue : x.due ≤ T)
      (hc : x.cancelled = false) (hk : x.kind = .tick pid st) (hg : getTask s pid = some t) (hp : 1 ≤ t.period) :
      IterIs handler f T s (.ofTick
        (runTick handler f { s with clock := if x.due > s.clock then x.due else s.clock, queue := q' } pid t st))

theorem iter_is (handler : Err → Bool) (f : Nat → σ → Tick σ) (T : Int) (s : St σ) :
    IterIs handler f T s (iter handler f T s) := by
  by_cases hen : s.enabled = false
  · simp only [iter, if_pos hen]; exact .disabled hen
  cases hd : s.queue.dequeue? Item.due with
  | none => simp only [iter, if_neg hen, hd]; exact .empty hd
  | some xq =>
    obtain ⟨x, q'⟩ := xq
    by_cases hT : x.due > T
    · simp only [iter, if_neg hen, hd, hT, if_true]; exact .pastTarget hd hT
    by_cases hc : x.cancelled = true
    · simp only [iter, if_neg hen, hd, hT, hc, if_false, if_true]; exact .cancelled hd (by omega) hc
    cases hk : x.kind with
    | dispose pid =>
      simp only [iter, if_neg hen, hd, hT, hc, hk, Bool.false_eq_true, if_false]
      exact .dispose hd (by omega) (by simpa using hc) hk
    | tick pid st =>
      cases hg : getTask s pid with
      | none =>
        have hg' : getTask { s with clock := if x.due > s.clock then x.due else s.clock, queue := q' } pid = none := hg
        simp only [iter, if_neg hen, hd, hT, hc, hk, hg', Bool.false_eq_true, if_false]
        exact .unknownTask hd (by omega) (by simpa using hc) hk hg
      | some t =>
        by_cases hp : t.period ≤ 0
        · have hg' : getTask { s with clock := if x.due > s.clock then x.due else s.clock, queue := q' } pid = some t := hg
          simp only [iter, if_neg hen, hd, hT, hc, hk, hg', hp, Bool.false_eq_true, if_false, if_true]
          exact .noPeriod hd (by omega) (by simpa using hc) hk hg hp
        · rw [iter_tick handler f T s x q' pid st t (by simpa using hen) hd (by omega) (by simpa using hc) hk hg (by omega)]
          exact .tick hd (by omega) (by simpa using hc) hk hg (by omega)

theorem iter_next_weight {handler : Err → Bool} {f : Nat → σ → Tick σ} {T : Int} {s s' : St σ}
    (h : iter handler f T s = .next s') : weight T s'.queue.items < weight T s.queue.items := by
  have hi := iter_is handler f T s
  generalize hr : iter handler f T s = r at hi
  replace hr := hr.symm.trans h
  cases hi with
  | disabled | empty | pastTarget | noPeriod => cases hr
  | @cancelled x q' hd hdue hc | @unknownTask x q' pid st hd hdue hc hk hg =>
    cases hr
    have hw := dequeue_weight T hd
    show weight T q'.items < _
    omega
  | @dispose x q' pid hd hdue hc hk =>
    cases hr
    have hw := dequeue_weight T hd
    rw [disposeTask_weight]
    show weight T q'.items < _
    omega
  | @tick x q' pid st t hd hdue hc hk hg hp =>
    -- the one reschedule is due after `now ≥ x.due`, so its term is smaller than the one dequeued (`x.due ≤ T`)
    have hw := dequeue_weight T hd
    have hrw : weight T (runTick handler f _ pid t st).1.queue.items ≤
        weight T q'.items + ((T + 1 - ((if x.due > s.clock then x.due else s.clock) + 1)).toNat + 1) :=
      runTick_weight handler f T { s with clock := if x.due > s.clock then x.due else s.clock, queue := q' } pid t st hp
    rcases hrt : runTick handler f { s with clock := if x.due > s.clock then x.due else s.clock, queue := q' } pid t st
      with ⟨s2, _ | e⟩ <;> rw [hrt] at hr hrw
    · cases hr
      replace hrw : weight T s'.queue.items ≤ _ := hrw
      have hcl : x.due ≤ (if x.due > s.clock then x.due else s.clock) := by split <;> omega
      omega
    · cases hr

/-- `loopFuel` answers `.stuck` for a task of period ≤ 0 and for fuel 0; above the weight only the first is left. -/
theorem loopFuel_enough (handler : Err → Bool) (f : Nat → σ → Tick σ) (T : Int) :
    ∀ (n m : Nat) (s : St σ), weight T s.queue.items < n → weight T s.queue.items < m →
      loopFuel handler f T n s = loopFuel handler f T m s :=
  fuel_enough (loopFuel handler f T) (fun s => weight T s.queue.items) fun n m s ih => by
    simp only [loopFuel]
    cases hi : iter handler f T s with
    | next s' => exact ih s' (iter_next_weight hi)
    | _ => rfl

theorem advanceTo_eq (handler : Err → Bool) (f : Nat → σ → Tick σ) (T : Int) (s : St σ) :
    advanceTo handler f T s = if s.clock > T then (s, .raised aoor) else if s.clock = T ∨ s.enabled = true then (s, .ok)
      else closeRun .ok (fun s' => { s' with enabled := false, clock := T })
        (loopFuel handler f T (weight T s.queue.items + 1) { s with enabled := true }) := by
  unfold advanceTo closeRun
  rcases loopFuel handler f T (weight T s.queue.items + 1) { s with enabled := true } with ⟨a, _ | e | _⟩ <;> rfl

theorem loopFuel_inv {handler : Err → Bool} {f : Nat → σ → Tick σ} {T : Int} (P : St σ → Prop)
    (h : ∀ s, P s → P (iter handler f T s).st) : ∀ (n : Nat) (s : St σ), P s → P (loopFuel handler f T n s).1 := by
  intro n
  induction n with
  | zero => intro s hP; exact hP
  | succ n ih =>
    intro s hP
    have hi := h s hP
    simp only [loopFuel]
    cases hit : iter handler f T s with
    | next s' => rw [hit] at hi; exact ih s' hi
    | exit s' => rw [hit] at hi; exact hi
    | raised s' e => rw [hit] at hi; exact hi
    | stuck s' => rw [hit] at hi; exact hi

theorem advanceTo_inv {handler : Err → Bool} {f : Nat → σ → Tick σ} {T : Int} (P : St σ → Prop)
    (hiter : ∀ s, P s → P (iter handler f T s).st)
    (hfr : ∀ (s : St σ) en c, P s → P { s with enabled := en, clock := c }) (s : St σ) (h : P s) :
    P (advanceTo handler f T s).1 := by
  rw [advanceTo_eq]
  split
  · exact h
  split
  · exact h
  exact closeRun_inv (hfr _ false T) (loopFuel_inv P hiter _ _ (hfr s true s.clock h))

theorem runOps_inv {handler : Err → Bool} {f : Nat → σ → Tick σ} (P : St σ → Prop) (ok : Op σ → Prop)
    (h : ∀ s op, ok op → P s → P (doOp handler f s op).1) :
    ∀ (ops : List (Op σ)) (s : St σ), (∀ op ∈ ops, ok op) → P s → P (runOps handler f s ops).1 := by
  intro ops
  induction ops with
  | nil => intro s _ hP; exact hP
  | cons op ops ih =>
    intro s hops hP
    have h1 := h s op (hops op (by simp)) hP
    simp only [runOps]
    rcases hd : doOp handler f s op with ⟨s', o⟩
    rw [hd] at h1
    cases o with
    | stuck => exact h1
    | ok => exact ih s' (fun op h => hops op (by simp [h])) h1
    | raised e => exact ih s' (fun op h => hops op (by simp [h])) h1

end Per
