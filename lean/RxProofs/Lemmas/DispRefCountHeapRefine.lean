import RxProofs.Lemmas.DispHeapRefine
/-!
# Refinement lemmas for RefCountDisposable: one call run to completion in `Disp.rStep` vs `Pipe.apply` (C26Heap)
-/
namespace Disp
open Pipe

/-- the heap of a state between two calls -/
def rcOf (s : RSh) : Heap := rcH (decide (0 < s.und)) s.isPrimaryDisposed s.isDisposed s.deps

/-- Nested disposal after a call, on the heap that got the call's `is_primary_disposed` and dependents: the flags that
follow from them (released, underlying resource disposed) are where `RInv` puts them in the class. The `released` slot still
holds the old `is_disposed`; it is never reset (`hm`), so `settle` only has to raise it. -/
theorem settle_rcOf {s s' : RSh} {t t' : RTh} (hr : Reach rStep ⟨s, [t]⟩ ⟨s', [t']⟩) (hi : RInv ⟨s, [t]⟩)
    (ht : t.pc = .idle) (ht' : t'.pc = .idle) :
    settle (rcH (decide (0 < s.und)) s'.isPrimaryDisposed s.isDisposed s'.deps) = rcOf s' := by
  obtain ⟨_, h2, h3⟩ := hi.idle ht
  obtain ⟨_, h2', h3'⟩ := (hr.inv RInv rInv_pres hi).idle ht'
  have hm : s.isDisposed = true → s'.isDisposed = true :=
    hr.inv _ (fun t => Sys.pres_sh rStep (fun x => s.isDisposed = true → x.isDisposed = true) t
      fun sh h hd => (rStep_conserve sh t).released (h hd)) id
  rw [settle_rcH, rcOf, h3', h3, ← h2']
  cases hd : s.isDisposed <;> cases hd' : s'.isDisposed <;> simp_all

/-- `rrun [h, …]`: the one thread's run of the call, evaluated step by step under the case hypotheses `h, …`;
closes `Sys.run rStep ⟨s, [t]⟩ (List.replicate n 0) = ⟨?s', [?t']⟩` and so fixes the final state. -/
macro "rrun" "[" hs:Lean.Parser.Tactic.simpLemma,* "]" : tactic =>
  `(tactic| (simp only [Sys.run, Sys.step, rStep, rRel, RSh.ev, List.replicate, List.foldl, List.getElem?_cons_zero,
      List.set_cons_zero, Bool.false_eq_true, beq_iff_eq, Bool.and_false, Bool.and_true, ↓reduceIte, $hs,*]; rfl))

/-- what a call writes to `is_primary_disposed` and to the dependents, when no other thread interferes -/
def rSeqPd (s : RSh) : ROp → Bool
  | .dispose => true
  | _ => s.isPrimaryDisposed

def rSeqDeps (s : RSh) : ROp → List Dep
  | .get => s.deps ++ [if s.isDisposed then Dep.inert false else Dep.inner true]
  | .rel j => s.deps.modify j depDone
  | _ => s.deps

theorem apply_rcOf (s : RSh) (op : ROp) (hop : rOk s.deps.length op) :
    Pipe.apply (rcOf s) (rToPipe op) = (settle (rcH (decide (0 < s.und)) (rSeqPd s op) s.isDisposed (rSeqDeps s op)), .ok) := by
  cases op with
  | relMine j => exact absurd hop (by simp [rOk])
  | get => rw [rToPipe, rcOf, apply_getInner]; rfl
  | dispose => rw [rToPipe, rcOf, apply_dispose_rc]; rfl
  | rel j => rw [rToPipe, rcOf, apply_dispose_dep]; rfl

theorem r_call (s : RSh) (op : ROp) (p : List ROp) (mine : List Nat) (hop : rOk s.deps.length op)
    (hi : RInv ⟨s, [⟨.idle, op :: p, mine⟩]⟩) :
    ∃ s' mine', Reach rStep ⟨s, [⟨.idle, op :: p, mine⟩]⟩ ⟨s', [⟨.idle, p, mine'⟩]⟩ ∧
      (∃ evs, s'.log = s.log ++ evs ∧ resOf evs = [Res.ok]) ∧
      s'.isPrimaryDisposed = rSeqPd s op ∧ s'.deps = rSeqDeps s op := by
  obtain ⟨-, hdisp, -⟩ := hi.idle rfl
  cases op with
  | relMine j => exact absurd hop (by simp [rOk])
  | get =>
    cases hd : s.isDisposed
    · refine ⟨_, _, ⟨1, by rrun [hd]⟩, ⟨[.lock 0, .ret (.nat s.deps.length)], ?_, rfl⟩, ?_⟩ <;> simp [rSeqPd, rSeqDeps, hd]
    · refine ⟨_, _, ⟨1, by rrun [hd]⟩, ⟨[.lock 0, .ret (.nat s.deps.length)], ?_, rfl⟩, ?_⟩ <;> simp [rSeqPd, rSeqDeps, hd]
  | dispose =>
    cases hd : s.isDisposed
    · cases hp : s.isPrimaryDisposed
      · by_cases hc : s.count = 0
        · -- no live dependent: released now
          refine ⟨_, _, ⟨3, by rrun [hd, hp, hc]⟩, ⟨[.rd false, .lock 0, .disp 0, .ret .unit], ?_, rfl⟩, ?_⟩ <;> simp [rSeqPd, rSeqDeps]
        · -- live dependents keep the resource
          refine ⟨_, _, ⟨2, by rrun [hd, hp, hc]⟩, ⟨[.rd false, .lock 0, .ret .unit], ?_, rfl⟩, ?_⟩ <;> simp [rSeqPd, rSeqDeps]
      · refine ⟨_, _, ⟨2, by rrun [hd, hp]⟩, ⟨[.rd false, .lock 0, .ret .unit], ?_, rfl⟩, ?_⟩ <;> simp [rSeqPd, rSeqDeps]
    · -- already released
      have hp : s.isPrimaryDisposed = true := by
        rw [hd] at hdisp; cases h : s.isPrimaryDisposed <;> simp_all
      refine ⟨_, _, ⟨1, by rrun [hd]⟩, ⟨[.rd true, .ret .unit], ?_, rfl⟩, ?_⟩ <;> simp [rSeqPd, rSeqDeps, hp]
  | rel j =>
    have hdj : s.deps[j]? = some s.deps[j] := List.getElem?_eq_getElem hop
    have hw := wsum_set depLive s.deps j s.deps[j] (.inner false) hdj
    generalize hdd : s.deps[j] = d at hdj hw
    have hmod := List.modify_eq_set_of_getElem? hdj depDone
    rcases d with b | _ | _
    · refine ⟨_, _, ⟨1, by rrun [hdj]⟩, ⟨[.lock (j + 1), .ret .unit], ?_, rfl⟩, ?_⟩ <;> simp [rSeqPd, rSeqDeps, hmod, depDone]
    · -- already disposed dependent: nothing happens
      refine ⟨_, _, ⟨1, by rrun [hdj]⟩, ⟨[.lock (j + 1), .ret .unit], ?_, rfl⟩, ?_⟩ <;> simp [rSeqPd, rSeqDeps, hmod, depDone]
      rw [← hdd]; exact (List.set_getElem_self hop).symm
    · -- a live dependent: the resource is not released yet
      have hd : s.isDisposed = false := by
        simp only [depLive] at hw; rw [hdisp]; cases s.isPrimaryDisposed <;> simp; omega
      cases hp : s.isPrimaryDisposed
      · refine ⟨_, _, ⟨3, by rrun [hdj, hd, hp]⟩, ⟨[.lock (j + 1), .rd false, .lock 0, .ret .unit], ?_, rfl⟩, ?_⟩ <;>
          simp [rSeqPd, rSeqDeps, hmod, depDone, hp]
      · by_cases hc0 : s.count - 1 = 0
        · -- last dependent after the primary: released now
          refine ⟨_, _, ⟨4, by rrun [hdj, hd, hp, hc0]⟩,
            ⟨[.lock (j + 1), .rd false, .lock 0, .disp 0, .ret .unit], ?_, rfl⟩, ?_⟩ <;> simp [rSeqPd, rSeqDeps, hmod, depDone, hp]
        · refine ⟨_, _, ⟨3, by rrun [hdj, hd, hp, hc0]⟩, ⟨[.lock (j + 1), .rd false, .lock 0, .ret .unit], ?_, rfl⟩, ?_⟩ <;>
            simp [rSeqPd, rSeqDeps, hmod, depDone, hp]

theorem r_op (s : RSh) (op : ROp) (p : List ROp) (mine : List Nat) (hop : rOk s.deps.length op)
    (hi : RInv ⟨s, [⟨.idle, op :: p, mine⟩]⟩) :
    ∃ s' mine', Reach rStep ⟨s, [⟨.idle, op :: p, mine⟩]⟩ ⟨s', [⟨.idle, p, mine'⟩]⟩ ∧
      Pipe.apply (rcOf s) (rToPipe op) = (rcOf s', .ok) ∧
      s'.deps.length = s.deps.length + (if op = .get then 1 else 0) ∧
      ∃ evs, s'.log = s.log ++ evs ∧ resOf evs = [Res.ok] := by
  obtain ⟨s', mine', hreach, hlog, hpd, hdeps⟩ := r_call s op p mine hop hi
  refine ⟨s', mine', hreach, ?_, ?_, hlog⟩
  · rw [apply_rcOf s op hop, ← hpd, ← hdeps, settle_rcOf hreach hi rfl rfl]
  · rw [hdeps]; cases op <;> simp [rSeqDeps]

/-- No `rSeq` (what a call leaves in `count`, `und`, `is_disposed` is read off `RInv`, which `rel j` are valid depends on the state):
the history is an induction of its own, `RInv` carried along. -/
theorem r_hist (ops : List ROp) (s : RSh) (mine : List Nat) (hv : rValid s.deps.length ops)
    (hi : RInv ⟨s, [⟨.idle, ops, mine⟩]⟩) :
    ∃ s' mine', Reach rStep ⟨s, [⟨.idle, ops, mine⟩]⟩ ⟨s', [⟨.idle, [], mine'⟩]⟩ ∧ RInv ⟨s', [⟨.idle, [], mine'⟩]⟩ ∧
      Pipe.run (rcOf s) (ops.map rToPipe) = rcOf s' ∧
      resOf s'.log = resOf s.log ++ Pipe.runRes (rcOf s) (ops.map rToPipe) := by
  induction ops generalizing s mine with
  | nil => exact ⟨s, mine, Reach.refl _ _, hi, rfl, by simp [Pipe.runRes]⟩
  | cons op ops ih =>
    obtain ⟨s1, m1, hreach1, happ, hlen, evs, hl, he⟩ := r_op s op ops mine hv.1 hi
    have hv1 : rValid s1.deps.length ops := by
      rw [hlen]; by_cases hg : op = .get <;> simpa [hg] using hv.2
    obtain ⟨s2, m2, hreach2, hi2, hrun, hlog⟩ := ih s1 m1 hv1 (hreach1.inv RInv rInv_pres hi)
    refine ⟨s2, m2, hreach1.trans hreach2, hi2, by simp [Pipe.run, happ, hrun], ?_⟩
    rw [hlog, hl, resOf_append, he]; simp [Pipe.runRes, happ]

end Disp
