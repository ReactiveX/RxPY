import RxModel.Disp
import RxProofs.Lemmas.Basics
/-!
# Thread systems: an invariant is shown for one move of one thread, whatever the bystanders (`Sys.Pres`), and then holds of every schedule

One unit of item `j` is written `[j].count i` throughout, which keeps every counting clause linear.
-/
namespace Disp

def wsum {α : Type} (w : α → Nat) (l : List α) : Nat := (l.map w).sum

@[simp] theorem wsum_nil {α} (w : α → Nat) : wsum w [] = 0 := rfl
@[simp] theorem wsum_cons {α} (w : α → Nat) (a : α) (l : List α) : wsum w (a :: l) = w a + wsum w l := by
  simp [wsum]
@[simp] theorem wsum_append {α} (w : α → Nat) (l m : List α) : wsum w (l ++ m) = wsum w l + wsum w m := by
  simp [wsum]

theorem wsum_set {α} (w : α → Nat) (l : List α) (i : Nat) (a a' : α) (h : l[i]? = some a) :
    wsum w (l.set i a') + w a = wsum w l + w a' :=
  List.sum_map_set w h a'

theorem wsum_eq_zero {α} (w : α → Nat) (l : List α) (h : ∀ a ∈ l, w a = 0) : wsum w l = 0 :=
  (List.sum_map_eq_zero_iff w l).2 h

theorem wsum_quiet {α} (w : α → Nat) (l : List α) (q : α) (h : ∀ t ∈ l, t = q) (hq : w q = 0) : wsum w l = 0 :=
  wsum_eq_zero w l fun a ha => by rw [h a ha]; exact hq

theorem wsum_map_zero {α β} (w : β → Nat) (g : α → β) (l : List α) (h : ∀ a, w (g a) = 0) : wsum w (l.map g) = 0 :=
  wsum_eq_zero w _ fun b hb => by obtain ⟨a, _, rfl⟩ := List.mem_map.mp hb; exact h a

theorem wsum_pos_of_mem {α} (w : α → Nat) (l : List α) (a : α) (h : a ∈ l) (hw : 0 < w a) : 0 < wsum w l :=
  List.sum_pos_iff_exists_pos_nat.2 ⟨w a, List.mem_map_of_mem h, hw⟩

theorem wsum_map {α β} (w : β → Nat) (g : α → β) (l : List α) : wsum w (l.map g) = wsum (fun a => w (g a)) l := by
  simp [wsum, List.map_map, Function.comp_def]

theorem mem_of_set {α} (l : List α) (i : Nat) (a b : α) (h : b ∈ l.set i a) : b = a ∨ b ∈ l :=
  (List.mem_or_eq_of_mem_set h).symm

namespace Sys
variable {σ π : Type}

theorem run_nil (f : σ → π → σ × π) (s : Sys σ π) : s.run f [] = s := rfl
theorem run_cons (f : σ → π → σ × π) (s : Sys σ π) (t : Nat) (ts : List Nat) :
    s.run f (t :: ts) = (s.step f t).run f ts := rfl

/-- `I` survives a move of thread `t`, whatever the other threads are. -/
def Pres (f : σ → π → σ × π) (I : Sys σ π → Prop) (t : π) : Prop :=
  ∀ sh l₁ l₂, I ⟨sh, l₁ ++ t :: l₂⟩ → I ⟨(f sh t).1, l₁ ++ (f sh t).2 :: l₂⟩

theorem step_inv (f : σ → π → σ × π) (I : Sys σ π → Prop) (hp : ∀ t, Pres f I t)
    (s : Sys σ π) (tid : Nat) (h : I s) : I (s.step f tid) := by
  unfold step
  split
  · exact h
  · rename_i t ht
    obtain ⟨hlt, rfl⟩ := List.getElem?_eq_some_iff.mp ht
    have := hp s.pcs[tid] s.sh (s.pcs.take tid) (s.pcs.drop (tid + 1)) (by simpa using h)
    rwa [List.set_eq_take_append_cons_drop, if_pos hlt]

theorem run_inv (f : σ → π → σ × π) (I : Sys σ π → Prop) (hp : ∀ t, Pres f I t)
    (s : Sys σ π) (sched : List Nat) (h : I s) : I (s.run f sched) :=
  List.foldl_pres (step f) (step_inv f I hp) sched h

/-- An invariant that reads the threads through one weighted sum only: the bystanders enter through their total `n`. -/
theorem pres_wsum (f : σ → π → σ × π) (w : π → Nat) (I : σ → Nat → Prop) (t : π)
    (h : ∀ s n, I s (w t + n) → I (f s t).1 (w (f s t).2 + n)) : Pres f (fun s => I s.sh (wsum w s.pcs)) t := fun sh l₁ l₂ hI => by
  have e : ∀ t', wsum w (l₁ ++ t' :: l₂) = w t' + (wsum w l₁ + wsum w l₂) := fun t' => by
    simp only [wsum_append, wsum_cons]; omega
  simp only [e] at hI ⊢
  exact h sh _ hI

/-- What is counted in `A` of the shared state (disposed, held) or owed by a thread (`w`) was handed over (`B`): if every move
keeps that balance, every schedule does. -/
theorem conserve (f : σ → π → σ × π) (A B : σ → Nat) (w : π → Nat)
    (h : ∀ s t, A (f s t).1 + w (f s t).2 + B s = A s + w t + B (f s t).1) (t : π) :
    Pres f (fun s => A s.sh + wsum w s.pcs = B s.sh) t :=
  pres_wsum f w (fun s n => A s + n = B s) t fun s n hI => by have := h s t; omega

theorem conserve_const (f : σ → π → σ × π) (A : σ → Nat) (w : π → Nat) (c : Nat)
    (h : ∀ s t, A (f s t).1 + w (f s t).2 = A s + w t) (t : π) :
    Pres f (fun s => A s.sh + wsum w s.pcs = c) t :=
  conserve f A (fun _ => c) w (fun s t => congrArg (· + c) (h s t)) t

theorem conserve_run (f : σ → π → σ × π) (A B : σ → Nat) (w : π → Nat)
    (h : ∀ s t, A (f s t).1 + w (f s t).2 + B s = A s + w t + B (f s t).1) (s₀ : Sys σ π) (hz : wsum w s₀.pcs = 0)
    (h0 : A s₀.sh = B s₀.sh) (sched : List Nat) :
    A (s₀.run f sched).sh + wsum w (s₀.run f sched).pcs = B (s₀.run f sched).sh :=
  run_inv f _ (conserve f A B w h) s₀ sched (by rw [hz]; exact h0)

theorem pres_sh (f : σ → π → σ × π) (P : σ → Prop) (t : π) (h : ∀ s, P s → P (f s t).1) :
    Pres f (fun s => P s.sh) t := fun sh _ _ => h sh

end Sys

/-- the schedule is `0, 0, …`: only thread 0 moves (the systems here have one thread) -/
def Reach {σ π} (f : σ → π → σ × π) (s s' : Sys σ π) : Prop := ∃ n, s.run f (List.replicate n 0) = s'

theorem Reach.refl {σ π} (f : σ → π → σ × π) (s : Sys σ π) : Reach f s s := ⟨0, rfl⟩

theorem Reach.trans {σ π} {f : σ → π → σ × π} {a b c : Sys σ π} (h1 : Reach f a b) (h2 : Reach f b c) : Reach f a c := by
  obtain ⟨n, hn⟩ := h1
  obtain ⟨m, hm⟩ := h2
  refine ⟨n + m, ?_⟩
  rw [← List.replicate_append_replicate, Sys.run, List.foldl_append]
  simp only [Sys.run] at hn hm
  rw [hn, hm]

theorem Reach.one {σ π} (f : σ → π → σ × π) (sh : σ) (t : π) :
    Reach f ⟨sh, [t]⟩ ⟨(f sh t).1, [(f sh t).2]⟩ := ⟨1, by simp [Sys.run, Sys.step]⟩

theorem Reach.inv {σ π} {f : σ → π → σ × π} {a b : Sys σ π} (h : Reach f a b) (I : Sys σ π → Prop)
    (hp : ∀ t, Sys.Pres f I t) (ha : I a) : I b := by
  obtain ⟨n, rfl⟩ := h
  exact Sys.run_inv f I hp a _ ha

/-- pending call-outs `item_i.dispose()` in a thread of a container class -/
def pendW {β : Type} (i : Nat) : CPc × β → Nat
  | (.pend l _, _) => l.count i
  | _ => 0

@[simp] theorem bump_same (c : Nat → Nat) (i : Nat) : bump c i i = c i + 1 := by simp [bump]
theorem bump_other (c : Nat → Nat) (i j : Nat) (h : j ≠ i) : bump c i j = c j := by simp [bump, h]

theorem count_bump (c : Nat → Nat) (i j : Nat) : bump c j i = c i + [j].count i := by
  by_cases h : i = j
  · subst h; simp
  · have : j ≠ i := fun e => h e.symm
    simp [bump, h, this]

theorem count_cons_inj {α} [DecidableEq α] (f : Nat → α) (hf : ∀ a b, f a = f b → a = b) (v i : Nat) (p : List α) :
    (f v :: p).count (f i) = p.count (f i) + [v].count i := by
  by_cases h : v = i
  · subst h; simp
  · have : f v ≠ f i := fun e => h (hf _ _ e)
    simp [this, h]

theorem count_erase_add (l : List Nat) (i j : Nat) (hj : j ∈ l) : (l.erase j).count i + [j].count i = l.count i := by
  by_cases hij : i = j
  · subst hij
    have := List.count_pos_iff.mpr hj
    simp [List.count_erase_self]; omega
  · have : j ≠ i := fun e => hij e.symm
    simp [List.count_erase_of_ne hij, this]

end Disp
