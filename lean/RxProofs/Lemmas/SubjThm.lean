import RxProofs.Lemmas.SubjLog
/-!
# The statements behind C20 / C21 / C23: for all three kinds, then AsyncSubject
-/

namespace Subj
variable {α : Type}

/-- When the delivery loop reaches observer `i`: handed on iff not detached; nobody else's log touched. -/
theorem deliver_turn {cfg : Cfg} {v : Option α} {st : St α} {ag : List (Task α)} (h : Reachable cfg v st ag)
    (i : Id) (n : Notif α) :
    (detached i st.tr = true → deliver cfg st i n = (st, [], false)) ∧
    (detached i st.tr = false →
      (deliver cfg st i n).1.tr = .recv i n :: st.tr ∧
      (deliver cfg st i n).1.log i = if userSees cfg i n then st.log i ++ [n] else st.log i) ∧
    (∀ k, k ≠ i → (deliver cfg st i n).1.log k = st.log k) := by
  have hI := (reachable_inv h).1
  have hdet := hI.det i
  refine ⟨?_, ?_, ?_⟩
  · intro hd
    exact deliver_stopped cfg n (hdet.trans hd)
  · intro hd
    rw [hd] at hdet
    cases n with
    | next x => rw [deliver_next cfg x hdet]; simp [callback, userSees]
    | completed => rw [deliver_term cfg hdet rfl rfl]; simp [callback, userSees]
    | error e =>
      cases he : cfg.hasErr i with
      | true => rw [deliver_term cfg (n := .error e) hdet rfl he]; simp [callback, userSees, he]
      | false =>
        rw [deliver_raise cfg e hdet he]
        simp only [userSees, he, sadDispose_eq]
        split <;> simp
  · exact fun k hk => ((step1_frame cfg st (.deliver i n)).other k fun e => hk (Option.some.inj e).symm).1

/-- Subject / BehaviorSubject: an accepted notification is queued for exactly the current members. -/
theorem emit_audience {cfg : Cfg} {v : Option α} {st : St α} {ag : List (Task α)} (h : Reachable cfg v st ag)
    (hk : cfg.kind ≠ .async) (n : Notif α) (hd : st.disposed = false) (hs : st.stopped = false) :
    (emit cfg st n).2 = (members st.tr).map (Task.deliver · n) := by
  have hI := (reachable_inv h).1
  rw [← hI.mem]
  cases n with
  | next x => rw [emit_next cfg hd hs]; cases hkk : cfg.kind <;> first | rfl | exact absurd hkk hk
  | error e => rw [emit_error cfg hd hs]
  | completed => rw [emit_completed cfg hd hs, if_neg fun h => hk h.1]

theorem deliver_first {cfg : Cfg} {s : St α} {j : Id} {n : Notif α} (hado : s.adoStopped j = false) (hlog : s.log j = [])
    (hu : userSees cfg j n = true) :
    (deliver cfg s j n).1.log j = [n] ∧ (deliver cfg s j n).1.adoStopped j = n.isTerminal := by
  cases hn : n.isTerminal with
  | true => rw [deliver_term cfg hado hn hu]; simp [callback, hlog]
  | false =>
    obtain ⟨x, rfl⟩ : ∃ x, n = .next x := by cases n <;> simp [Notif.isTerminal] at hn ⊢
    rw [deliver_next cfg x hado]; simp [callback, hlog, hado]

/-- Late subscription to a terminated, undisposed Subject / BehaviorSubject (and AsyncSubject without value
or terminated by an error). -/
theorem late_terminal {cfg : Cfg} {v : Option α} {st : St α} {rest : List (Task α)}
    (hk : cfg.kind = .async → st.hasValue = false ∨ st.exception ≠ none) (who : Option Id) (j : Id)
    (h : Reachable cfg v st (.act who (.sub j) :: rest))
    (hs : st.stopped = true) (hd : st.disposed = false) (hj : st.seen j = false)
    (he : cfg.hasErr j = true ∨ st.exception = none) :
    let r1 := step1 cfg st (.act who (.sub j))
    let r2 := step1 cfg r1.1 (.deliver j (termOf st))
    terminated st.tr = some (termOf st) ∧
    r1.2.1 = [.deliver j (termOf st), .finish j (some .noop)] ∧ r1.2.2 = false ∧ r1.1.log j = [] ∧
    r2.1.log j = [termOf st] ∧
    ∀ st' ag', Reach cfg r2.1 (nextAgenda r2 (.finish j (some .noop) :: rest)) st' ag' → st'.log j = [termOf st] := by
  intro r1 r2
  have hI := (reachable_inv h).1
  have hV := reachable_vinv h
  have hterm := (hV.term hd).1 hs
  have hsee : userSees cfg j (termOf st) = true := by
    unfold userSees termOf
    rcases he with he | he
    · cases st.exception <;> simp [he]
    · simp [he]
  have hr1 : r1 = ({ st with seen := upd st.seen j true }, [.deliver j (termOf st), .finish j (some .noop)], false) := by
    refine step1_sub ((doSub_late cfg who hj hd hs hsee).trans ?_)
    rw [if_neg fun ⟨hkk, hx, hh⟩ => (hk hkk).elim (fun h0 => by rw [hh] at h0; cases h0) (· hx)]
    rfl
  have hstep1 : Reachable cfg v r1.1 (nextAgenda r1 rest) := h.step
  have hr1a : nextAgenda r1 rest = .deliver j (termOf st) :: .finish j (some .noop) :: rest := by
    simp [hr1, nextAgenda]
  rw [hr1a] at hstep1
  have hstep2 : Reachable cfg v r2.1 (nextAgenda r2 (.finish j (some .noop) :: rest)) := hstep1.step
  have hr2log : r2.1.log j = [termOf st] ∧ r2.1.adoStopped j = true := by
    rw [← termOf_terminal st]
    exact deliver_first (by rw [hr1]; exact hI.fresh_ado hj) (by rw [hr1]; exact hI.fresh_log hj) hsee
  refine ⟨hterm, by rw [hr1], by rw [hr1], by rw [hr1]; exact hI.fresh_log hj, hr2log.1, ?_⟩
  intro st' ag' hreach
  rw [(reach_silent hstep2 hreach j hr2log.2).1, hr2log.1]

/-- A first `subscribe` that ends in `raise`: no `on_error` handler for what the subject has to say. -/
theorem sub_raises {cfg : Cfg} {v : Option α} {st : St α} {rest : List (Task α)} (who : Option Id) (j : Id) (e : Err)
    (h : Reachable cfg v st (.act who (.sub j) :: rest)) (hj : st.seen j = false) (he : cfg.hasErr j = false)
    (hc : st.disposed = true ∧ e = disposedExn ∨ st.disposed = false ∧ st.stopped = true ∧ st.exception = some e) :
    let r1 := step1 cfg st (.act who (.sub j))
    r1.2.1 = [] ∧ r1.1.log j = [] ∧
    (who = none → r1.1.raisedNow = some e) ∧ (∀ i, who = some i → r1.1.xlog = st.xlog ++ [(i, e)]) ∧
    ∀ st' ag', Reach cfg r1.1 (nextAgenda r1 rest) st' ag' → st'.log j = [] := by
  intro r1
  obtain ⟨s, hr, h1, h2, h3⟩ : ∃ s : St α, step1 cfg st (.act who (.sub j)) = (raiseTo who e s, [], false) ∧ s.log = st.log ∧
      s.adoStopped j = true ∧ s.xlog = st.xlog := by
    rcases hc with ⟨hd, rfl⟩ | ⟨hd, hs, hx⟩
    · exact ⟨_, step1_sub ((doSub_disposed cfg who hj hd).trans (if_neg (by simp [he]))), rfl, by simp, rfl⟩
    · exact ⟨_, step1_sub (doSub_late_raise cfg who hj hd hs hx he), rfl, by simp, rfl⟩
  have hlog : r1.1.log j = [] := by cases who <;> simp [r1, hr, raiseTo, h1, (reachable_inv h).1.fresh_log hj]
  have hstop : r1.1.adoStopped j = true := by cases who <;> simp [r1, hr, raiseTo, h2]
  refine ⟨by simp [r1, hr], hlog, ?_, ?_, fun st' ag' hreach => ?_⟩
  · rintro rfl; simp [r1, hr, raiseTo]
  · rintro i rfl; simp [r1, hr, raiseTo, h3]
  · rw [(reach_silent h.step hreach j hstop).1, hlog]

theorem sub_disposed_handled {cfg : Cfg} {v : Option α} {st : St α} {rest : List (Task α)} (hd : st.disposed = true)
    (who : Option Id) (j : Id) (h : Reachable cfg v st (.act who (.sub j) :: rest)) (hj : st.seen j = false)
    (he : cfg.hasErr j = true) :
    let r1 := step1 cfg st (.act who (.sub j))
    r1.1.log j = [.error disposedExn] ∧ r1.1.raisedNow = st.raisedNow ∧ r1.1.xlog = st.xlog ∧
    ∀ st' ag', Reach cfg r1.1 (nextAgenda r1 rest) st' ag' → st'.log j = [.error disposedExn] := by
  intro r1
  have hr1 : r1.1 = callback { st with seen := upd st.seen j true, adoStopped := upd st.adoStopped j true } j (.error disposedExn) := by
    show (step1 cfg st (.act who (.sub j))).1 = _
    rw [step1_sub ((doSub_disposed cfg who hj hd).trans (if_pos he))]
  have hlog : r1.1.log j = [.error disposedExn] := by rw [hr1]; simp [callback, (reachable_inv h).1.fresh_log hj]
  have hstop : r1.1.adoStopped j = true := by rw [hr1]; simp [callback]
  refine ⟨hlog, by rw [hr1]; simp [callback], by rw [hr1]; simp [callback], fun st' ag' hreach => ?_⟩
  rw [(reach_silent h.step hreach j hstop).1, hlog]

def Task.isDeliver : Task α → Bool
  | .deliver _ _ => true
  | _ => false

theorem Step.async_quiet {cfg : Cfg} (hk : cfg.kind = .async) {st st' : St α} {t : Task α} {new : List (Task α)} {b : Bool}
    (h : Step cfg st t st' new b) (hs' : st'.stopped = false) (hd : st.disposed = false) (ht : Task.isDeliver t = false) :
    (∀ i, recvs i st'.tr = recvs i st.tr) ∧ ∀ t' ∈ new, Task.isDeliver t' = false := by
  have nil : ∀ t' ∈ ([] : List (Task α)), Task.isDeliver t' = false := nofun
  cases h with
  | idle | raise | dispose => exact ⟨fun _ => rfl, nil⟩
  | fin => rw [finish_eq]; exact ⟨fun _ => rfl, nil⟩
  | next => exact ⟨fun _ => rfl, by simp [hk]⟩
  | error | completed => exact absurd hs' (by simp)
  | subRefused _ _ _ hd' => rw [hd] at hd'; cases hd'
  | deliverNext | deliverTerm | deliverRaise => cases ht
  | subRaise who j e sd hj he hc =>
    rcases hc with ⟨hd', _⟩ | ⟨_, hs, _⟩
    · rw [hd] at hd'; cases hd'
    · cases who <;> exact absurd hs' (by simp [raiseTo, hs])
  | subLive who j new _ _ hn =>
    rcases hn with rfl | ⟨hk', _⟩
    · exact ⟨fun _ => rfl, by simp [Task.isDeliver]⟩
    · rw [hk] at hk'; cases hk'
  | subLate _ _ _ _ _ hs => exact absurd hs' (by simp [hs])
  | unsub who j => obtain ⟨sd, c, obs, e⟩ := sadDispose_writes _ j; rw [e]; exact ⟨fun _ => rfl, nil⟩
  | sad i => obtain ⟨sd, c, obs, e⟩ := sadDispose_writes st i; rw [e]; exact ⟨fun _ => rfl, nil⟩

/-- Before an AsyncSubject terminates (or is disposed) nobody has been handed anything and no
delivery is pending. -/
theorem async_quiet {cfg : Cfg} {v : Option α} {st : St α} {ag : List (Task α)} (hk : cfg.kind = .async)
    (h : Reachable cfg v st ag) (hs : st.stopped = false) :
    (∀ i, recvs i st.tr = []) ∧ ∀ t ∈ ag, Task.isDeliver t = false := by
  induction h with
  | init => exact ⟨fun i => by simp [init, hk, recvs], by simp⟩
  | call c _ ih =>
    refine ⟨(ih hs).1, ?_⟩
    intro t ht
    simp only [List.mem_singleton] at ht
    subst ht
    cases c <;> rfl
  | @step st t ts hr ih =>
    have hs0 : st.stopped = false := by
      cases hst : st.stopped with
      | false => rfl
      | true => rw [(step1_mono cfg st t).2 hst] at hs; exact absurd hs (by simp)
    have hd0 := (reachable_inv hr).1.undisposed hs0
    obtain ⟨i1, i2⟩ := ih hs0
    obtain ⟨q1, q2⟩ := (step1_step cfg st t).async_quiet hk hs hd0 (i2 t (List.mem_cons_self ..))
    exact ⟨fun i => (q1 i).trans (i1 i), fun t' ht' =>
      (mem_nextAgenda ht').elim (q2 t') fun h => i2 t' (List.mem_cons_of_mem _ h)⟩
  | oof _ ih => exact ⟨(ih hs).1, by simp⟩

theorem async_emit_terminal {cfg : Cfg} {v : Option α} {st : St α} {ag : List (Task α)}
    (hk : cfg.kind = .async) (h : Reachable cfg v st ag) (hd : st.disposed = false) (hs : st.stopped = false) :
    (∀ x, lastNext st.tr = some x →
      (emit cfg st .completed).2 =
        (members st.tr).flatMap fun i => [Task.deliver i (.next x), Task.deliver i .completed]) ∧
    (lastNext st.tr = none → (emit cfg st .completed).2 = (members st.tr).map (Task.deliver · .completed)) ∧
    (∀ e, (emit cfg st (.error e)).2 = (members st.tr).map (Task.deliver · (.error e))) ∧
    (∀ x, (emit cfg st (.next x)).2 = []) := by
  have hI := (reachable_inv h).1
  have hV := reachable_vinv h
  have ha := hV.asy hk hd
  rw [← hI.mem]
  refine ⟨?_, ?_, ?_, ?_⟩
  · intro x hx
    have h1 : st.value = some x := by rw [ha.1, hx]
    have h2 : st.hasValue = true := by rw [ha.2, hx]; rfl
    rw [emit_completed cfg hd hs, if_pos ⟨hk, h2⟩, h1]
  · intro hx
    have h2 : st.hasValue = false := by rw [ha.2, hx]; rfl
    rw [emit_completed cfg hd hs, if_neg (by simp [h2])]
  · intro e; rw [emit_error cfg hd hs]
  · intro x; rw [emit_next cfg hd hs, hk]

theorem async_late_step {cfg : Cfg} {v : Option α} {st : St α} {rest : List (Task α)}
    (hk : cfg.kind = .async) (who : Option Id) (j : Id) (x : α)
    (h : Reachable cfg v st (.act who (.sub j) :: rest))
    (hs : st.stopped = true) (hd : st.disposed = false) (hj : st.seen j = false)
    (hx : lastNext st.tr = some x) (hc : terminated st.tr = some .completed) :
    step1 cfg st (.act who (.sub j)) = ({ st with seen := upd st.seen j true },
      [.deliver j (.next x), .deliver j .completed, .finish j (some .noop)], false) := by
  have hV := reachable_vinv h
  have ha := hV.asy hk hd
  have hterm := (hV.term hd).1 hs
  have hexc : st.exception = none := by
    rw [hc] at hterm
    unfold termOf at hterm
    cases hxx : st.exception with
    | none => rfl
    | some e => simp [hxx] at hterm
  have h1 : st.value = some x := by rw [ha.1, hx]
  have h2 : st.hasValue = true := by rw [ha.2, hx]; rfl
  refine step1_sub ((doSub_late cfg who hj hd hs (by simp [termOf, hexc, userSees])).trans ?_)
  rw [if_pos ⟨hk, hexc, h2⟩, h1, show termOf st = .completed by simp [termOf, hexc]]; rfl

end Subj
