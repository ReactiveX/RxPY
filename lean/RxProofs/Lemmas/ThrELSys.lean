import RxProofs.Lemmas.ThrELOrder
/-!
# EventLoopScheduler model, the system of threads: one loop thread, wake-ups, order, time, cancellation, disposal (C31)
-/
namespace Thr.EL

def nLoopT (th : Th) : Nat := nLoop th.stack
def nRunT (th : Th) : Nat := nRun th.stack

/-- well-shaped stacks, and `E1s` of the shared state, the number of loop frames and the threads holding one -/
structure E1 (s : Sys) : Prop where
  shapes : ∀ th ∈ s.ths, Shape th.stack
  mx : sumBy nLoopT s.ths ≤ 1 ∧ (s.sh.thread = none → sumBy nLoopT s.ths = 0)
  w : s.sh.wstate = .waitingU → s.sh.readyList = [] ∧ s.sh.queue = []
  pt : s.sh.readyList ≠ [] ∨ s.sh.queue ≠ [] → s.sh.thread ≠ none
  al : ∀ t, s.sh.thread = some t → s.sh.disposed = false → ∃ th, s.ths[t]? = some th ∧ nLoop th.stack = 1

theorem Sys.step_eff (xie : Bool) (s : Sys) (i dt : Nat) (hs : ∀ th ∈ s.ths, Shape th.stack) :
    s.step xie i dt = s ∨ ∃ th sh' th' spawn, s.ths[i]? = some th ∧ Shape th'.stack ∧
      Eff xie i s.ths.length { s.sh with clock := s.sh.clock + dt } th.stack sh' th'.stack spawn ∧
      s.step xie i dt = { sh := sh', ths := if spawn then s.ths.set i th' ++ [{ stack := [.loop .top []] }] else s.ths.set i th' } := by
  cases hi : s.ths[i]? with
  | none => exact .inl (by simp [Sys.step, hi])
  | some th =>
    obtain ⟨hshape, e⟩ := thStep_spec xie i s.ths.length { s.sh with clock := s.sh.clock + dt } th (hs th (List.mem_of_getElem? hi))
    exact .inr ⟨th, _, _, _, rfl, hshape, e, by simp [Sys.step, hi]⟩

theorem e1_step (xie : Bool) (s : Sys) (i dt : Nat) (h : E1 s) : E1 (s.step xie i dt) := by
  rcases Sys.step_eff xie s i dt h.shapes with hs | ⟨th, sh', th', spawn, hi, hshape, e, hs⟩ <;> rw [hs]
  · exact h
  · obtain ⟨shapes, mx, w, pt, al⟩ := h
    have hilt : i < s.ths.length := (List.getElem?_eq_some_iff.mp hi).1
    have hS := sumBy_set nLoopT s.ths i th th' hi
    generalize hths : (if spawn = true then s.ths.set i th' ++ [{ stack := [.loop .top []] }] else s.ths.set i th') = ths'
    have hsub : ∀ (t : Nat) (th0 : Th), (s.ths.set i th')[t]? = some th0 → ths'[t]? = some th0 := by
      intro t th0 h0; subst hths; split
      · rw [List.getElem?_append_left (List.getElem?_eq_some_iff.mp h0).1]; exact h0
      · exact h0
    have e1 := e.e1 (n := sumBy nLoopT s.ths) (n' := sumBy nLoopT ths') (has := fun t => ∃ th0, s.ths[t]? = some th0 ∧ nLoop th0.stack = 1)
      (has' := fun t => ∃ th0, ths'[t]? = some th0 ∧ nLoop th0.stack = 1) ⟨mx, w, pt, al⟩ (sumBy_le_mem nLoopT s.ths i th hi)
      (by subst hths; cases spawn <;> simp [sumBy_append, nLoopT, nLoop] at hS ⊢ <;> omega)
      (fun t hti ⟨th0, g1, g2⟩ => ⟨th0, hsub t th0 (by rw [List.getElem?_set_ne (Ne.symm hti)]; exact g1), g2⟩)
      (fun hl ⟨th0, g1, g2⟩ => ⟨th', hsub i th' (List.getElem?_set_self hilt), by rw [hi] at g1; cases g1; omega⟩)
      (fun hsp => by subst hths hsp; exact ⟨{ stack := [.loop .top []] }, by simp, rfl⟩)
    refine ⟨fun x hx => ?_, e1.mx, e1.w, e1.pt, e1.al⟩
    subst hths
    have hset : ∀ x ∈ s.ths.set i th', Shape x.stack := fun x hx =>
      (List.mem_or_eq_of_mem_set hx).elim (shapes x) (fun h => h ▸ hshape)
    split at hx
    · rcases List.mem_append.mp hx with hx | hx
      · exact hset x hx
      · cases List.mem_singleton.mp hx; exact Shape.loop _ _ fun _ => rfl
    · exact hset x hx

theorem readyOf_of_nLoop_zero (st : List Frame) (h : nLoop st = 0) : readyOf st = [] := by
  induction st with
  | nil => rfl
  | cons f fs ih => cases f <;> simp_all [nLoop, readyOf] <;> omega

theorem ra_append_new (l : List Th) : readyAll (l ++ [{ stack := [.loop .top []] }]) = readyAll l := by
  simp [readyAll, readyT, readyOf]

theorem e2_step (xie : Bool) (s : Sys) (i dt : Nat) (h1 : E1 s) (h : E2 s.sh (readyAll s.ths)) :
    E2 (s.step xie i dt).sh (readyAll (s.step xie i dt).ths) := by
  rcases Sys.step_eff xie s i dt h1.shapes with hs | ⟨th, sh', th', spawn, hi, -, e, hs⟩ <;> rw [hs]
  · exact h
  · have hnew : readyAll (if spawn = true then s.ths.set i th' ++ [{ stack := [.loop .top []] }] else s.ths.set i th')
        = readyAll (s.ths.set i th') := by
      split
      · exact ra_append_new _
      · rfl
    -- the batch is the loop thread's: a thread without a loop frame leaves it alone
    refine e.e2 ?_ (h.tick dt)
    rw [hnew]
    by_cases h0 : nLoop th.stack = 0
    · exact .inl ⟨h0, flatMap_set_nil readyT _ i th th' hi (readyOf_of_nLoop_zero _ h0) (readyOf_of_nLoop_zero _ (Nat.le_zero.mp (h0 ▸ e.loops)))⟩
    · exact .inr (flatMap_unique nLoopT readyT (fun th => readyOf_of_nLoop_zero th.stack) s.ths i th th' hi (Nat.pos_of_ne_zero h0) h1.mx.1)

theorem e1_init (progs : List (List Op)) (clock : Int) : E1 (Sys.init progs clock) := by
  have hz : sumBy nLoopT (progs.map fun p => ({ stack := [Frame.act none p] } : Th)) = 0 := sumBy_map_zero _ _ _ fun _ => rfl
  refine ⟨?_, ?_, ?_, ?_, ?_⟩
  · intro th hth
    simp only [Sys.init, List.mem_map] at hth
    obtain ⟨p, _, rfl⟩ := hth
    exact Shape.client _ rfl
  · simp only [Sys.init]; rw [hz]; simp
  · simp [Sys.init]
  · simp [Sys.init]
  · simp [Sys.init]

theorem e2_init (progs : List (List Op)) (clock : Int) : E2 (Sys.init progs clock).sh (readyAll (Sys.init progs clock).ths) := by
  have : readyAll (progs.map fun p => ({ stack := [Frame.act none p] } : Th)) = [] := by
    simp only [readyAll, List.flatMap_eq_nil_iff, List.mem_map]
    intro x ⟨p, _, hx⟩; subst hx; simp [readyT, readyOf]
  refine ⟨?_, ?_, ?_, this ▸ TQ.nil, ⟨?_, ?_, ?_, ?_, ?_⟩⟩ <;> simp [Sys.init, this, immEnq, immPop, okCancel, okDisp]

structure EInv (s : Sys) : Prop where
  e1 : E1 s
  e2 : E2 s.sh (readyAll s.ths)

theorem einv_run (xie : Bool) (s : Sys) (sched : List (Nat × Nat)) (h : EInv s) : EInv (s.run xie sched) :=
  List.foldl_pres (P := EInv) _ (fun s p h => ⟨e1_step xie s p.1 p.2 h.e1, e2_step xie s p.1 p.2 h.e1 h.e2⟩) sched h

theorem spawn_run (s : Sys) (sched : List (Nat × Nat)) (h1 : E1 s) (h : nSpawn s.sh.log = s.sh.thread.isSome.toNat) :
    nSpawn (s.run false sched).sh.log = (s.run false sched).sh.thread.isSome.toNat := by
  refine (List.foldl_pres (P := fun s => E1 s ∧ nSpawn s.sh.log = s.sh.thread.isSome.toNat) _ (fun s p h => ⟨e1_step false s p.1 p.2 h.1, ?_⟩)
    sched ⟨h1, h⟩).2
  rcases Sys.step_eff false s p.1 p.2 h.1.shapes with hs | ⟨th, sh', th', spawn, -, -, e, hs⟩ <;> rw [hs]
  · exact h.2
  · exact e.spawn h.2

end Thr.EL
