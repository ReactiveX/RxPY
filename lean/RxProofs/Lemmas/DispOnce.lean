import RxProofs.Lemmas.DispBase
/-!
# Invariants behind C25 (Disposable, BooleanDisposable, ScheduledDisposable)
-/
namespace Disp

/-- threads that won the test-and-set and have not yet run the action -/
def dWon : DTh → Nat
  | (.won, _) => 1
  | _ => 0

def DInv (s : Sys DSh DTh) : Prop :=
  s.sh.actions + wsum dWon s.pcs = s.sh.isDisposed.toNat ∧ (0 < s.sh.returned → s.sh.isDisposed = true)

theorem dInv_pres (raises : Nat → Bool) (t : DTh) : Sys.Pres (dStep raises) DInv t :=
  Sys.pres_wsum (dStep raises) dWon
    (fun s n => s.actions + n = s.isDisposed.toNat ∧ (0 < s.returned → s.isDisposed = true)) t fun sh m ⟨ha, hr⟩ => by
  obtain ⟨pc, n⟩ := t
  cases pc with
  | idle =>
    cases n with
    | zero => exact ⟨ha, hr⟩
    | succ n =>
      cases hd : sh.isDisposed <;> simp [dStep, dWon, hd] at * <;> omega
  | won =>
    cases hd : sh.isDisposed <;> simp [dStep, dWon, hd] at * <;> omega

theorem dInv_init (calls : List Nat) : DInv (dInit calls) := by
  refine ⟨?_, by simp [dInit]⟩
  have : wsum dWon (dInit calls).pcs = 0 := wsum_map_zero _ _ _ fun _ => rfl
  rw [this]; simp [dInit]

theorem dInv_run (raises : Nat → Bool) (calls : List Nat) (sched : List Nat) : DInv ((dInit calls).run (dStep raises) sched) :=
  Sys.run_inv (dStep raises) DInv (dInv_pres raises) _ sched (dInv_init calls)

theorem d_seq_tail (raises : Nat → Bool) (sh : DSh) (n : Nat) (hd : sh.isDisposed = true) :
    let s := (Sys.run (dStep raises) ⟨sh, [(.idle, n)]⟩ (List.replicate n 0))
    s.sh.actions = sh.actions ∧ s.sh.isDisposed = true ∧ s.sh.returned = sh.returned + n := by
  induction n generalizing sh with
  | zero => simp [Sys.run, hd]
  | succ n ih =>
    simp only [List.replicate_succ, Sys.run_cons]
    have hs : Sys.step (dStep raises) ⟨sh, [(.idle, n + 1)]⟩ 0
        = ⟨{ sh with returned := sh.returned + 1, log := sh.log ++ [.lock 0, .ret .unit] }, [(.idle, n)]⟩ := by
      simp [Sys.step, dStep, hd]
    rw [hs]
    have := ih { sh with returned := sh.returned + 1, log := sh.log ++ [.lock 0, .ret .unit] } hd
    simp only at this ⊢
    obtain ⟨a, b, c⟩ := this
    exact ⟨a, b, by omega⟩

def BInv (s : Sys BSh Nat) : Prop :=
  s.sh.isDisposed = decide (0 < s.sh.calls) ∧ ∀ e ∈ s.sh.log, e = .wr ∨ e = .ret .unit

theorem bInv_pres (p : Nat) : Sys.Pres bStep BInv p :=
  Sys.pres_sh bStep (fun s => s.isDisposed = decide (0 < s.calls) ∧ ∀ e ∈ s.log, e = .wr ∨ e = .ret .unit) p fun sh ⟨h1, h2⟩ => by
  cases p with
  | zero => exact ⟨h1, h2⟩
  | succ n =>
    refine ⟨by simp [bStep], ?_⟩
    intro e he
    simp [bStep] at he
    rcases he with he | he | he
    · exact h2 e he
    · exact Or.inl he
    · exact Or.inr he

def sPend : SPc → Nat
  | .pend _ => 1
  | _ => 0

/-- the wrapped resource is in exactly one place: still assigned, in a worker's hand, or disposed (first conjunct); only
workers dispose it; the three flag facts keep this -/
def SInv (s : Sys SSh SPc) : Prop :=
  s.sh.cnt + wsum sPend s.pcs + s.sh.sadCurrent.isSome.toNat = 1 ∧
  s.sh.cnt = s.sh.byWorker ∧
  (0 < s.sh.started → s.sh.sadDisposed = true ∧ 0 < s.sh.queued) ∧
  (s.sh.sadDisposed = true → s.sh.sadCurrent = none) ∧
  (s.sh.sadCurrent = none → 0 < s.sh.started)

theorem sInv_pres (p : SPc) : Sys.Pres sStep SInv p :=
  Sys.pres_wsum sStep sPend (fun s n => s.cnt + n + s.sadCurrent.isSome.toNat = 1 ∧ s.cnt = s.byWorker ∧
    (0 < s.started → s.sadDisposed = true ∧ 0 < s.queued) ∧ (s.sadDisposed = true → s.sadCurrent = none) ∧
    (s.sadCurrent = none → 0 < s.started)) p fun sh m ⟨ha, hb, hc, hd, he⟩ => by
  cases p with
  | caller n =>
    cases n with
    | zero => exact ⟨ha, hb, hc, hd, he⟩
    | succ n => exact ⟨ha, hb, fun h => ⟨(hc h).1, Nat.succ_pos _⟩, hd, he⟩
  | waiting k =>
    simp only [sPend] at ha
    by_cases hk : k < sh.queued
    · cases hsd : sh.sadDisposed
      · cases hcur : sh.sadCurrent
        · have := (hc (he hcur)).1; simp [hsd] at this
        · simp only [sStep, hk, hsd, hcur, if_true, sPend, Bool.false_eq_true, if_false]
          simp only [hcur, Option.isSome_some, Bool.toNat_true] at ha
          refine ⟨by simp; omega, hb, fun _ => ⟨trivial, by omega⟩, fun _ => trivial, fun _ => by omega⟩
      · simp only [sStep, hk, hsd, if_true, sPend]
        exact ⟨ha, hb, fun _ => ⟨trivial, by omega⟩, fun _ => hd hsd, fun _ => by omega⟩
    · simp only [sStep, hk, if_false, sPend]; exact ⟨ha, hb, hc, hd, he⟩
  | pend i =>
    simp only [sStep, sPend] at *
    exact ⟨by omega, by omega, hc, hd, he⟩
  | done => exact ⟨ha, hb, hc, hd, he⟩

theorem sInv_init (callers : List Nat) (workers : Nat) : SInv (sInit callers workers) := by
  have : wsum sPend (sInit callers workers).pcs = 0 := by
    apply wsum_eq_zero; intro a ha
    simp [sInit] at ha
    rcases ha with ⟨n, _, rfl⟩ | ⟨k, _, rfl⟩ <;> rfl
  refine ⟨by rw [this]; simp [sInit], by simp [sInit], by simp [sInit], by simp [sInit], by simp [sInit]⟩

end Disp
