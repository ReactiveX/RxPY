import RxModel.DispNest
import RxProofs.Lemmas.DispBase
/-!
# Invariants of the nested thread model (Composite ∋ Serial ∋ leaves)

The model has a pc type of its own (`NPc`), so the file states every piece itself.
-/
namespace Disp

def nPendW (i : Nat) : NTh → Nat
  | (.pend l _, _) => l.count i
  | _ => 0

def nCallW : NTh → Nat
  | (.callS _, _) => 1
  | _ => 0

def nProgSets (i : Nat) : NTh → Nat
  | (_, p) => p.count (.setS i)

def nProgDispC : NTh → Nat
  | (.cChk, p) => 1 + p.count .dispC
  | (_, p) => p.count .dispC

theorem nOut_sh (s : NSh) (ev l r p) :
    (NSh.out s ev l r p).1 = { s with log := s.log ++ ev :: (if l = [] then [.ret r] else []) } := by
  cases l <;> simp [NSh.out]

theorem nOut_w (s : NSh) (ev l r p) : (∀ i, nPendW i (NSh.out s ev l r p).2 = l.count i ∧
    nProgSets i (NSh.out s ev l r p).2 = p.count (.setS i)) ∧ nCallW (NSh.out s ev l r p).2 = 0 ∧
    nProgDispC (NSh.out s ev l r p).2 = p.count .dispC := by
  cases l <;> simp [NSh.out, nPendW, nProgSets, nCallW, nProgDispC]

structure NInv2 (s : NSh) : Prop where
  sdis : s.sDisposed = true → s.sCurrent = none
  cdis : s.cDisposed = true → s.cHasS = false
  via : 0 < s.viaC → s.sDisposed = true
  ccall : 0 < s.cCalls → s.cDisposed = true

structure NInv (progs : List (List NOp)) (s : Sys NSh NTh) : Prop where
  leaf : ∀ i, s.sh.cnt i + s.sh.sCurrent.toList.count i + wsum (nPendW i) s.pcs = s.sh.given i
  once : s.sh.viaC + s.sh.cHasS.toNat + wsum nCallW s.pcs = 1
  flags : NInv2 s.sh
  sets : ∀ i, s.sh.given i + wsum (nProgSets i) s.pcs = wsum (fun p => p.count (NOp.setS i)) progs
  calls : s.sh.cCalls + wsum nProgDispC s.pcs = wsum (fun p => p.count NOp.dispC) progs

/-- `once`: the serial is in the composite, owed a `dispose()` by this thread, or disposed on the composite's behalf -/
structure NConserve (s : NSh) (t : NTh) (r : NSh × NTh) (i : Nat) : Prop where
  leaf : r.1.cnt i + r.1.sCurrent.toList.count i + nPendW i r.2 + s.given i
    = s.cnt i + s.sCurrent.toList.count i + nPendW i t + r.1.given i
  once : r.1.viaC + r.1.cHasS.toNat + nCallW r.2 = s.viaC + s.cHasS.toNat + nCallW t
  sets : r.1.given i + nProgSets i r.2 = s.given i + nProgSets i t
  calls : r.1.cCalls + nProgDispC r.2 = s.cCalls + nProgDispC t

theorem nStep_conserve (s : NSh) (t : NTh) (i : Nat) : NConserve s t (nStep s t) i := by
  obtain ⟨pc, prog⟩ := t
  cases pc with
  | idle =>
    cases prog with
    | nil => exact ⟨rfl, rfl, rfl, rfl⟩
    | cons op prog =>
      cases op <;> simp only [nStep, NSh.serDispose] <;> split <;> constructor <;> (try simp only [nOut_sh, nOut_w]) <;>
        simp [nPendW, nCallW, nProgSets, nProgDispC, count_bump, count_cons_inj NOp.setS (fun _ _ => NOp.setS.inj)] <;>
        omega
  | cChk => simp only [nStep]; split <;> constructor <;> simp [nPendW, nCallW, nProgSets, nProgDispC, *] <;> omega
  | rChk => simp only [nStep]; split <;> constructor <;> simp [nPendW, nCallW, nProgSets, nProgDispC, *]
  | callS r =>
    simp only [nStep, NSh.serDispose]
    split <;> constructor <;> simp only [nOut_sh, nOut_w] <;> simp [nPendW, nCallW, nProgSets, nProgDispC] <;> omega
  | pend l r =>
    match l with
    | [] => exact ⟨rfl, rfl, rfl, rfl⟩
    | [j] => constructor <;> simp [nStep, nPendW, nCallW, nProgSets, nProgDispC, count_bump]; omega
    | j :: k :: l => constructor <;> simp [nStep, nPendW, nCallW, nProgSets, nProgDispC, count_bump, List.count_cons]; omega

theorem nStep_flags (s : NSh) (t : NTh) (h : NInv2 s) : NInv2 (nStep s t).1 := by
  obtain ⟨pc, prog⟩ := t
  obtain ⟨h1, h2, h3, h4⟩ := h
  cases pc with
  | idle =>
    cases prog with
    | nil => exact ⟨h1, h2, h3, h4⟩
    | cons op prog =>
      cases op <;> simp only [nStep, NSh.serDispose] <;> split <;> constructor <;> (try simp only [nOut_sh]) <;> simp_all
  | cChk => simp only [nStep]; split <;> constructor <;> simp_all
  | rChk => simp only [nStep]; split <;> constructor <;> simp_all
  | callS r => simp only [nStep, NSh.serDispose]; split <;> constructor <;> simp only [nOut_sh] <;> simp_all
  | pend l r =>
    match l with
    | [] => exact ⟨h1, h2, h3, h4⟩
    | [j] => exact ⟨h1, h2, h3, h4⟩
    | j :: k :: l => exact ⟨h1, h2, h3, h4⟩

def nQuiet (s : Sys NSh NTh) : Prop := ∀ t ∈ s.pcs, t = (NPc.idle, [])
instance (s : Sys NSh NTh) : Decidable (nQuiet s) := by unfold nQuiet; infer_instance

theorem nInv_run (progs : List (List NOp)) (sched : List Nat) : NInv progs ((nInit progs).run nStep sched) where
  leaf i := Sys.conserve_run nStep (fun s => s.cnt i + s.sCurrent.toList.count i) (·.given i) (nPendW i)
    (fun s t => (nStep_conserve s t i).leaf) (nInit progs) (wsum_map_zero _ _ _ fun _ => rfl) (by simp [nInit]) sched
  once := Sys.conserve_run nStep (fun s => s.viaC + s.cHasS.toNat) (fun _ => 1) nCallW
    (fun s t => congrArg (· + 1) (nStep_conserve s t 0).once) (nInit progs) (wsum_map_zero _ _ _ fun _ => rfl) (by simp [nInit]) sched
  flags := Sys.run_inv nStep _ (fun t => Sys.pres_sh nStep NInv2 t fun s => nStep_flags s t) (nInit progs) sched
    ⟨by simp [nInit], by simp [nInit], by simp [nInit], by simp [nInit]⟩
  sets i := by
    refine Sys.run_inv nStep _ (Sys.conserve_const nStep (·.given i) (nProgSets i) _
      fun s t => (nStep_conserve s t i).sets) _ sched ?_
    simp [nInit, wsum_map, nProgSets]
  calls := by
    refine Sys.run_inv nStep _ (Sys.conserve_const nStep (·.cCalls) nProgDispC _
      fun s t => (nStep_conserve s t 0).calls) _ sched ?_
    simp [nInit, wsum_map, nProgDispC]

theorem NInv.quiet {progs s} (h : NInv progs s) (hq : nQuiet s) (i : Nat) :
    s.sh.cnt i + s.sh.sCurrent.toList.count i = wsum (fun p => p.count (NOp.setS i)) progs := by
  have a := h.leaf i; have b := h.sets i
  rw [wsum_quiet (nPendW i) _ _ hq rfl] at a; rw [wsum_quiet (nProgSets i) _ _ hq rfl] at b
  omega

theorem NInv.quiet_once {progs s} (h : NInv progs s) (hq : nQuiet s) : s.sh.viaC + s.sh.cHasS.toNat = 1 := by
  have c := h.once
  rwa [wsum_quiet nCallW _ _ hq rfl] at c

theorem NInv.quiet_calls {progs s} (h : NInv progs s) (hq : nQuiet s) :
    s.sh.cCalls = wsum (fun p => p.count NOp.dispC) progs := by
  have c := h.calls
  rwa [wsum_quiet nProgDispC _ _ hq rfl] at c

end Disp
