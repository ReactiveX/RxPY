import RxProofs.Lemmas.InsertDue
/-!
# The (due, seq) discipline of a scheduler's timed queue, over `insertDue` (C30, C31)
-/

namespace Thr

export List (insertDue length_insertDue mem_insertDue pairwise_insertDue insertDue_sorted)

/-- The timed-queue discipline of the trampoline (`Tramp.inv2_iff`) and of the event loop (`EL.E2.tq`): `A` lists (due, seq) of the items taken out of the
queue so far, in that order, `q` is the queue, `n` the next sequence number; `P`: nothing was scheduled into the past (trampoline), `True` (event loop). -/
structure TQ {β : Type} (due : β → Int) (seq : β → Nat) (P : Prop) (A : List (Int × Nat)) (q : List β) (clock : Int) (n : Nat) : Prop where
  qs : q.Pairwise (fun a b => due a ≤ due b)
  sq : ∀ k ∈ A ++ q.map (fun x => (due x, seq x)), k.2 < n
  eo : (A ++ q.map (fun x => (due x, seq x))).Pairwise (fun a b => a.1 = b.1 → a.2 < b.2)
  dc : ∀ k ∈ A, k.1 ≤ clock
  lo : P → (A ++ q.map (fun x => (due x, seq x))).Pairwise (fun a b => a.1 ≤ b.1)

variable {β : Type} {due : β → Int} {seq : β → Nat} {P P' : Prop} {A A' : List (Int × Nat)} {q q' : List β} {c c' : Int} {n n' : Nat}

theorem TQ.nil : TQ due seq P [] [] c n := ⟨.nil, nofun, .nil, nofun, fun _ => .nil⟩

theorem TQ.taken_eo {A₁ A₂ : List (Int × Nat)} (h : TQ due seq P (A₁ ++ A₂) q c n) : A₁.Pairwise (fun a b => a.1 = b.1 → a.2 < b.2) :=
  (List.pairwise_append.mp (List.append_assoc .. ▸ h.eo)).1

theorem TQ.taken_lo {A₁ A₂ : List (Int × Nat)} (h : TQ due seq P (A₁ ++ A₂) q c n) (p : P) : A₁.Pairwise (fun a b => a.1 ≤ b.1) :=
  (List.pairwise_append.mp (List.append_assoc .. ▸ h.lo p)).1

/-- items are dropped, or move from the queue to the taken ones -/
theorem TQ.sub (h : TQ due seq P A q c n) (hq : q'.Sublist q)
    (hL : (A' ++ q'.map (fun x => (due x, seq x))).Sublist (A ++ q.map (fun x => (due x, seq x))))
    (hA : ∀ k ∈ A', k ∈ A ∨ k.1 ≤ c') (hc : c ≤ c') (hn : n ≤ n') (hP : P' → P) : TQ due seq P' A' q' c' n' :=
  ⟨h.qs.sublist hq, fun k hk => Nat.lt_of_lt_of_le (h.sq k (hL.subset hk)) hn, h.eo.sublist hL,
    fun k hk => (hA k hk).elim (fun hk => Int.le_trans (h.dc k hk) hc) id, fun p => (h.lo (hP p)).sublist hL⟩

theorem TQ.mono (h : TQ due seq P A q c n) (hc : c ≤ c') (hn : n ≤ n') (hP : P' → P) : TQ due seq P' A q c' n' :=
  h.sub (.refl _) (.refl _) (fun _ hk => .inl hk) hc hn hP

theorem TQ.enq (h : TQ due seq P A q c n) (x : β) (hx : seq x = n) (hA : P → ∀ a ∈ A, a.1 ≤ due x) (hc : c ≤ c') (hP : P' → P) :
    TQ due seq P' A (insertDue due q x) c' (n + 1) := by
  subst hx
  have hS : ∀ a ∈ A, a.2 < seq x := fun a ha => h.sq a (List.mem_append_left _ ha)
  have hQ : ∀ y ∈ q, seq y < seq x := fun y hy =>
    h.sq (due y, seq y) (List.mem_append_right _ (List.mem_map.mpr ⟨y, hy, rfl⟩))
  refine ⟨insertDue_sorted _ _ _ h.qs, ?_, ?_, fun k hk => Int.le_trans (h.dc k hk) hc, fun p => ?_⟩
  · intro k hk
    rcases List.mem_append.mp hk with hk | hk
    · exact Nat.lt_succ_of_lt (hS k hk)
    · obtain ⟨y, hy, rfl⟩ := List.mem_map.mp hk
      rcases (mem_insertDue _ _ _ _).mp hy with rfl | hy
      · exact Nat.lt_succ_self _
      · exact Nat.lt_succ_of_lt (hQ y hy)
  · refine pairwise_insertDue due (fun a b => a.1 = b.1 → a.2 < b.2) (fun y => (due y, seq y)) A q x h.qs h.eo (fun a ha _ => hS a ha) (fun y hy _ _ => hQ y hy) ?_
    intro y hy (hlt : due x < due y) (heq : due x = due y); omega
  · exact pairwise_insertDue due (fun a b => a.1 ≤ b.1) (fun y => (due y, seq y)) A q x h.qs (h.lo (hP p)) (hA (hP p)) (fun y hy h => h)
      (fun y hy (h : due x < due y) => Int.le_of_lt h)

end Thr
