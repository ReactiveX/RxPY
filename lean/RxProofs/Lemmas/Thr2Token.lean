import RxProofs.Lemmas.Thr2Serial
/-!
# Lemmas for C43 — exclusion by a token instead of a lock

Programs of any shape: locked blocks, atomic steps outside the lock, unlocked downstream calls.  The lock plays no
part in the argument.  Every thread `i` has a *token* predicate `W i` on the shared state; tokens are stable under every
update the programs can make and mutually exclusive.  `Tok W K t`: given that the stable fact `K` holds now, a thread
at position `t` reaches a downstream call only when it knows its token (knowledge is refined after each atomic step by
what the step established — `K'`, itself stable; a call's own guard counts).  Then at most one thread is ever inside
the observer.
-/

namespace Thr2

variable {σ α : Type}

def Stable (Upd : (σ → σ) → Prop) (K : σ → Prop) : Prop := ∀ v, Upd v → ∀ t, K t → K (v t)

/-- Indexed by the positions a thread can stand at between downstream calls: `.run p` and `.crit b k`.  A program that
needs no knowledge (binary `amb`) takes `K' := fun _ _ => True`. -/
inductive Tok (Upd : (σ → σ) → Prop) (W : σ → Prop) : (σ → Prop) → TS σ α → Prop
  | halt {K} : Tok Upd W K (.run .halt)
  | free {K u n} (K' : σ → σ → Prop) : Upd u → (∀ s, K s → Stable Upd (K' s) ∧ K' s (u s)) →
      (∀ s, K s → Tok Upd W (K' s) (.run (n s))) → Tok Upd W K (.run (.free u n))
  | ucall {K o k} : (∀ s c, K s → o s = some c → W s) → Tok Upd W K (.run k) → Tok Upd W K (.run (.ucall o k))
  | crit {K b k} : Tok Upd W K (.crit b k) → Tok Upd W K (.run (.crit b k))
  | done {K k} : Tok Upd W K (.run k) → Tok Upd W K (.crit .done k)
  | step {K u o n k} (K' : σ → σ → Prop) : Upd u →
      (∀ s, K s → Stable Upd (K' s) ∧ K' s (u s) ∧ ∀ c, o s = some c → W (u s)) →
      (∀ s, K s → Tok Upd W (K' s) (.crit (n s) k)) → Tok Upd W K (.crit (.step u o n) k)

theorem Tok.weaken {Upd : (σ → σ) → Prop} {W K K' : σ → Prop} {t : TS σ α} (h : Tok Upd W K t)
    (hk : ∀ s, K' s → K s) : Tok Upd W K' t := by
  induction h generalizing K' with
  | halt => exact .halt
  | free K'' hu h1 _ ih => exact .free K'' hu (fun s hs => h1 s (hk s hs)) (fun s hs => ih s (hk s hs) (fun _ h => h))
  | ucall h1 _ ih => exact .ucall (fun s c hs => h1 s c (hk s hs)) (ih hk)
  | crit _ ih => exact .crit (ih hk)
  | done _ ih => exact .done (ih hk)
  | step K'' hu h1 _ ih => exact .step K'' hu (fun s hs => h1 s (hk s hs)) (fun s hs => ih s (hk s hs) (fun _ h => h))

structure TokAt (Upd : (σ → σ) → Prop) (W K : σ → Prop) (st : σ) (t : TS σ α) : Prop where
  stable : Stable Upd K
  now : K st
  tok : Tok Upd W K t.resume
  inObs : t.inObs = true → W st

def TInv (Upd : (σ → σ) → Prop) (W : Nat → σ → Prop) (S : Sys σ α) : Prop :=
  ∀ j, ∃ K : σ → Prop, TokAt Upd (W j) K S.st (S.thr j)

theorem TInv_excl (Upd : (σ → σ) → Prop) (W : Nat → σ → Prop) (hex : ∀ i j s, W i s → W j s → i = j)
    (S : Sys σ α) (h : TInv Upd W S) : Excl S := by
  intro j k hj hk
  obtain ⟨_, aj⟩ := h j
  obtain ⟨_, ak⟩ := h k
  exact hex j k S.st (aj.inObs hj) (ak.inObs hk)

theorem Move.tok {Upd : (σ → σ) → Prop} {W K : σ → Prop} {st st' : σ} {x : Option (Notif α)} {r r' : TS σ α}
    (hm : Move st r st' x r') (hs : Stable Upd K) (hk : K st) (hT : Tok Upd W K r) :
    (∀ P, Stable Upd P → P st → P st') ∧
      ∃ K', Stable Upd K' ∧ K' st' ∧ Tok Upd W K' r' ∧ (x.isSome = true → W st') := by
  cases hm with
  | stay => exact ⟨fun _ _ h => h, K, hs, hk, hT, nofun⟩
  | free =>
    cases hT with | free K' hu h1 h2 =>
    exact ⟨fun _ hP h => hP _ hu _ h, K' st, (h1 _ hk).1, (h1 _ hk).2, h2 _ hk, nofun⟩
  | acquire => cases hT with | crit h1 => exact ⟨fun _ _ h => h, K, hs, hk, h1, nofun⟩
  | ucall =>
    cases hT with | ucall h1 h2 =>
    exact ⟨fun _ _ h => h, K, hs, hk, h2, fun hx => (Option.isSome_iff_exists.1 hx).elim fun c hc => h1 _ c hk hc⟩
  | release => cases hT with | done h1 => exact ⟨fun _ _ h => h, K, hs, hk, h1, nofun⟩
  | body =>
    cases hT with | step K' hu h1 h2 =>
    exact ⟨fun _ hP h => hP _ hu _ h, K' st, (h1 _ hk).1, (h1 _ hk).2.1, h2 _ hk, fun hx =>
      (Option.isSome_iff_exists.1 hx).elim fun c hc => (h1 _ hk).2.2 c hc⟩

theorem step_TInv (Upd : (σ → σ) → Prop) (W : Nat → σ → Prop) (hst : ∀ j, Stable Upd (W j))
    (S S' : Sys σ α) (i : Nat) (hI : TInv Upd W S) (hs : step S i = some S') : TInv Upd W S' := by
  obtain ⟨t', x, ht, _, hm, hin⟩ := step_Move hs
  obtain ⟨K, a⟩ := hI i
  obtain ⟨hmv, K', hK's, hK', hg, hw⟩ := hm.tok a.stable a.now a.tok
  intro j
  by_cases hji : j = i
  · subst hji
    refine ⟨K', hK's, hK', by rw [ht, upd_same]; exact hg, fun h => ?_⟩
    rw [ht, upd_same] at h
    -- inside the observer after the step: it was there before, or it has just made a call
    exact (hin h).elim (fun h' => hmv _ (hst j) (a.inObs h')) hw
  · obtain ⟨Kj, b⟩ := hI j
    exact ⟨Kj, b.stable, hmv _ b.stable b.now, by rw [ht, upd_other _ _ _ _ hji]; exact b.tok,
      by rw [ht, upd_other _ _ _ _ hji]; exact fun h => hmv _ (hst j) (b.inObs h)⟩

theorem token_serial (Upd : (σ → σ) → Prop) (W : Nat → σ → Prop) (hex : ∀ i j s, W i s → W j s → i = j)
    (hst : ∀ j, Stable Upd (W j)) (s0 : σ) (progs : Nat → TProg σ α)
    (hp : ∀ i, Tok Upd (W i) (fun _ => True) (.run (progs i))) (sch : List Nat) :
    (runSched (init s0 progs) sch).maxActive ≤ 1 ∧ Grammar (runSched (init s0 progs) sch).delivered :=
  serial_of_inv (TInv Upd W) (TInv_excl Upd W hex) (step_TInv Upd W hst) s0 progs
    (fun j => ⟨fun _ => True, fun _ _ _ h => h, trivial, hp j, fun h => nomatch h⟩) sch

end Thr2
