import RxProofs.Lemmas.WinGrpRouting
/-!
# `stepD` (durations derived from the group itself) and `stepN` (re-entrant feedback)

No invariant is proved along `runD`/`runN`: beyond `stepD_eq_step`/`runD_eq_run` everything here is a fact about one step from a
state that is assumed to have what the step needs (RefCountDisposable not disposed, key registered, …).
-/
namespace WinGrp
variable {α κ β : Type}

theorem writerNextD_eq {cfg : Cfg α κ β} {g : Nat} (h : cfg.dgrp g = none) (s : St κ β) (v : β) :
    writerNextD cfg s g v = writerNext s g v := by
  unfold writerNextD writerNext
  cases s.groups[g]? with
  | none => rfl
  | some r => by_cases hs : r.stopped <;> simp [h, hs]

theorem writerTermWith_eq {cfg : Cfg α κ β} {g : Nat} (h : cfg.dgrp g = none) (errAll : St κ β → Err → St κ β) (s : St κ β)
    (n : Notif β) : writerTermWith cfg errAll s g n = writerTerm s g n := by
  unfold writerTermWith writerTerm
  cases s.groups[g]? with
  | none => rfl
  | some r => by_cases hs : r.stopped <;> simp [h, hs]

section noDerived
variable {cfg : Cfg α κ β} (hnod : ∀ g, cfg.dgrp g = none)
include hnod

theorem errorAllD_eq (fuel : Nat) (s : St κ β) (e : Err) : errorAllD cfg fuel { s with failed := true } e = errorAll s e := by
  cases fuel with
  | zero => rfl
  | succ f =>
    simp only [errorAllD, errorAll, termAll]
    congr 1
    congr 1
    funext s g
    exact writerTermWith_eq (hnod g) _ s _

theorem errAllD_eq (s : St κ β) (e : Err) : errAllD cfg s e = errorAll s e := errorAllD_eq hnod _ s e

theorem completeAllD_eq (s : St κ β) : completeAllD cfg s = termAll s .completed := by
  simp only [completeAllD, termAll]
  congr 1
  funext s g
  exact writerTermWith_eq (hnod g) _ s _

theorem durFireD_eq (s : St κ β) (g : Nat) (n : Notif Unit) : durFireD cfg s g n = durFire cfg s g n := by
  cases n <;> simp [durFireD, durFire, errAllD_eq hnod]

theorem durEventD_eq (s : St κ β) (g : Nat) (n : Notif Unit) : durEventD cfg s g n = durEvent cfg s g n := by
  unfold durEventD durEvent
  cases s.groups[g]? with
  | none => rfl
  | some r => simp [hnod g, durFireD_eq hnod]

theorem pushElemD_eq (s : St κ β) (g : Nat) (x : α) : pushElemD cfg s g x = pushElem cfg s g x := by
  unfold pushElemD pushElem
  cases cfg.elemMapper x <;> simp [errAllD_eq hnod, writerNextD_eq (hnod g)]

theorem announceD_eq (s : St κ β) (g : Nat) (k : κ) : announceD cfg s g k = announce cfg s g k := by
  unfold announceD announce
  simp only [hnod g]
  cases cfg.dsync g <;> simp [durFireD_eq hnod]

theorem srcNextD_eq (s : St κ β) (x : α) : srcNextD cfg s x = srcNext cfg s x := by
  have e1 : errAllD cfg = errorAll := funext fun s => funext (errAllD_eq hnod s)
  have e2 : pushElemD cfg = pushElem cfg := funext fun s => funext fun g => funext (pushElemD_eq hnod s g)
  have e3 : announceD cfg = announce cfg := funext fun s => funext fun g => funext (announceD_eq hnod s g)
  rw [srcNextD_eq_G, srcNext_eq_G, e1, e2, e3]

theorem stepD_eq_step (s : St κ β) (e : Ev α) : stepD cfg s e = step cfg s e := by
  cases e with
  | src n =>
    cases n <;> simp [stepD, step, srcNextD_eq hnod, errAllD_eq hnod, completeAllD_eq hnod]
  | dur g n => simp [stepD, step, durEventD_eq hnod]
  | disposeOuter => rfl
  | subGroup g => rfl
  | disposeGroup g => rfl

theorem runD_eq_run (s : St κ β) (evs : List (Ev α)) : runD cfg s evs = run cfg s evs := by
  induction evs generalizing s with
  | nil => rfl
  | cons e es ih => simp [runD, run, stepD_eq_step hnod, ih]
end noDerived

theorem srcNextG_new {cfg : Cfg α κ β} (ann : St κ β → Nat → κ → St κ β) {s : St κ β} {x : α} {k : κ} {v : β}
    (hk : cfg.keyMapper x = .ok k) (hf : s.writers.find? (fun p => cfg.keyEq p.1 k) = none)
    (hsm : cfg.subjMapper s.groups.length = .ok ()) (hdm : cfg.durMapper s.groups.length = .ok ()) (hv : cfg.elemMapper x = .ok v) :
    srcNextG (errAllD cfg) (pushElemD cfg) ann cfg s x = writerNextD cfg (ann (addGroup s k) s.groups.length k) s.groups.length v := by
  rw [srcNextG_created hk hf hsm hdm]; unfold pushElemD; simp only [hv]

/-- `s` with one more group (key `k`, record `r`) registered in `writers` and `l` logged; the count includes the reference of a subscriber
attached inside the outer `on_next` (`cfg.imm`) -/
def fresh (cfg : Cfg α κ β) (s : St κ β) (k : κ) (r : Grp κ β) (l : List (Eff κ β)) : St κ β :=
  { s with groups := s.groups ++ [r], writers := s.writers ++ [(k, s.groups.length)],
           count := if cfg.imm s.groups.length then s.count + 1 else s.count, out := s.out ++ l }

def freshR (cfg : Cfg α κ β) (g : Nat) (k : κ) : Grp κ β :=
  { key := k, announced := true, sub := if cfg.imm g then .active else .none, holdsRef := cfg.imm g }

theorem fresh_get (cfg : Cfg α κ β) (s : St κ β) (k r l) : (fresh cfg s k r l).groups[s.groups.length]? = some r := by simp [fresh]
theorem fresh_length (cfg : Cfg α κ β) (s : St κ β) (k r l) : (fresh cfg s k r l).groups.length = s.groups.length + 1 := by simp [fresh]
theorem fresh_out (cfg : Cfg α κ β) (s : St κ β) (k r l) : (fresh cfg s k r l).out = s.out ++ l := rfl
theorem fresh_rcdDisposed (cfg : Cfg α κ β) (s : St κ β) (k r l) : (fresh cfg s k r l).rcdDisposed = s.rcdDisposed := rfl

theorem modGrp_fresh (cfg : Cfg α κ β) (s : St κ β) (k r l) (f : Grp κ β → Grp κ β) :
    modGrp (fresh cfg s k r l) s.groups.length f = fresh cfg s k (f r) l := by
  simp only [modGrp, fresh, List.modify_length_append]

theorem emits_fresh (cfg : Cfg α κ β) (s : St κ β) (k r l l') : emits (fresh cfg s k r l) l' = fresh cfg s k r (l ++ l') := by
  simp only [emits, fresh, List.append_assoc]

theorem emit_fresh (cfg : Cfg α κ β) (s : St κ β) (k r l e) : emit (fresh cfg s k r l) e = fresh cfg s k r (l ++ [e]) := emits_fresh cfg s k r l [e]

theorem writerNext_fresh (cfg : Cfg α κ β) (s : St κ β) (k r l) (v : β) :
    writerNext (fresh cfg s k r l) s.groups.length v = fresh cfg s k (pushR v r) (l ++ sendL s.groups.length (.next v) r) := by
  rw [writerNext_eq, act_of_not (fresh_get ..) rfl, modGrp_fresh, emits_fresh]

theorem handed_fresh (cfg : Cfg α κ β) (s : St κ β) (k : κ) (ho : s.outStopped = false) (hd : s.rcdDisposed = false) :
    handed cfg (addGroup s k) s.groups.length k =
      fresh cfg s k (freshR cfg s.groups.length k) [.outer (.next (s.groups.length, k))] := by
  unfold handed
  rw [if_neg (by simp [addGroup, ho])]
  have e : emit (modGrp (addGroup s k) s.groups.length fun r => { r with announced := true }) (.outer (.next (s.groups.length, k))) =
      { s with groups := s.groups ++ [{ key := k, announced := true }], writers := s.writers ++ [(k, s.groups.length)],
               out := s.out ++ [.outer (.next (s.groups.length, k))] } := by
    simp only [emit, modGrp, addGroup, List.modify_length_append]
  simp only [e]
  cases hi : cfg.imm s.groups.length with
  | false => simp [fresh, freshR, hi]
  | true =>
    rw [if_pos rfl, subscribeGroup_eq]
    simp only [List.getElem?_append_right (Nat.le_refl _), Nat.sub_self, List.getElem?_cons_zero]
    -- the fresh writer is open: nothing is replayed, so no reference goes back
    rw [if_neg (by simp), act_of_not (r := { key := k, announced := true }) (by simp) (by simp)]
    simp [emits, modGrp, subR, subL, hd, List.modify_length_append, fresh, freshR, hi]

theorem announceD_handed (cfg : Cfg α κ β) (s : St κ β) (g : Nat) (k : κ) :
    announceD cfg s g k =
      match cfg.dgrp g with
      | some n =>
        let t := emit (modGrp (handed cfg s g k) g fun r => { r with dur := .live, dcnt := n }) (.subDur g)
        if t.rcdDisposed then closeDur t g else t
      | none =>
        match cfg.dsync g with
        | some n => durFireD cfg (handed cfg s g k) g n
        | none =>
          let t := emit (modGrp (handed cfg s g k) g fun r => { r with dur := .live }) (.subDur g)
          if t.rcdDisposed then closeDur t g else t := rfl

theorem announceD_fresh (cfg : Cfg α κ β) (s : St κ β) (k : κ) (ho : s.outStopped = false) (hd : s.rcdDisposed = false)
    (hdur : (cfg.dgrp s.groups.length).isSome = true ∨ cfg.dsync s.groups.length = none) :
    announceD cfg (addGroup s k) s.groups.length k =
      fresh cfg s k { freshR cfg s.groups.length k with dur := .live, dcnt := (cfg.dgrp s.groups.length).getD 0 }
        [.outer (.next (s.groups.length, k)), .subDur s.groups.length] := by
  rw [announceD_handed, handed_fresh cfg s k ho hd]
  cases hdg : cfg.dgrp s.groups.length with
  | some n => simp only [modGrp_fresh, emit_fresh, fresh_rcdDisposed, hd]; rfl
  | none =>
    have hds : cfg.dsync s.groups.length = none := hdur.resolve_left (by simp [hdg])
    simp only [hds, modGrp_fresh, emit_fresh, fresh_rcdDisposed, hd]; rfl

theorem writerNext_out {s : St κ β} {g : Nat} {r : Grp κ β} (hg : s.groups[g]? = some r) (v : β) :
    (writerNext s g v).out = s.out ++ sendL g (.next v) r := by
  rw [writerNext_eq, act_of_not hg rfl]; rfl

theorem writerNextD_out (cfg : Cfg α κ β) (s : St κ β) (g : Nat) (v : β) (r : Grp κ β) (hg : s.groups[g]? = some r)
    (hst : r.stopped = false) (hearly : r.subLate = false) :
    ∃ rest, (writerNextD cfg s g v).out =
      s.out ++ (.tap g (.next v) :: (if r.sub = .active then [.grp g (.next v)] else []) ++ rest) := by
  unfold writerNextD
  simp only [hg, hst, Bool.false_eq_true, if_false]
  split
  · split
    · -- the counter is exhausted: the duration fires after the delivery
      by_cases ha : r.sub = .active
      · simp only [ha, hearly, and_self, if_true]
        obtain ⟨l, hl⟩ := OutExt_durFire cfg (emit (modGrp (emit (modGrp s g fun r => { r with wlog := r.wlog ++ [Notif.next v] })
          (Eff.tap g (Notif.next v))) g fun r => { r with seen := r.seen ++ [Notif.next v] }) (Eff.grp g (Notif.next v))) g (.next ())
        exact ⟨l, by rw [hl]; simp⟩
      · simp only [ha, false_and, if_false]
        obtain ⟨l, hl⟩ := OutExt_durFire cfg (emit (modGrp s g fun r => { r with wlog := r.wlog ++ [Notif.next v] })
          (Eff.tap g (Notif.next v))) g (.next ())
        exact ⟨l, by rw [hl]; simp⟩
    · exact ⟨[], by rw [writerNext_out (r := { r with dcnt := r.dcnt - 1 }) (by simp [modGrp, hg])]; simp [sendL, hst]⟩
  · exact ⟨[], by rw [writerNext_out hg]; simp [sendL, hst]⟩

theorem group_announced_before_duration_before_element (cfg : Cfg α κ β) (s : St κ β) (x : α) (k : κ) (v : β)
    (hs : s.srcStopped = false) (ho : s.outStopped = false) (hd : s.rcdDisposed = false)
    (hk : cfg.keyMapper x = .ok k) (hf : s.writers.find? (fun p => cfg.keyEq p.1 k) = none)
    (hsm : cfg.subjMapper s.groups.length = .ok ()) (hdm : cfg.durMapper s.groups.length = .ok ())
    (hv : cfg.elemMapper x = .ok v)
    (hdur : (cfg.dgrp s.groups.length).isSome = true ∨ cfg.dsync s.groups.length = none) :
    ∃ rest, (stepD cfg s (.src (.next x))).out =
      s.out ++ (.outer (.next (s.groups.length, k)) :: .subDur s.groups.length :: .tap s.groups.length (.next v) ::
        (if cfg.imm s.groups.length then [.grp s.groups.length (.next v)] else []) ++ rest) := by
  rw [show stepD cfg s (.src (.next x)) = srcNextD cfg s x from if_neg (by simp [hs]), srcNextD_eq_G, srcNextG_new _ hk hf hsm hdm hv,
    announceD_fresh cfg s k ho hd hdur]
  obtain ⟨rest, hr⟩ := writerNextD_out cfg _ s.groups.length v
    { freshR cfg s.groups.length k with dur := .live, dcnt := (cfg.dgrp s.groups.length).getD 0 }
    (fresh_get cfg s k _ [.outer (.next (s.groups.length, k)), .subDur s.groups.length]) rfl rfl
  exact ⟨rest, by rw [hr, fresh_out]; cases hi : cfg.imm s.groups.length <;> simp [freshR, hi]⟩

theorem derived_duration_counts (cfg : Cfg α κ β) (s : St κ β) (g : Nat) (v : β) (r : Grp κ β) (m : Nat)
    (hg : s.groups[g]? = some r) (hst : r.stopped = false) (hl : r.dur = .live) (hdg : (cfg.dgrp g).isSome = true)
    (hc : r.dcnt = m + 1) (hsub : r.sub = .active) :
    (writerNextD cfg s g v).out = s.out ++ [.tap g (.next v), .grp g (.next v)] ∧
    (writerNextD cfg s g v).groups[g]? = some { r with dcnt := m, wlog := r.wlog ++ [.next v], seen := r.seen ++ [.next v] } := by
  have hcond : (r.dur = DurSt.live ∧ (cfg.dgrp g).isSome = true) := ⟨hl, hdg⟩
  unfold writerNextD
  simp only [hg, hst, Bool.false_eq_true, if_false, hcond, hc, Nat.add_one_ne_zero]
  rw [writerNext_eq, act_modGrp, act_of_not hg rfl]
  simp [hg, hst, hsub, hc, hl, modGrp, emits, pushR, sendL]

theorem derived_duration_expires_with_element (cfg : Cfg α κ β) (s : St κ β) (g : Nat) (v : β) (r : Grp κ β)
    (hg : s.groups[g]? = some r) (hst : r.stopped = false) (hl : r.dur = .live) (hdg : (cfg.dgrp g).isSome = true)
    (hc : r.dcnt = 0) (hsub : r.sub = .active) (hearly : r.subLate = false)
    (hkey : (s.writers.find? (fun p => cfg.keyEq p.1 r.key)).isSome = true) :
    ∃ l, (writerNextD cfg s g v).out =
        s.out ++ [.tap g (.next v), .grp g (.next v), .tap g .completed, .grp g .completed] ++ l ∧
      ∀ e ∈ l, Eff.isUnsub e = true := by
  have hcond : (r.dur = DurSt.live ∧ (cfg.dgrp g).isSome = true) := ⟨hl, hdg⟩
  unfold writerNextD
  simp only [hg, hst, Bool.false_eq_true, if_false, hcond, and_self, if_true, hc, hsub, hearly, durFire]
  -- `u`: after delivering `v` to the tap and the early subscriber
  generalize hu : (emit (modGrp (emit (modGrp s g fun r => { r with wlog := r.wlog ++ [Notif.next v] }) (Eff.tap g (Notif.next v))) g
      fun r => { r with seen := r.seen ++ [Notif.next v] }) (Eff.grp g (Notif.next v))) = u
  have hug : u.groups[g]? = some { r with wlog := r.wlog ++ [.next v], seen := r.seen ++ [.next v] } := by
    rw [← hu]; simp [modGrp, emit, hg]
  refine ((expire_out cfg hug (by rw [← hu]; exact hkey)).trans (tear_closeDur _ g).unsub).out_eq ?_
  rw [← hu]; simp [emits, sendL, hst, hsub]

theorem announceN_eq {cfg : Cfg α κ β} (hn : ∀ g, cfg.nest g = []) (s : St κ β) (g : Nat) (k : κ) :
    announceN cfg s g k = announceD cfg s g k := by
  unfold announceN announceD
  simp [hn g]

theorem srcNextN_eq {cfg : Cfg α κ β} (hn : ∀ g, cfg.nest g = []) (s : St κ β) (x : α) : srcNextN cfg s x = srcNextD cfg s x := by
  have e : announceN cfg = announceD cfg := funext fun s => funext fun g => funext (announceN_eq hn s g)
  rw [srcNextN_eq_G, srcNextD_eq_G, e]

theorem announceN_handed (cfg : Cfg α κ β) (s : St κ β) (g : Nat) (k : κ) (ho : s.outStopped = false) :
    announceN cfg s g k =
      let t0 := (cfg.nest g).foldl (fun s y => if s.srcStopped then s else srcNextD cfg s y) (handed cfg s g k)
      match cfg.dgrp g with
      | some n =>
        let t := emit (modGrp t0 g fun r => { r with dur := .live, dcnt := n }) (.subDur g)
        if t.rcdDisposed then closeDur t g else t
      | none =>
        match cfg.dsync g with
        | some n => durFireD cfg t0 g n
        | none =>
          let t := emit (modGrp t0 g fun r => { r with dur := .live }) (.subDur g)
          if t.rcdDisposed then closeDur t g else t := by
  unfold announceN handed; rw [if_neg (by simp [ho]), if_neg (by simp [ho])]; rfl

theorem nested_same_key_element_routed (cfg : Cfg α κ β) (hrefl : ∀ k, cfg.keyEq k k = true) (s : St κ β)
    (x y : α) (k : κ) (v vy : β)
    (hs : s.srcStopped = false) (ho : s.outStopped = false) (hd : s.rcdDisposed = false)
    (hk : cfg.keyMapper x = .ok k) (hf : s.writers.find? (fun p => cfg.keyEq p.1 k) = none)
    (hsm : cfg.subjMapper s.groups.length = .ok ()) (hdm : cfg.durMapper s.groups.length = .ok ())
    (hv : cfg.elemMapper x = .ok v)
    (hnest : cfg.nest s.groups.length = [y]) (hky : cfg.keyMapper y = .ok k) (hvy : cfg.elemMapper y = .ok vy)
    (hplain : cfg.dgrp s.groups.length = none ∧ cfg.dsync s.groups.length = none) :
    (stepN cfg s (.src (.next x))).out =
      s.out ++ (.outer (.next (s.groups.length, k)) :: .tap s.groups.length (.next vy) ::
        (if cfg.imm s.groups.length then [.grp s.groups.length (.next vy)] else []) ++
        .subDur s.groups.length :: .tap s.groups.length (.next v) ::
        (if cfg.imm s.groups.length then [.grp s.groups.length (.next v)] else [])) ∧
    (stepN cfg s (.src (.next x))).groups.length = s.groups.length + 1 ∧
    ((stepN cfg s (.src (.next x))).groups[s.groups.length]?).map (·.wlog) = some [.next vy, .next v] := by
  -- the nested element finds the writer already registered
  have hnested : ∀ r l, srcNextD cfg (fresh cfg s k r l) y = writerNext (fresh cfg s k r l) s.groups.length vy := by
    intro r l
    rw [srcNextD_eq_G, srcNextG_found hky (p := (k, s.groups.length)) (List.find?_append.trans (by simp [hf, hrefl k]))]; unfold pushElemD
    simp only [hvy, writerNextD_eq hplain.1]
  have hstep : stepN cfg s (.src (.next x)) = fresh cfg s k
      (pushR v { pushR vy (freshR cfg s.groups.length k) with dur := .live })
      ([.outer (.next (s.groups.length, k))] ++ sendL s.groups.length (.next vy) (freshR cfg s.groups.length k) ++ [.subDur s.groups.length] ++
        sendL s.groups.length (.next v) { pushR vy (freshR cfg s.groups.length k) with dur := .live }) := by
    have ha : announceN cfg (addGroup s k) s.groups.length k = fresh cfg s k { pushR vy (freshR cfg s.groups.length k) with dur := .live }
        ([.outer (.next (s.groups.length, k))] ++ sendL s.groups.length (.next vy) (freshR cfg s.groups.length k) ++ [.subDur s.groups.length]) := by
      have e1 : ∀ r l, (fresh cfg s k r l).srcStopped = false := fun _ _ => hs
      rw [announceN_handed _ _ _ _ (show (addGroup s k).outStopped = false from ho), handed_fresh cfg s k ho hd]
      simp only [hnest, List.foldl, hplain.1, hplain.2, e1, Bool.false_eq_true, if_false, hnested, writerNext_fresh, modGrp_fresh, emit_fresh,
        fresh_rcdDisposed, hd]
    rw [show stepN cfg s (.src (.next x)) = srcNextN cfg s x from if_neg (by simp [hs]), srcNextN_eq_G, srcNextG_new _ hk hf hsm hdm hv,
      writerNextD_eq hplain.1, ha, writerNext_fresh]
  rw [hstep]
  rw [fresh_out, fresh_length, fresh_get]
  cases hi : cfg.imm s.groups.length <;> simp [freshR, pushR, sendL, hi]

end WinGrp
