import RxModel.SubjReplay
/-!
# The ReplaySubject machine as a composition of single record updates

The updates get names; each primitive of `RxModel/SubjReplay.lean` gets an equation displaying it as their composition, and what a
subject method or a delivery is made of a `…_writes` or `…_closed` lemma bounding the fields it may write.  `Step`, at the end: what
one step of the scheduler can be; the invariants of the family are invariants of `Step`.  A field added to `St` must be added to
`St.ext'`, `St.map` and the `.other` lemmas of `RInv`, `LInvX`, `Sim`, `Aux`, `SpecInv`, `SFrame`.
-/

namespace SubjReplay
open Subj (Call upd disposedExn)
variable {α : Type}

theorem updE {γ : Type} (f : Id → γ) (i j : Id) (v : γ) : upd f i v j = if j = i then v else f j := rfl

theorem upd_self {γ : Type} (f : Id → γ) (i : Id) (v : γ) : upd f i v i = v := if_pos rfl

theorem upd_ne {γ : Type} (f : Id → γ) {i k : Id} (v : γ) (h : k ≠ i) : upd f i v k = f k := if_neg h

theorem St.ext' {a b : St α} (stopped : a.stopped = b.stopped := by rfl) (disposed : a.disposed = b.disposed := by rfl)
    (observers : a.observers = b.observers := by rfl) (exception : a.exception = b.exception := by rfl)
    (queue : a.queue = b.queue := by rfl) (seen : a.seen = b.seen := by rfl) (handle : a.handle = b.handle := by rfl)
    (cbs : a.cbs = b.cbs := by rfl) (log : ∀ i, a.log i = b.log i := by intro; rfl)
    (adoStopped : a.adoStopped = b.adoStopped := by rfl) (sadDisposed : a.sadDisposed = b.sadDisposed := by rfl)
    (held : a.held = b.held := by rfl) (soStopped : a.soStopped = b.soStopped := by rfl)
    (soQueue : ∀ i, a.soQueue i = b.soQueue i := by intro; rfl) (acquired : a.acquired = b.acquired := by rfl)
    (faulted : a.faulted = b.faulted := by rfl) (serDisposed : a.serDisposed = b.serDisposed := by rfl)
    (serCur : a.serCur = b.serCur := by rfl) (clock : a.clock = b.clock := by rfl) (spin : a.spin = b.spin := by rfl)
    (nextId : a.nextId = b.nextId := by rfl) (pending : a.pending = b.pending := by rfl)
    (crashed : a.crashed = b.crashed := by rfl) (agenda : a.agenda = b.agenda := by rfl)
    (curCall : a.curCall = b.curCall := by rfl) (raised : a.raised = b.raised := by rfl) (xlog : a.xlog = b.xlog := by rfl)
    (enq : ∀ i, a.enq i = b.enq i := by intro; rfl) (fed : ∀ i, a.fed i = b.fed i := by intro; rfl)
    (allVals : a.allVals = b.allVals := by rfl) (lastNow : a.lastNow = b.lastNow := by rfl) (evs : a.evs = b.evs := by rfl) :
    a = b := by
  cases a; cases b
  simp only [St.mk.injEq]
  simp_all
  exact ⟨funext log, funext soQueue, funext enq, funext fed⟩

/-! `…Writes st st'`: `st'` is `st` except for the fields of one layer, whatever they have become.  An equation with `st'` on both
sides, so that `congrArg St.g w` reads a field `g` outside the layer and rewriting with `w` puts `st'` in record form.
`Sched ⊆ So ⊆ Subj`: scheduling the `run` actions, handing a notification to observers, a method of the subject;
`Sched ⊆ Disp ⊆ Ado`: disposing a subscription, a delivery by an AutoDetachObserver. -/

abbrev SchedWrites (st st' : St α) : Prop :=
  st' = { st with acquired := st'.acquired, serDisposed := st'.serDisposed, serCur := st'.serCur, pending := st'.pending,
                  nextId := st'.nextId }

abbrev SoWrites (st st' : St α) : Prop :=
  st' = { st with soStopped := st'.soStopped, soQueue := st'.soQueue, enq := st'.enq, acquired := st'.acquired,
                  serDisposed := st'.serDisposed, serCur := st'.serCur, pending := st'.pending, nextId := st'.nextId }

abbrev SubjWrites (st st' : St α) : Prop :=
  st' = { st with stopped := st'.stopped, observers := st'.observers, exception := st'.exception, queue := st'.queue,
                  allVals := st'.allVals, lastNow := st'.lastNow, raised := st'.raised, xlog := st'.xlog, held := st'.held,
                  handle := st'.handle, soStopped := st'.soStopped, soQueue := st'.soQueue, enq := st'.enq,
                  acquired := st'.acquired, serDisposed := st'.serDisposed, serCur := st'.serCur, pending := st'.pending,
                  nextId := st'.nextId }

abbrev DispWrites (st st' : St α) : Prop :=
  st' = { st with sadDisposed := st'.sadDisposed, held := st'.held, soStopped := st'.soStopped, observers := st'.observers,
                  acquired := st'.acquired, serDisposed := st'.serDisposed, serCur := st'.serCur, pending := st'.pending,
                  nextId := st'.nextId }

abbrev AdoWrites (st st' : St α) : Prop :=
  st' = { st with adoStopped := st'.adoStopped, log := st'.log, cbs := st'.cbs, evs := st'.evs,
                  sadDisposed := st'.sadDisposed, held := st'.held, soStopped := st'.soStopped, observers := st'.observers,
                  acquired := st'.acquired, serDisposed := st'.serDisposed, serCur := st'.serCur, pending := st'.pending,
                  nextId := st'.nextId }

theorem SchedWrites.so {st st' : St α} (w : SchedWrites st st') : SoWrites st st' := by rw [w]

theorem SoWrites.subj {st st' : St α} (w : SoWrites st st') : SubjWrites st st' := by rw [w]

theorem DispWrites.ado {st st' : St α} (w : DispWrites st st') : AdoWrites st st' := by rw [w]

theorem SchedWrites.trans {a b c : St α} (h1 : SchedWrites a b) (h2 : SchedWrites b c) : SchedWrites a c := by rw [h2, h1]

theorem SoWrites.trans {a b c : St α} (h1 : SoWrites a b) (h2 : SoWrites b c) : SoWrites a c := by rw [h2, h1]

def acquire (st : St α) (i : Id) : St α := { st with acquired := upd st.acquired i true }

/-- the serial-disposable part of `ensure_active`, after the new `run` item `id` was scheduled -/
def serialAssign (st : St α) (i : Id) (id : Nat) : St α :=
  if st.serDisposed i then { st with pending := cancelItem id st.pending }
  else
    let st' := { st with serCur := upd st.serCur i (some id) }
    match st.serCur i with
    | some old => { st' with pending := cancelItem old st'.pending }
    | none => st'

theorem ensureActive_eq (st : St α) (i : Id) :
    ensureActive st i =
      if (!st.faulted i && !(st.soQueue i).isEmpty) = true then
        if st.acquired i = true then st
        else serialAssign (scheduleRun (acquire st i) i).1 i (scheduleRun (acquire st i) i).2
      else st := rfl

theorem serialAssign_writes (st : St α) (i : Id) (id : Nat) : SchedWrites st (serialAssign st i id) := by
  unfold serialAssign
  split
  · rfl
  · split <;> rfl

theorem ensureActive_writes (st : St α) (i : Id) : SchedWrites st (ensureActive st i) := by
  rw [ensureActive_eq]
  split
  · split
    · rfl
    · rw [serialAssign_writes (scheduleRun (acquire st i) i).1 i (scheduleRun (acquire st i) i).2]; rfl
  · rfl

theorem soPush_writes (st : St α) (i : Id) (n : Notif α) : SoWrites st (soPush st i n) := by
  unfold soPush
  split <;> rfl

theorem pushList_writes (j : Id) (ns : List (Notif α)) (st : St α) : SoWrites st (pushList st j ns) := by
  induction ns generalizing st with
  | nil => rfl
  | cons n ns ih => exact (soPush_writes st j n).trans (ih _)

theorem pushAll_writes (n : Notif α) (l : List Id) (st : St α) : SoWrites st (pushAll n l st) := by
  induction l generalizing st with
  | nil => rfl
  | cons i is ih => exact (soPush_writes st i n).trans (ih _)

theorem ensureAll_writes (l : List Id) (st : St α) : SchedWrites st (ensureAll l st) := by
  induction l generalizing st with
  | nil => rfl
  | cons i is ih => rw [ensureAll, ih (ensureActive st i), ensureActive_writes st i]

theorem pushEnsureAll_writes (n : Notif α) (l : List Id) (st : St α) : SoWrites st (pushEnsureAll n l st) := by
  induction l generalizing st with
  | nil => rfl
  | cons i is ih => exact ((soPush_writes st i n).trans (ensureActive_writes _ i).so).trans (ih _)

def stopSo (st : St α) (i : Id) : St α := { st with soStopped := upd st.soStopped i true }

def serialOff (st : St α) (i : Id) : St α :=
  let st' := { st with serDisposed := upd st.serDisposed i true, serCur := upd st.serCur i none }
  match st.serCur i with
  | some old => { st' with pending := cancelItem old st'.pending }
  | none => st'

theorem soDispose_eq (st : St α) (i : Id) :
    soDispose st i = if st.serDisposed i = true then stopSo st i else serialOff (stopSo st i) i := rfl

theorem soDispose_closed (st : St α) (i : Id) : SchedWrites (stopSo st i) (soDispose st i) := by
  rw [soDispose_eq]
  split
  · rfl
  · unfold serialOff
    split <;> rfl

def eraseObs (st : St α) (i : Id) : St α := { st with observers := st.observers.erase i }

theorem removableDispose_eq (st : St α) (i : Id) :
    removableDispose st i =
      if (!(soDispose st i).disposed && (soDispose st i).observers.contains i) = true then eraseObs (soDispose st i) i
      else soDispose st i := rfl

theorem removableDispose_closed (st : St α) (i : Id) :
    SchedWrites
      { st with soStopped := upd st.soStopped i true,
                observers := if st.disposed = false then st.observers.erase i else st.observers }
      (removableDispose st i) := by
  rw [removableDispose_eq, soDispose_closed st i]
  by_cases h : st.disposed = false ∧ i ∈ st.observers
  · have hb : (!(stopSo st i).disposed && (stopSo st i).observers.contains i) = true := by simpa [stopSo] using h
    rw [if_pos h.1]; simp only [hb, if_true]; rfl
  · have hb : ¬(!(stopSo st i).disposed && (stopSo st i).observers.contains i) = true := by simpa [stopSo] using h
    have ho : (if st.disposed = false then st.observers.erase i else st.observers) = st.observers := by
      split
      · exact List.erase_of_not_mem fun hm => h ⟨‹_›, hm⟩
      · rfl
    rw [ho]; simp only [hb]; rfl

def sadOff (st : St α) (i : Id) : St α := { st with sadDisposed := upd st.sadDisposed i true, held := upd st.held i false }

theorem sadDispose_eq (st : St α) (i : Id) :
    sadDispose st i =
      if st.sadDisposed i = true then st
      else if st.held i = true then removableDispose (sadOff st i) i else sadOff st i := rfl

theorem sadDispose_writes (st : St α) (i : Id) : DispWrites st (sadDispose st i) := by
  rw [sadDispose_eq]
  split
  · rfl
  · split
    · rw [removableDispose_closed (sadOff st i) i]; rfl
    · rfl

def acceptCore (cfg : Cfg α) (st : St α) (n : Notif α) : St α :=
  { st with stopped := n.isTerminal || st.stopped,
            observers := if n.isTerminal = true then [] else st.observers,
            exception := (match n with | .error e => some e | _ => st.exception),
            queue := trim cfg st.clock (match n with | .next v => st.queue ++ [(st.clock, v)] | _ => st.queue),
            allVals := (match n with | .next v => st.allVals ++ [(st.clock, v)] | _ => st.allVals),
            lastNow := st.clock }

theorem acceptCore_stopped (cfg : Cfg α) (st : St α) (n : Notif α) : (acceptCore cfg st n).stopped = (n.isTerminal || st.stopped) := rfl

theorem acceptCore_observers (cfg : Cfg α) (st : St α) (n : Notif α) :
    (acceptCore cfg st n).observers = if n.isTerminal = true then [] else st.observers := rfl

def accept (cfg : Cfg α) (st : St α) (n : Notif α) : St α :=
  if n.isTerminal = true then pushEnsureAll n st.observers (acceptCore cfg st n)
  else ensureAll st.observers (pushAll n st.observers (acceptCore cfg st n))

theorem emit_eq (cfg : Cfg α) (st : St α) (who : Option Id) (n : Notif α) :
    emit cfg st who n =
      if st.disposed = true then raiseTo who disposedExn st else if st.stopped = true then st else accept cfg st n := by
  cases n <;> rfl

theorem emit_cases {P : St α → Prop} (cfg : Cfg α) (st : St α) (who : Option Id) (n : Notif α)
    (hraise : st.disposed = true → P (raiseTo who disposedExn st)) (hstop : st.disposed = false → st.stopped = true → P st)
    (hacc : st.disposed = false → st.stopped = false → P (accept cfg st n)) : P (emit cfg st who n) := by
  rw [emit_eq]
  split
  next hd => exact hraise hd
  next hd =>
    have hd : st.disposed = false := by simpa using hd
    split
    next hs => exact hstop hd hs
    next hs => exact hacc hd (by simpa using hs)

theorem emit_writes (cfg : Cfg α) (st : St α) (who : Option Id) (n : Notif α) : SubjWrites st (emit cfg st who n) := by
  rw [emit_eq]
  split
  · cases who <;> rfl
  · split
    · rfl
    · have w : SoWrites (acceptCore cfg st n) (accept cfg st n) := by
        unfold accept
        split
        · exact pushEnsureAll_writes _ _ _
        · exact (pushAll_writes _ _ _).trans (ensureAll_writes _ _).so
      rw [w]; rfl

def adoStop (st : St α) (j : Id) : St α := { st with adoStopped := upd st.adoStopped j true }

def logUnsub (st : St α) (j : Id) : St α := { st with adoStopped := upd st.adoStopped j true, evs := st.evs ++ [EvR.unsub j] }

theorem doUnsub_eq (st : St α) (j : Id) :
    doUnsub st j = if st.handle j = true then sadDispose (logUnsub st j) j else st := rfl

def subStart (cfg : Cfg α) (st : St α) (j : Id) : St α :=
  { st with queue := trim cfg st.clock st.queue, lastNow := st.clock, observers := st.observers ++ [j] }

/-- The terminal a late subscriber is told about. -/
def terminalOf (st : St α) : List (Notif α) :=
  match st.exception with
  | some e => [.error e]
  | none => if st.stopped then [.completed] else []

theorem terminalOf_congr {a b : St α} (h1 : a.exception = b.exception) (h2 : a.stopped = b.stopped) :
    terminalOf a = terminalOf b := by
  unfold terminalOf; rw [h1, h2]

theorem terminalOf_length (st : St α) : (terminalOf st).length ≤ 1 := by
  unfold terminalOf
  cases st.exception with
  | some e => exact Nat.le_refl _
  | none => show (if st.stopped = true then _ else _ : List (Notif α)).length ≤ 1; split <;> simp

theorem terminalOf_acceptCore (cfg : Cfg α) {st : St α} (n : Notif α) (hx : st.exception = none) (hs : st.stopped = false) :
    terminalOf (acceptCore cfg st n) = if n.isTerminal = true then [n] else [] := by
  cases n <;> simp [terminalOf, acceptCore, hx, hs, Notif.isTerminal]

def subFinish (st : St α) (j : Id) : St α := { st with held := upd st.held j true, handle := upd st.handle j true }

theorem subStart_observers (cfg : Cfg α) (st : St α) (j : Id) : (subStart cfg st j).observers = st.observers ++ [j] := rfl

theorem subFinish_held (st : St α) (j : Id) : (subFinish st j).held = upd st.held j true := rfl

theorem subscribeCore_eq (cfg : Cfg α) (st : St α) (j : Id) :
    subscribeCore cfg st j =
      subFinish (ensureActive (pushList (pushList (subStart cfg st j) j
        ((subStart cfg st j).queue.map fun (it : Nat × α) => Notif.next it.2)) j (terminalOf st)) j) j := by
  have w := pushList_writes j ((subStart cfg st j).queue.map fun (it : Nat × α) => Notif.next it.2) (subStart cfg st j)
  have e : ∀ s : St α, pushList s j (terminalOf s) =
      match s.exception with
      | some e => soPush s j (.error e)
      | none => if s.stopped then soPush s j .completed else s := fun s => by
    unfold terminalOf
    cases s.exception with
    | some e => rfl
    | none => show pushList s j (if s.stopped = true then _ else _) = _; split <;> rfl
  rw [terminalOf_congr (a := st) (congrArg St.exception w :).symm (congrArg St.stopped w :).symm, e]
  rfl

theorem subscribeCore_writes (cfg : Cfg α) (st : St α) (j : Id) : SubjWrites st (subscribeCore cfg st j) := by
  rw [subscribeCore_eq, ((pushList_writes j _ (subStart cfg st j)).trans (pushList_writes j _ _)).trans (ensureActive_writes _ j).so]
  rfl

theorem subscribeCore_subject (cfg : Cfg α) (st : St α) (j : Id) :
    (subscribeCore cfg st j).stopped = st.stopped ∧ (subscribeCore cfg st j).exception = st.exception ∧
    (subscribeCore cfg st j).allVals = st.allVals := by
  rw [subscribeCore_eq, ((pushList_writes j _ (subStart cfg st j)).trans (pushList_writes j _ _)).trans (ensureActive_writes _ j).so]
  exact ⟨rfl, rfl, rfl⟩

def markSub (st : St α) (j : Id) : St α := { st with seen := upd st.seen j true, evs := st.evs ++ [EvR.sub j st.clock] }

def failMark (st : St α) (j : Id) : St α :=
  { st with adoStopped := upd st.adoStopped j true, enq := upd st.enq j [.error disposedExn], fed := upd st.fed j [.error disposedExn] }

theorem mem_reactions {cfg : Cfg α} {st : St α} {i : Id} {t : Task α} (h : t ∈ reactions cfg st i) :
    ∃ a, t = .act (some i) a := by
  obtain ⟨a, _, rfl⟩ := List.mem_map.mp h
  exact ⟨a, rfl⟩

theorem doSub_eq (cfg : Cfg α) (st : St α) (who : Option Id) (j : Id) :
    doSub cfg st who j =
      if st.seen j = true then (st, [])
      else if (markSub st j).disposed = true then
        if cfg.hasErr j = true then
          (callback (failMark (markSub st j) j) j (.error disposedExn), reactions cfg (failMark (markSub st j) j) j ++ [.handle j])
        else (raiseTo who disposedExn (failMark (markSub st j) j), [])
      else (subscribeCore cfg (markSub st j) j, []) := rfl

/-- `reactions cfg st j`: `reactions` reads `cbs` only, which `markSub` and `failMark` leave alone. -/
theorem doSub_cases {P : St α × List (Task α) → Prop} (cfg : Cfg α) (st : St α) (who : Option Id) (j : Id)
    (hseen : st.seen j = true → P (st, []))
    (hshow : st.seen j = false → st.disposed = true →
      P (callback (failMark (markSub st j) j) j (.error disposedExn), reactions cfg st j ++ [.handle j]))
    (hraise : st.seen j = false → st.disposed = true →
      P (raiseTo who disposedExn (failMark (markSub st j) j), []))
    (hsub : st.seen j = false → st.disposed = false → P (subscribeCore cfg (markSub st j) j, [])) :
    P (doSub cfg st who j) := by
  rw [doSub_eq]
  split
  next hj => exact hseen hj
  next hj =>
    have hj : st.seen j = false := by simpa using hj
    split
    next hd =>
      split
      next => exact hshow hj hd
      next => exact hraise hj hd
    next hd => exact hsub hj (by simpa [markSub] using hd)

def unhandled (cfg : Cfg α) (i : Id) : Notif α → Option Err
  | .error e => if cfg.hasErr i then none else some e
  | _ => none

theorem unhandled_terminal {cfg : Cfg α} {i : Id} {n : Notif α} {e : Err} (h : unhandled cfg i n = some e) : n.isTerminal = true := by
  cases n with
  | error _ => rfl
  | next _ => cases h
  | completed => cases h

theorem adoDeliver_eq (cfg : Cfg α) (st : St α) (i : Id) (n : Notif α) :
    adoDeliver cfg st i n =
      if st.adoStopped i = true then (st, [], none)
      else match unhandled cfg i n with
        | some e => (sadDispose (adoStop st i) i, [], some e)
        | none => (callback (if n.isTerminal = true then adoStop st i else st) i n,
                   reactions cfg st i ++ (if n.isTerminal = true then [.sadDispose i] else []), none) := by
  cases n with
  | next v => simp [adoDeliver, unhandled, Notif.isTerminal]
  | completed => rfl
  | error e => cases h : cfg.hasErr i <;> simp [adoDeliver, unhandled, h, Notif.isTerminal, reactions, adoStop]

theorem adoDeliver_cases {P : St α × List (Task α) × Option Err → Prop} (cfg : Cfg α) (st : St α) (i : Id) (n : Notif α)
    (hdrop : st.adoStopped i = true → P (st, [], none))
    (hshow : st.adoStopped i = false →
      P (callback (if n.isTerminal = true then adoStop st i else st) i n,
         reactions cfg st i ++ (if n.isTerminal = true then [.sadDispose i] else []), none))
    (hcrash : ∀ e, n.isTerminal = true → st.adoStopped i = false → P (sadDispose (adoStop st i) i, [], some e)) :
    P (adoDeliver cfg st i n) := by
  rw [adoDeliver_eq]
  split
  next hs => exact hdrop hs
  next hs =>
    have hs : st.adoStopped i = false := by simpa using hs
    split
    next e he => exact hcrash e (unhandled_terminal he) hs
    next => exact hshow hs

theorem adoDeliver_writes (cfg : Cfg α) (st : St α) (i : Id) (n : Notif α) : AdoWrites st (adoDeliver cfg st i n).1 := by
  refine adoDeliver_cases (P := fun r => AdoWrites st r.1) cfg st i n (fun _ => rfl) (fun _ => ?_) fun _ _ _ => ?_
  · split <;> rfl
  · rw [(sadDispose_writes (adoStop st i) i).ado]; rfl

def release (st : St α) (i : Id) : St α := { st with acquired := upd st.acquired i false }

def popped (st : St α) (i : Id) (n : Notif α) (rest : List (Notif α)) : St α :=
  { st with soQueue := upd st.soQueue i rest, fed := upd st.fed i (st.fed i ++ [n]) }

def finishRun (i : Id) (r : St α × List (Task α) × Option Err) : St α :=
  match r.2.2 with
  | some e => { r.1 with soQueue := upd r.1.soQueue i [], faulted := upd r.1.faulted i true, crashed := some e }
  | none => { r.1 with agenda := r.2.1 ++ [.resched i] }

theorem finishRun_cases {P : St α → Prop} (i : Id) (r : St α × List (Task α) × Option Err)
    (hraise : ∀ e, P { r.1 with soQueue := upd r.1.soQueue i [], faulted := upd r.1.faulted i true, crashed := some e })
    (hgo : P { r.1 with agenda := r.2.1 ++ [.resched i] }) : P (finishRun i r) := by
  unfold finishRun
  split
  next e _ => exact hraise e
  next => exact hgo

theorem finishRun_writes (i : Id) (r : St α × List (Task α) × Option Err) :
    finishRun i r = { r.1 with soQueue := (finishRun i r).soQueue, faulted := (finishRun i r).faulted,
                               crashed := (finishRun i r).crashed, agenda := (finishRun i r).agenda } :=
  finishRun_cases (P := fun s => s =
    { r.1 with soQueue := s.soQueue, faulted := s.faulted, crashed := s.crashed, agenda := s.agenda })
    i r (fun _ => rfl) rfl

theorem soRun_nil (cfg : Cfg α) (st : St α) (i : Id) (h : st.soQueue i = []) : soRun cfg st i = release st i := by
  unfold soRun; rw [h]; rfl

theorem soRun_cons (cfg : Cfg α) (st : St α) (i : Id) (n : Notif α) (rest : List (Notif α)) (h : st.soQueue i = n :: rest) :
    soRun cfg st i = finishRun i (adoDeliver cfg (popped st i n rest) i n) := by
  unfold soRun; rw [h]; rfl

theorem soRun_cases {P : St α → Prop} (cfg : Cfg α) (st : St α) (i : Id) (hnil : st.soQueue i = [] → P (release st i))
    (hcons : ∀ n rest, st.soQueue i = n :: rest → P (finishRun i (adoDeliver cfg (popped st i n rest) i n))) :
    P (soRun cfg st i) := by
  cases hq : st.soQueue i with
  | nil => rw [soRun_nil cfg st i hq]; exact hnil hq
  | cons n rest => rw [soRun_cons cfg st i n rest hq]; exact hcons n rest hq

def logEmit (st : St α) (who : Option Id) (n : Notif α) : St α :=
  match who with
  | some i => { st with evs := st.evs ++ [EvR.emit i st.clock n] }
  | none => st

def pushAgenda (r : St α × List (Task α)) : St α := { r.1 with agenda := r.2 ++ r.1.agenda }

def setHandle (st : St α) (j : Id) : St α := { st with handle := upd st.handle j true }

theorem doTask_emit (cfg : Cfg α) (st : St α) (who : Option Id) (n : Notif α) :
    doTask cfg st (.act who (.emit n)) = emit cfg (logEmit st who n) who n := by cases who <;> rfl

theorem doTask_sub (cfg : Cfg α) (st : St α) (who : Option Id) (j : Id) :
    doTask cfg st (.act who (.base (.sub j))) = pushAgenda (doSub cfg st who j) := rfl

theorem doTask_unsub (cfg : Cfg α) (st : St α) (who : Option Id) (j : Id) :
    doTask cfg st (.act who (.base (.unsub j))) = doUnsub st j := rfl

theorem doTask_dispose (cfg : Cfg α) (st : St α) (who : Option Id) :
    doTask cfg st (.act who (.base .dispose)) = subjDispose st := rfl

theorem doTask_sadDispose (cfg : Cfg α) (st : St α) (i : Id) : doTask cfg st (.sadDispose i) = sadDispose st i := rfl

theorem doTask_resched (cfg : Cfg α) (st : St α) (i : Id) : doTask cfg st (.resched i) = (scheduleRun st i).1 := rfl

theorem doTask_handle (cfg : Cfg α) (st : St α) (j : Id) : doTask cfg st (.handle j) = setHandle st j := rfl

def startCall (st : St α) (k : Nat) (c : Call α) : St α := { st with curCall := k, evs := st.evs ++ [EvR.call k st.clock st.observers.length c] }

def withAgenda (st : St α) (ts : List (Task α)) : St α := { st with agenda := ts }

def emitted : Call α → Option (Notif α)
  | .next v => some (.next v)
  | .error e => some (.error e)
  | .completed => some .completed
  | _ => none

def asked : Call α → Subj.Action
  | .sub i => .sub i
  | .unsub i => .unsub i
  | _ => .dispose

theorem doCall_eq (cfg : Cfg α) (st : St α) (k : Nat) (c : Call α) :
    doCall cfg st k c =
      match emitted c with
      | some n => emit cfg (startCall st k c) none n
      | none => withAgenda (startCall st k c) [.act none (.base (asked c))] := by
  cases c <;> rfl

def withPending (st : St α) (p : List (Item α)) : St α := { st with pending := p }

def setClock (st : St α) (c s : Nat) : St α := { st with clock := c, spin := s }
def bumpSpin (st : St α) : St α := { st with spin := st.spin + 1 }

theorem advance_eq (st : St α) (due : Nat) :
    advance st due = bumpSpin (if due > st.clock then setClock st due 0
      else if st.spin > 100 then setClock st (st.clock + 1) 0 else st) := rfl

theorem advance_clock (st : St α) (due : Nat) :
    st.clock ≤ (advance st due).clock ∧
      advance st due = { st with clock := (advance st due).clock, spin := (advance st due).spin } := by
  rw [advance_eq]
  split
  · exact ⟨Nat.le_of_lt ‹_›, rfl⟩
  · split
    · exact ⟨Nat.le_succ _, rfl⟩
    · exact ⟨Nat.le_refl _, rfl⟩

theorem schedule_go_writes (cs : List (Nat × Call α)) (k : Nat) (st : St α) : SchedWrites st (schedule.go cs k st) := by
  induction cs generalizing k st with
  | nil => rfl
  | cons c cs ih => exact SchedWrites.trans (b := { st with pending := _, nextId := _ }) rfl (ih _ _)

theorem step_crashed (cfg : Cfg α) (st : St α) (e : Err) (h : st.crashed = some e) : step cfg st = st := by
  unfold step
  split
  · rfl
  · rename_i hn; rw [h] at hn; cases hn

theorem step_task (cfg : Cfg α) (st : St α) (t : Task α) (ts : List (Task α)) (hc : st.crashed = none)
    (ha : st.agenda = t :: ts) : step cfg st = doTask cfg (withAgenda st ts) t := by
  unfold step
  split
  · rename_i e he; rw [hc] at he; cases he
  · split
    · rename_i t' ts' h'; rw [ha] at h'; cases h'; rfl
    · rename_i h'; rw [ha] at h'; cases h'

theorem step_idle (cfg : Cfg α) (st : St α) (ha : st.agenda = []) (hp : st.pending = []) :
    step cfg st = st := by
  unfold step
  split
  · rfl
  · split
    · rename_i t' ts' h'; rw [ha] at h'; cases h'
    · split
      · rfl
      · rename_i it rest h'; rw [hp] at h'; cases h'

theorem step_pop (cfg : Cfg α) (st : St α) (it : Item α) (rest : List (Item α)) (hc : st.crashed = none)
    (ha : st.agenda = []) (hp : st.pending = it :: rest) :
    step cfg st = invoke cfg (advance (withPending st rest) it.due) it := by
  unfold step
  split
  · rename_i e he; rw [hc] at he; cases he
  · split
    · rename_i t' ts' h'; rw [ha] at h'; cases h'
    · split
      · rename_i h'; rw [hp] at h'; cases h'
      · rename_i it' rest' h'; rw [hp] at h'; cases h'; rfl

theorem invoke_skip (cfg : Cfg α) (st : St α) (it : Item α) (hx : it.cancelled = true) : invoke cfg st it = st := by
  unfold invoke; rw [if_pos hx]

theorem invoke_call (cfg : Cfg α) (st : St α) (it : Item α) (k : Nat) (c : Call α) (hx : it.cancelled = false)
    (hk : it.kind = .call k c) : invoke cfg st it = doCall cfg st k c := by
  unfold invoke; rw [if_neg (by simp [hx]), hk]

theorem invoke_run (cfg : Cfg α) (st : St α) (it : Item α) (i : Id) (hx : it.cancelled = false) (hk : it.kind = .run i) :
    invoke cfg st it = soRun cfg st i := by
  unfold invoke; rw [if_neg (by simp [hx]), hk]

/-- What one step of `VirtualTimeScheduler.start()` can be, down to the primitives it ends up in; `doTask`, `doCall`, `invoke` do
not occur.  `stay`: an exception has escaped or nothing is left to run (it carries no premise: `Step cfg st st` holds of any
`st`); `detach`: the `finally: dispose()` of an AutoDetachObserver after a terminal; `handle`: a refused `subscribe` returns its
handle.  `emit` with `who = none` does not occur in a reachable state: a history call emits at once (`callEmit`). -/
inductive Step (cfg : Cfg α) (st : St α) : St α → Prop
  | stay : Step cfg st st
  | emit {who : Option Id} {n : Notif α} {ts : List (Task α)} (ha : st.agenda = .act who (.emit n) :: ts) :
      Step cfg st (emit cfg (logEmit (withAgenda st ts) who n) who n)
  | sub {who : Option Id} {j : Id} {ts : List (Task α)} (ha : st.agenda = .act who (.base (.sub j)) :: ts) :
      Step cfg st (pushAgenda (doSub cfg (withAgenda st ts) who j))
  | unsub {who : Option Id} {j : Id} {ts : List (Task α)} (ha : st.agenda = .act who (.base (.unsub j)) :: ts) :
      Step cfg st (doUnsub (withAgenda st ts) j)
  | dispose {who : Option Id} {ts : List (Task α)} (ha : st.agenda = .act who (.base .dispose) :: ts) :
      Step cfg st (subjDispose (withAgenda st ts))
  | detach {i : Id} {ts : List (Task α)} (ha : st.agenda = .sadDispose i :: ts) : Step cfg st (sadDispose (withAgenda st ts) i)
  | resched {i : Id} {ts : List (Task α)} (ha : st.agenda = .resched i :: ts) : Step cfg st (scheduleRun (withAgenda st ts) i).1
  | handle {j : Id} {ts : List (Task α)} (ha : st.agenda = .handle j :: ts) : Step cfg st (setHandle (withAgenda st ts) j)
  | skip {it : Item α} {rest : List (Item α)} (ha : st.agenda = []) (hp : st.pending = it :: rest) (hx : it.cancelled = true) :
      Step cfg st (advance (withPending st rest) it.due)
  | callEmit {it : Item α} {rest : List (Item α)} {k : Nat} {c : Call α} {n : Notif α} (ha : st.agenda = [])
      (hp : st.pending = it :: rest) (hx : it.cancelled = false) (hk : it.kind = .call k c) (hn : emitted c = some n) :
      Step cfg st (emit cfg (startCall (advance (withPending st rest) it.due) k c) none n)
  | callAsk {it : Item α} {rest : List (Item α)} {k : Nat} {c : Call α} (ha : st.agenda = [])
      (hp : st.pending = it :: rest) (hx : it.cancelled = false) (hk : it.kind = .call k c) (hn : emitted c = none) :
      Step cfg st (withAgenda (startCall (advance (withPending st rest) it.due) k c) [.act none (.base (asked c))])
  | run {it : Item α} {rest : List (Item α)} {i : Id} (ha : st.agenda = []) (hp : st.pending = it :: rest)
      (hx : it.cancelled = false) (hk : it.kind = .run i) : Step cfg st (soRun cfg (advance (withPending st rest) it.due) i)

theorem step_Step (cfg : Cfg α) (st : St α) : Step cfg st (step cfg st) := by
  cases hc : st.crashed with
  | some e => rw [step_crashed cfg st e hc]; exact .stay
  | none =>
    cases ha : st.agenda with
    | cons t ts =>
      rw [step_task cfg st t ts hc ha]
      cases t with
      | act who a =>
        cases a with
        | emit n => rw [doTask_emit]; exact .emit ha
        | base a =>
          cases a with
          | sub j => rw [doTask_sub]; exact .sub ha
          | unsub j => rw [doTask_unsub]; exact .unsub ha
          | dispose => rw [doTask_dispose]; exact .dispose ha
      | sadDispose i => rw [doTask_sadDispose]; exact .detach ha
      | resched i => rw [doTask_resched]; exact .resched ha
      | handle j => rw [doTask_handle]; exact .handle ha
    | nil =>
      cases hp : st.pending with
      | nil => rw [step_idle cfg st ha hp]; exact .stay
      | cons it rest =>
        rw [step_pop cfg st it rest hc ha hp]
        cases hx : it.cancelled with
        | true => rw [invoke_skip _ _ _ hx]; exact .skip ha hp hx
        | false =>
          cases hk : it.kind with
          | run i => rw [invoke_run _ _ _ i hx hk]; exact .run ha hp hx hk
          | call k c =>
            rw [invoke_call _ _ _ k c hx hk, doCall_eq]
            cases hn : emitted c with
            | some n => exact .callEmit ha hp hx hk hn
            | none => exact .callAsk ha hp hx hk hn

end SubjReplay
