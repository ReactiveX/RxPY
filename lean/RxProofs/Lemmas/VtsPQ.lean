import RxModel.VtsPQ
/-! `popMinBy` and the `PQ` model: what `dequeue` hands out and how it splits the queue. -/

namespace Vts

theorem popMinBy_eq_none {β} (lt : β → β → Bool) (l : List β) : popMinBy lt l = none ↔ l = [] := by
  cases l with
  | nil => simp [popMinBy]
  | cons x xs =>
    simp only [popMinBy]
    cases popMinBy lt xs with
    | none => simp
    | some mr => obtain ⟨m, r⟩ := mr; simp only; split <;> simp

theorem popMinBy_perm {β} (lt : β → β → Bool) :
    ∀ (l : List β) (m : β) (r : List β), popMinBy lt l = some (m, r) → l.Perm (m :: r) := by
  intro l
  induction l with
  | nil => intro m r h; simp [popMinBy] at h
  | cons x xs ih =>
    intro m r h
    simp only [popMinBy] at h
    cases hp : popMinBy lt xs with
    | none =>
      obtain rfl := (popMinBy_eq_none lt xs).1 hp
      rw [hp] at h
      cases h; exact .refl _
    | some mr =>
      obtain ⟨m', r'⟩ := mr
      rw [hp] at h
      simp only at h
      by_cases hlt : lt m' x = true
      · rw [if_pos hlt] at h; cases h
        exact ((ih _ _ hp).cons x).trans (.swap _ _ _)
      · rw [if_neg hlt] at h; cases h
        exact .refl _

/-- `popMinBy` on a strict weak order: the result is the *first* least element; the rest keeps its order. -/
theorem popMinBy_split {β} (lt : β → β → Bool)
    (trans : ∀ a b c, lt a b = true → lt b c = true → lt a c = true)
    (negtrans : ∀ a b c, lt a c = true → lt a b = true ∨ lt b c = true) :
    ∀ (l : List β) (m : β) (r : List β), popMinBy lt l = some (m, r) →
      ∃ pre post, l = pre ++ m :: post ∧ r = pre ++ post ∧
        (∀ y ∈ pre, lt m y = true) ∧ (∀ y ∈ post, lt y m = false) := by
  intro l
  induction l with
  | nil => intro m r h; simp [popMinBy] at h
  | cons x xs ih =>
    intro m r h
    simp only [popMinBy] at h
    cases hp : popMinBy lt xs with
    | none =>
      rw [hp] at h
      have hx := (popMinBy_eq_none lt xs).1 hp
      subst hx
      simp at h
      obtain ⟨rfl, rfl⟩ := h
      exact ⟨[], [], by simp⟩
    | some mr =>
      obtain ⟨m', r'⟩ := mr
      rw [hp] at h
      simp only at h
      obtain ⟨pre, post, hl, hr, hpre, hpost⟩ := ih m' r' hp
      by_cases hlt : lt m' x = true
      · rw [if_pos hlt] at h
        simp at h
        obtain ⟨rfl, rfl⟩ := h
        refine ⟨x :: pre, post, by simp [hl], by simp [hr], ?_, hpost⟩
        intro y hy
        rcases List.mem_cons.1 hy with rfl | hy
        · exact hlt
        · exact hpre y hy
      · rw [if_neg hlt] at h
        simp at h
        obtain ⟨rfl, rfl⟩ := h
        refine ⟨[], xs, by simp, by simp, by simp, ?_⟩
        intro y hy
        cases hyx : lt y x with
        | false => rfl
        | true =>
          exfalso
          have h1 : lt y m' = true := by
            rcases negtrans y m' x hyx with h | h
            · exact h
            · exact absurd h hlt
          rw [hl] at hy
          rcases List.mem_append.1 hy with hy | hy
          · exact hlt (trans _ _ _ (hpre y hy) hyx)
          · rcases List.mem_cons.1 hy with rfl | hy
            · exact hlt hyx
            · have := hpost y hy; rw [h1] at this; cases this

namespace PQ
variable {α : Type}

theorem entryLt_iff (due : α → Int) (a b : α × Int) :
    entryLt due a b = true ↔ due a.1 < due b.1 ∨ (due a.1 = due b.1 ∧ a.2 < b.2) := by
  simp only [entryLt]
  split <;> simp <;> omega

theorem entryLt_trans (due : α → Int) (a b c : α × Int) :
    entryLt due a b = true → entryLt due b c = true → entryLt due a c = true := by
  simp only [entryLt_iff]; omega

theorem entryLt_negtrans (due : α → Int) (a b c : α × Int) :
    entryLt due a c = true → entryLt due a b = true ∨ entryLt due b c = true := by
  simp only [entryLt_iff]; omega

/-- Invariant: the counts in the queue increase strictly in insertion order and stay below `count`.
It makes the least `(due, count)` entry unique, so the heap's array layout is unobservable. -/
def WF (q : PQ α) : Prop :=
  q.items.Pairwise (fun a b => a.2 < b.2) ∧ ∀ e ∈ q.items, e.2 < q.count

theorem wf_empty : (({} : PQ α)).WF := by simp [WF]

theorem wf_enqueue {q : PQ α} (h : q.WF) (x : α) : (q.enqueue x).WF := by
  obtain ⟨h1, h2⟩ := h
  refine ⟨?_, ?_⟩
  · simp only [enqueue, List.pairwise_append]
    refine ⟨h1, by simp, ?_⟩
    intro a ha b hb
    simp at hb; subst hb
    exact h2 a ha
  · intro e he
    simp only [enqueue, List.mem_append, List.mem_singleton] at he ⊢
    rcases he with he | rfl
    · have := h2 e he; omega
    · simp only; omega

theorem dequeue_some (due : α → Int) {q q' : PQ α} {x : α} (h : q.dequeue? due = some (x, q')) :
    ∃ c, popMinBy (entryLt due) q.items = some ((x, c), q'.items) ∧
      q'.count = if q'.items.isEmpty then MIN_COUNT else q.count := by
  simp only [dequeue?] at h
  split at h
  · cases h
  · next m r hp => cases h; exact ⟨m.2, hp, rfl⟩

theorem dequeue_split_list (due : α → Int) {q q' : PQ α} {x : α} (h : q.dequeue? due = some (x, q')) :
    ∃ pre post c, q.items = pre ++ (x, c) :: post ∧ q'.items = pre ++ post ∧
      (∀ y ∈ pre, entryLt due (x, c) y = true) ∧ (∀ y ∈ post, entryLt due y (x, c) = false) := by
  obtain ⟨c, hp, _⟩ := dequeue_some due h
  obtain ⟨pre, post, hl, hr, hpre, hpost⟩ :=
    popMinBy_split _ (entryLt_trans due) (entryLt_negtrans due) _ _ _ hp
  exact ⟨pre, post, c, hl, hr, hpre, hpost⟩

theorem dequeue_filterMap {β : Type} (g : α × Int → Option β) {due : α → Int} {q q' : PQ α} {x : α}
    (h : q.dequeue? due = some (x, q')) :
    ∃ c a b, q.items.filterMap g = a ++ (g (x, c)).toList ++ b ∧ q'.items.filterMap g = a ++ b := by
  obtain ⟨pre, post, c, hl, hr, _⟩ := dequeue_split_list due h
  refine ⟨c, pre.filterMap g, post.filterMap g, ?_, by rw [hr, List.filterMap_append]⟩
  rw [hl, List.filterMap_append, List.filterMap_cons]
  cases g (x, c) <;> simp

theorem dequeue_split (due : α → Int) {q q' : PQ α} {x : α} (hwf : q.WF)
    (h : q.dequeue? due = some (x, q')) :
    ∃ pre post c, q.items = pre ++ (x, c) :: post ∧ q'.items = pre ++ post ∧
      (∀ y ∈ pre, due x < due y.1) ∧ (∀ y ∈ post, due x ≤ due y.1) ∧
      (q'.count = if (pre ++ post).isEmpty then MIN_COUNT else q.count) := by
  obtain ⟨pre, post, c, hl, hr, hpre, hpost⟩ := dequeue_split_list due h
  obtain ⟨_, _, hcount⟩ := dequeue_some due h
  refine ⟨pre, post, c, hl, hr, ?_, ?_, hr ▸ hcount⟩
  · intro y hy
    have hlt : due x < due y.1 ∨ (due x = due y.1 ∧ c < y.2) := (entryLt_iff due (x, c) y).1 (hpre y hy)
    -- y was enqueued before x, so its count is smaller
    have hc : y.2 < c := by
      have := hwf.1
      rw [hl, List.pairwise_append] at this
      exact this.2.2 y hy (x, c) (by simp)
    omega
  · intro y hy
    have : ¬ (due y.1 < due x ∨ (due y.1 = due x ∧ y.2 < c)) :=
      mt (entryLt_iff due y (x, c)).2 (by simp [hpost y hy])
    omega

theorem wf_dequeue (due : α → Int) {q q' : PQ α} {x : α} (hwf : q.WF)
    (h : q.dequeue? due = some (x, q')) : q'.WF := by
  obtain ⟨pre, post, c, hl, hr, _, _, hc⟩ := dequeue_split due hwf h
  have hs : q'.items.Sublist q.items := by
    rw [hl, hr]; exact List.Sublist.append (List.Sublist.refl _) (List.sublist_cons_self _ _)
  refine ⟨hwf.1.sublist hs, fun e he => ?_⟩
  -- `count` is reset only when nothing is left
  cases hpp : pre ++ post with
  | nil => rw [hr, hpp] at he; cases he
  | cons a b => rw [hc, hpp]; exact hwf.2 e (hs.subset he)

theorem dequeue_none (due : α → Int) {q : PQ α} : q.dequeue? due = none ↔ q.items = [] := by
  rw [← popMinBy_eq_none (entryLt due)]
  simp only [dequeue?]
  split <;> simp [*]

theorem dequeue_perm {due : α → Int} {q q' : PQ α} {x : α} (h : q.dequeue? due = some (x, q')) :
    ∃ c, q.items.Perm ((x, c) :: q'.items) :=
  let ⟨c, hp, _⟩ := dequeue_some due h
  ⟨c, popMinBy_perm _ _ _ _ hp⟩

theorem dequeue_mem {due : α → Int} {q q' : PQ α} {x : α} (h : q.dequeue? due = some (x, q')) :
    (∃ c, (x, c) ∈ q.items) ∧ ∀ e ∈ q'.items, e ∈ q.items := by
  obtain ⟨c, hp⟩ := dequeue_perm h
  exact ⟨⟨c, hp.mem_iff.2 (List.mem_cons_self ..)⟩, fun e he => hp.mem_iff.2 (List.mem_cons_of_mem _ he)⟩

theorem dequeue_length {due : α → Int} {q q' : PQ α} {x : α} (h : q.dequeue? due = some (x, q')) :
    q.items.length = q'.items.length + 1 := by
  obtain ⟨c, hp⟩ := dequeue_perm h
  exact hp.length_eq

theorem dequeue_sum {due : α → Int} (g : α × Int → Nat) {q q' : PQ α} {x : α}
    (h : q.dequeue? due = some (x, q')) : ∃ c, (q.items.map g).sum = g (x, c) + (q'.items.map g).sum := by
  obtain ⟨c, hp⟩ := dequeue_perm h
  exact ⟨c, (hp.map g).sum_nat⟩

/-- "the pending items of a disposed handle are cancelled" -/
def AllSel (sel canc : α → Prop) (l : List (α × Int)) : Prop := ∀ e ∈ l, sel e.1 → canc e.1

theorem allSel_dequeue {sel canc : α → Prop} {due : α → Int} {q q' : PQ α} {x : α} (h : AllSel sel canc q.items)
    (hd : q.dequeue? due = some (x, q')) : AllSel sel canc q'.items ∧ (sel x → canc x) :=
  let ⟨⟨_, hxc⟩, hq'⟩ := dequeue_mem hd
  ⟨fun e he => h e (hq' e he), h _ hxc⟩

theorem allSel_enqueue {sel canc : α → Prop} {q : PQ α} (h : AllSel sel canc q.items) (x : α) (hx : sel x → canc x) :
    AllSel sel canc (q.enqueue x).items := by
  intro e he
  simp only [enqueue, List.mem_append, List.mem_singleton] at he
  rcases he with he | rfl
  · exact h e he
  · exact hx

theorem allSel_map {sel canc : α → Prop} {l : List (α × Int)} (g : α × Int → α × Int)
    (hsel : ∀ e, sel (g e).1 → sel e.1) (hcanc : ∀ e, canc e.1 → canc (g e).1) (h : AllSel sel canc l) :
    AllSel sel canc (l.map g) := by
  intro e he
  obtain ⟨e0, he0, rfl⟩ := List.mem_map.1 he
  exact fun hs => hcanc e0 (h e0 he0 (hsel e0 hs))

end PQ

end Vts
