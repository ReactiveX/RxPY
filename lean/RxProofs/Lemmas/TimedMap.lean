import RxModel.TimedMap
import RxProofs.Lemmas.TimedAttr
/-! Each `*_with_mapper` machine is related to its rule machine by a map of states that commutes with the step (`runTrace_map`). -/

namespace Timed

def Step.map {σ τ β} (f : σ → τ) (r : Step σ β) : Step τ β := { st := f r.st, out := r.out, switch := r.switch }

@[timeline_simp] theorem Step.map_mk {σ τ β} (f : σ → τ) (st : σ) (out : List (Notif β)) (sw : Bool) :
    Step.map f { st := st, out := out, switch := sw } = { st := f st, out := out, switch := sw } := rfl
@[timeline_simp] theorem Step.map_st {σ τ β} (f : σ → τ) (r : Step σ β) : (r.map f).st = f r.st := rfl
@[timeline_simp] theorem Step.map_out {σ τ β} (f : σ → τ) (r : Step σ β) : (r.map f).out = r.out := rfl
@[timeline_simp] theorem Step.map_switch {σ τ β} (f : σ → τ) (r : Step σ β) : (r.map f).switch = r.switch := rfl

theorem runTrace_map {σ τ α β} (step1 : σ → MEv α → Step σ β) (step2 : τ → MEv α → Step τ β)
    (d1 : σ → Bool) (d2 : τ → Bool) (other : Nat → TL β) (f : σ → τ) (Inv : σ → Prop)
    (hdone : ∀ s, d2 (f s) = d1 s)
    (hstep : ∀ s ev, Inv s → d1 s = false → step2 (f s) ev = (step1 s ev).map f ∧ Inv (step1 s ev).st)
    (tr : List (Nat × MEv α)) : ∀ s, Inv s → runTrace step2 d2 other (f s) tr = runTrace step1 d1 other s tr := by
  induction tr with
  | nil => intro s _; rfl
  | cons e rest ih =>
    obtain ⟨t, ev⟩ := e
    intro s hI
    cases h1 : d1 s with
    | true => simp [runTrace, h1, hdone]
    | false =>
      obtain ⟨hs, hI'⟩ := hstep s ev hI h1
      simp only [timeline_simp, runTrace, hdone, h1, Bool.false_eq_true, if_false, hs]
      rw [ih _ hI']

theorem runTrace_done {σ α β} (step : σ → MEv α → Step σ β) (isDone : σ → Bool) (other : Nat → TL β) (s : σ)
    (h : isDone s = true) (tr : List (Nat × MEv α)) : runTrace step isDone other s tr = [] := by
  cases tr with
  | nil => rfl
  | cons e r => obtain ⟨t, ev⟩ := e; simp [runTrace, h]

def twmAbs {α} (s : TwmSt α) : TwmAbs α :=
  { pend := match s.live, s.value with
      | some (k, _), some x => some (k, x)
      | _, _ => none,
    count := s.count, done := s.done }

/-- the subscription held by `cancelable` was made for the current `_id`, and a value is held exactly while it is live -/
def TwmOk {α} (s : TwmSt α) : Prop :=
  match s.live with
  | some (_, cur) => cur = s.id ∧ s.hasValue = true ∧ s.value.isSome = true
  | none => s.hasValue = false

theorem twm_step_abs {α} (raises : Nat → α → Option Err) (s : TwmSt α) (ev : MEv α) (h : TwmOk s) :
    twmAbsStep raises (twmAbs s) ev = (twmStep raises s ev).map twmAbs ∧ TwmOk (twmStep raises s ev).st := by
  obtain ⟨hv, val, id, live, count, done⟩ := s
  cases live with
  | none =>
    obtain rfl : hv = false := h
    cases ev with
    | src n =>
      cases n with
      | next x => cases hr : raises count x <;> simp [timeline_simp, twmStep, twmAbsStep, twmAbs, TwmOk, hr]
      | error e => simp [timeline_simp, twmStep, twmAbsStep, twmAbs, TwmOk]
      | completed => simp [timeline_simp, twmStep, twmAbsStep, twmAbs, TwmOk]
    | inner k sig => simp [timeline_simp, twmStep, twmAbsStep, twmAbs, TwmOk]
    | sub sg => simp [timeline_simp, twmStep, twmAbsStep, twmAbs, TwmOk]
  | some kc =>
    obtain ⟨k', cur⟩ := kc
    obtain ⟨rfl, rfl, hval⟩ := h
    cases val with
    | none => cases hval
    | some y =>
      cases ev with
      | src n =>
        cases n with
        | next x => cases hr : raises count x <;> simp [timeline_simp, twmStep, twmAbsStep, twmAbs, TwmOk, hr]
        | error e => simp [timeline_simp, twmStep, twmAbsStep, twmAbs, TwmOk]
        | completed => simp [timeline_simp, twmStep, twmAbsStep, twmAbs, TwmOk, twmEmit]      -- reads: a value is held
      | inner k sig =>
        by_cases hk : k' = k
        · cases sig <;> simp [timeline_simp, twmStep, twmAbsStep, twmAbs, TwmOk, hk, twmEmit]      -- reads: `cur = id`
        · simp [timeline_simp, twmStep, twmAbsStep, twmAbs, TwmOk, hk]
      | sub sg => simp [timeline_simp, twmStep, twmAbsStep, twmAbs, TwmOk]

def towmAbs (s : TowmSt) : TowmAbs := { cur := s.timer.map (·.1), count := s.count, done := s.done }

/-- the timer held by the Serial `timer` was set for the current `_id` — until a terminal goes downstream, which bumps `_id` and
leaves the timer -/
def TowmOk (s : TowmSt) : Prop :=
  s.done = false → s.switched = false ∧ match s.timer with | some (_, my) => my = s.id | none => True

theorem towm_step_abs {α} (raises : Nat → α → Option Err) (s : TowmSt) (ev : MEv α) (h : TowmOk s) (hd : s.done = false) :
    towmAbsStep raises (towmAbs s) ev = (towmStep raises s ev).map towmAbs ∧ TowmOk (towmStep raises s ev).st := by
  obtain ⟨id, sw, timer, count, done⟩ := s
  obtain rfl : done = false := hd
  obtain ⟨rfl, hmy⟩ := h rfl
  cases timer with
  | none =>
    cases ev with
    | src n =>
      cases n with
      | next x => cases hr : raises count x <;> simp [timeline_simp, towmStep, towmAbsStep, towmAbs, TowmOk, hr]
      | error e => simp [timeline_simp, towmStep, towmAbsStep, towmAbs, TowmOk]
      | completed => simp [timeline_simp, towmStep, towmAbsStep, towmAbs, TowmOk]
    | inner k sig => simp [timeline_simp, towmStep, towmAbsStep, towmAbs, TowmOk]
    | sub sg => simp [timeline_simp, towmStep, towmAbsStep, towmAbs, TowmOk]
  | some km =>
    obtain ⟨k', my⟩ := km
    obtain rfl : my = id := hmy
    cases ev with
    | src n =>
      cases n with
      | next x => cases hr : raises count x <;> simp [timeline_simp, towmStep, towmAbsStep, towmAbs, TowmOk, hr]
      | error e => simp [timeline_simp, towmStep, towmAbsStep, towmAbs, TowmOk]
      | completed => simp [timeline_simp, towmStep, towmAbsStep, towmAbs, TowmOk]
    | inner k sig =>
      by_cases hk : k' = k
      · cases sig <;> simp [timeline_simp, towmStep, towmAbsStep, towmAbs, TowmOk, hk]
      · simp [timeline_simp, towmStep, towmAbsStep, towmAbs, TowmOk, hk]
    | sub sg => simp [timeline_simp, towmStep, towmAbsStep, towmAbs, TowmOk]

def dwmConc {α} (a : DwmAbs α) : DwmSt α :=
  { delays := a.seen.filter (fun p => !a.fired.contains p.1), atEnd := a.atEnd, subLive := a.subLive, srcLive := a.srcLive,
    count := a.count, done := a.done }

theorem filter_not_isEmpty {β} (c : β → Bool) (l : List β) : (l.filter (fun p => !c p)).isEmpty = l.all c := by
  induction l with
  | nil => rfl
  | cons x l ih => cases h : c x <;> simp [h, ih]

theorem find_congr {β} (p q : β → Bool) (l : List β) (h : ∀ x ∈ l, p x = q x) : l.find? p = l.find? q := by
  induction l with
  | nil => rfl
  | cons x l ih =>
    simp only [List.find?_cons, h x (List.mem_cons_self ..), ih (fun y hy => h y (List.mem_cons_of_mem _ hy))]

theorem find_filter_fired {α} (fired : List Nat) (k : Nat) (seen : List (Nat × α)) :
    (seen.filter (fun p => !fired.contains p.1)).find? (fun p => p.1 == k)
      = if fired.contains k then none else seen.find? (fun p => p.1 == k) := by
  rw [List.find?_filter]
  cases hf : fired.contains k
  · simp only [Bool.false_eq_true, if_false]
    apply find_congr
    intro p _
    cases hp : (p.1 == k)
    · simp
    · have : p.1 = k := by simpa using hp
      rw [this, hf]; rfl
  · simp only [if_true]
    rw [List.find?_eq_none]
    intro p _
    cases hp : (p.1 == k)
    · simp
    · have : p.1 = k := by simpa using hp
      rw [this, hf]; simp

theorem filter_fire {α} (fired : List Nat) (k : Nat) (seen : List (Nat × α)) :
    (seen.filter (fun p => !fired.contains p.1)).filter (fun p => !(p.1 == k))
      = seen.filter (fun p => !(k :: fired).contains p.1) := by
  rw [List.filter_filter]
  apply List.filter_congr
  intro p _
  rw [List.contains_cons]
  cases (p.1 == k) <;> cases fired.contains p.1 <;> rfl

theorem dwm_finish_conc {α} (a : DwmAbs α) (o : List (Notif α)) :
    dwmFinish (dwmConc a) o = (dwmAbsFinish a o).map dwmConc := by
  have hd : dwmDone (dwmConc a) = dwmAbsDone a := by
    simp only [dwmDone, dwmAbsDone, dwmConc, filter_not_isEmpty]
  simp only [timeline_simp, dwmFinish, dwmAbsFinish, hd]
  rfl

/-- `hfc`: a new element's ordinal has not fired yet -/
theorem dwm_step_conc {α} (raises : Nat → α → Option Err) (a : DwmAbs α) (ev : MEv α)
    (hfc : ∀ k ∈ a.fired, k < a.count) :
    dwmStep raises (dwmConc a) ev = (dwmAbsStep raises a ev).map dwmConc := by
  cases ev with
  | sub sg =>
    cases hl : a.subLive <;> cases sg <;> simp [timeline_simp, dwmStep, dwmAbsStep, dwmConc, hl]
  | src n =>
    cases hl : a.srcLive
    · simp [timeline_simp, dwmStep, dwmAbsStep, dwmConc, hl]
    · cases n with
      | next x =>
        have hnf : a.count ∉ a.fired := fun h => Nat.lt_irrefl _ (hfc _ h)
        cases hr : raises a.count x <;>
          simp [timeline_simp, dwmStep, dwmAbsStep, dwmConc, hl, hr, List.filter_append, hnf]
      | error e => simp [timeline_simp, dwmStep, dwmAbsStep, dwmConc, hl]
      | completed =>
        simp only [dwmStep, dwmAbsStep, dwmConc, hl, if_true]
        exact dwm_finish_conc { a with atEnd := true, srcLive := false } []
  | inner k sig =>
    simp only [dwmStep, dwmAbsStep, dwmConc, find_filter_fired]
    cases hf : a.fired.contains k
    · simp only [Bool.false_eq_true, if_false]
      cases hfind : a.seen.find? (fun p => p.1 == k) with
      | none => rfl
      | some kx =>
        obtain ⟨k', x⟩ := kx
        cases sig with
        | error e => rfl
        | next => simp only [filter_fire]; exact dwm_finish_conc { a with fired := k :: a.fired } _
        | completed => simp only [filter_fire]; exact dwm_finish_conc { a with fired := k :: a.fired } _
    · rfl

structure DwmAbsOk {α} (a : DwmAbs α) : Prop where
  seen_lt : ∀ p ∈ a.seen, p.1 < a.count
  fired_lt : ∀ k ∈ a.fired, k < a.count

/-- what a step does to the history; not what it sends downstream -/
structure DwmAbsFrame {α} (a a' : DwmAbs α) : Prop where
  count_le : a.count ≤ a'.count
  seen_new : ∀ p ∈ a'.seen, p ∈ a.seen ∨ (p.1 = a.count ∧ a.count < a'.count)
  fired_new : ∀ k ∈ a'.fired, k ∈ a.fired ∨ ∃ p ∈ a.seen, p.1 = k
  fired_mono : ∀ k ∈ a.fired, k ∈ a'.fired

theorem DwmAbsFrame.same {α} {a a' : DwmAbs α} (hc : a.count ≤ a'.count) (hs : a'.seen = a.seen) (hf : a'.fired = a.fired) :
    DwmAbsFrame a a' :=
  ⟨hc, fun _ hp => Or.inl (hs ▸ hp), fun _ hk => Or.inl (hf ▸ hk), fun _ hk => hf ▸ hk⟩

theorem dwmAbsStep_cases {α} (raises : Nat → α → Option Err) (a : DwmAbs α) (ev : MEv α) :
    (∃ a', dwmAbsStep raises a ev = { st := a' } ∧ DwmAbsFrame a a')
      ∨ (∃ a' e, dwmAbsStep raises a ev = { st := a', out := [.error e] } ∧ a'.done = true ∧ DwmAbsFrame a a')
      ∨ (∃ a' o, dwmAbsStep raises a ev = dwmAbsFinish a' o ∧ (o = [] ∨ ∃ x, o = [.next x]) ∧ DwmAbsFrame a a') := by
  have same : DwmAbsFrame a a := .same (Nat.le_refl _) rfl rfl
  have fail : DwmAbsFrame a { a with done := true } := .same (Nat.le_refl _) rfl rfl
  cases ev with
  | sub sg =>
    cases hl : a.subLive
    · exact Or.inl ⟨a, by simp only [dwmAbsStep, hl, Bool.false_eq_true, if_false], same⟩
    · have start : DwmAbsFrame a { a with subLive := false, srcLive := true } := .same (Nat.le_refl _) rfl rfl
      cases sg with
      | error e => exact Or.inr (Or.inl ⟨_, e, by simp only [dwmAbsStep, hl, if_true], rfl, fail⟩)
      | next => exact Or.inl ⟨_, by simp only [dwmAbsStep, hl, if_true], start⟩
      | completed => exact Or.inl ⟨_, by simp only [dwmAbsStep, hl, if_true], start⟩
  | src n =>
    cases hl : a.srcLive
    · exact Or.inl ⟨a, by simp only [dwmAbsStep, hl, Bool.false_eq_true, if_false], same⟩
    · cases n with
      | next x =>
        cases hr : raises a.count x with
        | some e =>
          exact Or.inr (Or.inl ⟨{ a with count := a.count + 1, done := true }, e, by simp only [dwmAbsStep, hl, hr, if_true],
            rfl, .same (Nat.le_succ _) rfl rfl⟩)
        | none =>
          refine Or.inl ⟨{ a with seen := a.seen ++ [(a.count, x)], count := a.count + 1 },
            by simp only [dwmAbsStep, hl, hr, if_true], Nat.le_succ _, fun p hp => ?_, fun _ hk => Or.inl hk, fun _ hk => hk⟩
          rcases List.mem_append.1 hp with hm | hm
          · exact Or.inl hm
          · rw [List.mem_singleton] at hm; subst hm; exact Or.inr ⟨rfl, Nat.lt_succ_self _⟩
      | error e => exact Or.inr (Or.inl ⟨_, e, by simp only [dwmAbsStep, hl, if_true], rfl, fail⟩)
      | completed =>
        exact Or.inr (Or.inr ⟨{ a with atEnd := true, srcLive := false }, [], by simp only [dwmAbsStep, hl, if_true], Or.inl rfl,
          .same (Nat.le_refl _) rfl rfl⟩)
  | inner k sig =>
    cases hc : a.fired.contains k
    · cases hfind : a.seen.find? (fun p => p.1 == k) with
      | none => exact Or.inl ⟨a, by simp only [dwmAbsStep, hc, hfind, Bool.false_eq_true, if_false], same⟩
      | some kx =>
        obtain ⟨k', x⟩ := kx
        have hk : ∃ p ∈ a.seen, p.1 = k :=
          ⟨(k', x), List.mem_of_find?_eq_some hfind, by simpa using List.find?_some hfind⟩
        have fire : DwmAbsFrame a { a with fired := k :: a.fired } :=
          ⟨Nat.le_refl _, fun _ hp => Or.inl hp,
            fun j hj => (List.mem_cons.1 hj).elim (fun h => Or.inr (h ▸ hk)) Or.inl, fun _ hj => List.mem_cons_of_mem _ hj⟩
        cases sig with
        | error e =>
          exact Or.inr (Or.inl ⟨_, e, by simp only [dwmAbsStep, hc, hfind, Bool.false_eq_true, if_false], rfl, fail⟩)
        | next =>
          exact Or.inr (Or.inr ⟨_, [.next x], by simp only [dwmAbsStep, hc, hfind, Bool.false_eq_true, if_false],
            Or.inr ⟨x, rfl⟩, fire⟩)
        | completed =>
          exact Or.inr (Or.inr ⟨_, [.next x], by simp only [dwmAbsStep, hc, hfind, Bool.false_eq_true, if_false],
            Or.inr ⟨x, rfl⟩, fire⟩)
    · exact Or.inl ⟨a, by simp only [dwmAbsStep, hc, if_true], same⟩

theorem dwmAbsStep_frame {α} (raises : Nat → α → Option Err) (a : DwmAbs α) (ev : MEv α) :
    DwmAbsFrame a (dwmAbsStep raises a ev).st := by
  rcases dwmAbsStep_cases raises a ev with ⟨a', h, hf⟩ | ⟨a', e, h, _, hf⟩ | ⟨a', o, h, _, hf⟩ <;> rw [h]
  · exact hf
  · exact hf
  · exact ⟨hf.count_le, hf.seen_new, hf.fired_new, hf.fired_mono⟩      -- `dwmAbsFinish` writes `done` only

theorem dwm_abs_ok_step {α} (raises : Nat → α → Option Err) (a : DwmAbs α) (ev : MEv α) (h : DwmAbsOk a) :
    DwmAbsOk (dwmAbsStep raises a ev).st := by
  have hf := dwmAbsStep_frame raises a ev
  refine ⟨fun p hp => ?_, fun k hk => ?_⟩
  · rcases hf.seen_new p hp with h1 | ⟨h1, h2⟩
    · exact Nat.lt_of_lt_of_le (h.seen_lt p h1) hf.count_le
    · rw [h1]; exact h2
  · rcases hf.fired_new k hk with h1 | ⟨p, hp, rfl⟩
    · exact Nat.lt_of_lt_of_le (h.fired_lt k h1) hf.count_le
    · exact Nat.lt_of_lt_of_le (h.seen_lt p hp) hf.count_le

theorem dwm_run_eq_spec {α} (raises : Nat → α → Option Err) (hasSubDelay : Bool) (tr : List (Nat × MEv α)) :
    dwmRun raises hasSubDelay tr = dwmSpec raises hasSubDelay tr := by
  have h0 : dwmInit (α := α) hasSubDelay = dwmConc (dwmAbsInit hasSubDelay) := by cases hasSubDelay <;> rfl
  unfold dwmRun dwmSpec
  rw [h0]
  exact runTrace_map (dwmAbsStep raises) (dwmStep raises) (·.done) (·.done) (fun _ => []) dwmConc DwmAbsOk (fun _ => rfl)
    (fun a ev h _ => ⟨dwm_step_conc raises a ev h.fired_lt, dwm_abs_ok_step raises a ev h⟩) tr _
    (by cases hasSubDelay <;> exact ⟨fun _ h => (nomatch h), fun _ h => (nomatch h)⟩)

def dwmLift {α} (s : DwmSt α) : DwmAbs α :=
  { seen := s.delays, fired := [], atEnd := s.atEnd, subLive := s.subLive, srcLive := s.srcLive, count := s.count,
    done := s.done }

theorem dwmConc_lift {α} (s : DwmSt α) : dwmConc (dwmLift s) = s := by
  obtain ⟨delays, _, _, _, _, _⟩ := s
  have : delays.filter (fun _ => true) = delays := List.filter_eq_self.2 (fun _ _ => rfl)
  simp only [dwmConc, dwmLift, List.contains_nil, Bool.not_false, this]

/-- every state of the code is `dwmConc` of some history -/
theorem dwmStep_eq_abs {α} (raises : Nat → α → Option Err) (s : DwmSt α) (ev : MEv α) :
    dwmStep raises s ev = (dwmAbsStep raises (dwmLift s) ev).map dwmConc := by
  have := dwm_step_conc raises (dwmLift s) ev (fun _ h => nomatch h)
  rwa [dwmConc_lift] at this

/-- every waiting element carries the ordinal of a source element already seen -/
def DwmOk {α} (s : DwmSt α) : Prop := ∀ p ∈ s.delays, p.1 < s.count

/-- element `k` has been seen and is no longer waiting (it was delivered, or its delay observable failed) -/
def DwmFired {α} (s : DwmSt α) (k : Nat) : Prop := k < s.count ∧ ∀ p ∈ s.delays, p.1 ≠ k

theorem dwmStep_cases {α} (raises : Nat → α → Option Err) (s : DwmSt α) (ev : MEv α) :
    (∃ s', dwmStep raises s ev = { st := s' })
      ∨ (∃ s' e, dwmStep raises s ev = { st := s', out := [.error e] } ∧ s'.done = true)
      ∨ (∃ s' o, dwmStep raises s ev = dwmFinish s' o ∧ (o = [] ∨ ∃ x, o = [.next x])) := by
  rw [dwmStep_eq_abs]
  rcases dwmAbsStep_cases raises (dwmLift s) ev with ⟨a', h, -⟩ | ⟨a', e, h, hd, -⟩ | ⟨a', o, h, ho, -⟩
  · exact Or.inl ⟨dwmConc a', by rw [h]; rfl⟩
  · exact Or.inr (Or.inl ⟨dwmConc a', e, by rw [h]; rfl, hd⟩)
  · exact Or.inr (Or.inr ⟨dwmConc a', o, by rw [h, dwm_finish_conc], ho⟩)

theorem dwm_ok_step {α} (raises : Nat → α → Option Err) (s : DwmSt α) (ev : MEv α) (h : DwmOk s) :
    DwmOk (dwmStep raises s ev).st := by
  rw [dwmStep_eq_abs]
  have hf := dwmAbsStep_frame raises (dwmLift s) ev
  intro p hp
  rcases hf.seen_new p (List.mem_filter.1 hp).1 with h1 | ⟨h1, h2⟩
  · exact Nat.lt_of_lt_of_le (h p h1) hf.count_le
  · rw [h1]; exact h2

theorem dwm_fired_step {α} (raises : Nat → α → Option Err) (s : DwmSt α) (ev : MEv α) (k : Nat) (h : DwmFired s k) :
    DwmFired (dwmStep raises s ev).st k := by
  rw [dwmStep_eq_abs]
  have hf := dwmAbsStep_frame raises (dwmLift s) ev
  refine ⟨Nat.lt_of_lt_of_le h.1 hf.count_le, fun p hp => ?_⟩
  rcases hf.seen_new p (List.mem_filter.1 hp).1 with h1 | ⟨h1, _⟩
  · exact h.2 p h1
  · rw [h1]; exact Nat.ne_of_gt h.1

end Timed
