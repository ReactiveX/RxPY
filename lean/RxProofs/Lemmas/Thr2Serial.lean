import RxProofs.Lemmas.Thr2Step
import RxProofs.Lemmas.CoreAdo
/-!
# Lemmas for C43 — exclusion ⇒ one callback at a time and a well-formed delivered sequence

While at most one thread is inside the downstream observer (`Excl`), every step keeps `AG`; so any invariant of `step`
that implies `Excl` gives both after every schedule (`serial_of_inv`).
-/

namespace Thr2

variable {σ α : Type}

theorem TS.isChk_inObs {t : TS σ α} (h : t.isChk = true) : t.inObs = true := by
  cases t <;> simp_all [TS.isChk, TS.inObs]
theorem TS.isIn_inObs {t : TS σ α} (h : t.isIn = true) : t.inObs = true := by
  cases t <;> simp_all [TS.isIn, TS.inObs]
theorem TS.isChk_not_isIn {t : TS σ α} (h : t.isChk = true) : t.isIn = false := by
  cases t <;> simp_all [TS.isIn, TS.isChk]
theorem TS.not_inObs {t : TS σ α} (h : t.inObs = false) : t.isChk = false ∧ t.isIn = false := by
  cases t <;> simp_all [TS.isIn, TS.isChk, TS.inObs]

/-- What a step of thread `i`, from `t` to `t'`, does to the observer's fields.  `quiet` includes the call that finds
the observer open: the thread then stands between the `is_stopped` test and the callback, and the flag was down. -/
inductive Eff (S : Sys σ α) (i : Nat) (S' : Sys σ α) : Prop
  | quiet (t t' : TS σ α) (ht : S.thr i = t) (ht' : S'.thr = upd S.thr i t') (h1 : t.inObs = false)
      (h2 : t'.isIn = false) (h3 : t'.isChk = true → S.stopped = false)
      (e1 : S'.stopped = S.stopped) (e2 : S'.delivered = S.delivered) (e3 : S'.active = S.active)
      (e4 : S'.maxActive = S.maxActive)
  | commit (t t' : TS σ α) (c : Notif α) (ht : S.thr i = t) (ht' : S'.thr = upd S.thr i t') (h1 : t.isChk = true)
      (h2 : t'.isIn = true)
      (e1 : S'.stopped = (S.stopped || c.isTerminal)) (e2 : S'.delivered = S.delivered ++ [c])
      (e3 : S'.active = S.active + 1) (e4 : S'.maxActive = max S.maxActive (S.active + 1))
  | ret (t t' : TS σ α) (ht : S.thr i = t) (ht' : S'.thr = upd S.thr i t') (h1 : t.isIn = true)
      (h2 : t'.inObs = false)
      (e1 : S'.stopped = S.stopped) (e2 : S'.delivered = S.delivered) (e3 : S'.active = S.active - 1)
      (e4 : S'.maxActive = S.maxActive)

theorem step_eff (S S' : Sys σ α) (i : Nat) (hs : step S i = some S') : Eff S i S' := by
  -- a call finds the observer stopped (`a`) or open (`b`)
  have call : ∀ a b : TS σ α, a.inObs = false → b.isChk = true →
      (if S.stopped then a else b).isIn = false ∧ ((if S.stopped then a else b).isChk = true → S.stopped = false) := by
    intro a b ha hb
    cases S.stopped
    · exact ⟨TS.isChk_not_isIn hb, fun _ => rfl⟩
    · exact ⟨(TS.not_inObs ha).2, fun hc => absurd hc (by simp [(TS.not_inObs ha).1])⟩
  cases step_Step hs with
  | free h | acquire h _ | skip h _ | release h | body h _ =>
    exact .quiet _ _ h rfl (by simp [TS.inObs]) rfl nofun rfl rfl rfl rfl
  | ucall h _ | bodyCall h _ =>
    exact .quiet _ _ h rfl (by simp [TS.inObs]) (call _ _ rfl rfl).1 (call _ _ rfl rfl).2 rfl rfl rfl rfl
  | uEnter h | enter h => exact .commit _ _ _ h rfl rfl rfl rfl rfl rfl rfl
  | uExit h | exit h => exact .ret _ _ h rfl rfl rfl rfl rfl rfl rfl

def Excl (S : Sys σ α) : Prop := ∀ j k, (S.thr j).inObs = true → (S.thr k).inObs = true → j = k

/-- a thread that read `is_stopped = False` and has not yet entered the callback still finds the flag down; a thread
inside the callback is the one `active` counts -/
structure ObsOK (S : Sys σ α) (t : TS σ α) : Prop where
  chk : t.isChk = true → S.stopped = false
  cb : t.isIn = true → S.active = 1

theorem ObsOK.out {S : Sys σ α} {t : TS σ α} (h : t.inObs = false) : ObsOK S t :=
  ⟨fun hc => absurd hc (by simp [(TS.not_inObs h).1]), fun hi => absurd hi (by simp [(TS.not_inObs h).2])⟩

structure AG (S : Sys σ α) : Prop where
  max : S.maxActive ≤ 1
  gram : Grammar S.delivered
  noTerm : S.stopped = false → ∀ n ∈ S.delivered, n.isTerminal = false
  obs : ∀ j, ObsOK S (S.thr j)
  idle : S.active ≠ 0 → ∃ j, (S.thr j).isIn = true

theorem step_AG (S S' : Sys σ α) (i : Nat) (hX : Excl S) (h : AG S) (hs : step S i = some S') : AG S' := by
  have alone : (S.thr i).inObs = true → ∀ j, j ≠ i → (S.thr j).inObs = false := fun hi j hj =>
    Bool.eq_false_iff.2 fun hin => hj (hX j i hin hi)
  cases step_eff S S' i hs with
  | quiet t t' ht ht' h1 h2 h3 e1 e2 e3 e4 =>
    refine { max := e4 ▸ h.max, gram := e2 ▸ h.gram, noTerm := e1 ▸ e2 ▸ h.noTerm
             obs := ht' ▸ forall_upd (fun j => ⟨e1 ▸ (h.obs j).chk, e3 ▸ (h.obs j).cb⟩) i
               ⟨fun hc => e1 ▸ h3 hc, fun hi => absurd hi (by simp [h2])⟩
             idle := fun hne => ?_ }
    obtain ⟨k, hk⟩ := h.idle (e3 ▸ hne)
    have hki : k ≠ i := fun e => by rw [e, ht, (TS.not_inObs h1).2] at hk; cases hk
    exact ⟨k, by rw [ht', upd_other _ _ _ _ hki]; exact hk⟩
  | commit t t' c ht ht' h1 h2 e1 e2 e3 e4 =>
    have hin : (S.thr i).inObs = true := ht ▸ TS.isChk_inObs h1
    have hst : S.stopped = false := (h.obs i).chk (ht ▸ h1)
    -- a thread in a callback would be inside the observer, hence thread `i`, which is not in a callback yet
    have hact : S.active = 0 := Decidable.byContradiction fun hne => by
      obtain ⟨k, hk⟩ := h.idle hne
      rw [hX k i (TS.isIn_inObs hk) hin, ht, TS.isChk_not_isIn h1] at hk; cases hk
    refine { max := ?_, gram := e2 ▸ Grammar.snoc _ _ (h.noTerm hst), noTerm := fun hs' n hn => ?_
             obs := ht' ▸ forall_upd_of_ne (fun j hj => .out (alone hin j hj))
               ⟨fun hc => absurd h2 (by simp [TS.isChk_not_isIn hc]), fun _ => by rw [e3, hact]⟩
             idle := fun _ => ⟨i, by rw [ht', upd_same]; exact h2⟩ }
    · rw [e4, hact]; exact Nat.max_le.2 ⟨h.max, Nat.le_refl 1⟩
    · rw [e1, hst] at hs'
      rw [e2] at hn
      rcases List.mem_append.1 hn with hn | hn
      · exact h.noTerm hst n hn
      · simp at hn; subst hn; simpa using hs'
  | ret t t' ht ht' h1 h2 e1 e2 e3 e4 =>
    have hin : (S.thr i).inObs = true := ht ▸ TS.isIn_inObs h1
    have hact : S.active = 1 := (h.obs i).cb (ht ▸ h1)
    exact { max := e4 ▸ h.max, gram := e2 ▸ h.gram, noTerm := e1 ▸ e2 ▸ h.noTerm
            obs := ht' ▸ forall_upd_of_ne (fun j hj => .out (alone hin j hj)) (.out h2)
            idle := fun hne => absurd (by rw [e3, hact]) hne }

theorem init_AG (s0 : σ) (progs : Nat → TProg σ α) : AG (init s0 progs) :=
  { max := Nat.zero_le 1, gram := by simp [init, Grammar], noTerm := fun _ n hn => by simp [init] at hn
    obs := fun _ => .out rfl, idle := fun hne => absurd rfl hne }

theorem serial_of_inv (I : Sys σ α → Prop) (hX : ∀ S, I S → Excl S)
    (hstep : ∀ S S' i, I S → step S i = some S' → I S') (s0 : σ) (progs : Nat → TProg σ α)
    (h0 : I (init s0 progs)) (sch : List Nat) :
    (runSched (init s0 progs) sch).maxActive ≤ 1 ∧ Grammar (runSched (init s0 progs) sch).delivered := by
  have h := runSched_inv (fun S => I S ∧ AG S)
    (fun S S' i ⟨hI, hAG⟩ hs => ⟨hstep S S' i hI hs, step_AG S S' i (hX S hI) hAG hs⟩)
    sch (init s0 progs) ⟨h0, init_AG s0 progs⟩
  exact ⟨h.2.max, h.2.gram⟩

end Thr2
