import RxModel.Win
import RxProofs.Lemmas.Basics
/-!
# The shared window bookkeeping (`Win.Base`): what each operation can do, and what it leaves alone
-/
namespace Win
variable {α : Type}

namespace Base

@[simp] theorem wins_emit (b : Base α) (o) : (b.emit o).wins = b.wins := rfl
@[simp] theorem wins_subscribe (b : Base α) (k) : (b.subscribe k).wins = b.wins := rfl
/-- `b'` is `b` up to `live` and `log`: all that `unsub`, hence `disposeUnderlying`, touch. -/
structure Unsubbed (b b' : Base α) : Prop where
  wins : b'.wins = b.wins
  count : b'.count = b.count
  primary : b'.primary = b.primary
  rcDisposed : b'.rcDisposed = b.rcDisposed
  outerStopped : b'.outerStopped = b.outerStopped

theorem Unsubbed.trans {b b' b'' : Base α} (h : Unsubbed b b') (h' : Unsubbed b' b'') : Unsubbed b b'' :=
  ⟨h'.wins.trans h.wins, h'.count.trans h.count, h'.primary.trans h.primary, h'.rcDisposed.trans h.rcDisposed,
    h'.outerStopped.trans h.outerStopped⟩

theorem unsubbed_unsub (b : Base α) (k : Nat) : Unsubbed b (b.unsub k) := by
  unfold unsub; split <;> exact ⟨rfl, rfl, rfl, rfl, rfl⟩

theorem unsubbed_disposeUnderlying (b : Base α) : Unsubbed b b.disposeUnderlying :=
  List.foldl_pres (P := Unsubbed b) _ (fun c k h => h.trans (unsubbed_unsub c k)) _ ⟨rfl, rfl, rfl, rfl, rfl⟩

@[simp] theorem wins_unsub (b : Base α) (k) : (b.unsub k).wins = b.wins := (unsubbed_unsub b k).wins
@[simp] theorem wins_disposeUnderlying (b : Base α) : b.disposeUnderlying.wins = b.wins := (unsubbed_disposeUnderlying b).wins

/-- `RefCountDisposable.dispose` / `release` write two flags / the count; the underlying disposable goes exactly if that set `rcDisposed`. -/
def settle (b : Base α) : Base α := if b.rcDisposed then b.disposeUnderlying else b

theorem settle_disposed {b : Base α} (h : b.rcDisposed = true) : b.settle = b.disposeUnderlying := if_pos h
theorem settle_alive {b : Base α} (h : b.rcDisposed = false) : b.settle = b := if_neg (by rw [h]; exact Bool.false_ne_true)

theorem settle_cases (b : Base α) : b.settle = b.disposeUnderlying ∧ b.rcDisposed = true ∨ b.settle = b := by
  cases h : b.rcDisposed with
  | true => exact Or.inl ⟨settle_disposed h, rfl⟩
  | false => exact Or.inr (settle_alive h)

theorem unsubbed_settle (b : Base α) : Unsubbed b b.settle := by
  rcases settle_cases b with ⟨h, -⟩ | h <;> rw [h]
  · exact unsubbed_disposeUnderlying b
  · exact ⟨rfl, rfl, rfl, rfl, rfl⟩

theorem rcDispose_idle {b : Base α} (h : b.rcDisposed = true ∨ b.primary = true) : b.rcDispose = b := by
  unfold rcDispose; rcases h with h | h
  · rw [if_pos h]
  · split
    · rfl
    · simp

theorem rcDispose_alive {b : Base α} (hr : b.rcDisposed = false) (hp : b.primary = false) :
    b.rcDispose = settle { b with primary := true, rcDisposed := b.count == 0 } := by
  unfold rcDispose settle; cases hc : (b.count == 0) <;> simp [hr, hp, hc]

theorem rcRelease_idle {b : Base α} (h : b.rcDisposed = true) : b.rcRelease = b := by
  unfold rcRelease; rw [if_pos h]

theorem rcRelease_alive {b : Base α} (hr : b.rcDisposed = false) :
    b.rcRelease = settle { b with count := b.count - 1, rcDisposed := b.count - 1 == 0 && b.primary } := by
  unfold rcRelease settle; cases hc : (b.count - 1 == 0 && b.primary) <;> simp [hr, hc]

theorem rcDispose_cases (b : Base α) :
    b.rcDispose = b ∨
    (b.rcDisposed = false ∧ b.primary = false ∧ b.rcDispose = settle { b with primary := true, rcDisposed := b.count == 0 }) := by
  cases hr : b.rcDisposed with
  | true => exact Or.inl (rcDispose_idle (Or.inl hr))
  | false => cases hp : b.primary with
    | true => exact Or.inl (rcDispose_idle (Or.inr hp))
    | false => exact Or.inr ⟨rfl, rfl, rcDispose_alive hr hp⟩

theorem rcRelease_cases (b : Base α) :
    b.rcRelease = b ∨
    (b.rcDisposed = false ∧
      b.rcRelease = settle { b with count := b.count - 1, rcDisposed := b.count - 1 == 0 && b.primary }) := by
  cases hr : b.rcDisposed with
  | true => exact Or.inl (rcRelease_idle hr)
  | false => exact Or.inr ⟨rfl, rcRelease_alive hr⟩

@[simp] theorem wins_rcDispose (b : Base α) : b.rcDispose.wins = b.wins := by
  rcases rcDispose_cases b with h | ⟨-, -, h⟩ <;> rw [h]; exact (unsubbed_settle _).wins

@[simp] theorem wins_rcRelease (b : Base α) : b.rcRelease.wins = b.wins := by
  rcases rcRelease_cases b with h | ⟨-, h⟩ <;> rw [h]; exact (unsubbed_settle _).wins

@[simp] theorem wins_outerEnd (b : Base α) (e) : (b.outerEnd e).wins = b.wins := by
  unfold outerEnd; split; rfl; simp

@[simp] theorem wins_outerDispose (b : Base α) : b.outerDispose.wins = b.wins := by
  unfold outerDispose; simp

@[simp] theorem pushedOf_emit (b : Base α) (o) (j) : (b.emit o).pushedOf j = b.pushedOf j := rfl
@[simp] theorem endedOf_emit (b : Base α) (o) (j) : (b.emit o).endedOf j = b.endedOf j := rfl

theorem pushedOf_congr {b b' : Base α} (h : b'.wins = b.wins) (j) : b'.pushedOf j = b.pushedOf j := by
  unfold pushedOf; rw [h]
theorem endedOf_congr {b b' : Base α} (h : b'.wins = b.wins) (j) : b'.endedOf j = b.endedOf j := by
  unfold endedOf; rw [h]

@[simp] theorem pushedOf_rcRelease (b : Base α) (j) : b.rcRelease.pushedOf j = b.pushedOf j := pushedOf_congr (by simp) j
@[simp] theorem endedOf_rcRelease (b : Base α) (j) : b.rcRelease.endedOf j = b.endedOf j := endedOf_congr (by simp) j
@[simp] theorem pushedOf_outerEnd (b : Base α) (e j) : (b.outerEnd e).pushedOf j = b.pushedOf j := pushedOf_congr (by simp) j
@[simp] theorem endedOf_outerEnd (b : Base α) (e j) : (b.outerEnd e).endedOf j = b.endedOf j := endedOf_congr (by simp) j
@[simp] theorem pushedOf_unsub (b : Base α) (k j) : (b.unsub k).pushedOf j = b.pushedOf j := pushedOf_congr (by simp) j
@[simp] theorem endedOf_unsub (b : Base α) (k j) : (b.unsub k).endedOf j = b.endedOf j := endedOf_congr (by simp) j
@[simp] theorem pushedOf_subscribe (b : Base α) (k j) : (b.subscribe k).pushedOf j = b.pushedOf j := rfl
@[simp] theorem endedOf_subscribe (b : Base α) (k j) : (b.subscribe k).endedOf j = b.endedOf j := rfl

@[simp] theorem newWin_id (b : Base α) : b.newWin.2 = b.wins.length := rfl
/-- a fresh window is appended; unless the outer observer is stopped it is handed to it, and the recorder that attaches
inside that `on_next` takes a reference of the RefCountDisposable if that is still alive. -/
theorem open_cases (b : Base α) :
    (b.outerStopped = true ∧ b.newWin.1.outerNext b.wins.length = { b with wins := b.wins ++ [{}] }) ∨
    (b.outerStopped = false ∧ b.newWin.1.outerNext b.wins.length =
      { b with wins := b.wins ++ [{ attached := true }], log := b.log ++ [(b.now, .outer (.next b.wins.length))],
               count := if b.rcDisposed then b.count else b.count + 1 }) := by
  have hm : ∀ (l : List (W α)) (a : W α) (f : W α → W α), (l ++ [a]).modify l.length f = l ++ [f a] := by
    intro l a f
    induction l with
    | nil => rfl
    | cons x l ih => simp only [List.cons_append, List.length_cons, List.modify_succ_cons, ih]
  cases hs : b.outerStopped with
  | true => exact Or.inl ⟨rfl, by simp [newWin, outerNext, hs]⟩
  | false =>
    refine Or.inr ⟨rfl, ?_⟩
    cases hr : b.rcDisposed <;> simp [newWin, outerNext, emit, hs, hr, hm]

theorem wins_open (b : Base α) : ∃ w : W α, w.pushed = [] ∧ w.ended = none ∧
    (b.newWin.1.outerNext b.wins.length).wins = b.wins ++ [w] := by
  rcases open_cases b with ⟨-, h⟩ | ⟨-, h⟩ <;> rw [h] <;> exact ⟨_, rfl, rfl, rfl⟩

@[simp] theorem length_open (b : Base α) : (b.newWin.1.outerNext b.wins.length).wins.length = b.wins.length + 1 := by
  obtain ⟨w, -, -, hw⟩ := wins_open b; rw [hw]; simp

theorem getElem?_open (b : Base α) (j : Nat) :
    (b.newWin.1.outerNext b.wins.length).wins[j]? = b.wins[j]? ∨
      (b.wins[j]? = none ∧ ∃ w : W α, w.pushed = [] ∧ w.ended = none ∧ (b.newWin.1.outerNext b.wins.length).wins[j]? = some w) := by
  obtain ⟨w, hp, he, hw⟩ := wins_open b
  rw [hw]
  by_cases h : j < b.wins.length
  · exact Or.inl (List.getElem?_append_left h)
  · rw [List.getElem?_append_right (Nat.le_of_not_lt h), List.getElem?_eq_none (Nat.le_of_not_lt h)]
    cases hj : [w][j - b.wins.length]? with
    | none => exact Or.inl rfl
    | some w' => obtain rfl : w' = w := by simpa using List.mem_of_getElem? hj
                 exact Or.inr ⟨rfl, w', hp, he, rfl⟩

@[simp] theorem pushedOf_open (b : Base α) (j : Nat) : (b.newWin.1.outerNext b.wins.length).pushedOf j = b.pushedOf j := by
  unfold pushedOf; rcases getElem?_open b j with h | ⟨hn, w, hp, -, h⟩ <;> rw [h]
  rw [hn]; exact hp

@[simp] theorem endedOf_open (b : Base α) (j : Nat) : (b.newWin.1.outerNext b.wins.length).endedOf j = b.endedOf j := by
  unfold endedOf; rcases getElem?_open b j with h | ⟨hn, w, -, he, h⟩ <;> rw [h]
  rw [hn]; exact he

theorem endedOf_of_get {b : Base α} {i : Nat} {w : W α} (hw : b.wins[i]? = some w) : b.endedOf i = w.ended := by
  simp [endedOf, hw]
theorem pushedOf_of_get {b : Base α} {i : Nat} {w : W α} (hw : b.wins[i]? = some w) : b.pushedOf i = w.pushed := by
  simp [pushedOf, hw]
theorem endedOf_none_of_ge {b : Base α} {i : Nat} (h : b.wins.length ≤ i) : b.endedOf i = none := by
  simp [endedOf, List.getElem?_eq_none h]
theorem pushedOf_nil_of_ge {b : Base α} {i : Nat} (h : b.wins.length ≤ i) : b.pushedOf i = [] := by
  simp [pushedOf, List.getElem?_eq_none h]

/-- `b` with window `i` replaced by `w'` and `l` logged: all that `winNext`, `winEnd`, `winDetach` do before an attached subscriber's
reference is released. -/
def setWin (b : Base α) (i : Nat) (w' : W α) (l : List (Nat × Out α)) : Base α :=
  { b with wins := b.wins.set i w', log := b.log ++ l }

/-- window `i` is `w` and has not ended: the only case in which `winNext` / `winEnd` do anything. -/
structure OpenAt (b : Base α) (i : Nat) (w : W α) : Prop where
  get : b.wins[i]? = some w
  ended : w.ended = none

theorem OpenAt.lt {b : Base α} {i : Nat} {w : W α} (h : b.OpenAt i w) : i < b.wins.length := (List.getElem?_eq_some_iff.mp h.get).1

theorem OpenAt.endedOf {b : Base α} {i : Nat} {w : W α} (h : b.OpenAt i w) : b.endedOf i = none := by
  rw [endedOf_of_get h.get]; exact h.ended

theorem exists_openAt {b : Base α} {i : Nat} (hi : i < b.wins.length) (he : b.endedOf i = none) : ∃ w, b.OpenAt i w :=
  ⟨b.wins[i], List.getElem?_eq_getElem hi, by rw [← he, endedOf_of_get (List.getElem?_eq_getElem hi)]⟩

theorem winNext_cases (b : Base α) (i : Nat) (x : α) :
    ((∀ w, ¬ b.OpenAt i w) ∧ b.winNext i x = b) ∨
    ∃ w, b.OpenAt i w ∧ b.winNext i x =
      b.setWin i { w with pushed := w.pushed ++ [x] } (if w.attached then [(b.now, .win i (.next x))] else []) := by
  unfold winNext
  cases hw : b.wins[i]? with
  | none => exact Or.inl ⟨fun w h => (by have := h.get; rw [hw] at this; cases this), rfl⟩
  | some w =>
    cases he : w.ended with
    | some e => exact Or.inl ⟨fun w' h => (by have := h.get; rw [hw] at this; cases this; have := h.ended; rw [he] at this; cases this), by simp [he]⟩
    | none => exact Or.inr ⟨w, ⟨hw, he⟩, by cases ha : w.attached <;> simp [he, ha, setWin, emit]⟩

theorem winEnd_cases (b : Base α) (i : Nat) (e : Option Err) :
    ((∀ w, ¬ b.OpenAt i w) ∧ b.winEnd i e = b) ∨
    ∃ w, b.OpenAt i w ∧ b.winEnd i e =
      if w.attached then (b.setWin i { w with ended := some e, attached := false } [(b.now, .win i (endNotif e))]).rcRelease
      else b.setWin i { w with ended := some e, attached := false } [] := by
  unfold winEnd
  cases hw : b.wins[i]? with
  | none => exact Or.inl ⟨fun w h => (by have := h.get; rw [hw] at this; cases this), rfl⟩
  | some w =>
    cases he : w.ended with
    | some e => exact Or.inl ⟨fun w' h => (by have := h.get; rw [hw] at this; cases this; have := h.ended; rw [he] at this; cases this), by simp [he]⟩
    | none => exact Or.inr ⟨w, ⟨hw, he⟩, by cases ha : w.attached <;> simp [he, ha, setWin, emit]⟩

theorem winDetach_cases (b : Base α) (i : Nat) :
    b.winDetach i = b ∨
    ∃ w, b.wins[i]? = some w ∧ w.attached = true ∧ b.winDetach i = (b.setWin i { w with attached := false } []).rcRelease := by
  unfold winDetach
  cases hw : b.wins[i]? with
  | none => exact Or.inl rfl
  | some w =>
    cases ha : w.attached with
    | false => exact Or.inl (by simp [ha])
    | true => exact Or.inr ⟨w, rfl, ha, by simp [ha, setWin]⟩

@[simp] theorem length_setWin (b : Base α) (i w' l) : (b.setWin i w' l).wins.length = b.wins.length := by simp [setWin]

theorem pushedOf_setWin {b : Base α} {i : Nat} {w : W α} (hw : b.wins[i]? = some w) (w' : W α) (l) (j : Nat) :
    (b.setWin i w' l).pushedOf j = if i = j then w'.pushed else b.pushedOf j := by
  have hi : i < b.wins.length := (List.getElem?_eq_some_iff.mp hw).1
  unfold pushedOf setWin
  by_cases hij : i = j
  · subst hij; simp [hi]
  · simp [hij, List.getElem?_set_ne hij]

theorem endedOf_setWin {b : Base α} {i : Nat} {w : W α} (hw : b.wins[i]? = some w) (w' : W α) (l) (j : Nat) :
    (b.setWin i w' l).endedOf j = if i = j then w'.ended else b.endedOf j := by
  have hi : i < b.wins.length := (List.getElem?_eq_some_iff.mp hw).1
  unfold endedOf setWin
  by_cases hij : i = j
  · subst hij; simp [hi]
  · simp [hij, List.getElem?_set_ne hij]

theorem pushedOf_setWin_same {b : Base α} {i : Nat} {w w' : W α} (hw : b.wins[i]? = some w) (h : w'.pushed = w.pushed) (l) (j : Nat) :
    (b.setWin i w' l).pushedOf j = b.pushedOf j := by
  rw [pushedOf_setWin hw]; split
  · next hij => subst hij; rw [h, pushedOf_of_get hw]
  · rfl

theorem endedOf_setWin_same {b : Base α} {i : Nat} {w w' : W α} (hw : b.wins[i]? = some w) (h : w'.ended = w.ended) (l) (j : Nat) :
    (b.setWin i w' l).endedOf j = b.endedOf j := by
  rw [endedOf_setWin hw]; split
  · next hij => subst hij; rw [h, endedOf_of_get hw]
  · rfl

@[simp] theorem length_winNext (b : Base α) (i x) : (b.winNext i x).wins.length = b.wins.length := by
  rcases winNext_cases b i x with ⟨-, h⟩ | ⟨w, -, h⟩ <;> rw [h]; exact length_setWin ..

@[simp] theorem length_winEnd (b : Base α) (i e) : (b.winEnd i e).wins.length = b.wins.length := by
  rcases winEnd_cases b i e with ⟨-, h⟩ | ⟨w, -, h⟩ <;> rw [h]; split <;> simp

theorem pushedOf_winNext (b : Base α) (i j : Nat) (x : α) :
    (b.winNext i x).pushedOf j =
      if i = j ∧ j < b.wins.length ∧ b.endedOf j = none then b.pushedOf j ++ [x] else b.pushedOf j := by
  rcases winNext_cases b i x with ⟨hn, h⟩ | ⟨w, ho, h⟩
  · rw [h, if_neg]; rintro ⟨rfl, hlt, hn'⟩; obtain ⟨w, hw⟩ := exists_openAt hlt hn'; exact hn w hw
  · rw [h, pushedOf_setWin ho.get]
    by_cases hij : i = j
    · subst hij; rw [if_pos rfl, if_pos ⟨rfl, ho.lt, ho.endedOf⟩, pushedOf_of_get ho.get]
    · rw [if_neg hij, if_neg (fun hh => hij hh.1)]

@[simp] theorem endedOf_winNext (b : Base α) (i j : Nat) (x : α) : (b.winNext i x).endedOf j = b.endedOf j := by
  rcases winNext_cases b i x with ⟨-, h⟩ | ⟨w, ho, h⟩ <;> rw [h]
  exact endedOf_setWin_same ho.get (by rfl) _ j

@[simp] theorem pushedOf_winEnd (b : Base α) (i j : Nat) (e) : (b.winEnd i e).pushedOf j = b.pushedOf j := by
  rcases winEnd_cases b i e with ⟨-, h⟩ | ⟨w, ho, h⟩ <;> rw [h]
  split
  · rw [pushedOf_rcRelease]; exact pushedOf_setWin_same ho.get (by rfl) _ j
  · exact pushedOf_setWin_same ho.get (by rfl) _ j

theorem endedOf_winEnd (b : Base α) (i j : Nat) (e) :
    (b.winEnd i e).endedOf j = if i = j ∧ j < b.wins.length ∧ b.endedOf j = none then some e else b.endedOf j := by
  rcases winEnd_cases b i e with ⟨hn, h⟩ | ⟨w, ho, h⟩
  · rw [h, if_neg]; rintro ⟨rfl, hlt, hn'⟩; obtain ⟨w, hw⟩ := exists_openAt hlt hn'; exact hn w hw
  · have : (b.winEnd i e).endedOf j = if i = j then some e else b.endedOf j := by
      rw [h]; split
      · rw [endedOf_rcRelease, endedOf_setWin ho.get]
      · rw [endedOf_setWin ho.get]
    rw [this]
    by_cases hij : i = j
    · subst hij; rw [if_pos rfl, if_pos ⟨rfl, ho.lt, ho.endedOf⟩]
    · rw [if_neg hij, if_neg (fun hh => hij hh.1)]

@[simp] theorem length_foldl_winNext (q : List Nat) (b : Base α) (x : α) :
    (q.foldl (fun b id => b.winNext id x) b).wins.length = b.wins.length :=
  List.foldl_pres (P := fun c => c.wins.length = b.wins.length) _ (fun c i h => (length_winNext c i x).trans h) q rfl

@[simp] theorem endedOf_foldl_winNext (q : List Nat) (b : Base α) (x : α) (j : Nat) :
    (q.foldl (fun b id => b.winNext id x) b).endedOf j = b.endedOf j :=
  List.foldl_pres (P := fun c => c.endedOf j = b.endedOf j) _ (fun c i h => (endedOf_winNext c i j x).trans h) q rfl

theorem pushedOf_foldl_winNext (q : List Nat) (hq : q.Nodup) (b : Base α) (x : α) (j : Nat) :
    (q.foldl (fun b id => b.winNext id x) b).pushedOf j =
      if j ∈ q ∧ j < b.wins.length ∧ b.endedOf j = none then b.pushedOf j ++ [x] else b.pushedOf j := by
  induction q generalizing b with
  | nil => simp
  | cons i q ih =>
    have hq' := (List.nodup_cons.mp hq)
    rw [List.foldl_cons, ih hq'.2, pushedOf_winNext, endedOf_winNext, length_winNext]
    by_cases hij : i = j
    · subst hij
      have : i ∉ q := hq'.1
      simp [this]
    · have : j ≠ i := fun h => hij h.symm
      simp [hij, this]

@[simp] theorem pushedOf_rcDispose (b : Base α) (j) : b.rcDispose.pushedOf j = b.pushedOf j := pushedOf_congr (by simp) j
@[simp] theorem endedOf_rcDispose (b : Base α) (j) : b.rcDispose.endedOf j = b.endedOf j := endedOf_congr (by simp) j
@[simp] theorem pushedOf_outerDispose (b : Base α) (j) : b.outerDispose.pushedOf j = b.pushedOf j := pushedOf_congr (by simp) j
@[simp] theorem endedOf_outerDispose (b : Base α) (j) : b.outerDispose.endedOf j = b.endedOf j := endedOf_congr (by simp) j
@[simp] theorem pushedOf_now (b : Base α) (t j) : ({ b with now := t } : Base α).pushedOf j = b.pushedOf j := rfl
@[simp] theorem endedOf_now (b : Base α) (t j) : ({ b with now := t } : Base α).endedOf j = b.endedOf j := rfl
@[simp] theorem length_now (b : Base α) (t) : ({ b with now := t } : Base α).wins.length = b.wins.length := rfl

@[simp] theorem length_winDetach (b : Base α) (i) : (b.winDetach i).wins.length = b.wins.length := by
  rcases winDetach_cases b i with h | ⟨w, -, -, h⟩ <;> rw [h]; simp

theorem pushedOf_winDetach (b : Base α) (i j) : (b.winDetach i).pushedOf j = b.pushedOf j := by
  rcases winDetach_cases b i with h | ⟨w, hw, -, h⟩ <;> rw [h]
  rw [pushedOf_rcRelease]; exact pushedOf_setWin_same hw (by rfl) _ j

theorem endedOf_winDetach (b : Base α) (i j) : (b.winDetach i).endedOf j = b.endedOf j := by
  rcases winDetach_cases b i with h | ⟨w, hw, -, h⟩ <;> rw [h]
  rw [endedOf_rcRelease]; exact endedOf_setWin_same hw (by rfl) _ j

theorem foldl_winDetach (l : List Nat) (b : Base α) :
    (l.foldl winDetach b).wins.length = b.wins.length ∧
    (∀ j, (l.foldl winDetach b).pushedOf j = b.pushedOf j) ∧ (∀ j, (l.foldl winDetach b).endedOf j = b.endedOf j) :=
  List.foldl_pres (P := fun c => c.wins.length = b.wins.length ∧ (∀ j, c.pushedOf j = b.pushedOf j) ∧ ∀ j, c.endedOf j = b.endedOf j)
    _ (fun c i h => ⟨(length_winDetach c i).trans h.1, fun j => (pushedOf_winDetach c i j).trans (h.2.1 j),
      fun j => (endedOf_winDetach c i j).trans (h.2.2 j)⟩) l ⟨rfl, fun _ => rfl, fun _ => rfl⟩

@[simp] theorem length_disposeEv (b : Base α) (w) : (b.disposeEv w).wins.length = b.wins.length := by
  unfold disposeEv; simp only []; split
  · rw [(foldl_winDetach _ _).1]; simp
  · simp
@[simp] theorem pushedOf_disposeEv (b : Base α) (w j) : (b.disposeEv w).pushedOf j = b.pushedOf j := by
  unfold disposeEv; simp only []; split
  · rw [(foldl_winDetach _ _).2.1]; simp
  · simp
@[simp] theorem endedOf_disposeEv (b : Base α) (w j) : (b.disposeEv w).endedOf j = b.endedOf j := by
  unfold disposeEv; simp only []; split
  · rw [(foldl_winDetach _ _).2.2]; simp
  · simp

@[simp] theorem length_outerEnd (b : Base α) (e) : (b.outerEnd e).wins.length = b.wins.length := by rw [wins_outerEnd]
@[simp] theorem length_unsub (b : Base α) (k) : (b.unsub k).wins.length = b.wins.length := by rw [wins_unsub]
@[simp] theorem length_subscribe (b : Base α) (k) : (b.subscribe k).wins.length = b.wins.length := rfl
@[simp] theorem length_emit (b : Base α) (o) : (b.emit o).wins.length = b.wins.length := rfl

theorem endedOf_winEnd_self (b : Base α) (i e) (h : i < b.wins.length) : ((b.winEnd i e).endedOf i).isSome := by
  rw [endedOf_winEnd]; split
  · rfl
  · rename_i hn
    cases he : b.endedOf i with
    | none => exact absurd ⟨rfl, h, he⟩ hn
    | some _ => rfl

theorem endedOf_winEnd_mono (b : Base α) (i j e) (h : (b.endedOf j).isSome) : ((b.winEnd i e).endedOf j).isSome := by
  rw [endedOf_winEnd]; split
  · rfl
  · exact h

theorem foldl_winEnd (l : List Nat) (e : Option Err) (b : Base α) :
    (l.foldl (fun b id => b.winEnd id e) b).wins.length = b.wins.length ∧
    (∀ j, (l.foldl (fun b id => b.winEnd id e) b).pushedOf j = b.pushedOf j) ∧
    (∀ j, (b.endedOf j).isSome → (l.foldl (fun b id => b.winEnd id e) b).endedOf j = b.endedOf j) ∧
    (∀ j, j < b.wins.length → b.endedOf j = none →
        (l.foldl (fun b id => b.winEnd id e) b).endedOf j = if j ∈ l then some e else none) := by
  induction l generalizing b with
  | nil => simp
  | cons i l ih =>
    obtain ⟨h1, h2, h3, h4⟩ := ih (b.winEnd i e)
    refine ⟨by rw [List.foldl_cons, h1]; simp, fun j => by rw [List.foldl_cons, h2]; simp, fun j hj => ?_, fun j hj hn => ?_⟩
    · rw [List.foldl_cons, h3 j (endedOf_winEnd_mono _ _ _ _ hj), endedOf_winEnd]
      rw [if_neg]; rintro ⟨_, _, h⟩; rw [h] at hj; cases hj
    · rw [List.foldl_cons]
      by_cases hij : i = j
      · subst hij
        have hs : (b.winEnd i e).endedOf i = some e := by rw [endedOf_winEnd, if_pos ⟨rfl, hj, hn⟩]
        rw [h3 i (by rw [hs]; rfl), hs]; simp
      · have hs : (b.winEnd i e).endedOf j = none := by rw [endedOf_winEnd, if_neg (by rintro ⟨h, _⟩; exact hij h)]; exact hn
        rw [h4 j (by simpa using hj) hs]
        have : j ≠ i := fun h => hij h.symm
        simp [this]

theorem ended_foldl_winEnd (l : List Nat) (e : Option Err) (b : Base α) (i : Nat) (hi : i ∈ l)
    (hlt : i < (l.foldl (fun b id => b.winEnd id e) b).wins.length) :
    ((l.foldl (fun b id => b.winEnd id e) b).endedOf i).isSome = true := by
  obtain ⟨h1, -, h3, h4⟩ := foldl_winEnd l e b
  rw [h1] at hlt
  cases hn : b.endedOf i with
  | some x => rw [h3 i (by rw [hn]; rfl), hn]; rfl
  | none => rw [h4 i hlt hn, if_pos hi]; rfl

@[simp] theorem os_emit (b : Base α) (o) : (b.emit o).outerStopped = b.outerStopped := rfl
@[simp] theorem os_unsub (b : Base α) (k) : (b.unsub k).outerStopped = b.outerStopped := (unsubbed_unsub b k).outerStopped
@[simp] theorem os_disposeUnderlying (b : Base α) : b.disposeUnderlying.outerStopped = b.outerStopped :=
  (unsubbed_disposeUnderlying b).outerStopped
@[simp] theorem os_rcDispose (b : Base α) : b.rcDispose.outerStopped = b.outerStopped := by
  rcases rcDispose_cases b with h | ⟨-, -, h⟩ <;> rw [h]; exact (unsubbed_settle _).outerStopped
theorem os_outerEnd (b : Base α) (e) : (b.outerEnd e).outerStopped = true := by
  unfold outerEnd; split
  · assumption
  · simp
@[simp] theorem os_rcRelease (b : Base α) : b.rcRelease.outerStopped = b.outerStopped := by
  rcases rcRelease_cases b with h | ⟨-, h⟩ <;> rw [h]; exact (unsubbed_settle _).outerStopped
@[simp] theorem os_winDetach (b : Base α) (i) : (b.winDetach i).outerStopped = b.outerStopped := by
  rcases winDetach_cases b i with h | ⟨w, -, -, h⟩ <;> rw [h]; rw [os_rcRelease]; rfl
theorem os_foldl_winDetach (l : List Nat) (b : Base α) : (l.foldl winDetach b).outerStopped = b.outerStopped :=
  List.foldl_pres (P := fun c : Base α => c.outerStopped = b.outerStopped) _ (fun c i h => (os_winDetach c i).trans h) l rfl
theorem os_disposeEv (b : Base α) (w) : (b.disposeEv w).outerStopped = true := by
  unfold disposeEv; simp only []; split
  · rw [os_foldl_winDetach]; simp [outerDispose]
  · simp [outerDispose]

theorem live_foldl_unsub (l : List Nat) (b : Base α) : (l.foldl unsub b).live = l.foldl List.erase b.live := by
  induction l generalizing b with
  | nil => rfl
  | cons k l ih =>
    rw [List.foldl_cons, ih, List.foldl_cons]
    congr 1
    unfold unsub; split
    · rfl
    · rename_i h
      have : k ∉ b.live := by simpa using h
      exact (List.erase_of_not_mem this).symm

theorem live_disposeUnderlying (b : Base α) : b.disposeUnderlying.live = [] := by
  unfold disposeUnderlying; rw [live_foldl_unsub]
  generalize b.live = l
  induction l with
  | nil => rfl
  | cons k t ih => simp [List.foldl_cons, ih]

end Base

/-- the part of the plumbing state that decides whether the source is still listened to. -/
def Base.ctl (b : Base α) : Bool × Bool × List Nat := (b.primary, b.rcDisposed, b.live)

namespace Base
theorem ctl_primary {b : Base α} {p r : Bool} {l : List Nat} (h : b.ctl = (p, r, l)) : b.primary = p := congrArg (·.1) h
theorem ctl_rcDisposed {b : Base α} {p r : Bool} {l : List Nat} (h : b.ctl = (p, r, l)) : b.rcDisposed = r := congrArg (·.2.1) h
theorem ctl_live {b : Base α} {p r : Bool} {l : List Nat} (h : b.ctl = (p, r, l)) : b.live = l := congrArg (·.2.2) h

@[simp] theorem ctl_emit (b : Base α) (o) : (b.emit o).ctl = b.ctl := rfl
@[simp] theorem ctl_now (b : Base α) (t) : ({ b with now := t } : Base α).ctl = b.ctl := rfl
@[simp] theorem ctl_newWin (b : Base α) : b.newWin.1.ctl = b.ctl := rfl
@[simp] theorem ctl_open (b : Base α) : (b.newWin.1.outerNext b.wins.length).ctl = b.ctl := by
  rcases open_cases b with ⟨-, h⟩ | ⟨-, h⟩ <;> rw [h] <;> rfl
@[simp] theorem ctl_winNext (b : Base α) (i x) : (b.winNext i x).ctl = b.ctl := by
  rcases winNext_cases b i x with ⟨-, h⟩ | ⟨w, -, h⟩ <;> rw [h]; rfl
theorem ctl_rcRelease (b : Base α) (h : b.primary = false) : b.rcRelease.ctl = b.ctl := by
  cases hr : b.rcDisposed with
  | true => rw [rcRelease_idle hr]
  | false =>
    -- no primary, so `rcDisposed` is not set and nothing is disposed
    rw [rcRelease_alive hr, settle_alive (by simp only [h, Bool.and_false])]
    simp only [ctl, h, hr, Bool.and_false]
theorem ctl_winEnd (b : Base α) (i e) (h : b.primary = false) : (b.winEnd i e).ctl = b.ctl := by
  rcases winEnd_cases b i e with ⟨-, he⟩ | ⟨w, -, he⟩ <;> rw [he]
  split
  · rw [ctl_rcRelease (b.setWin i _ _) h]; rfl
  · rfl
@[simp] theorem ctl_foldl_winNext (q : List Nat) (b : Base α) (x : α) :
    (q.foldl (fun b id => b.winNext id x) b).ctl = b.ctl :=
  List.foldl_pres (P := fun c => c.ctl = b.ctl) _ (fun c i h => (ctl_winNext c i x).trans h) q rfl
end Base

end Win
