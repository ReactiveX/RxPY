import RxProofs.Lemmas.OpsElem
import RxModel.OpsSlice
namespace Ops.Slice
variable {α : Type}

theorem filter_lt_zipIdx (ys : List α) (o stop : Nat) :
    ((ys.zipIdx o).filter (fun t => decide (t.2 < stop))).map (·.1) = ys.take (stop - o) := by
  induction ys generalizing o with
  | nil => simp
  | cons y ys ih =>
    simp only [List.zipIdx_cons, List.filter_cons]
    by_cases h : o < stop
    · obtain ⟨d, hd⟩ : ∃ d, stop - o = d + 1 := ⟨stop - o - 1, by omega⟩
      simp [h, ih, hd, show stop - (o + 1) = d by omega]
    · have h0 : stop - o = 0 := by omega
      have h1 : stop - (o + 1) = 0 := by omega
      simp [h, ih, h0, h1]

theorem drop_zipIdx (xs : List α) (o d : Nat) : (xs.zipIdx o).drop d = (xs.drop d).zipIdx (o + d) := by
  induction xs generalizing o d with
  | nil => simp
  | cons x xs ih =>
    cases d with
    | zero => simp
    | succ d => simp [List.zipIdx_cons, ih, Nat.add_assoc, Nat.add_comm 1 d]

theorem taggedTail_eq (k stop : Nat) (xs : List α) :
    ((lastN k (xs.zipIdx 0)).filter (fun t => decide (t.2 < stop))).map (·.1)
      = (xs.take stop).drop (xs.length - k) := by
  unfold lastN
  rw [List.length_zipIdx, drop_zipIdx, filter_lt_zipIdx, List.drop_take]
  simp

theorem drop_min_of_length_le (xs : List α) (n : Nat) {L : Nat} (hL : xs.length ≤ L) :
    xs.drop (min n L) = xs.drop n := by
  by_cases h : n ≤ L
  · rw [Nat.min_eq_left h]
  · rw [Nat.min_eq_right (by omega), List.drop_of_length_le hL, List.drop_of_length_le (by omega)]

/-- the list a stage produces on a completed sequence -/
def evalList : Stage → List α → List α
  | .take n, xs => xs.take n
  | .skip n, xs => xs.drop n
  | .takeLast n, xs => lastN n xs
  | .skipLast n, xs => butLastN n xs
  | .everyNth step, xs => stride step xs
  | .taggedTail k stop, xs => (xs.take stop).drop (xs.length - k)

theorem evalSeq_completed (s : Stage) (xs : List α) :
    s.evalSeq (xs, .completed) = (evalList s xs, .completed) := by
  cases s <;> simp [Stage.evalSeq, evalList, taggedTail_eq]

theorem evalSeqStages_completed (stages : List Stage) (xs : List α) :
    evalSeqStages stages (xs, .completed) = (stages.foldl (fun acc s => evalList s acc) xs, .completed) := by
  induction stages generalizing xs with
  | nil => rfl
  | cons s rest ih => simp only [evalSeqStages, List.foldl_cons, evalSeq_completed] at ih ⊢; exact ih _

theorem evalStages_eq (stages : List Stage) (xs : List α) :
    evalStages stages xs = stages.foldl (fun acc s => evalList s acc) xs := by
  simp [evalStages, evalSeqStages_completed]

/-- a negative bound counts from the end: what `take_last` / `skip_last` compute with the negated bound -/
theorem clampIdx_neg (len d : Nat) {i : Int} (h : i < 0) : clampIdx len (some i) d = len - (-i).toNat :=
  (if_pos h).trans (by omega)
theorem clampIdx_nonneg (len d : Nat) {i : Int} (h : 0 ≤ i) : clampIdx len (some i) d = min i.toNat len :=
  if_neg (Int.not_lt.mpr h)

/-- the stage `slice_` appends for the start bound alone: `skip`, `take_last` or nothing -/
def startStages (a : Int) : List Stage :=
  if a > 0 then [.skip a.toNat] else if a < 0 then [.takeLast (-a).toNat] else []

theorem headStages_tagged {a b : Int} (ha : a < 0) (hb : 0 < b) :
    headStages true (some a) (some b) = [.taggedTail (-a).toNat b.toNat] := by
  simp [headStages, ha, hb]

theorem headStages_of_stop_nonneg (start stop : Option Int) (hb : 0 ≤ stop.getD maxsize)
    (h : ¬ (start.getD 0 < 0 ∧ 0 < stop.getD maxsize ∧ stop.isSome = true)) :
    headStages true start stop = .take (stop.getD maxsize).toNat :: startStages (start.getD 0) := by
  simp only [headStages, startStages, Bool.true_and, Bool.and_eq_true, decide_eq_true_eq] at h ⊢
  rw [if_neg (by simpa [and_assoc] using h), if_pos hb]; rfl

theorem headStages_of_stop_neg (start : Option Int) {b : Int} (hb : b < 0) :
    headStages true start (some b) = startStages (start.getD 0) := by
  simp only [headStages, startStages, Option.getD_some, Bool.true_and, Bool.and_eq_true, decide_eq_true_eq]
  rw [if_neg (by omega), if_neg (by omega)]; rfl

theorem tailStages_of_neg {b : Int} (hb : b < 0) : tailStages (some b) = [.skipLast (-b).toNat] := if_pos hb
theorem tailStages_of_nonneg (stop : Option Int) (hb : 0 ≤ stop.getD maxsize) : tailStages stop = [] :=
  if_neg (Int.not_lt.mpr hb)

theorem foldl_startStages (a : Int) (ys : List α) :
    (startStages a).foldl (fun acc s => evalList s acc) ys = ys.drop (clampIdx ys.length (some a) 0) := by
  unfold startStages
  rcases Int.lt_trichotomy a 0 with h | h | h
  · rw [if_neg (by omega), if_pos h, clampIdx_neg _ _ h]; rfl
  · subst h; rfl
  · rw [if_pos h, clampIdx_nonneg _ _ (by omega), ← List.drop_eq_drop_min]; rfl

theorem clampIdx_start (len : Nat) (start : Option Int) : clampIdx len start 0 = clampIdx len (some (start.getD 0)) 0 := by
  cases start with
  | none => exact (Nat.zero_min len).symm
  | some a => rfl

theorem segment_eq (xs : List α) (start stop : Option Int) (hlen : (xs.length : Int) ≤ maxsize) :
    (headStages true start stop ++ tailStages stop).foldl (fun acc s => evalList s acc) xs
      = (xs.take (clampIdx xs.length stop xs.length)).drop (clampIdx xs.length start 0) := by
  rw [clampIdx_start]
  rcases stop with _ | b
  · -- `[a:]`: `take(sys.maxsize)` keeps everything
    have hm : xs.take maxsize.toNat = xs := List.take_of_length_le (by omega)
    rw [headStages_of_stop_nonneg _ none (by decide) (fun h => nomatch h.2.2), tailStages_of_nonneg none (by decide)]
    simp only [List.append_nil, List.foldl_cons, foldl_startStages]
    simp only [evalList, Option.getD_none, hm, clampIdx, List.take_length]
  · by_cases hb : b < 0
    · -- `[a:-m]`: the start stage first, `skip_last(m)` behind it
      rw [headStages_of_stop_neg _ hb, tailStages_of_neg hb]
      simp only [List.foldl_append, List.foldl_cons, List.foldl_nil, foldl_startStages]
      simp only [evalList, butLastN, clampIdx_neg _ _ hb, List.length_drop, List.drop_take]
      rw [Nat.sub_right_comm]
    · have hb0 : 0 ≤ b := Int.not_lt.mp hb
      rw [tailStages_of_nonneg (some b) hb0, List.append_nil, clampIdx_nonneg _ _ hb0, ← List.take_eq_take_min]
      by_cases ht : start.getD 0 < 0 ∧ 0 < b
      · -- `[-k:b]`, `b > 0`: the tagged tail
        obtain ⟨a, rfl⟩ : ∃ a, start = some a := by
          cases start with
          | none => simp at ht
          | some a => exact ⟨a, rfl⟩
        have ha : a < 0 := ht.1
        rw [headStages_tagged ha ht.2, Option.getD_some, clampIdx_neg _ _ ha]
        simp only [List.foldl_cons, List.foldl_nil, evalList]
      · -- `[a:b]`, `b ≥ 0`: `take(b)` in front of the start stage
        rw [headStages_of_stop_nonneg _ (some b) hb0 (fun h => ht ⟨h.1, h.2.1⟩), List.foldl_cons, foldl_startStages]
        simp only [evalList, Option.getD_some]
        by_cases ha : 0 ≤ start.getD 0
        · rw [clampIdx_nonneg _ _ ha, clampIdx_nonneg _ _ ha, ← List.drop_eq_drop_min,
            drop_min_of_length_le _ _ (List.length_take_le' _ _)]
        · have : b = 0 := by omega
          subst this; exact (List.drop_nil).trans List.drop_nil.symm

theorem stride_one (ys : List α) : stride 1 ys = ys := by
  unfold stride
  have hf : (ys.zipIdx 0).filter (fun t => t.2 % 1 == 0) = ys.zipIdx 0 :=
    List.filter_eq_self.mpr (by intro a _; simp [Nat.mod_one])
  rw [hf]; simp

/-- the tagging function of the fix, on index/element pairs -/
def tagOf (t : α × Nat) : Int × Option α := ((t.2 : Int), some t.1)

theorem refScan_tag (j : Nat) (o : Option α) (xs : List α) (e : End) :
    refScan (tag (α := α)) ((j : Int) - 1, o) xs e = outSeq ((xs.zipIdx j).map tagOf) e := by
  induction xs generalizing j o with
  | nil => rfl
  | cons x xs ih =>
    have := ih (j + 1) (some x)
    simp only [refScan, tag, List.zipIdx_cons, List.map_cons, outSeq_cons, tagOf] at this ⊢
    rw [show ((j : Int) - 1 + 1) = (j : Int) by omega]
    rw [show (((j + 1 : Nat) : Int) - 1) = (j : Int) by omega] at this
    rw [this]

theorem refMap_untag (zs : List (α × Nat)) (e : End) :
    refMap untag (zs.map tagOf) e = outSeq (zs.map (·.1)) e := by
  induction zs with
  | nil => rfl
  | cons z zs ih => simp [refMap, untag, tagOf, ih, outSeq_cons]

theorem sem_taggedTail (k stop : Nat) (raw : List (Notif α)) :
    (stageOp (α := α) (.taggedTail k stop)).sem raw
      = outSeq (if fin raw = .completed then
            ((lastN k ((elems raw).zipIdx 0)).filter (fun t => decide (t.2 < stop))).map (·.1) else [])
          (fin raw) := by
  simp only [stageOp]
  rw [sem_comp, sem_comp, sem_comp, sem_map, sem_filter, sem_takeLast, sem_scanSeed]
  rw [show ((-1 : Int), (none : Option α)) = (((0 : Nat) : Int) - 1, none) by simp, refScan_tag]
  simp only [elems_outSeq, fin_outSeq, Int.toNat_natCast]
  by_cases hc : fin raw = .completed
  · simp only [hc, if_true, lastN_map]
    rw [refFilter_pure (fun t : Int × Option α => decide (t.1 < (stop : Int)))]
    simp only [elems_outSeq, fin_outSeq, List.filter_map]
    rw [refMap_untag]
    congr 2
    apply List.filter_congr
    intro t _
    simp [tagOf, Function.comp]
  · -- not completed: `take_last` has emitted nothing, only the end of the input is passed on
    simp only [hc, if_false]
    cases hf : fin raw <;> simp_all [refFilter, refMap]

theorem sem_stage (s : Stage) (raw : List (Notif α)) :
    (stageOp s).sem raw = outSeq (s.evalSeq (elems raw, fin raw)).1 (s.evalSeq (elems raw, fin raw)).2 := by
  cases s with
  | take n => simp [stageOp, Stage.evalSeq, sem_take]
  | skip n => simp [stageOp, Stage.evalSeq, sem_skip]
  | takeLast n => simp [stageOp, Stage.evalSeq, sem_takeLast]
  | skipLast n => simp [stageOp, Stage.evalSeq, sem_skipLast]
  | everyNth step =>
    simp only [stageOp, Stage.evalSeq, stride]
    rw [sem_filterIndexed, refFilterIdx_pure (fun _ i => i % step == 0)]
  | taggedTail k stop => simp only [Stage.evalSeq]; exact sem_taggedTail k stop raw

theorem sem_pipeOp (stages : List Stage) (raw : List (Notif α)) :
    (pipeOp stages).sem raw
      = outSeq (evalSeqStages stages (elems raw, fin raw)).1 (evalSeqStages stages (elems raw, fin raw)).2 := by
  induction stages generalizing raw with
  | nil => simp [pipeOp, sem_idOp, evalSeqStages]
  | cons s rest ih =>
    cases rest with
    | nil => simp [pipeOp, sem_stage, evalSeqStages]
    | cons s2 rest =>
      rw [pipeOp, sem_comp, ih, sem_stage]
      simp [evalSeqStages]

theorem filterMap_congr' {β γ : Type} {f g : β → Option γ} {l : List β} (h : ∀ a, a ∈ l → f a = g a) :
    l.filterMap f = l.filterMap g := by
  induction l with
  | nil => rfl
  | cons a l ih =>
    simp only [List.filterMap_cons, h a (List.mem_cons_self ..)]
    rw [ih (fun b hb => h b (List.mem_cons_of_mem _ hb))]

theorem filter_zipIdx_eq_range' (q : Nat → Bool) (ys : List α) (o : Nat) :
    ((ys.zipIdx o).filter (fun t => q t.2)).map (·.1)
      = (List.range' o ys.length).filterMap (fun i => if q i then ys[i - o]? else none) := by
  induction ys generalizing o with
  | nil => simp
  | cons y ys ih =>
    simp only [List.zipIdx_cons, List.length_cons, List.range'_succ, List.filterMap_cons, Nat.sub_self,
      List.getElem?_cons_zero, List.filter_cons]
    have htail : (List.range' (o + 1) ys.length).filterMap (fun i => if q i then (y :: ys)[i - o]? else none)
        = (List.range' (o + 1) ys.length).filterMap (fun i => if q i then ys[i - (o + 1)]? else none) := by
      apply filterMap_congr'
      intro i hi
      have : o + 1 ≤ i := (List.mem_range'_1.mp hi).1
      obtain ⟨d, hd⟩ : ∃ d, i - o = d + 1 := ⟨i - o - 1, by omega⟩
      rw [hd, List.getElem?_cons_succ, show i - (o + 1) = d by omega]
    cases hq : q o
    · simp only [Bool.false_eq_true, if_false]; rw [htail, ← ih (o + 1)]
    · simp only [if_true, List.map_cons]; rw [htail, ← ih (o + 1)]

theorem clampIdx_le (len : Nat) (i : Option Int) (d : Nat) (hd : d ≤ len) : clampIdx len i d ≤ len := by
  unfold clampIdx
  cases i with
  | none => exact hd
  | some i => simp only; split <;> omega

end Ops.Slice
