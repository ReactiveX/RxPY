import RxProofs.Lemmas.SubjReplayInv
/-!
# One formula for "prefix then live"

`specOf cfg evs` reads the *observable* event order of a run (history calls with their contents and times,
re-entrant emissions, subscription attempts, unsubscriptions, disposals — exactly what the correspondence
check compares with the real code) and computes, by the property text alone, what every subscriber is to
be handed: at its subscription the values retained at that instant (`trim` of everything accepted so far),
then the terminal if the subject has terminated, then every notification accepted while it stays
subscribed.  `SpecInv` ties the model to it: in every reachable state `enq i = (specOf cfg evs).exp i`.  Its half `Sim` does not
look at `evs`, so each event has a commuting square about the primitive alone; its half `Aux` is what the machine must keep true
besides for the squares to commute, and does not mention the specification.
-/

namespace SubjReplay
open Subj (Call upd disposedExn)
variable {α : Type}
attribute [local simp] updE

structure Spec (α : Type) where
  vals : List (Nat × α) := []          -- accepted values with the time they were accepted
  term : Option (Notif α) := none      -- accepted terminal
  disp : Bool := false
  subs : List Id := []                 -- currently subscribed (will be handed the next accepted notification)
  exp : Id → List (Notif α) := fun _ => []

/-- a notification is offered to the subject at time `now` -/
def Spec.emit (s : Spec α) (now : Nat) (n : Notif α) : Spec α :=
  if s.disp || s.term.isSome then s
  else
    match n with
    | .next v => { s with vals := s.vals ++ [(now, v)], exp := fun i => if i ∈ s.subs then s.exp i ++ [n] else s.exp i }
    | _ => { s with term := some n, subs := [], exp := fun i => if i ∈ s.subs then s.exp i ++ [n] else s.exp i }

def Spec.step (cfg : Cfg α) (s : Spec α) : EvR α → Spec α
  | .call _ now _ (.next v) => s.emit now (.next v)
  | .call _ now _ (.error e) => s.emit now (.error e)
  | .call _ now _ .completed => s.emit now .completed
  | .call _ _ _ _ => s
  | .emit _ now n => s.emit now n
  | .sub j now =>
    if s.disp then { s with exp := upd s.exp j [.error disposedExn] }
    else
      { s with exp := upd s.exp j ((trim cfg now s.vals).map (fun it => Notif.next it.2) ++ s.term.toList),
               subs := if s.term.isNone then s.subs ++ [j] else s.subs }
  | .unsub j => { s with subs := s.subs.erase j }
  | .dispose => { s with disp := true, subs := [] }
  | .cb _ _ => s

def specOf (cfg : Cfg α) (evs : List (EvR α)) : Spec α := evs.foldl (Spec.step cfg) {}

theorem specOf_snoc (cfg : Cfg α) (evs : List (EvR α)) (e : EvR α) :
    specOf cfg (evs ++ [e]) = Spec.step cfg (specOf cfg evs) e := by
  simp [specOf, List.foldl_append]

structure Sim (S : Spec α) (st : St α) : Prop where
  vals : S.vals = st.allVals
  disp : S.disp = st.disposed
  term : st.disposed = false → st.stopped = S.term.isSome ∧ terminalOf st = S.term.toList
  subs : st.stopped = false → st.observers = S.subs
  exp : ∀ i, st.enq i = S.exp i

structure Aux (st : St α) : Prop where
  subscribed : ∀ i ∈ st.observers, st.held i = true ∧ st.sadDisposed i = false
  unseen : ∀ i, st.seen i = false → st.sadDisposed i = false
  queuedTerm : ∀ i, ∀ n ∈ st.soQueue i, n.isTerminal = true → st.stopped = true
  pendingDetach : ∀ i, Task.sadDispose i ∈ st.agenda → st.stopped = true ∧ st.seen i = true
  noTopEmit : ∀ n, Task.act none (RAction.emit n) ∉ st.agenda

structure SpecInv (cfg : Cfg α) (st : St α) : Prop where
  sim : Sim (specOf cfg st.evs) st
  aux : Aux st

/-- Steps that change nothing the specification looks at. -/
structure SFrame (st st' : St α) : Prop where
  evs : st'.evs = st.evs
  allVals : st'.allVals = st.allVals
  disposed : st'.disposed = st.disposed
  stopped : st'.stopped = st.stopped
  exception : st'.exception = st.exception
  observers : st'.observers = st.observers
  enq : st'.enq = st.enq
  held : st'.held = st.held
  sadDisposed : st'.sadDisposed = st.sadDisposed
  seen : st'.seen = st.seen
  soQueue : ∀ i, ∀ n ∈ st'.soQueue i, n ∈ st.soQueue i
  agenda : ∀ t, t ∈ st'.agenda → t ∈ st.agenda

/-- Like `SFrame`, but the ScheduledObserver queues may have gained `n`: `st` and `pushed st l n`.  Nothing below needs it. -/
structure EFrame (n : Notif α) (st st' : St α) : Prop where
  evs : st'.evs = st.evs
  allVals : st'.allVals = st.allVals
  disposed : st'.disposed = st.disposed
  stopped : st'.stopped = st.stopped
  exception : st'.exception = st.exception
  observers : st'.observers = st.observers
  held : st'.held = st.held
  sadDisposed : st'.sadDisposed = st.sadDisposed
  seen : st'.seen = st.seen
  agenda : st'.agenda = st.agenda
  soQueue : ∀ i, ∀ n' ∈ st'.soQueue i, n' ∈ st.soQueue i ∨ n' = n

/-- `st` is `st0` with one more event recorded (and possibly another `curCall`).  Nothing below needs it. -/
structure WithEv (st0 st : St α) (ev : EvR α) : Prop where
  evs : st.evs = st0.evs ++ [ev]
  allVals : st.allVals = st0.allVals
  disposed : st.disposed = st0.disposed
  stopped : st.stopped = st0.stopped
  exception : st.exception = st0.exception
  observers : st.observers = st0.observers
  enq : st.enq = st0.enq
  held : st.held = st0.held
  sadDisposed : st.sadDisposed = st0.sadDisposed
  seen : st.seen = st0.seen
  soQueue : st.soQueue = st0.soQueue
  agenda : st.agenda = st0.agenda

theorem Sim.frame {S : Spec α} {st st' : St α} (h : Sim S st) (f : SFrame st st') : Sim S st' := by
  refine ⟨by rw [f.allVals]; exact h.vals, by rw [f.disposed]; exact h.disp, fun hd => ?_,
    by rw [f.stopped, f.observers]; exact h.subs, by rw [f.enq]; exact h.exp⟩
  rw [f.disposed] at hd
  rw [f.stopped, terminalOf_congr f.exception f.stopped]
  exact h.term hd

theorem Aux.frame {st st' : St α} (h : Aux st) (f : SFrame st st') : Aux st' :=
  ⟨by rw [f.observers, f.held, f.sadDisposed]; exact h.subscribed, by rw [f.seen, f.sadDisposed]; exact h.unseen,
   fun i n hn ht => by rw [f.stopped]; exact h.queuedTerm i n (f.soQueue i n hn) ht,
   fun i hi => by rw [f.stopped, f.seen]; exact h.pendingDetach i (f.agenda _ hi), fun n hn => h.noTopEmit n (f.agenda _ hn)⟩

theorem SpecInv.frame {cfg : Cfg α} {st st' : St α} (h : SpecInv cfg st) (f : SFrame st st') : SpecInv cfg st' :=
  ⟨by rw [f.evs]; exact h.sim.frame f, h.aux.frame f⟩

theorem Sim.other {S : Spec α} {st : St α} (h : Sim S st) {queue : List (Nat × α)}
    {handle adoStopped soStopped acquired faulted serDisposed : Id → Bool} {cbs : Id → Nat} {log : Id → List (Nat × Notif α)}
    {serCur : Id → Option Nat} {clock spin nextId curCall lastNow : Nat} {pending : List (Item α)} {crashed : Option Err}
    {raised : List (Nat × Err)} {xlog : List (Id × Err)} {fed : Id → List (Notif α)} {evs : List (EvR α)}
    {soQueue : Id → List (Notif α)} {agenda : List (Task α)} {held sadDisposed seen : Id → Bool} :
    Sim S { st with queue := queue, handle := handle, cbs := cbs, log := log, adoStopped := adoStopped,
                    soStopped := soStopped, acquired := acquired, faulted := faulted, serDisposed := serDisposed,
                    serCur := serCur, clock := clock, spin := spin, nextId := nextId, pending := pending,
                    crashed := crashed, curCall := curCall, raised := raised, xlog := xlog, fed := fed,
                    lastNow := lastNow, evs := evs, soQueue := soQueue, agenda := agenda, held := held,
                    sadDisposed := sadDisposed, seen := seen } :=
  { h with }

theorem Aux.other {st : St α} (h : Aux st) {queue : List (Nat × α)}
    {handle adoStopped soStopped acquired faulted serDisposed : Id → Bool} {cbs : Id → Nat} {log : Id → List (Nat × Notif α)}
    {serCur : Id → Option Nat} {clock spin nextId curCall lastNow : Nat} {pending : List (Item α)} {crashed : Option Err}
    {raised : List (Nat × Err)} {xlog : List (Id × Err)} {fed : Id → List (Notif α)} {evs : List (EvR α)}
    {allVals : List (Nat × α)} {exception : Option Err} {enq : Id → List (Notif α)} :
    Aux { st with queue := queue, handle := handle, cbs := cbs, log := log, adoStopped := adoStopped,
                    soStopped := soStopped, acquired := acquired, faulted := faulted, serDisposed := serDisposed,
                    serCur := serCur, clock := clock, spin := spin, nextId := nextId, pending := pending,
                    crashed := crashed, curCall := curCall, raised := raised, xlog := xlog, fed := fed,
                    lastNow := lastNow, evs := evs, allVals := allVals, exception := exception, enq := enq } :=
  { h with }

theorem SpecInv.other {cfg : Cfg α} {st : St α} (h : SpecInv cfg st) {queue : List (Nat × α)}
    {handle adoStopped soStopped acquired faulted serDisposed : Id → Bool} {cbs : Id → Nat} {log : Id → List (Nat × Notif α)}
    {serCur : Id → Option Nat} {clock spin nextId curCall lastNow : Nat} {pending : List (Item α)} {crashed : Option Err}
    {raised : List (Nat × Err)} {xlog : List (Id × Err)} {fed : Id → List (Notif α)} :
    SpecInv cfg
      { st with queue := queue, handle := handle, cbs := cbs, log := log, adoStopped := adoStopped,
                    soStopped := soStopped, acquired := acquired, faulted := faulted, serDisposed := serDisposed,
                    serCur := serCur, clock := clock, spin := spin, nextId := nextId, pending := pending,
                    crashed := crashed, curCall := curCall, raised := raised, xlog := xlog, fed := fed,
                    lastNow := lastNow } :=
  ⟨h.sim.other, h.aux.other⟩

theorem Aux.agenda {st : St α} (h : Aux st) {ag : List (Task α)}
    (ha : ∀ i, Task.sadDispose i ∈ ag → st.stopped = true ∧ st.seen i = true)
    (hne : ∀ n, Task.act none (RAction.emit n) ∉ ag) : Aux { st with agenda := ag } :=
  { h with pendingDetach := ha, noTopEmit := hne }

theorem SpecInv.agenda {cfg : Cfg α} {st : St α} (h : SpecInv cfg st) {ag : List (Task α)}
    (ha : ∀ i, Task.sadDispose i ∈ ag → st.stopped = true ∧ st.seen i = true)
    (hne : ∀ n, Task.act none (RAction.emit n) ∉ ag) : SpecInv cfg { st with agenda := ag } :=
  ⟨h.sim.other, h.aux.agenda ha hne⟩

theorem SpecInv.of_sim {cfg : Cfg α} {st st' : St α} {ev : EvR α} (he : st'.evs = st.evs ++ [ev])
    (h : Sim (Spec.step cfg (specOf cfg st.evs) ev) st') (ha : Aux st') : SpecInv cfg st' :=
  ⟨by rw [he, specOf_snoc]; exact h, ha⟩

theorem SFrame.other (st : St α) {queue : List (Nat × α)} {handle adoStopped soStopped acquired faulted serDisposed : Id → Bool}
    {cbs : Id → Nat} {log : Id → List (Nat × Notif α)} {serCur : Id → Option Nat} {clock spin nextId curCall lastNow : Nat}
    {pending : List (Item α)} {crashed : Option Err} {raised : List (Nat × Err)} {xlog : List (Id × Err)}
    {fed : Id → List (Notif α)} {soQueue : Id → List (Notif α)} {agenda : List (Task α)}
    (soQueue_sub : ∀ i, ∀ n ∈ soQueue i, n ∈ st.soQueue i) (agenda_sub : ∀ t, t ∈ agenda → t ∈ st.agenda) :
    SFrame st { st with queue := queue, handle := handle, cbs := cbs, log := log, adoStopped := adoStopped,
                        soStopped := soStopped, acquired := acquired, faulted := faulted, serDisposed := serDisposed,
                        serCur := serCur, clock := clock, spin := spin, nextId := nextId, pending := pending,
                        crashed := crashed, curCall := curCall, raised := raised, xlog := xlog, fed := fed,
                        lastNow := lastNow, soQueue := soQueue, agenda := agenda } :=
  ⟨rfl, rfl, rfl, rfl, rfl, rfl, rfl, rfl, rfl, rfl, soQueue_sub, agenda_sub⟩

theorem raiseTo_sframe (who : Option Id) (e : Err) (st : St α) : SFrame st (raiseTo who e st) := by
  cases who <;> exact .other _ (fun _ _ h => h) fun _ h => h

theorem Spec.step_sub (cfg : Cfg α) {S : Spec α} (j : Id) (now : Nat) (hd : S.disp = false) :
    Spec.step cfg S (.sub j now) =
      { S with exp := upd S.exp j ((trim cfg now S.vals).map (fun it => Notif.next it.2) ++ S.term.toList),
               subs := if S.term.isNone then S.subs ++ [j] else S.subs } :=
  if_neg (by rw [hd]; exact Bool.false_ne_true)

theorem Spec.emit_refused {S : Spec α} (now : Nat) (n : Notif α) (h : S.disp = true ∨ S.term.isSome = true) :
    S.emit now n = S := by
  unfold Spec.emit
  rw [if_pos (by rcases h with h | h <;> simp [h])]

theorem Spec.emit_accepted {S : Spec α} (now : Nat) (n : Notif α) (hd : S.disp = false) (ht : S.term = none) :
    S.emit now n =
      { S with vals := match n with | .next v => S.vals ++ [(now, v)] | _ => S.vals,
               term := if n.isTerminal then some n else none,
               subs := if n.isTerminal then [] else S.subs,
               exp := fun i => if i ∈ S.subs then S.exp i ++ [n] else S.exp i } := by
  cases n <;> simp [Spec.emit, hd, ht, Notif.isTerminal]

theorem Sim.emit {cfg : Cfg α} {S : Spec α} {st : St α} (h : Sim S st) (hI : RInv cfg st) (who : Option Id) (n : Notif α) :
    Sim (S.emit st.clock n) (emit cfg st who n) := by
  refine emit_cases (P := Sim (S.emit st.clock n)) cfg st who n (fun hd => ?_) (fun hd hs => ?_) fun hd hs => ?_
  · rw [Spec.emit_refused _ _ (Or.inl (h.disp.trans hd))]; exact h.frame (raiseTo_sframe who _ st)
  · rw [Spec.emit_refused _ _ (Or.inr ((h.term hd).1.symm.trans hs))]; exact h
  have ht : S.term = none := by
    have := (h.term hd).1; rw [hs] at this
    cases hx : S.term with
    | none => rfl
    | some t => rw [hx] at this; cases this
  have hx : st.exception = none := by
    cases hx : st.exception with
    | none => rfl
    | some e => have := hI.excStop (by simp [hx]); rw [hs] at this; cases this
  have hobs := h.subs hs
  rw [accept_closed cfg st n hI.nodup, Spec.emit_accepted _ _ (h.disp.trans hd) ht]
  refine { h with vals := ?_, term := fun _ => ⟨?_, ?_⟩, subs := fun hst => ?_, exp := fun i => ?_ }
  · cases n with
    | next v => exact congrArg (· ++ _) h.vals
    | error e => exact h.vals
    | completed => exact h.vals
  · cases n with
    | next v => exact hs
    | error e => rfl
    | completed => rfl
  · refine (terminalOf_congr rfl rfl).trans ((terminalOf_acceptCore cfg n hx hs).trans ?_)
    cases n.isTerminal <;> rfl
  · exact (acceptCore_observers cfg st n).trans (by rw [hobs])
  · exact (pushed_enq _ _ n i).trans ((hI.ite_live hs i (st.enq i ++ [n]) (st.enq i)).trans (by rw [h.exp i, hobs]))

theorem Aux.emit {cfg : Cfg α} {st : St α} (h : Aux st) (hI : RInv cfg st) (who : Option Id) (n : Notif α) :
    Aux (emit cfg st who n) := by
  refine emit_cases (P := Aux) cfg st who n (fun _ => h.frame (raiseTo_sframe who _ st)) (fun _ _ => h) fun _ hs => ?_
  rw [accept_closed cfg st n hI.nodup]
  refine { h with subscribed := fun i hi => ?_, queuedTerm := fun i n' hn' ht' => ?_,
                  pendingDetach := fun i hi => absurd (h.pendingDetach i hi).1 (by simp [hs]) }
  · have hi : i ∈ (acceptCore cfg st n).observers := hi
    rw [acceptCore_observers] at hi
    split at hi
    · cases hi
    · exact h.subscribed i hi
  · -- a queued terminal was there (impossible: the subject was live), or is `n`, which stops the subject
    show (acceptCore cfg st n).stopped = true
    rw [acceptCore_stopped]
    rcases mem_pushed_soQueue (st := acceptCore cfg st n) (l := st.observers) hn' with hm | rfl
    · rw [h.queuedTerm i n' hm ht', Bool.or_true]
    · rw [ht']; rfl

theorem emit_specinv (cfg : Cfg α) {st : St α} {evs : List (EvR α)} {ev : EvR α} (h : Sim (specOf cfg evs) st) (ha : Aux st)
    (he : st.evs = evs ++ [ev]) (hI : RInv cfg st) (who : Option Id) (n : Notif α)
    (hev : ∀ s : Spec α, Spec.step cfg s ev = s.emit st.clock n) : SpecInv cfg (emit cfg st who n) := by
  have hevs : (emit cfg st who n).evs = evs ++ [ev] := (congrArg St.evs (emit_writes cfg st who n) :).trans he
  exact .of_sim (st := { st with evs := evs }) hevs (hev _ ▸ h.emit hI who n) (ha.emit hI who n)

/-- While the subject is live `sadDispose` takes `i` off the observers, so the specification must drop it too; once stopped
it need not move. -/
theorem Sim.detach {cfg : Cfg α} {S : Spec α} {st : St α} (h : Sim S st) (ha : Aux st) (hI : RInv cfg st) (i : Id)
    {subs' : List Id} (hsubs : st.stopped = false → subs' = S.subs.erase i) :
    Sim { S with subs := subs' } (sadDispose st i) := by
  have hnd : st.stopped = false → st.disposed = false := fun hst => by
    cases hd : st.disposed with
    | false => rfl
    | true => rw [(hI.dispStop hd).1] at hst; cases hst
  by_cases hs : st.sadDisposed i = true
  · rw [sadDispose_done st i hs]
    refine { h with subs := fun hst => ?_ }
    rw [hsubs hst, ← h.subs hst]
    exact (List.erase_of_not_mem fun hm => by rw [(ha.subscribed i hm).2] at hs; cases hs).symm
  · have hs : st.sadDisposed i = false := by simpa using hs
    rw [sadDispose_closed st i hs]
    refine { h with subs := fun hst => ?_ }
    show (if st.held i = true ∧ st.disposed = false then st.observers.erase i else st.observers) = subs'
    rw [hsubs hst, ← h.subs hst]
    split
    next => rfl
    next hc => exact (List.erase_of_not_mem fun hm => hc ⟨(ha.subscribed i hm).1, hnd hst⟩).symm

theorem Aux.detach {cfg : Cfg α} {st : St α} (h : Aux st) (hI : RInv cfg st) (i : Id) (hi : st.seen i = true) :
    Aux (sadDispose st i) := by
  by_cases hs : st.sadDisposed i = true
  · rw [sadDispose_done st i hs]; exact h
  have hs : st.sadDisposed i = false := by simpa using hs
  rw [sadDispose_closed st i hs]
  refine { h with subscribed := fun k hk => ?_, unseen := fun k hk => ?_ }
  · have hk0 : k ∈ st.observers := by
      have hk : k ∈ (if st.held i = true ∧ st.disposed = false then st.observers.erase i else st.observers) := hk
      split at hk
      · exact List.mem_of_mem_erase hk
      · exact hk
    -- `i` is off the list: erased (no duplicates), or the subject is disposed and has no observers
    have hki : k ≠ i := by
      rintro rfl
      have hk : k ∈ (if st.held k = true ∧ st.disposed = false then st.observers.erase k else st.observers) := hk
      split at hk
      next => exact ((List.Nodup.mem_erase_iff hI.nodup).mp hk).1 rfl
      next hc =>
        refine hc ⟨(h.subscribed k hk0).1, ?_⟩
        cases hd : st.disposed with
        | false => rfl
        | true => rw [(hI.dispStop hd).2] at hk0; cases hk0
    exact ⟨(upd_ne _ _ hki).trans (h.subscribed k hk0).1, (upd_ne _ _ hki).trans (h.subscribed k hk0).2⟩
  · have hki : k ≠ i := fun e => by rw [e, hi] at hk; cases hk
    exact (upd_ne _ _ hki).trans (h.unseen k hk)

theorem doUnsub_specinv {cfg : Cfg α} {st : St α} (j : Id) (hI : RInv cfg st) (h : SpecInv cfg st) :
    SpecInv cfg (doUnsub st j) := by
  rw [doUnsub_eq]
  split
  next hh =>
    have hj := hI.seen_of_handle hh
    have hI' := logUnsub_inv j hI hj
    exact .of_sim (ev := .unsub j) (congrArg St.evs (sadDispose_writes (logUnsub st j) j) :)
      (Sim.detach (st := logUnsub st j) h.sim.other h.aux.other hI' j fun _ => rfl) (Aux.detach (st := logUnsub st j) h.aux.other hI' j hj)
  next => exact h

theorem callback_specinv {cfg : Cfg α} {st : St α} (i : Id) (n : Notif α) (h : SpecInv cfg st) :
    SpecInv cfg (callback st i n) :=
  .of_sim (ev := .cb i st.clock) rfl h.sim.other h.aux.other

theorem Sim.dispose {cfg : Cfg α} {S : Spec α} {st : St α} (h : Sim S st) : Sim (Spec.step cfg S .dispose) (subjDispose st) :=
  { h with disp := rfl, term := nofun, subs := nofun }

theorem subjDispose_specinv {cfg : Cfg α} {st : St α} (h : SpecInv cfg st) : SpecInv cfg (subjDispose st) :=
  .of_sim (ev := .dispose) rfl h.sim.dispose
    { h.aux with subscribed := nofun, queuedTerm := fun _ _ _ _ => rfl, pendingDetach := fun i hi => ⟨rfl, (h.aux.pendingDetach i hi).2⟩ }

theorem Aux.seen_grows {st : St α} (h : Aux st) (j : Id) :
    (∀ i, upd st.seen j true i = false → st.sadDisposed i = false) ∧
    (∀ i, Task.sadDispose i ∈ st.agenda → st.stopped = true ∧ upd st.seen j true i = true) := by
  refine ⟨fun i hi => ?_, fun i hi => ⟨(h.pendingDetach i hi).1, ?_⟩⟩
  · by_cases e : i = j
    · rw [e, upd_self] at hi; cases hi
    · exact h.unseen i ((upd_ne _ _ e).symm.trans hi)
  · by_cases e : i = j
    · rw [e, upd_self]
    · rw [upd_ne _ _ e]; exact (h.pendingDetach i hi).2

theorem Sim.refuse {cfg : Cfg α} {S : Spec α} {st : St α} (h : Sim S st) (j : Id) (hd : st.disposed = true) :
    Sim (Spec.step cfg S (.sub j st.clock)) (failMark (markSub st j) j) := by
  have hstep : Spec.step cfg S (.sub j st.clock) = { S with exp := upd S.exp j [.error disposedExn] } :=
    if_pos (h.disp.trans hd)
  rw [hstep]
  refine { h with term := fun hdd => (by cases hd.symm.trans hdd), exp := fun i => ?_ }
  show upd st.enq j [.error disposedExn] i = upd S.exp j [.error disposedExn] i
  by_cases e : i = j
  · rw [e, upd_self, upd_self]
  · rw [upd_ne _ _ e, upd_ne _ _ e]; exact h.exp i

theorem Sim.subscribe {cfg : Cfg α} {S : Spec α} {st : St α} (h : Sim S st) (hI : RInv cfg st) (j : Id) (hj : st.seen j = false)
    (hd : st.disposed = false) : Sim (Spec.step cfg S (.sub j st.clock)) (subscribeCore cfg (markSub st j) j) := by
  have hf := hI.freshAt hj
  have ht := h.term hd
  -- what `subscribe` leaves alone comes from its footprint, what it writes from the closed form
  obtain ⟨ks, kx, kv⟩ := subscribeCore_subject cfg (markSub st j) j
  have kd : (subscribeCore cfg (markSub st j) j).disposed = st.disposed :=
    (congrArg St.disposed (subscribeCore_writes cfg (markSub st j) j) :)
  have e := subscribeCore_closed cfg (markSub st j) j hf.soStopped
  rw [Spec.step_sub cfg j st.clock (h.disp.trans hd)]
  refine ⟨h.vals.trans kv.symm, h.disp.trans kd.symm, fun _ => ⟨ks.trans ht.1, (terminalOf_congr kx ks).trans ht.2⟩,
    fun hs => ?_, fun i => ?_⟩
  · have hs : st.stopped = false := ks.symm.trans hs
    have hnone : S.term.isNone = true := by
      have := ht.1; rw [hs] at this
      cases hx : S.term with
      | none => rfl
      | some t => rw [hx] at this; cases this
    exact ((congrArg St.observers e :).trans (subStart_observers cfg (markSub st j) j)).trans
      ((congrArg (· ++ [j]) (h.subs hs)).trans (if_pos hnone).symm)
  · rw [subscribeCore_enq cfg (markSub st j) j i hf.soStopped]
    by_cases e : i = j
    · rw [if_pos e, e]
      show st.enq j ++ ((trim cfg st.clock st.queue).map (fun it => Notif.next it.2) ++ terminalOf st) =
        upd S.exp j ((trim cfg st.clock S.vals).map (fun it => Notif.next it.2) ++ S.term.toList) j
      rw [upd_self, hf.enq, List.nil_append, trim_queue_eq hI hd, h.vals, ht.2]
    · rw [if_neg e]; exact (h.exp i).trans (upd_ne _ _ e).symm

theorem Aux.subscribe {cfg : Cfg α} {st : St α} (h : Aux st) (hI : RInv cfg st) (j : Id) (hj : st.seen j = false) :
    Aux (subscribeCore cfg (markSub st j) j) := by
  have hf := hI.freshAt hj
  have hjobs : j ∉ st.observers := fun hm => by rw [hI.obsSeen j hm] at hj; cases hj
  have w := subscribeCore_writes cfg (markSub st j) j
  have ks := (subscribeCore_subject cfg (markSub st j) j).1
  have kseen : (subscribeCore cfg (markSub st j) j).seen = upd st.seen j true := (congrArg St.seen w :)
  have ksad : (subscribeCore cfg (markSub st j) j).sadDisposed = st.sadDisposed := (congrArg St.sadDisposed w :)
  have kag : (subscribeCore cfg (markSub st j) j).agenda = st.agenda := (congrArg St.agenda w :)
  have e := subscribeCore_closed cfg (markSub st j) j hf.soStopped
  refine ⟨fun i hi => ?_, by rw [kseen, ksad]; exact (h.seen_grows j).1, fun i n' hn' hterm => ?_,
    by rw [kag, ks, kseen]; exact (h.seen_grows j).2, by rw [kag]; exact h.noTopEmit⟩
  · rw [(congrArg St.observers e :).trans (subStart_observers cfg (markSub st j) j)] at hi
    rw [(congrArg St.held e :).trans (subFinish_held _ j), ksad]
    rcases List.mem_append.mp hi with hi | hi
    · exact ⟨(upd_ne _ _ fun (e : i = j) => hjobs (e ▸ hi)).trans (h.subscribed i hi).1, (h.subscribed i hi).2⟩
    · rw [List.mem_singleton.mp hi]; exact ⟨upd_self .., h.unseen j hj⟩
  · -- what `subscribe` queues is a replayed value, or the terminal of a stopped subject
    rw [ks]
    rw [(congrArg (St.soQueue · i) e :)] at hn'
    rcases mem_pushedTo_soQueue (st := subStart cfg (markSub st j) j) hn' with hm | ⟨-, hm⟩
    · exact h.queuedTerm i n' hm hterm
    · rcases List.mem_append.mp hm with hm | hm
      · obtain ⟨_, _, rfl⟩ := List.mem_map.mp hm; cases hterm
      · exact terminalOf_stopped (st := st) hI hm

theorem doSub_specinv (cfg : Cfg α) {st : St α} (who : Option Id) (j : Id) (hI : RInv cfg st) (h : SpecInv cfg st) :
    SpecInv cfg (doSub cfg st who j).1 := by
  have hfm : st.disposed = true → SpecInv cfg (failMark (markSub st j) j) := fun hd =>
    .of_sim (ev := .sub j st.clock) rfl (h.sim.refuse j hd)
      { h.aux with unseen := (h.aux.seen_grows j).1, pendingDetach := (h.aux.seen_grows j).2 }
  refine doSub_cases (P := fun r => SpecInv cfg r.1) cfg st who j (fun _ => h) (fun _ hd => callback_specinv j _ (hfm hd))
    (fun _ hd => (hfm hd).frame (raiseTo_sframe who _ _)) fun hj hd => ?_
  exact .of_sim (ev := .sub j st.clock) (congrArg St.evs (subscribeCore_writes cfg (markSub st j) j) :)
    (h.sim.subscribe hI j hj hd) (h.aux.subscribe hI j hj)

theorem sadDispose_specinv {cfg : Cfg α} {st : St α} (i : Id) (hI : RInv cfg st) (h : SpecInv cfg st)
    (hs : st.stopped = true) (hi : st.seen i = true) : SpecInv cfg (sadDispose st i) := by
  refine ⟨?_, h.aux.detach hI i hi⟩
  rw [(congrArg St.evs (sadDispose_writes st i) :)]
  exact h.sim.detach h.aux hI i (subs' := (specOf cfg st.evs).subs) fun hst => by rw [hs] at hst; cases hst

theorem adoDeliver_specinv (cfg : Cfg α) {st : St α} (i : Id) (n : Notif α) (hI : RInv cfg st) (h : SpecInv cfg st)
    (hi : st.seen i = true) (hn : n.isTerminal = true → st.stopped = true) :
    SpecInv cfg (adoDeliver cfg st i n).1 ∧
    (∀ k, Task.sadDispose k ∈ (adoDeliver cfg st i n).2.1 → k = i ∧ n.isTerminal = true) := by
  refine adoDeliver_cases (P := fun r => SpecInv cfg r.1 ∧ ∀ k, Task.sadDispose k ∈ r.2.1 → k = i ∧ n.isTerminal = true)
    cfg st i n (fun _ => ⟨h, nofun⟩) (fun _ => ⟨?_, fun k hk => ?_⟩) fun e ht _ => ⟨?_, nofun⟩
  · split
    · exact callback_specinv i _ h.other
    · exact callback_specinv i _ h
  · rcases List.mem_append.mp hk with hk | hk
    · exact (mem_reactions hk).elim fun _ e => nomatch e
    · split at hk
      next ht => cases List.mem_singleton.mp hk; exact ⟨rfl, ht⟩
      next => cases hk
  · exact sadDispose_specinv i (adoStop_inv i hI hi) h.other (hn ht) hi

theorem soRun_specinv (cfg : Cfg α) {st : St α} (i : Id) (hI : RInv cfg st) (h : SpecInv cfg st) :
    SpecInv cfg (soRun cfg st i) := by
  refine soRun_cases (P := SpecInv cfg) cfg st i (fun hq => ?_) fun n rest hq => ?_
  · exact h.other
  · have hseen : st.seen i = true := hI.seen_of_queue hq
    have hn : n.isTerminal = true → st.stopped = true := fun ht => h.aux.queuedTerm i n (by rw [hq]; exact List.mem_cons_self ..) ht
    have hpf : SFrame st (popped st i n rest) := by
      refine .other _ (fun k n' hn' => ?_) fun _ h => h
      by_cases hk : k = i
      · subst hk
        simp only [updE, if_true] at hn'
        rw [hq]; exact List.mem_cons_of_mem _ hn'
      · simpa [hk] using hn'
    have had := adoDeliver_specinv cfg i n (popped_inv i n rest hI hq) (h.frame hpf) hseen hn
    have hnoemit : ∀ m, Task.act none (RAction.emit m) ∉ (adoDeliver cfg (popped st i n rest) i n).2.1 := by
      intro m hm
      rcases adoDeliver_tasks cfg (popped st i n rest) i n _ hm with hm | hm
      · exact (mem_reactions hm).elim fun _ e => nomatch e
      · cases hm
    have hst : (adoDeliver cfg (popped st i n rest) i n).1.stopped = st.stopped :=
      (congrArg St.stopped (adoDeliver_writes cfg (popped st i n rest) i n) :)
    have hse : (adoDeliver cfg (popped st i n rest) i n).1.seen = st.seen := (congrArg St.seen (adoDeliver_writes cfg (popped st i n rest) i n) :)
    generalize adoDeliver cfg (popped st i n rest) i n = r at had hst hse hnoemit
    refine finishRun_cases (P := SpecInv cfg) i r (fun _ => ?_) ?_
    · refine had.1.frame (.other _ (fun k n' hn' => ?_) fun _ h => h)
      by_cases hk : k = i
      · subst hk; simp at hn'
      · simpa [hk] using hn'
    · refine had.1.agenda (fun k hk => ?_) fun m hm => ?_
      · simp only [List.mem_append, List.mem_singleton, reduceCtorEq, or_false] at hk
        obtain ⟨rfl, ht⟩ := had.2 k hk
        exact ⟨by rw [hst]; exact hn ht, by rw [hse]; exact hseen⟩
      · simp only [List.mem_append, List.mem_singleton, reduceCtorEq, or_false] at hm
        exact hnoemit m hm

theorem Spec.step_call (cfg : Cfg α) (s : Spec α) (k now nobs : Nat) (c : Call α) :
    Spec.step cfg s (.call k now nobs c) = match emitted c with | some n => s.emit now n | none => s := by
  cases c <;> rfl

theorem SpecInv.pop {cfg : Cfg α} {st : St α} {t : Task α} {ts : List (Task α)} (h : SpecInv cfg st) (ha : st.agenda = t :: ts) :
    SpecInv cfg (withAgenda st ts) :=
  h.frame (.other _ (fun _ _ h => h) fun t ht => by rw [ha]; exact List.mem_cons_of_mem _ ht)

theorem SpecInv.dequeue {cfg : Cfg α} {st : St α} (h : SpecInv cfg st) (rest : List (Item α)) (due : Nat) :
    SpecInv cfg (advance (withPending st rest) due) := by
  rw [(advance_clock (withPending st rest) due).2]; exact h.other

theorem Step.specinv {cfg : Cfg α} {st st' : St α} (s : Step cfg st st') (hI : RInv cfg st) (h : SpecInv cfg st) :
    SpecInv cfg st' := by
  cases s with
  | stay => exact h
  | @emit who n ts ha =>
    cases who with
    | none =>
      -- a top-level emission is made by the history call itself (recorded by its `call` event), never through the agenda
      exact absurd (by rw [ha]; exact List.mem_cons_self ..) (h.aux.noTopEmit n)
    | some i =>
      exact emit_specinv cfg (st := logEmit (withAgenda st ts) (some i) n) (evs := st.evs) (ev := EvR.emit i st.clock n)
        (h.pop ha).sim.other (h.pop ha).aux.other rfl (hI.pop ha).other (some i) n (fun _ => rfl)
  | @sub who j ts ha =>
    have hd := doSub_specinv cfg who j (hI.pop ha) (h.pop ha)
    have hno : ∀ t ∈ (doSub cfg (withAgenda st ts) who j).2, (∀ k, t ≠ .sadDispose k) ∧ ∀ m, t ≠ .act none (.emit m) := fun t ht =>
      (doSub_tasks cfg _ who j t ht).elim (fun ⟨_, e⟩ => e ▸ ⟨nofun, nofun⟩) (fun e => e ▸ ⟨nofun, nofun⟩)
    exact hd.agenda (fun i hi => (List.mem_append.mp hi).elim (fun hi => absurd rfl ((hno _ hi).1 i)) (hd.aux.pendingDetach i))
      fun m hm => (List.mem_append.mp hm).elim (fun hm => absurd rfl ((hno _ hm).2 m)) (hd.aux.noTopEmit m)
  | unsub ha => exact doUnsub_specinv _ (hI.pop ha) (h.pop ha)
  | dispose ha => exact subjDispose_specinv (h.pop ha)
  | @detach i ts ha =>
    have hs := h.aux.pendingDetach i (by rw [ha]; exact List.mem_cons_self ..)
    exact sadDispose_specinv i (hI.pop ha) (h.pop ha) hs.1 hs.2
  | resched ha => exact (h.pop ha).other
  | handle ha => exact (h.pop ha).other
  | skip => exact (h.dequeue _ _)
  | @callEmit it rest k c n ha hp hx hk hn =>
    exact emit_specinv cfg (h.dequeue rest it.due).sim.other (h.dequeue rest it.due).aux.other rfl (hI.dequeue rest it.due).other none n
      fun s => by rw [Spec.step_call, hn]
  | @callAsk it rest k c ha hp hx hk hn =>
    refine .of_sim (st := advance (withPending st rest) it.due) (ev := .call k _ _ c) rfl ?_
      ((h.dequeue rest it.due).aux.other.agenda (fun i hi => by simp at hi) fun n hn => by simp at hn)
    rw [Spec.step_call, hn]
    exact (h.dequeue rest it.due).sim.other
  | run => exact soRun_specinv cfg _ (hI.dequeue _ _) (h.dequeue _ _)

theorem init_specinv (cfg : Cfg α) {s0 : St α} (w : SchedWrites {} s0) : SpecInv cfg s0 := by
  have h0 : SpecInv cfg ({} : St α) :=
    ⟨⟨rfl, rfl, fun _ => ⟨rfl, rfl⟩, fun _ => rfl, fun _ => rfl⟩,
     ⟨nofun, fun _ _ => rfl, fun _ _ hn => (by cases hn), fun _ hi => (by cases hi), fun _ hn => (by cases hn)⟩⟩
  rw [w]; exact h0.other

end SubjReplay
