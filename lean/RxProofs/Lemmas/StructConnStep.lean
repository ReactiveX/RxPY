import RxModel.Conn
import RxProofs.Lemmas.Basics
/-!
# The Connectable model, operation by operation (C24)

`advance` touches a world only through four primitives: a predicate that survives them (`Stable`)
survives the source's messages and, with the calls, a whole history.  `Stable.write` asks for every subject
state, output log and hot queue, so what rests on `Stable` holds for any kind of subject.
-/

namespace Conn
namespace World
variable {α : Type}

section fields
variable (w : World α) (t sid h : Nat)

theorem closeSrc_frame :
    w.closeSrc t sid = { w with srcOpen := (w.closeSrc t sid).srcOpen, srcLog := (w.closeSrc t sid).srcLog } := by
  unfold closeSrc; split <;> rfl

theorem disposeHandle_frame :
    w.disposeHandle t h =
      { w with
        hasSub := (w.disposeHandle t h).hasSub
        curHandle := (w.disposeHandle t h).curHandle
        curSrc := (w.disposeHandle t h).curSrc
        srcOpen := (w.disposeHandle t h).srcOpen
        srcLog := (w.disposeHandle t h).srcLog } := by
  unfold disposeHandle
  split
  · split
    · rw [closeSrc_frame]
    · rfl
  · rfl

theorem connect_frame :
    w.connect t =
      { w with
        hasSub := (w.connect t).hasSub
        srcOpen := (w.connect t).srcOpen
        srcLog := (w.connect t).srcLog
        curSrc := (w.connect t).curSrc
        nextSrc := (w.connect t).nextSrc
        curHandle := (w.connect t).curHandle
        nHandles := (w.connect t).nHandles } := by
  unfold connect; split <;> rfl

theorem closeSrc_srcOpen : (w.closeSrc t sid).srcOpen = w.srcOpen.filter (fun s => s.id ≠ sid) := by
  unfold closeSrc
  split
  · rfl
  · next hn =>
    refine (List.filter_eq_self.mpr fun s hs => ?_).symm
    have : ¬ s.id = sid := fun e => hn (List.any_eq_true.mpr ⟨s, hs, by simpa using e⟩)
    simpa using this

@[simp] theorem closeSrc_hasSub : (w.closeSrc t sid).hasSub = w.hasSub :=
  (congrArg World.hasSub (closeSrc_frame w t sid) :)
@[simp] theorem closeSrc_curHandle : (w.closeSrc t sid).curHandle = w.curHandle :=
  (congrArg World.curHandle (closeSrc_frame w t sid) :)
@[simp] theorem closeSrc_curSrc : (w.closeSrc t sid).curSrc = w.curSrc :=
  (congrArg World.curSrc (closeSrc_frame w t sid) :)
@[simp] theorem closeSrc_count : (w.closeSrc t sid).count = w.count :=
  (congrArg World.count (closeSrc_frame w t sid) :)
@[simp] theorem closeSrc_live : (w.closeSrc t sid).live = w.live :=
  (congrArg World.live (closeSrc_frame w t sid) :)
@[simp] theorem closeSrc_wrap : (w.closeSrc t sid).wrap = w.wrap :=
  (congrArg World.wrap (closeSrc_frame w t sid) :)
@[simp] theorem closeSrc_connSub : (w.closeSrc t sid).connSub = w.connSub :=
  (congrArg World.connSub (closeSrc_frame w t sid) :)
@[simp] theorem closeSrc_isConnected : (w.closeSrc t sid).isConnected = w.isConnected :=
  (congrArg World.isConnected (closeSrc_frame w t sid) :)

@[simp] theorem disposeHandle_count : (w.disposeHandle t h).count = w.count :=
  (congrArg World.count (disposeHandle_frame w t h) :)
@[simp] theorem disposeHandle_live : (w.disposeHandle t h).live = w.live :=
  (congrArg World.live (disposeHandle_frame w t h) :)
@[simp] theorem disposeHandle_wrap : (w.disposeHandle t h).wrap = w.wrap :=
  (congrArg World.wrap (disposeHandle_frame w t h) :)
@[simp] theorem disposeHandle_connSub : (w.disposeHandle t h).connSub = w.connSub :=
  (congrArg World.connSub (disposeHandle_frame w t h) :)
@[simp] theorem disposeHandle_isConnected : (w.disposeHandle t h).isConnected = w.isConnected :=
  (congrArg World.isConnected (disposeHandle_frame w t h) :)
theorem disposeHandle_hasSub_cur (hc : w.curHandle = some h) : (w.disposeHandle t h).hasSub = false := by
  unfold disposeHandle; simp only [hc, if_true]
theorem disposeHandle_other (hc : w.curHandle ≠ some h) : w.disposeHandle t h = w := by
  unfold disposeHandle; simp only [hc, if_false]

@[simp] theorem connect_count : (w.connect t).count = w.count :=
  (congrArg World.count (connect_frame w t) :)
@[simp] theorem connect_live : (w.connect t).live = w.live :=
  (congrArg World.live (connect_frame w t) :)
@[simp] theorem connect_wrap : (w.connect t).wrap = w.wrap :=
  (congrArg World.wrap (connect_frame w t) :)
@[simp] theorem connect_connSub : (w.connect t).connSub = w.connSub :=
  (congrArg World.connSub (connect_frame w t) :)
@[simp] theorem connect_isConnected : (w.connect t).isConnected = w.isConnected :=
  (congrArg World.isConnected (connect_frame w t) :)
@[simp] theorem connect_hasSub : (w.connect t).hasSub = true := by
  unfold connect; split
  · assumption
  · rfl
end fields

/-! `disposeSub` and `opSub` wrapper by wrapper: with the wrapper a constructor the `match` reduces,
so each equation is `rfl` up to the outer `if`. -/

/-- the world right after `count := c` in a subscriber's dispose -/
def departed (w : World α) (i : Nat) (c : Int) : World α :=
  { w with live := w.live.erase i, subj := w.subj.unsubscribe i, count := c }

section departed
variable (w : World α) (i : Nat) (c : Int)
@[simp] theorem departed_count : (w.departed i c).count = c := rfl
@[simp] theorem departed_live : (w.departed i c).live = w.live.erase i := rfl
@[simp] theorem departed_wrap : (w.departed i c).wrap = w.wrap := rfl
end departed

theorem disposeSub_absent {w : World α} (t i : Nat) (hi : w.live.contains i = false) : w.disposeSub t i = w := by
  unfold disposeSub
  simp only [hi, Bool.false_eq_true, if_false]

theorem disposeSub_raw {w : World α} (hw : w.wrap = .raw) (t i : Nat) (hi : w.live.contains i = true) :
    w.disposeSub t i = w.departed i w.count := by
  cases w; cases hw
  exact if_pos hi

theorem disposeSub_rc {w : World α} (hw : w.wrap = .refCount) (t i : Nat) (hi : w.live.contains i = true) :
    w.disposeSub t i =
      if (w.count - 1 == 0) = true then
        (match w.connSub with
         | some h => if w.curHandle = some h then (w.departed i (w.count - 1)).disposeHandle t h else w.departed i (w.count - 1)
         | none => w.departed i (w.count - 1))
      else w.departed i (w.count - 1) := by
  cases w; cases hw
  exact if_pos hi

theorem disposeSub_ac {w : World α} {n : Nat} (hw : w.wrap = .autoConnect n) (t i : Nat) (hi : w.live.contains i = true) :
    w.disposeSub t i = { (w.departed i (w.count - 1)) with isConnected := false } := by
  cases w; cases hw
  exact if_pos hi

theorem disposeSub_ind {P : World α → Prop} (w : World α) (t i : Nat) (h0 : P w)
    (hraw : w.wrap = .raw → w.live.contains i = true → P (w.departed i w.count))
    (hac : ∀ n, w.wrap = .autoConnect n → w.live.contains i = true →
      P { (w.departed i (w.count - 1)) with isConnected := false })
    (hrc : w.wrap = .refCount → w.live.contains i = true →
      P (w.departed i (w.count - 1)) ∧ ∀ h, P ((w.departed i (w.count - 1)).disposeHandle t h)) :
    P (w.disposeSub t i) := by
  cases hi : w.live.contains i with
  | false => rw [disposeSub_absent t i hi]; exact h0
  | true =>
    cases hw : w.wrap with
    | raw => rw [disposeSub_raw hw t i hi]; exact hraw hw hi
    | autoConnect n => rw [disposeSub_ac hw t i hi]; exact hac n hw hi
    | refCount =>
      rw [disposeSub_rc hw t i hi]
      split
      · split
        · split
          · exact (hrc hw hi).2 _
          · exact (hrc hw hi).1
        · exact (hrc hw hi).1
      · exact (hrc hw hi).1

/-- the world after `count := c` and the subject-level subscribe of `i`, before any connection is made -/
def joined (w : World α) (t i : Nat) (c : Int) : World α :=
  ({ w with count := c, subj := (w.subj.subscribe i).1, live := w.live ++ [i] } : World α).record t (w.subj.subscribe i).2

section joined
variable (w : World α) (t i : Nat) (c : Int)
@[simp] theorem joined_count : (w.joined t i c).count = c := rfl
@[simp] theorem joined_live : (w.joined t i c).live = w.live ++ [i] := rfl
@[simp] theorem joined_wrap : (w.joined t i c).wrap = w.wrap := rfl
@[simp] theorem joined_hasSub : (w.joined t i c).hasSub = w.hasSub := rfl
@[simp] theorem joined_isConnected : (w.joined t i c).isConnected = w.isConnected := rfl
end joined

/-- the end of `opSub`: a subscriber that `subscribe` handed a terminal is disposed when it returns -/
def settle (w : World α) (t i : Nat) (w2 : World α) : World α :=
  if ((w.subj.subscribe i).2.any fun d => d.2.isTerminal) = true then w2.disposeSub t i else w2

theorem opSub_raw {w : World α} (hw : w.wrap = .raw) (t i : Nat) :
    w.opSub t i = w.settle t i (w.joined t i w.count) := by
  cases w; cases hw
  rfl

theorem opSub_rc {w : World α} (hw : w.wrap = .refCount) (t i : Nat) :
    w.opSub t i = w.settle t i
      (if (w.count + 1 == 1) = true then
        { ((w.joined t i (w.count + 1)).connect t) with connSub := ((w.joined t i (w.count + 1)).connect t).curHandle }
       else w.joined t i (w.count + 1)) := by
  cases w; cases hw
  rfl

theorem opSub_ac {n : Nat} {w : World α} (hw : w.wrap = .autoConnect n) (t i : Nat) :
    w.opSub t i = w.settle t i
      (if (w.count + 1 == (n : Int) && !w.isConnected) = true then
        { ((w.joined t i (w.count + 1)).connect t) with isConnected := true }
       else w.joined t i (w.count + 1)) := by
  cases w; cases hw
  rfl

structure Stable (P : World α → Prop) : Prop where
  write : ∀ {w : World α} o s h, P w → P { w with out := o, subj := s, hot := h }
  popCold : ∀ {w : World α} sid, P w → P { w with srcOpen := popCold w.srcOpen sid }
  closeSrc : ∀ {w : World α} t sid, P w → P (w.closeSrc t sid)
  disposeSub : ∀ {w : World α} t i, P w → P (w.disposeSub t i)

namespace Stable
variable {P : World α → Prop}

theorem deliver (hP : Stable P) (t : Nat) (dl : List (Nat × Notif α)) : ∀ {w : World α}, P w → P (w.deliver t dl) := by
  induction dl with
  | nil => intro w h; exact h
  | cons d rest ih =>
    intro w h
    simp only [World.deliver]
    apply ih
    split
    · exact hP.disposeSub t _ (hP.write _ _ _ h)
    · exact hP.write _ _ _ h

theorem srcDeliver (hP : Stable P) {w : World α} (h : P w) (t sid : Nat) (n : Notif α) : P (w.srcDeliver t sid n) := by
  unfold World.srcDeliver
  have h1 := hP.deliver t (w.subj.onNotif n).2 (hP.write w.out (w.subj.onNotif n).1 w.hot h)
  split
  · exact hP.closeSrc t sid h1
  · exact h1

theorem advance (hP : Stable P) (limit : Nat) : ∀ (fuel : Nat) {w : World α}, P w → P (World.advance limit fuel w) := by
  intro fuel
  induction fuel with
  | zero => intro w h; exact h
  | succ k ih =>
    intro w h
    have hotStep : ∀ t n, P (World.advance limit k (w.srcOpen.foldl (fun (acc : World α) (s : SrcSub α) => acc.srcDeliver t s.id n)
        { w with hot := w.hot.map (fun (l : List (Nat × Notif α)) => l.drop 1) })) :=
      fun t n => ih (List.foldl_pres (P := P) _ (fun _ (s : SrcSub α) h => hP.srcDeliver h t s.id n) w.srcOpen (hP.write _ _ _ h))
    have coldStep : ∀ t sid n, P (World.advance limit k (({ w with srcOpen := World.popCold w.srcOpen sid } : World α).srcDeliver t sid n)) :=
      fun t sid n => ih (hP.srcDeliver (hP.popCold sid h) t sid n)
    unfold World.advance
    simp only []
    split
    · exact h
    · exact hotStep _ _
    · exact coldStep _ _ _
    · split
      · exact hotStep _ _
      · exact coldStep _ _ _

theorem toHorizon (hP : Stable P) (horizon fuel : Nat) {w : World α} (h : P w) :
    P ((World.advance horizon fuel w).live.foldl (fun (acc : World α) i => acc.disposeSub horizon i)
      (World.advance horizon fuel w)) :=
  List.foldl_pres (P := P) _ (fun _ i h => hP.disposeSub horizon i h) _ (hP.advance horizon fuel h)

theorem settle (hP : Stable P) (w : World α) (t i : Nat) {w2 : World α} (h : P w2) : P (w.settle t i w2) := by
  unfold World.settle
  split
  · exact hP.disposeSub t i h
  · exact h

theorem and {Q : World α → Prop} (hP : Stable P) (hQ : Stable Q) : Stable (fun w => P w ∧ Q w) where
  write o s h k := ⟨hP.write o s h k.1, hQ.write o s h k.2⟩
  popCold sid k := ⟨hP.popCold sid k.1, hQ.popCold sid k.2⟩
  closeSrc t sid k := ⟨hP.closeSrc t sid k.1, hQ.closeSrc t sid k.2⟩
  disposeSub t i k := ⟨hP.disposeSub t i k.1, hQ.disposeSub t i k.2⟩

theorem runOps (hP : Stable P) {ops : List (Nat × Op)}
    (hop : ∀ o ∈ ops, ∀ {w : World α} (hs : List (Option Nat)), P w → P (w.applyOp hs o.1 o.2).1) :
    ∀ {w : World α} (hs : List (Option Nat)), P w → P (w.runOps hs ops).1 := by
  induction ops with
  | nil => intro w hs h; exact h
  | cons o rest ih =>
    intro w hs h
    exact ih (fun o' ho' => hop o' (List.mem_cons_of_mem _ ho')) _
      (hop o List.mem_cons_self hs (hP.advance o.1 _ h))

end Stable

theorem runOps_append (a b : List (Nat × Op)) : ∀ (w : World α) (hs : List (Option Nat)),
    w.runOps hs (a ++ b) = (w.runOps hs a).1.runOps (w.runOps hs a).2 b := by
  induction a with
  | nil => intro w hs; rfl
  | cons o rest ih => intro w hs; obtain ⟨t, op⟩ := o; simp only [List.cons_append, runOps]; exact ih _ _

/-- a history that only subscribes and unsubscribes (everything a user of `ref_count` / `share` /
`auto_connect` can do) -/
def subOnly : List (Nat × Op) → Bool
  | [] => true
  | (_, .sub _) :: rest => subOnly rest
  | (_, .unsub _) :: rest => subOnly rest
  | _ => false

theorem subOnly_mem {ops : List (Nat × Op)} (h : subOnly ops = true) :
    ∀ o ∈ ops, (∃ i, o.2 = .sub i) ∨ ∃ i, o.2 = .unsub i := by
  induction ops with
  | nil => nofun
  | cons a rest ih =>
    obtain ⟨t, op⟩ := a
    cases op with
    | sub i => exact List.forall_mem_cons.mpr ⟨.inl ⟨i, rfl⟩, ih h⟩
    | unsub i => exact List.forall_mem_cons.mpr ⟨.inr ⟨i, rfl⟩, ih h⟩
    | connect => cases h
    | disconnect k => cases h

theorem Stable.subOnly {P : World α → Prop} (hP : Stable P) (hsub : ∀ {w : World α} (t i : Nat), P w → P (w.opSub t i))
    {ops : List (Nat × Op)} (hso : subOnly ops = true) {w : World α} (hs : List (Option Nat)) (h : P w) :
    P (w.runOps hs ops).1 :=
  hP.runOps (fun o ho _ _ k => by
    obtain ⟨t, op⟩ := o
    rcases subOnly_mem hso _ ho with ⟨i, rfl⟩ | ⟨i, rfl⟩
    · exact hsub t i k
    · exact hP.disposeSub t i k) hs h

/-- the subscribe times of the source-subscription log -/
def subTimes (w : World α) : List Nat := w.srcLog.map (fun e => e.2.1)

theorem srcLog_length (w : World α) : w.srcLog.length = w.subTimes.length := (List.length_map _).symm

theorem connect_subTimes (w : World α) (t : Nat) (hs : w.hasSub = false) : (w.connect t).subTimes = w.subTimes ++ [t] := by
  simp [subTimes, connect, hs]

theorem closeSrc_subTimes (w : World α) (t sid : Nat) : (w.closeSrc t sid).subTimes = w.subTimes := by
  unfold closeSrc
  split
  · show (w.srcLog.map _).map _ = w.srcLog.map _
    rw [List.map_map]
    exact List.map_congr_left fun e _ => by dsimp only [Function.comp]; split <;> rfl
  · rfl

theorem disposeHandle_subTimes (w : World α) (t h : Nat) : (w.disposeHandle t h).subTimes = w.subTimes := by
  unfold disposeHandle
  split
  · split
    · exact closeSrc_subTimes _ _ _
    · rfl
  · rfl

theorem disposeSub_subTimes (w : World α) (t i : Nat) : (w.disposeSub t i).subTimes = w.subTimes :=
  disposeSub_ind (P := fun w' => w'.subTimes = w.subTimes) w t i rfl (fun _ _ => rfl) (fun _ _ _ => rfl)
    (fun _ _ => ⟨rfl, fun _ => disposeHandle_subTimes _ _ _⟩)

theorem disposeSub_wrap (w : World α) (t i : Nat) : (w.disposeSub t i).wrap = w.wrap :=
  disposeSub_ind (P := fun w' => w'.wrap = w.wrap) w t i rfl (fun _ _ => rfl) (fun _ _ _ => rfl)
    (fun _ _ => ⟨rfl, fun _ => disposeHandle_wrap _ _ _⟩)

theorem wrap_stable (k : Wrap) : Stable (fun w : World α => w.wrap = k) where
  write _ _ _ h := h
  popCold _ h := h
  closeSrc t sid h := (closeSrc_wrap _ t sid).trans h
  disposeSub t i h := (disposeSub_wrap _ t i).trans h

theorem subTimes_stable (ts : List Nat) : Stable (fun w : World α => w.subTimes = ts) where
  write _ _ _ h := h
  popCold _ h := h
  closeSrc t sid h := (closeSrc_subTimes _ t sid).trans h
  disposeSub t i h := (disposeSub_subTimes _ t i).trans h

theorem Stable.hasSub {P : World α → Prop} (hP : Stable P) (hne : ∀ w, P w → w.wrap ≠ .refCount) (b : Bool) :
    Stable (fun w : World α => P w ∧ w.hasSub = b) where
  write o s h k := ⟨hP.write o s h k.1, k.2⟩
  popCold sid k := ⟨hP.popCold sid k.1, k.2⟩
  closeSrc t sid k := ⟨hP.closeSrc t sid k.1, (closeSrc_hasSub _ t sid).trans k.2⟩
  disposeSub {w} t i k :=
    ⟨hP.disposeSub t i k.1, disposeSub_ind (P := fun w' => w'.hasSub = b) w t i k.2 (fun _ _ => k.2)
      (fun _ _ _ => k.2) (fun hw _ => absurd hw (hne w k.1))⟩

end World
end Conn
