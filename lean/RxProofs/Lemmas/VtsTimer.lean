import RxModel.VtsTimer
import RxProofs.Lemmas.VtsPQ
import RxProofs.Lemmas.VtsRun
/-! The `timer(duetime, period)` model, a self-rescheduling source on the `advance_to` loop, built like `VtsPeriodic`;
`GInv` is what `C35.timer_ticks` rests on. -/

namespace Tmr
open Vts

def Iter.st : Iter → St
  | .exit s => s
  | .next s => s
  | .stuck s => s

theorem nextDue_gt (p due now : Int) (hp : 1 ≤ p) : now < nextDue p due now := by
  simp only [nextDue]; split <;> omega

inductive IterIs (p : Int) (cost : Nat → Nat) (T : Int) (s : St) : Iter → Prop
  | disabled (hen : s.enabled = false) : IterIs p cost T s (.exit s)
  | empty (hd : s.queue.dequeue? Item.due = none) : IterIs p cost T s (.exit s)
  | pastTarget {x q'} (hd : s.queue.dequeue? Item.due = some (x, q')) (hT : x.due > T) : IterIs p cost T s (.exit s)
  | block {x q' sl} (hd : s.queue.dequeue? Item.due = some (x, q')) (hdue : x.due ≤ T) (hk : x.kind = .block sl) :
      IterIs p cost T s (.next { s with clock := (if x.due > s.clock then x.due else s.clock) + sl, queue := q' })
  | noPeriod {x q' k} (hd : s.queue.dequeue? Item.due = some (x, q')) (hdue : x.due ≤ T) (hk : x.kind = .tick k)
      (hp : p ≤ 0) : IterIs p cost T s (.stuck s)
  | tick {x q' k} (hd : s.queue.dequeue? Item.due = some (x, q')) (hdue : x.due ≤ T) (hk : x.kind = .tick k)
      (hp : 1 ≤ p) :
      IterIs p cost T s (.next (enqueue
        { s with clock := (if x.due > s.clock then x.due else s.clock) + cost k, queue := q',
                 log := s.log ++ [{ k, at_ := if x.due > s.clock then x.due else s.clock, due := x.due }] }
        { due := nextDue p x.due (if x.due > s.clock then x.due else s.clock), kind := .tick (k + 1) }))

theorem iter_is (p : Int) (cost : Nat → Nat) (T : Int) (s : St) : IterIs p cost T s (iter p cost T s) := by
  by_cases hen : s.enabled = false
  · simp only [iter, if_pos hen]; exact .disabled hen
  cases hd : s.queue.dequeue? Item.due with
  | none => simp only [iter, if_neg hen, hd]; exact .empty hd
  | some xq =>
    obtain ⟨x, q'⟩ := xq
    by_cases hT : x.due > T
    · simp only [iter, if_neg hen, hd, hT, if_true]; exact .pastTarget hd hT
    cases hk : x.kind with
    | block sl => simp only [iter, if_neg hen, hd, hT, hk, if_false]; exact .block hd (by omega) hk
    | tick k =>
      by_cases hp : p ≤ 0
      · simp only [iter, if_neg hen, hd, hT, hk, hp, if_false, if_true]; exact .noPeriod hd (by omega) hk hp
      · simp only [iter, if_neg hen, hd, hT, hk, hp, if_false]; exact .tick hd (by omega) hk (by omega)

theorem weight_enqueue (T : Int) (s : St) (it : Item) :
    weight T (enqueue s it).queue.items = weight T s.queue.items + ((T + 1 - it.due).toNat + 1) := by
  simp [enqueue, PQ.enqueue, weight]

theorem dequeue_weight (T : Int) {q q' : PQ Item} {x : Item} (h : q.dequeue? Item.due = some (x, q')) :
    weight T q.items = ((T + 1 - x.due).toNat + 1) + weight T q'.items :=
  let ⟨_, hs⟩ := PQ.dequeue_sum _ h; hs

theorem iter_next_weight {p : Int} {cost : Nat → Nat} {T : Int} {s s' : St} (h : iter p cost T s = .next s') :
    weight T s'.queue.items < weight T s.queue.items := by
  have hi := iter_is p cost T s
  rw [h] at hi
  cases hi with
  | @block x q' sl hd hdue hk =>
    have hw := dequeue_weight T hd
    show weight T q'.items < _
    omega
  | @tick x q' k hd hdue hk hp =>
    have hw := dequeue_weight T hd
    have hcl : x.due ≤ (if x.due > s.clock then x.due else s.clock) := by split <;> omega
    have hn := nextDue_gt p x.due (if x.due > s.clock then x.due else s.clock) hp
    rw [weight_enqueue]
    show weight T q'.items + _ < _
    simp only
    omega

theorem loopFuel_enough (p : Int) (cost : Nat → Nat) (T : Int) :
    ∀ (n m : Nat) (s : St), weight T s.queue.items < n → weight T s.queue.items < m →
      loopFuel p cost T n s = loopFuel p cost T m s :=
  fuel_enough (loopFuel p cost T) (fun s => weight T s.queue.items) fun n m s ih => by
    simp only [loopFuel]
    cases hi : iter p cost T s with
    | next s' => exact ih s' (iter_next_weight hi)
    | _ => rfl

theorem advanceTo_eq (p : Int) (cost : Nat → Nat) (T : Int) (s : St) :
    advanceTo p cost T s = if s.clock > T then (s, .raised "ArgumentOutOfRangeException")
      else if s.clock = T ∨ s.enabled = true then (s, .ok)
      else closeRun .ok (fun s' => { s' with enabled := false, clock := T })
        (loopFuel p cost T (weight T s.queue.items + 1) { s with enabled := true }) := by
  unfold advanceTo closeRun
  rcases loopFuel p cost T (weight T s.queue.items + 1) { s with enabled := true } with ⟨a, _ | e | _⟩ <;> rfl

def ticks (l : List (Item × Int)) : List (Nat × Int) :=
  l.filterMap fun e => match e.1.kind with
    | .tick k => some (k, e.1.due)
    | .block _ => none

/-- the emissions, in order, are `k, k+1, …`; the first had due time `n`; each ran at or after its due time; and
each due time follows from the previous one by the re-basing rule `nextDue` -/
def ChainOK (p : Int) : Nat → Int → List Ran → Prop
  | _, _, [] => True
  | k, n, e :: es => e.k = k ∧ e.due = n ∧ n ≤ e.at_ ∧ ChainOK p (k + 1) (nextDue p n e.at_) es

/-- the tick that is pending after those emissions -/
def chainEnd (p : Int) : Nat → Int → List Ran → Nat × Int
  | k, n, [] => (k, n)
  | k, n, e :: es => chainEnd p (k + 1) (nextDue p n e.at_) es

theorem chain_append (p : Int) : ∀ (l : List Ran) (k : Nat) (n : Int) (e : Ran),
    (ChainOK p k n (l ++ [e]) ↔ ChainOK p k n l ∧ e.k = (chainEnd p k n l).1 ∧ e.due = (chainEnd p k n l).2 ∧
      (chainEnd p k n l).2 ≤ e.at_) ∧
    chainEnd p k n (l ++ [e]) = ((chainEnd p k n l).1 + 1, nextDue p (chainEnd p k n l).2 e.at_) := by
  intro l
  induction l with
  | nil => intro k n e; simp [ChainOK, chainEnd]
  | cons a l ih =>
    intro k n e
    have := ih (k + 1) (nextDue p n a.at_) e
    simp only [List.cons_append, ChainOK, chainEnd, this.1, this.2]
    exact ⟨by constructor <;> (intro h; simp_all), trivial⟩

/-- the invariant of every run: the log is a chain starting with tick 0 due at `d0`, and exactly one timer tick
is pending — the one the chain ends in -/
def GInv (p d0 : Int) (s : St) : Prop :=
  ChainOK p 0 d0 s.log ∧ ticks s.queue.items = [chainEnd p 0 d0 s.log]

theorem ticks_append (a b : List (Item × Int)) : ticks (a ++ b) = ticks a ++ ticks b := by
  simp [ticks, List.filterMap_append]

theorem ginv_iter (p : Int) (cost : Nat → Nat) (T : Int) (d0 : Int) (s : St) (h : GInv p d0 s) :
    GInv p d0 (iter p cost T s).st := by
  have hi := iter_is p cost T s
  generalize iter p cost T s = r at hi ⊢
  obtain ⟨h1, h2⟩ := h
  cases hi with
  | disabled | empty | pastTarget | noPeriod => exact ⟨h1, h2⟩
  | @block x q' sl hd hdue hk =>
    obtain ⟨c, a, b, hq, hq'⟩ := PQ.dequeue_filterMap _ hd
    refine ⟨h1, (hq'.trans ?_).trans h2⟩
    rw [ticks, hq, hk]; simp
  | @tick x q' k hd hdue hk hp =>
    -- the timer's tick: it is the pending one, so no other is left
    obtain ⟨c, a, b, hq, hq'⟩ := PQ.dequeue_filterMap _ hd
    rw [ticks, hq, hk] at h2
    obtain ⟨rfl, hke, rfl⟩ : a = [] ∧ (k, x.due) = chainEnd p 0 d0 s.log ∧ b = [] := by
      simpa [List.append_eq_singleton_iff, List.append_eq_nil_iff] using h2
    have hca := chain_append p s.log 0 d0 { k := k, at_ := if x.due > s.clock then x.due else s.clock, due := x.due }
    rw [← hke] at hca
    refine ⟨hca.1.2 ⟨h1, rfl, rfl, by simp only; split <;> omega⟩, ?_⟩
    show ticks (q'.items ++ [_]) = [chainEnd p 0 d0 (s.log ++ [_])]
    rw [hca.2, ticks_append, ticks, hq']
    simp [ticks]

theorem loopFuel_inv {p : Int} {cost : Nat → Nat} {T : Int} (P : St → Prop) (h : ∀ s, P s → P (iter p cost T s).st) :
    ∀ (n : Nat) (s : St), P s → P (loopFuel p cost T n s).1 := by
  intro n
  induction n with
  | zero => intro s hP; exact hP
  | succ n ih =>
    intro s hP
    have hi := h s hP
    simp only [loopFuel]
    cases hit : iter p cost T s with
    | next s' => rw [hit] at hi; exact ih s' hi
    | exit s' => rw [hit] at hi; exact hi
    | stuck s' => rw [hit] at hi; exact hi

theorem advanceTo_inv {p : Int} {cost : Nat → Nat} {T : Int} (P : St → Prop) (hiter : ∀ s, P s → P (iter p cost T s).st)
    (hfr : ∀ (s : St) en c, P s → P { s with enabled := en, clock := c }) (s : St) (h : P s) :
    P (advanceTo p cost T s).1 := by
  rw [advanceTo_eq]
  split
  · exact h
  split
  · exact h
  exact closeRun_inv (hfr _ false T) (loopFuel_inv P hiter _ _ (hfr s true s.clock h))

theorem chain_on_grid (p : Int) : ∀ (l : List Ran) (k : Nat) (n : Int), ChainOK p k n l →
    (∀ e ∈ l, e.at_ < e.due + p) → ∀ e ∈ l, e.due = n + ((e.k : Int) - k) * p := by
  intro l
  induction l with
  | nil => intro k n _ _ e he; cases he
  | cons a l ih =>
    intro k n h hl
    obtain ⟨hk, hd, hle, hrest⟩ := h
    have ha := hl a (by simp)
    have hnext : nextDue p n a.at_ = n + p := by
      simp only [nextDue]; rw [hd] at ha; split <;> omega
    rw [hnext] at hrest
    have ih1 := ih (k + 1) (n + p) hrest (fun e he => hl e (by simp [he]))
    intro e he
    rcases List.mem_cons.1 he with rfl | he
    · rw [hd, hk]; simp
    · rw [ih1 e he]; push_cast; rw [Int.sub_mul, Int.sub_mul, Int.add_mul]; omega

theorem chain_step (p : Int) : ∀ (l : List Ran) (k : Nat) (n : Int), ChainOK p k n l →
    ∀ (i : Nat) (a b : Ran), l[i]? = some a → l[i + 1]? = some b →
      b.k = a.k + 1 ∧ b.due = nextDue p a.due a.at_ ∧ a.due ≤ a.at_ := by
  intro l
  induction l with
  | nil => intro k n _ i a b ha; simp at ha
  | cons x l ih =>
    intro k n h i a b ha hb
    obtain ⟨hk, hd, hle, hrest⟩ := h
    cases i with
    | zero =>
      simp at ha; subst ha
      simp only [List.getElem?_cons_succ] at hb
      cases l with
      | nil => simp at hb
      | cons y l =>
        simp at hb; subst hb
        obtain ⟨hk2, hd2, _, _⟩ := hrest
        exact ⟨by rw [hk2, hk], by rw [hd2, hd], by rw [hd]; exact hle⟩
    | succ i =>
      simp only [List.getElem?_cons_succ] at ha hb
      exact ih (k + 1) _ hrest i a b ha hb

theorem ticks_blocks (l : List (Int × Nat)) (s : St) :
    ticks (l.foldl (fun s b => scheduleBlock s b.1 b.2) s).queue.items = ticks s.queue.items := by
  induction l generalizing s with
  | nil => rfl
  | cons b l ih =>
    rw [List.foldl_cons, ih]
    simp [scheduleBlock, enqueue, PQ.enqueue, ticks]

theorem log_blocks (l : List (Int × Nat)) (s : St) :
    (l.foldl (fun s b => scheduleBlock s b.1 b.2) s).log = s.log := by
  induction l generalizing s with
  | nil => rfl
  | cons b l ih => rw [List.foldl_cons]; exact ih _

end Tmr
