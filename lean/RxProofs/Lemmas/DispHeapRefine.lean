import RxProofs.Lemmas.DispHeapSpec
import RxProofs.Lemmas.DispSeq
/-!
# C26Heap: on the heap `leaves ++ [container]` of a class state (`HeapRel`), `Pipe.apply` does what one call does to the class
state (`cSeq`, `aSeq`) and reports its result
-/
namespace Disp
open Pipe

theorem resOf_append (a b : List Ev) : resOf (a ++ b) = resOf a ++ resOf b := by
  induction a with
  | nil => rfl
  | cons e a ih => cases e <;> simp [resOf, ih]

theorem resOf_disp (l : List Nat) : resOf (l.map Ev.disp) = [] := by
  induction l <;> simp_all [resOf]

theorem resOf_fin (lg : List Ev) (ev : Ev) (hev : resOf [ev] = []) (l : List Nat) (r : RV) :
    resOf (lg ++ ev :: l.map Ev.disp ++ [.ret r]) = resOf lg ++ [Res.ok] := by
  rw [show lg ++ ev :: l.map Ev.disp ++ [Ev.ret r] = lg ++ ([ev] ++ (l.map Ev.disp ++ [.ret r])) by simp,
    resOf_append, resOf_append, hev, resOf_append, resOf_disp]
  rfl

theorem cSeq_log (s : CSh) (op : COp) : resOf (cSeq s op).log = resOf s.log ++ [Res.ok] := by
  cases op <;> simp only [cSeq] <;> repeat' split
  all_goals simp only [CSh.fin]; rw [resOf_fin _ _ rfl]
  all_goals simp [resOf_append, resOf]

theorem aSeq_log (K : Kind) (s : ASh) (op : AOp) : resOf (aSeq K s op).log = resOf s.log ++ [aRes K s op] := by
  cases op <;> simp only [aSeq, aRes] <;> repeat' split
  all_goals first | (simp only [ASh.fin]; rw [resOf_fin _ _ rfl]) | simp [resOf_append, resOf]

theorem run_sim {σ α : Type} (seq : σ → α → σ) (log : σ → List Ev) (toPipe : α → Pipe.Op) (V : α → Prop) (R : σ → Heap → Prop)
    (hstep : ∀ s op h, V op → R s h → R (seq s op) (Pipe.apply h (toPipe op)).1 ∧
      resOf (log (seq s op)) = resOf (log s) ++ [(Pipe.apply h (toPipe op)).2])
    (ops : List α) (hv : ∀ op ∈ ops, V op) (s : σ) (h : Heap) (hr : R s h) :
    R (ops.foldl seq s) (Pipe.run h (ops.map toPipe)) ∧
      resOf (log (ops.foldl seq s)) = resOf (log s) ++ Pipe.runRes h (ops.map toPipe) := by
  induction ops generalizing s h with
  | nil => exact ⟨hr, by simp [Pipe.runRes]⟩
  | cons op ops ih =>
    obtain ⟨hr1, hl1⟩ := hstep s op h (hv op (by simp)) hr
    obtain ⟨hr2, hl2⟩ := ih (fun o ho => hv o (by simp [ho])) _ _ hr1
    exact ⟨hr2, by rw [List.foldl_cons, hl2, hl1]; simp [Pipe.runRes]⟩

theorem mkH_rel (K : Kind) (k : Nat) (cnt' : Nat → Nat) (df : Nat → Bool) (cd : Bool) (co : List Nat)
    (h : ∀ j, j < k → (df j = true ↔ 0 < cnt' j)) :
    mkH K k df cd co = mkH K k (fun i => decide (0 < cnt' i)) cd co := by
  apply mkH_congr
  intro j hj
  have := h j hj
  cases hdf : df j <;> simp_all

/-- `l`: the call-outs of this call -/
theorem HeapRel.live {K : Kind} {k : Nat} {held : List Nat} {cnt : Nat → Nat} {df : Nat → Bool} (l : List Nat)
    (hheld : ∀ x ∈ held, x < k) (hdf : ∀ j, j < k → (df j = true ↔ 0 < cnt j ∨ j ∈ l)) :
    HeapRel K k false held (bumpAll cnt l) (mkH K k df false held) :=
  ⟨held, mkH_rel K k _ df false held fun j hj => by rw [bumpAll_pos]; exact hdf j hj, hheld, fun _ => rfl, nofun⟩

theorem HeapRel.init {K : Kind} {k : Nat} {held : List Nat} (hheld : ∀ x ∈ held, x < k) :
    HeapRel K k false held (fun _ => 0) (mkH K k (fun _ => false) false held) :=
  HeapRel.live (cnt := fun _ => 0) [] hheld fun j _ => by simp

theorem HeapRel.dead {K : Kind} {k : Nat} {cnt : Nat → Nat} {df : Nat → Bool} {co : List Nat} (l : List Nat)
    (hco : ∀ x ∈ co, x < k) (hdf : ∀ j, j < k → (df j = true ↔ 0 < cnt j ∨ j ∈ l))
    (hall : ∀ x ∈ co, 0 < cnt x ∨ x ∈ l) :
    HeapRel K k true [] (bumpAll cnt l) (mkH K k df true co) :=
  ⟨co, mkH_rel K k _ df true co fun j hj => by rw [bumpAll_pos]; exact hdf j hj, hco, nofun,
    fun _ => ⟨rfl, fun x hx => (bumpAll_pos cnt l x).mpr (hall x hx)⟩⟩

theorem HeapRel.dead_same {K : Kind} {k : Nat} {cnt : Nat → Nat} {df : Nat → Bool} {co : List Nat}
    (hco : ∀ x ∈ co, x < k) (hdone : ∀ x ∈ co, 0 < cnt x) (hdf : ∀ j, j < k → (df j = true ↔ 0 < cnt j)) :
    HeapRel K k true [] (bumpAll cnt []) (mkH K k df true co) :=
  HeapRel.dead [] hco (fun j hj => by simpa using hdf j hj) fun x hx => .inl (hdone x hx)

theorem HeapRel.dead_handover {K : Kind} {k : Nat} {cnt : Nat → Nat} {df : Nat → Bool} {co : List Nat} {i : Nat}
    (hco : ∀ x ∈ co, x < k) (hi : i < k) (hdone : ∀ x ∈ co, 0 < cnt x)
    (hdf : ∀ j, j < k → (df j = true ↔ 0 < cnt j ∨ j ∈ co ++ [i])) :
    HeapRel K k true [] (bumpAll cnt [i]) (mkH K k df true (co ++ [i])) := by
  refine HeapRel.dead [i] (List.forall_mem_append.2 ⟨hco, List.forall_mem_singleton.2 hi⟩) (fun j hj => ?_) fun x hx => ?_
  · rw [hdf j hj, List.mem_append]
    exact ⟨fun h => h.elim .inl fun h => h.elim (fun h => .inl (hdone j h)) .inr, fun h => h.elim .inl fun h => .inr (.inr h)⟩
  · exact (List.mem_append.mp hx).elim (fun h => .inl (hdone x h)) .inr

theorem c_sim (k : Nat) (s : CSh) (op : COp) (h : Heap) (hop : cOk k op) (hr : HeapRel .comp k s.isDisposed s.items s.cnt h) :
    HeapRel .comp k (cSeq s op).isDisposed (cSeq s op).items (cSeq s op).cnt (Pipe.apply h (cToPipe k op)).1 ∧
      resOf (cSeq s op).log = resOf s.log ++ [(Pipe.apply h (cToPipe k op)).2] := by
  rw [cSeq_log]
  obtain ⟨co, rfl, hco, hlive, hdead⟩ := hr
  cases hd : s.isDisposed
  · obtain rfl := hlive hd
    cases op with
    | add i =>
      rw [cToPipe, apply_add k _ _ _ i]
      simp only [cSeq, hd, CSh.fin]
      exact ⟨HeapRel.live [] (List.forall_mem_append.2 ⟨hco, List.forall_mem_singleton.2 hop⟩) fun j _ => by simp, trivial⟩
    | remove i =>
      by_cases hmem : i ∈ s.items
      · rw [cToPipe, apply_remove_hit k _ _ i hop hmem]
        simp only [cSeq, hd, hmem, CSh.fin, ↓reduceIte]
        exact ⟨HeapRel.live [i] (fun x hx => hco x (List.mem_of_mem_erase hx)) fun j _ => by simp, trivial⟩
      · rw [cToPipe, apply_remove_miss k _ false _ i (Or.inr hmem)]
        simp only [cSeq, hd, hmem, CSh.fin, ↓reduceIte]
        exact ⟨HeapRel.live [] hco fun j _ => by simp, trivial⟩
    | clear =>
      rw [cToPipe, apply_clear k _ _ _ hco]
      simp only [cSeq, hd, CSh.fin]
      exact ⟨by simpa using HeapRel.live (K := .comp) (k := k) (held := []) s.items (by simp) fun j _ => by simp, trivial⟩
    | dispose =>
      simp only [cToPipe]; rw [apply_dispose .comp (Or.inl rfl) k]
      simp only [cSeq, hd, CSh.fin]
      exact ⟨HeapRel.dead s.items hco (fun j _ => by simp) fun x hx => .inr hx, trivial⟩
    | len => exact absurd hop (by simp [cOk])
    | contains i => exact absurd hop (by simp [cOk])
  · obtain ⟨hitems, hdone⟩ := hdead hd
    cases op with
    | add i =>
      rw [cToPipe, apply_add k _ _ co i]
      simp only [cSeq, hd, CSh.fin, hitems]
      exact ⟨.dead_handover hco hop hdone fun j _ => by simp, trivial⟩
    | remove i =>
      rw [cToPipe, apply_remove_miss k _ true co i (Or.inl rfl)]
      simp only [cSeq, hd, CSh.fin, hitems]
      exact ⟨.dead_same hco hdone fun j _ => by simpa using hdone j, trivial⟩
    | clear =>
      rw [cToPipe, apply_clear k _ _ co hco]
      simp only [cSeq, hd, CSh.fin, hitems]
      exact ⟨.dead_same hco hdone fun j _ => by simpa using hdone j, trivial⟩
    | dispose =>
      simp only [cToPipe]; rw [apply_dispose .comp (Or.inl rfl) k _ _ co]
      simp only [cSeq, hd, CSh.fin, hitems]
      exact ⟨.dead_same hco hdone fun j _ => by simpa using hdone j, trivial⟩
    | len => exact absurd hop (by simp [cOk])
    | contains i => exact absurd hop (by simp [cOk])

structure AAfter (s s' : ASh) (l : List Nat) : Prop where
  cnt : s'.cnt = bumpAll s.cnt l
  disp : s'.isDisposed = s.isDisposed
  current : s'.current = s.current
  log : ∃ evs, s'.log = s.log ++ evs ∧ resOf evs = [Res.ok]

theorem a_sim (k : Nat) (K : Kind) (hK : IsAssign K) (s : ASh) (op : AOp) (h : Heap) (hop : aOk k op)
    (hr : HeapRel K k s.isDisposed s.current.toList s.cnt h) :
    HeapRel K k (aSeq K s op).isDisposed (aSeq K s op).current.toList (aSeq K s op).cnt (Pipe.apply h (aToPipe k op)).1 ∧
      resOf (aSeq K s op).log = resOf s.log ++ [(Pipe.apply h (aToPipe k op)).2] := by
  rw [aSeq_log]
  obtain ⟨co, rfl, hco, hlive, hdead⟩ := hr
  have hKc := hK.isCont
  cases op with
  | get => exact absurd hop (by simp [aOk])
  | dispose =>
    simp only [aToPipe]
    rw [apply_dispose K hKc k _ _ co]
    cases hd : s.isDisposed <;> simp only [aSeq, aRes, hd, ASh.fin]
    · have hheld := hlive hd
      exact ⟨HeapRel.dead s.current.toList hco (fun j _ => by simp [hheld]) fun x hx => .inr (hheld ▸ hx), trivial⟩
    · have hd' := hdead hd
      exact ⟨by rw [hd'.1]; exact .dead_same hco hd'.2 fun j _ => by simpa using hd'.2 j, trivial⟩
  | set i =>
    simp only [aOk] at hop
    simp only [aToPipe]
    cases hd : s.isDisposed
    · have hheld := hlive hd
      rcases hK with rfl | rfl | rfl
      · -- Serial: the previous item is disposed
        rw [apply_assign_serial k _ co i hco]
        simp [aSeq, aRes, hd, ASh.fin]
        exact HeapRel.live s.current.toList (by simp; omega) fun j _ => by simp [hheld]
      · -- SingleAssignment (fixed): stored if unassigned, rejected otherwise
        cases hc : s.current with
        | none =>
          obtain rfl : co = [] := by rw [hheld, hc]; rfl
          rw [apply_assign_single_empty k _ i]
          simp [aSeq, aRes, hd, hc, ASh.fin]
          exact HeapRel.live [] (by simp; omega) fun j _ => by simp
        | some c =>
          obtain rfl : co = [c] := by rw [hheld, hc]; rfl
          rw [apply_assign_single_full k _ c [] i]
          simp [aSeq, aRes, hd, hc]
          exact HeapRel.live [] hco fun j _ => by simp
      · -- MultipleAssignment: the previous item is dropped
        rw [apply_assign_multi k _ co i]
        simp [aSeq, aRes, hd, ASh.fin]
        exact HeapRel.live [] (by simp; omega) fun j _ => by simp
    · -- assigned after the disposal: disposed on the spot (all three classes)
      have hd' := hdead hd
      have hcur : s.current = none := by
        have := hd'.1; cases hc : s.current <;> simp_all
      rw [apply_assign_dead K hK k _ co i]
      simp [aSeq, aRes, hd, hcur, ASh.fin]
      exact .dead_handover hco hop hd'.2 fun j _ => by simp

end Disp
