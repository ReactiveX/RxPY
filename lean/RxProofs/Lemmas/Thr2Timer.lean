import RxModel.Thr2Timer
import RxProofs.Lemmas.Thr2Reach
/-! # Lemmas for C34 — one action on a real-time scheduler, many on one event loop, periodic scheduling: an invariant
of `step` for each model -/

namespace Thr2Timer

/-- The scheduler thread stands at its read of the flag (`pc = 1`) only once the due time was reached or the flag was
set, and a dispose before the due time has set the flag it reads there. -/
structure Inv (s : St) : Prop where
  early : s.early = false
  bad : s.bad = false
  flagged : s.disposedEarly = true → s.cancelled = true
  woken : s.pc = 1 → s.due = true ∨ s.cancelled = true

theorem step_Inv (c : Cfg) (s t : St) (a : Nat) (h : Inv s) (hs : step c s a = some t) : Inv t := by
  have goto : ∀ pc', pc' ≠ 1 → Inv { s with pc := pc' } := fun _ hne => { h with woken := fun h1 => absurd h1 hne }
  have read : s.due = true ∨ s.cancelled = true → Inv { s with pc := 1 } := fun hw => { h with woken := fun _ => hw }
  have run : ∀ pc', pc' ≠ 1 → s.pc = 1 → ¬s.cancelled = true → Inv { start s with pc := pc' } := by
    intro pc' hne hpc hc
    have hdue := (h.woken hpc).resolve_right hc
    have hde : s.disposedEarly = false := Bool.eq_false_iff.2 fun hd => hc (h.flagged hd)
    exact ⟨by simp [start, h.early, hdue], by simp [start, h.bad, hde], h.flagged, fun h1 => absurd h1 hne⟩
  refine Thr2Reach.of_outcomes (P := Inv) ?_ hs
  fun_cases stepL c s a
  · fun_cases thrStep c s
    all_goals rintro _ ⟨⟩
    -- `Timer`: wake, skip, run
    · next hw => exact read (Bool.or_eq_true_iff.1 hw)
    · exact goto 2 (by decide)
    · next hpc hc => exact run 2 (by decide) hpc hc
    -- event loop: top (due / not due), check (skip / run), bottom (due / wait), timeout
    · next hdue => exact read (.inl hdue)
    · exact goto 3 (by decide)
    · exact goto 5 (by decide)
    · next hpc hc => exact run 5 (by decide) hpc hc
    · exact goto 0 (by decide)
    · exact goto 4 (by decide)
    · exact goto 0 (by decide)
  all_goals rintro _ ⟨⟩
  -- dispose
  · exact { h with flagged := fun _ => rfl, woken := fun _ => .inr rfl }
  -- tick
  · exact { h with woken := fun _ => .inl rfl }
  -- the wait returns early
  · exact goto 0 (by decide)

theorem reach_ok (c : Cfg) (sch : List Nat) : Inv (run c (init c) sch) :=
  Thr2Reach.run_invariant (run := run c) (fun _ => rfl) (fun _ _ _ => rfl) (step_Inv c) sch _
    ⟨rfl, rfl, nofun, nofun⟩

end Thr2Timer

namespace Thr2LoopN

structure J (s : St) : Prop where
  ready : ∀ i ∈ s.ready, s.due i = true
  flagged : ∀ i, s.early i = true → s.c i = true
  tooEarly : s.tooEarly = false
  bad : s.bad = false

theorem collect_J (s : St) (l : List Nat) (h : J s) : J (collect s l) := by
  induction l generalizing s with
  | nil => exact h
  | cons i rest ih =>
    simp only [collect]
    split
    · next hd =>
      refine ih _ { h with ready := fun j hj => ?_ }
      rcases List.mem_append.1 hj with h' | h'
      · exact h.ready j h'
      · rw [List.mem_singleton.1 h']; exact hd
    · exact h

theorem step_J (c : Cfg) (hc : c.disp = .flag) (s t : St) (a : Act) (h : J s) (hs : step c s a = some t) : J t := by
  refine Thr2Reach.of_outcomes (P := J) ?_ hs
  fun_cases stepL c s a
  · fun_cases loopStep c s
    all_goals rintro _ ⟨⟩
    -- top of the loop
    · exact { collect_J s (heap c s) h with }
    -- the item popped is flagged
    · next i rest hr _ _ => exact { h with ready := fun j hj => h.ready j (hr ▸ List.mem_cons_of_mem _ hj) }
    · next i rest hr _ hci =>
      -- not flagged, so not disposed before its due time
      have hdue : s.due i = true := h.ready i (hr ▸ List.mem_cons_self)
      have hearly : s.early i = false := Bool.eq_false_iff.2 fun he => hci (h.flagged i he)
      exact { ready := fun j hj => h.ready j (hr ▸ List.mem_cons_of_mem _ hj), flagged := h.flagged
              tooEarly := by show (s.tooEarly || !s.due i) = false; rw [h.tooEarly, hdue]; rfl
              bad := by show (s.bad || s.early i) = false; rw [h.bad, hearly]; rfl }
    all_goals exact { h with }
  -- tick
  · rintro _ ⟨⟩
    exact { h with ready := fun i hi => by simp [h.ready i hi] }
  · next i =>
    fun_cases disposeStep c s i
    all_goals rintro _ ⟨⟩
    · refine { h with flagged := fun j (hj : set s.early i (!s.due i) j = true) => ?_ }
      show set s.c i true j = true
      by_cases hji : j = i
      · subst hji; simp [set]
      · simp only [set, hji, if_false] at hj ⊢; exact h.flagged j hj
    all_goals exact absurd (hc.symm.trans ‹c.disp = Disp.removeByDue›) nofun
  -- the wait returns early
  all_goals rintro _ ⟨⟩
  exact { h with }

theorem reach_J (c : Cfg) (hc : c.disp = .flag) (sch : List Act) : J (run c init sch) :=
  Thr2Reach.run_invariant (run := run c) (fun _ => rfl) (fun _ _ _ => rfl) (step_J c hc) sch _
    ⟨nofun, nofun, rfl, rfl⟩

end Thr2LoopN

namespace Thr2Periodic

/-- `bad` is written only at a `tick-start` taken while `disposed`; `tick-start` is the branch for `disposed = false` -/
theorem step_bad {s t : St} {a : Nat} (h : step s a = some t) : t.bad = s.bad := by
  refine Thr2Reach.of_outcomes (P := fun t => t.bad = s.bad) ?_ h
  fun_cases stepL s a <;> simp [*]

end Thr2Periodic
