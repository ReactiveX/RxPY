import RxProofs.Lemmas.TimedBase
/-! Re-entrant feedback: the feedback runs equal the plain runs over the COMBINED arrival sequence. -/

namespace Timed

/-- the arrival sequence throttle_first actually sees: after every element it emits as the consumer's `k`-th delivery
with `echo k = some e`, the echo `e` arrives at the same instant (echoes do not echo) -/
def tfCombined {α} (w : Nat) (echo : Nat → Option α) : Nat → Option Nat → TL α → TL α
  | _, _, [] => []
  | k, last, (t, .next x) :: rest =>
    match (tfOnNext w t last x).2 with
    | [] => (t, .next x) :: tfCombined w echo k (tfOnNext w t last x).1 rest
    | _ :: _ =>
      match echo k with
      | some e =>
        (t, .next x) :: (t, .next e) ::
          tfCombined w echo (k + 1 + (tfOnNext w t (tfOnNext w t last x).1 e).2.length)
            (tfOnNext w t (tfOnNext w t last x).1 e).1 rest
      | none => (t, .next x) :: tfCombined w echo (k + 1) (tfOnNext w t last x).1 rest
  | _, _, (t, n) :: rest => (t, n) :: rest

theorem tf_feedback_eq_combined {α} (w : Nat) (echo : Nat → Option α) (msgs : TL α) : ∀ (k : Nat) (last : Option Nat),
    tfRunFb w echo k last msgs = tfRun w last (tfCombined w echo k last msgs) := by
  induction msgs with
  | nil => intro k last; rfl
  | cons a r ih =>
    obtain ⟨t, n⟩ := a
    intro k last
    cases n with
    | next x =>
      cases ho : (tfOnNext w t last x).2 with
      | nil =>
        simp only [timeline_simp, tfRunFb, tfCombined, ho, tfRun, List.nil_append]
        exact ih _ _
      | cons o os =>
        cases he : echo k with
        | none =>
          simp only [tfRunFb, tfCombined, ho, he, tfRun]
          rw [ih]
        | some e =>
          simp only [tfRunFb, tfCombined, ho, he, tfRun, List.append_assoc]
          rw [ih]
    | error e => simp [tfRunFb, tfCombined, tfRun]
    | completed => simp [tfRunFb, tfCombined, tfRun]

theorem tf_echo_dropped {α} (w t : Nat) (hw : 0 < w) (last : Option Nat) (x e : α) (o : Notif α) (os : List (Notif α))
    (ho : (tfOnNext w t last x).2 = o :: os) :
    tfOnNext w t (tfOnNext w t last x).1 e = ((tfOnNext w t last x).1, []) := by
  have h1 : (tfOnNext w t last x).1 = some t := by
    unfold tfOnNext at ho ⊢
    cases last with
    | none => rfl
    | some l => by_cases h : l + w ≤ t <;> simp [h] at ho ⊢
  rw [h1]
  have : ¬ (t + w ≤ t) := by omega
  simp [tfOnNext, this]

theorem tf_feedback_inert {α} (w : Nat) (hw : 0 < w) (echo : Nat → Option α) (msgs : TL α) : ∀ (k : Nat) (last : Option Nat),
    tfRunFb w echo k last msgs = tfRun w last msgs := by
  induction msgs with
  | nil => intro k last; rfl
  | cons a r ih =>
    obtain ⟨t, n⟩ := a
    intro k last
    cases n with
    | next x =>
      cases ho : (tfOnNext w t last x).2 with
      | nil =>
        simp only [timeline_simp, tfRunFb, ho, tfRun, List.nil_append]
        exact ih _ _
      | cons o os =>
        cases he : echo k with
        | none => simp only [tfRunFb, ho, he, tfRun]; rw [ih]
        | some e =>
          have hd := tf_echo_dropped w t hw last x e o os ho
          simp only [timeline_simp, tfRunFb, ho, he, tfRun, hd, List.append_nil, List.length_nil, Nat.add_zero]
          rw [ih]
    | error e => simp [tfRunFb, tfRun]
    | completed => simp [tfRunFb, tfRun]

/-- the queue `sample` actually runs: after a tick at which the consumer gets its `k`-th delivery (a fresh element, the
source still live) and `echo k = some e`, the echo is the source's next message — right behind that tick -/
def sampCombinedQ {α} (echo : Nat → Option α) (isEcho : α → Bool) :
    Nat → List (Nat × SampItem α) → Bool → SampSt α → List (Nat × SampItem α)
  | _, [], _, _ => []
  | k, (t, .src n) :: q, srcLive, s =>
    (t, .src n) ::
      (if srcLive then
        match n with
        | .next v => sampCombinedQ echo isEcho k q true (sampOnNext s v)
        | .error _ => q
        | .completed => sampCombinedQ echo isEcho k q false (sampOnCompleted s)
       else sampCombinedQ echo isEcho k q false s)
  | k, (tk, .samp ev) :: q, srcLive, s =>
    match ev with
    | .tick =>
      let delivered := s.hasValue && s.value.isSome
      let fresh := match s.value with | some v => !isEcho v | none => false
      match (if delivered && srcLive && fresh then echo k else none) with
      | some e =>
        (tk, .samp .tick) :: (tk, .src (.next e)) ::
          (if s.atEnd then q else sampCombinedQ echo isEcho (if delivered then k + 1 else k) q srcLive (sampOnNext (sampTick s).1 e))
      | none =>
        (tk, .samp .tick) ::
          (if s.atEnd then q else sampCombinedQ echo isEcho (if delivered then k + 1 else k) q srcLive (sampTick s).1)
    | .err e => (tk, .samp (.err e)) :: q

end Timed
