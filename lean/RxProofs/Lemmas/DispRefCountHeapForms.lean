import RxProofs.Lemmas.DispHeapForms
import RxProofs.Lemmas.DispRefCount
/-!
# `Pipe.apply` on the heap of one RefCountDisposable: `underlying leaf, refcount node, dependents…` (C26Heap)
-/
namespace Pipe
open Disp (Dep depLive wsum)

def rcNode (pd rel : Bool) : Node := { kind := .refcount, done := pd, released := rel, owned := [0] }

/-- a dependent handed out by `RefCountDisposable.disposable` as a heap node -/
def depNode : Dep → Node
  | .inner b => { kind := .inner, done := !b, parent := some 1 }
  | .inert b => { kind := .leaf, done := b }

/-- `ud`: underlying leaf done; `pd`: primary disposed; `rel`: released -/
def rcH (ud pd rel : Bool) (deps : List Dep) : Heap := leafN ud :: rcNode pd rel :: deps.map depNode

theorem depNode_owned (d : Dep) : (depNode d).owned = [] := by cases d <;> rfl
theorem depNode_not_rc (d : Dep) : ((depNode d).kind == Kind.refcount) = false := by cases d <;> rfl

theorem obf_rcH (ud pd rel : Bool) (deps : List Dep) (y : Nat) :
    ownedByFiring (rcH ud pd rel deps) y = (rel && y == 0) := by
  have : (deps.map depNode).any (fun x => x.fires && x.owned.contains y) = false := by
    rw [List.any_eq_false]
    intro x hx
    obtain ⟨d, _, rfl⟩ := List.mem_map.mp hx
    simp [depNode_owned]
  simp only [ownedByFiring, rcH, List.any_cons, this]
  simp [leafN, rcNode, Node.fires]
  cases rel <;> simp
  all_goals (cases y <;> rfl)

theorem liveInners_rcH (ud pd rel : Bool) (deps : List Dep) :
    liveInners (rcH ud pd rel deps) 1 = wsum depLive deps := by
  simp only [liveInners, rcH, List.filter_cons]
  simp only [leafN, rcNode]
  simp
  induction deps with
  | nil => rfl
  | cons d ds ih =>
    simp only [List.map_cons, List.filter_cons, Disp.wsum_cons]
    cases d with
    | inert b => simp [depNode, depLive, ih]
    | inner b => cases b <;> simp [depNode, depLive, ih] <;> omega

theorem rcH_get (ud pd rel : Bool) (deps : List Dep) (i : Nat) :
    (rcH ud pd rel deps)[i]? = match i with
      | 0 => some (leafN ud)
      | 1 => some (rcNode pd rel)
      | i + 2 => deps[i]?.map depNode := by
  rcases i with _ | _ | i <;> simp [rcH]

theorem propDone_rcH (ud pd rel : Bool) (deps : List Dep) :
    propDone (rcH ud pd rel deps) = rcH (ud || rel) pd rel deps := by
  refine List.ext_getElem? fun i => ?_
  rw [propDone_get, rcH_get, rcH_get]
  rcases i with _ | _ | i <;> simp [stepDone, obf_rcH, leafN, rcNode]
  cases deps[i]? <;> rfl

theorem propReleased_rcH (ud pd rel : Bool) (deps : List Dep) :
    propReleased (rcH ud pd rel deps) = rcH ud pd (rel || (pd && wsum depLive deps == 0)) deps := by
  refine List.ext_getElem? fun i => ?_
  rw [propReleased_get, rcH_get, rcH_get]
  rcases i with _ | _ | i <;> simp [stepReleased, liveInners_rcH, leafN, rcNode]
  cases h : deps[i]? <;> simp [depNode_not_rc]

theorem propagate_rcH (ud pd rel : Bool) (deps : List Dep) :
    propagate (rcH ud pd rel deps) = rcH (ud || rel) pd (rel || (pd && wsum depLive deps == 0)) deps := by
  unfold propagate
  rw [propDone_rcH, propReleased_rcH]

/-- nested disposal on a RefCountDisposable heap: two rounds (release, then the underlying resource) -/
theorem settle_rcH (ud pd rel : Bool) (deps : List Dep) :
    settle (rcH ud pd rel deps) =
      rcH (ud || rel || (pd && wsum depLive deps == 0)) pd (rel || (pd && wsum depLive deps == 0)) deps := by
  rw [settle_iter 2]
  · simp only [iter, propagate_rcH]
    generalize (wsum depLive deps == 0) = z
    cases ud <;> cases rel <;> cases pd <;> cases z <;> rfl
  · simp only [iter, propagate_rcH]
    generalize (wsum depLive deps == 0) = z
    cases ud <;> cases rel <;> cases pd <;> cases z <;> rfl

def depDone : Dep → Dep
  | .inner _ => .inner false
  | .inert _ => .inert true

theorem depNode_done (d : Dep) : { depNode d with done := true } = depNode (depDone d) := by
  cases d <;> rfl

theorem markDone_rc_primary (ud pd rel : Bool) (deps : List Dep) :
    markDone (rcH ud pd rel deps) [1] = rcH ud true rel deps := by
  refine List.ext_getElem? fun i => ?_
  rw [markDone_get, rcH_get, rcH_get]
  rcases i with _ | _ | i <;> simp [rcNode]
  cases deps[i]? <;> rfl

theorem markDone_rc_dep (ud pd rel : Bool) (deps : List Dep) (j : Nat) :
    markDone (rcH ud pd rel deps) [2 + j] = rcH ud pd rel (deps.modify j depDone) := by
  refine List.ext_getElem? fun i => ?_
  rw [Nat.add_comm, markDone_get, rcH_get, rcH_get]
  rcases i with _ | _ | i
  · simp
  · simp
  · by_cases h : i = j
    · subst h; cases hd : deps[i]? <;> simp [hd, depNode_done]
    · cases hd : deps[i]? <;> simp [hd, h, Ne.symm h]

theorem push_rcH (ud pd rel : Bool) (deps : List Dep) (d : Dep) :
    rcH ud pd rel deps ++ [depNode d] = rcH ud pd rel (deps ++ [d]) := by
  simp [rcH]

theorem getRc_rcH (ud pd rel : Bool) (deps : List Dep) : (rcH ud pd rel deps)[1]? = some (rcNode pd rel) := rfl

theorem apply_getInner (ud pd rel : Bool) (deps : List Dep) :
    apply (rcH ud pd rel deps) (.getInner 1) =
      (settle (rcH ud pd rel (deps ++ [if rel then Dep.inert false else Dep.inner true])), .ok) := by
  simp only [apply, applyRaw, effect, getRc_rcH, rcNode]
  cases rel
  · simp only [bne_self_eq_false, Bool.false_eq_true, if_false, applyEff, markDone_nil]
    rw [← push_rcH]; rfl
  · simp only [bne_self_eq_false, Bool.false_eq_true, if_false, if_true, applyEff, markDone_nil]
    rw [← push_rcH]; rfl

theorem apply_dispose_rc (ud pd rel : Bool) (deps : List Dep) :
    apply (rcH ud pd rel deps) (.dispose 1) = (settle (rcH ud true rel deps), .ok) := by
  simp only [apply, applyRaw, effect, applyEff, markDone_rc_primary]

theorem apply_dispose_dep (ud pd rel : Bool) (deps : List Dep) (j : Nat) :
    apply (rcH ud pd rel deps) (.dispose (2 + j)) = (settle (rcH ud pd rel (deps.modify j depDone)), .ok) := by
  simp only [apply, applyRaw, effect, applyEff, markDone_rc_dep]

end Pipe
