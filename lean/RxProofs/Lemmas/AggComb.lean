import RxProofs.Lemmas.Comb
/-!
# C09 over the trace-combinator machines (`RxModel/Comb*.lean`)

In these machines a user callback is part of the event (the projection's result is the `obs k` carried by the outer
event; a raising projection is the `on_error` that `map` makes of it — `C09.no_escape_map`) or a parameter
(`chHandler res`, `seqTick items`).  A handler cannot raise into its emitter by construction (it returns actions), so the
content of C09 here is: the callback-raise path makes exactly the downstream call `on_error e`, which — the subscriber not
being terminated — is delivered, closes every live source subscription in container order, stops the machine, and nothing
is ever emitted afterwards.
-/

namespace Comb

/-- "`on_error e` was delivered at this event": exactly `emit (error e)` then the unsubscription of every live source in
container order; the machine is stopped with nothing live; no later event ever emits. -/
def DeliveredAt {σ ι β} (m : Machine σ ι β) (st : St σ) (ev : Ev ι) (e : Err) : Prop :=
  (step m st ev).2 = Eff.emit (.error e) :: st.p.live.map Eff.unsub
  ∧ (step m st ev).1.p = { done := true, live := [] }
  ∧ ∀ es, emits (run m (step m st ev).1 es) = []

theorem raise_delivered {σ ι β} (m : Machine σ ι β) (st : St σ) (ev : Ev ι) (e : Err) (s' : σ) (hne : ev ≠ .dispose)
    (hd : st.p.done = false) (hf : fired m st ev = (s', [Act.emit (.error e)])) : DeliveredAt m st ev e := by
  have h1 : (step m st ev).2 = Eff.emit (.error e) :: st.p.live.map Eff.unsub
      ∧ (step m st ev).1.p = { done := true, live := [] } := by
    rw [step_open m st ev hne hd, hf]
    -- the source's own unsubscribe finds nothing live any more
    rcases own_cases (β := β) st.p ev with h | ⟨k, h⟩ <;> rw [h] <;>
      simp [actEmits, openEffs, C02Comb.lateEffs, Notif.isTerminal]
  exact ⟨h1.1, h1.2, fun es => emits_run_done m es _ (by rw [h1.2])⟩

/-- through the operator's own scheduled action (`tick`): a raising source factory / iterator -/
theorem raise_delivered_tick {σ ι β} (m : Machine σ ι β) (st : St σ) (e : Err) (s' : σ)
    (hd : st.p.done = false) (hh : m.tick st.s false = (s', [Act.emit (.error e)])) :
    DeliveredAt m st (.tick : Ev ι) e :=
  raise_delivered m st _ e s' nofun hd (by rw [← hh, ← hd]; rfl)

end Comb
