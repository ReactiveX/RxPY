import RxModel.CombSeq
import RxProofs.Lemmas.Comb
/-!
# Invariants of the sequential machines (C10)

`seqM` and `seqInlineM` have the same scheduled action `seqTick`; their handlers are `seqHandler`, followed (inline
hand-over) by the action it armed.  `SeqAct` lists what the action can do; the lemmas are about any machine put together
from these two pieces (`IsSeq`).
-/

namespace Comb

def nextOf {α} : Nat × Notif α → Option α
  | (_, .next v) => some v
  | _ => none

/-- at most the most recently yielded source is live, and then no action is pending -/
structure SInv (st : St SeqSt) : Prop where
  wf : st.p.WF
  one : st.p.live = [] ∨ (st.p.live = [st.s.idx - 1] ∧ 1 ≤ st.s.idx ∧ st.s.pending = false)

theorem seq_init_inv : SInv seqInit := ⟨by intro h; simp [seqInit] at h, Or.inl rfl⟩

theorem seqHandler_idx {α} (kind : SeqKind) (s : SeqSt) (k : Nat) (n : Notif α) :
    (seqHandler kind s k n).1.idx = s.idx := by
  cases n <;> cases kind <;> rfl

theorem seq_handler_no_sub {α} (kind : SeqKind) (s : SeqSt) (k : Nat) (n : Notif α) :
    actSubs (seqHandler kind s k n).2 = [] := by
  cases n <;> cases kind <;> rfl

theorem seqHandler_terminal {α} (kind : SeqKind) (s : SeqSt) (k : Nat) (n : Notif α) (hn : n.isTerminal = true) :
    (seqHandler kind s k n = (s, [Act.emit n]) ∧ kind.continues n = false) ∨
    ((seqHandler kind s k n).2 = [] ∧ (seqHandler kind s k n).1.pending = true ∧ kind.continues n = true) := by
  cases n with
  | next v => cases hn
  | error e => cases kind <;> simp [seqHandler, SeqKind.continues]
  | completed => cases kind <;> simp [seqHandler, SeqKind.continues]

theorem seqHandler_out {α} (kind : SeqKind) (s : SeqSt) (k : Nat) (n : Notif α) :
    (∃ v, n = .next v ∧ seqHandler kind s k n = (s, [Act.emit (.next v)])) ∨
    (nextOf (k, n) = none ∧ nextVals (actEmits (seqHandler kind s k n).2) = []) := by
  cases n with
  | next v => exact Or.inl ⟨v, rfl, rfl⟩
  | error e => right; cases kind <;> exact ⟨rfl, rfl⟩
  | completed => right; cases kind <;> exact ⟨rfl, rfl⟩

/-- the outcomes of the scheduled action (`d`: the returned disposable is disposed): nothing pending; cancelled; the next
source subscribed (replacing the previous holder); a source that fails at once stepped over; the result ends -/
inductive SeqAct {α} (items : Nat → Item) (s : SeqSt) (d : Bool) : SeqSt × List (Act α) → Prop
  | idle : SeqAct items s d (s, [])
  | cancelled : s.pending = true → SeqAct items s d ({ s with pending := false }, [])
  | sub (s' : SeqSt) : s.pending = true → d = false → items s.idx = .src → s'.idx = s.idx + 1 → s'.pending = false →
      SeqAct items s d (s', [.unsub (s.idx - 1), .sub s.idx])
  | skip (s' : SeqSt) : s.pending = true → d = false → (items s.idx).isFail = true → s'.idx = s.idx + 1 →
      SeqAct items s d (s', [.unsub (s.idx - 1)])
  | stop (s' : SeqSt) (x : Notif α) (as : List (Act α)) : s.pending = true → d = false → x.isTerminal = true →
      as = [.emit x] ∨ as = [.unsub (s.idx - 1), .emit x] → s'.idx = s.idx → s'.pending = false →
      (x = .completed → items s.idx = .stop) → SeqAct items s d (s', as)

theorem seqTick_idle {α} (kind : SeqKind) (items : Nat → Item) (s : SeqSt) (d : Bool) (hp : s.pending = false) :
    seqTick (α := α) kind items s d = (s, []) := by
  simp [seqTick, hp]

theorem seqTick_done {α} (kind : SeqKind) (items : Nat → Item) (s : SeqSt) :
    (seqTick (α := α) kind items s true).2 = [] := by
  simp only [seqTick]; split <;> simp

theorem seqTick_act {α} (kind : SeqKind) (items : Nat → Item) (s : SeqSt) (d : Bool) :
    SeqAct (α := α) items s d (seqTick kind items s d) := by
  cases hp : s.pending
  · rw [seqTick_idle kind items s d hp]; exact .idle
  · cases d
    · simp only [seqTick, hp, Bool.not_true, Bool.false_eq_true, if_false]
      split
      · next hi => exact .sub _ hp rfl hi rfl rfl
      · next hi =>
        refine .stop _ (match kind, s.lastErr with | .catch, some e => .error e | _, _ => .completed) _ hp rfl ?_
          (Or.inl ?_) rfl rfl (fun _ => hi)
        · cases kind <;> cases s.lastErr <;> rfl
        · cases kind <;> cases s.lastErr <;> rfl
      · next e hi => exact .stop _ (.error e) _ hp rfl rfl (Or.inl rfl) rfl rfl nofun
      · next e hi =>
        cases kind
        · exact .stop _ (.error e) _ hp rfl rfl (Or.inr rfl) rfl rfl nofun
        · exact .skip _ hp rfl (by rw [hi]; rfl) rfl
        · exact .skip _ hp rfl (by rw [hi]; rfl) rfl
    · simp only [seqTick, hp, Bool.not_true, Bool.false_eq_true, if_false, if_true]; exact .cancelled hp

theorem SeqAct.idx_le {α} {items : Nat → Item} {s : SeqSt} {d : Bool} {t : SeqSt × List (Act α)}
    (h : SeqAct items s d t) : s.idx ≤ t.1.idx := by
  cases h <;> simp only <;> omega

theorem SeqAct.no_next {α} {items : Nat → Item} {s : SeqSt} {d : Bool} {t : SeqSt × List (Act α)}
    (h : SeqAct items s d t) : nextVals (actEmits t.2) = [] := by
  cases h with
  | stop s' x as _ _ hx has =>
    cases x with
    | next v => cases hx
    | error e => rcases has with rfl | rfl <;> rfl
    | completed => rcases has with rfl | rfl <;> rfl
  | _ => rfl

theorem SeqAct.subs {α} {items : Nat → Item} {s : SeqSt} {d : Bool} {t : SeqSt × List (Act α)}
    (h : SeqAct items s d t) (hnf : (items s.idx).isFail = false) :
    (actSubs t.2 = [] ∧ t.1.idx = s.idx) ∨ (actSubs t.2 = [s.idx] ∧ t.1.idx = s.idx + 1 ∧ items s.idx = .src) := by
  cases h with
  | idle => exact Or.inl ⟨rfl, rfl⟩
  | cancelled => exact Or.inl ⟨rfl, rfl⟩
  | sub s' _ _ hi h1 => exact Or.inr ⟨rfl, h1, hi⟩
  | skip s' _ _ hf => rw [hnf] at hf; cases hf
  | stop s' x as _ _ _ has h1 => exact Or.inl ⟨by rcases has with rfl | rfl <;> rfl, h1⟩

theorem SeqAct.subs_src {α} {items : Nat → Item} {s : SeqSt} {d : Bool} {t : SeqSt × List (Act α)}
    (h : SeqAct items s d t) (j : Nat) (hj : j ∈ actSubs t.2) :
    s.pending = true ∧ d = false ∧ j = s.idx ∧ items s.idx = .src := by
  cases h with
  | idle => cases hj
  | cancelled => cases hj
  | sub s' hp hd hi => simp [actSubs] at hj; exact ⟨hp, hd, hj, hi⟩
  | skip => simp [actSubs] at hj
  | stop s' x as _ _ _ has => rcases has with rfl | rfl <;> simp [actSubs] at hj

theorem SeqAct.completed {α} {items : Nat → Item} {s : SeqSt} {d : Bool} {t : SeqSt × List (Act α)}
    (h : SeqAct items s d t) (hc : Notif.completed ∈ actEmits t.2) : items s.idx = .stop := by
  cases h with
  | stop s' x as _ _ _ has _ _ hs =>
    apply hs
    rcases has with rfl | rfl <;> simpa [actEmits, eq_comm] using hc
  | _ => simp [actEmits] at hc

/-- `m` is put together from `seqHandler`, optionally followed by the action it armed, and `seqTick` -/
structure IsSeq {α} (kind : SeqKind) (items : Nat → Item) (m : Machine SeqSt α α) : Prop where
  tick : ∀ s d, m.tick s d = seqTick kind items s d
  handler : ∀ s k n, ∃ t, SeqAct items (seqHandler kind s k n).1 false t ∧
    m.handler s k n = (t.1, (seqHandler kind s k n).2 ++ t.2)

theorem seqM_isSeq {α} (kind : SeqKind) (items : Nat → Item) : IsSeq kind items (seqM (α := α) kind items) :=
  ⟨fun _ _ => rfl, fun _ _ _ => ⟨(_, []), .idle, by simp [seqM]⟩⟩

theorem seqInlineM_isSeq {α} (kind : SeqKind) (items : Nat → Item) : IsSeq kind items (seqInlineM (α := α) kind items) :=
  ⟨fun _ _ => rfl, fun _ _ _ => ⟨_, seqTick_act kind items _ false, rfl⟩⟩

section
variable {α : Type} {kind : SeqKind} {items : Nat → Item} {m : Machine SeqSt α α}

theorem IsSeq.fired_cases (hm : IsSeq kind items m) (st : St SeqSt) (e : Ev α) {Q : SeqSt × List (Act α) → Prop}
    (hh : ∀ k n t, k ∈ st.p.live → SeqAct items (seqHandler kind st.s k n).1 false t →
      Q (t.1, (seqHandler kind st.s k n).2 ++ t.2))
    (ht : ∀ t, SeqAct items st.s st.p.done t → Q t) : Q (fired m st e) := by
  refine Comb.fired_cases m st e (Q := fun r _ => Q r) (ht _ .idle) (fun k n hk => ?_) ?_
  · obtain ⟨t, h1, h2⟩ := hm.handler st.s k n
    rw [h2]; exact hh k n t hk h1
  · rw [hm.tick]; exact ht _ (seqTick_act ..)

theorem seq_idx_mono (hm : IsSeq kind items m) (st : St SeqSt) (e : Ev α) : st.s.idx ≤ (step m st e).1.s.idx := by
  rw [step_state]
  refine hm.fired_cases st e (fun k n t _ h => ?_) (fun t h => h.idx_le)
  have := h.idx_le; rw [seqHandler_idx] at this; exact this

/-- without unlogged failing sources (`fail`) the index counts exactly the subscriptions -/
theorem seq_subs_step (hm : IsSeq kind items m) (hnf : ∀ j, (items j).isFail = false) (st : St SeqSt) (e : Ev α) :
    (subsOf (step m st e).2 = [] ∧ (step m st e).1.s.idx = st.s.idx) ∨
    (subsOf (step m st e).2 = [st.s.idx] ∧ (step m st e).1.s.idx = st.s.idx + 1 ∧ items st.s.idx = .src) := by
  rw [subsOf_step, step_state]
  refine hm.fired_cases st e (fun k n t _ h => ?_) (fun t h => h.subs (hnf _))
  have := h.subs (hnf _)
  rw [seqHandler_idx] at this
  rwa [actSubs_append, seq_handler_no_sub, List.nil_append]

/-- what the action, followed by `c` (the source's own unsubscribe after a terminal), leaves in a container that held at most
the source yielded last -/
theorem SeqAct.live {s : SeqSt} {d : Bool} {t : SeqSt × List (Act α)} (h : SeqAct items s d t) (c : List (Act α))
    (l : List Nat)
    (hone : (l = [] ∧ c = []) ∨
      (l = [s.idx - 1] ∧ 1 ≤ s.idx ∧ (c = [] ∧ s.pending = false ∨ c = [.unsub (s.idx - 1)])))
    (hT : (actEmits t.2).any Notif.isTerminal = false) :
    liveFold l (t.2 ++ c) = [] ∨ (liveFold l (t.2 ++ c) = [t.1.idx - 1] ∧ 1 ≤ t.1.idx ∧ t.1.pending = false) := by
  cases h with
  | idle =>
    rcases hone with ⟨rfl, rfl⟩ | ⟨rfl, hi, ⟨rfl, hp⟩ | rfl⟩
    · exact Or.inl rfl
    · exact Or.inr ⟨rfl, hi, hp⟩
    · exact Or.inl (by simp)
  | cancelled =>
    rcases hone with ⟨rfl, rfl⟩ | ⟨rfl, hi, ⟨rfl, hp⟩ | rfl⟩
    · exact Or.inl rfl
    · exact Or.inr ⟨rfl, hi, rfl⟩
    · exact Or.inl (by simp)
  | sub s' _ _ _ h1 h2 =>
    -- the previous holder is replaced; its own unsubscribe does not touch the new one
    refine Or.inr ⟨?_, by show 1 ≤ s'.idx; omega, h2⟩
    rcases hone with ⟨rfl, rfl⟩ | ⟨rfl, hi, ⟨rfl, _⟩ | rfl⟩ <;> simp [h1] <;> omega
  | skip s' =>
    left
    rcases hone with ⟨rfl, rfl⟩ | ⟨rfl, hi, ⟨rfl, _⟩ | rfl⟩ <;> simp
  | stop s' x as _ _ hx has =>
    exact absurd hT (by rcases has with rfl | rfl <;> simp [actEmits, hx])

theorem seq_step_inv (hm : IsSeq kind items m) (st : St SeqSt) (e : Ev α) (h : SInv st) : SInv (step m st e).1 := by
  refine ⟨step_WF m st e h.wf, ?_⟩
  by_cases he : e = .dispose
  · subst he; exact Or.inl rfl
  rw [live_step m st e h.wf he, step_state]
  split
  · exact Or.inl rfl
  rename_i hT
  rw [Bool.or_eq_true, not_or, Bool.not_eq_true, Bool.not_eq_true] at hT
  cases e with
  | dispose => exact absurd rfl he
  | tick =>
    have ht := seqTick_act (α := α) kind items st.s st.p.done
    rw [← hm.tick] at ht
    refine ht.live [] st.p.live ?_ hT.2
    rcases h.one with h1 | ⟨h1, h2, h3⟩
    · exact Or.inl ⟨h1, rfl⟩
    · exact Or.inr ⟨h1, h2, Or.inl ⟨rfl, h3⟩⟩
  | src k n =>
    by_cases hk : k ∈ st.p.live
    · rcases h.one with h1 | ⟨h1, h2, h3⟩
      · rw [h1] at hk; cases hk
      have hk' : k = st.s.idx - 1 := by simpa [h1] using hk
      obtain ⟨t, hta, hte⟩ := hm.handler st.s k n
      have hi := seqHandler_idx kind st.s k n
      have hpre : ∀ l, liveFold l (seqHandler kind st.s k n).2 = l := by intro l; cases n <;> cases kind <;> rfl
      have hT' := hT.2
      rw [fired_src _ _ _ _ hk, hte, actEmits_append, List.any_append, Bool.or_eq_false_iff] at hT'
      rw [fired_src _ _ _ _ hk, hte, List.append_assoc, liveFold_append, hpre]
      refine hta.live _ st.p.live (Or.inr ⟨by rw [hi]; exact h1, by rw [hi]; exact h2, ?_⟩) hT'.2
      -- a handler that arms the action has been handed a terminal
      rw [hi, ← hk']
      cases n with
      | next v => exact Or.inl ⟨own_next _ _ _, h3⟩
      | _ => exact Or.inr (by rw [own_src _ _ _ hk]; rfl)
    · rw [fired_src_not_live _ _ _ _ hk, own_src_not_live _ _ _ hk]
      exact h.one

theorem SInv.one_live {st : St SeqSt} (h : SInv st) :
    st.p.live.length ≤ 1 ∧ ∀ k, k ∈ st.p.live → k + 1 = st.s.idx := by
  rcases h.one with h1 | ⟨h1, h2, _⟩
  · simp [h1]
  · refine ⟨by simp [h1], fun k hk => ?_⟩
    have : k = st.s.idx - 1 := by simpa [h1] using hk
    omega

theorem seq_run_out (hm : IsSeq kind items m) (es : List (Ev α)) (st : St SeqSt) (h : st.p.WF) :
    outVals (run m st es) = (accepted m st es).filterMap nextOf := by
  refine outVals_run_filterMap m nextOf (fun s k n => ?_) (fun s d => ?_) es st h
  · obtain ⟨t, hta, hte⟩ := hm.handler s k n
    rw [hte, actEmits_append]
    rcases seqHandler_out kind s k n with ⟨v, rfl, hh⟩ | ⟨hno, hnv⟩
    · rw [hh]; simp [actEmits, cut, Notif.isTerminal, nextVals, nextOf, nextVals_cut_nil _ hta.no_next]
    · rw [hno]; exact nextVals_cut_nil _ (by rw [nextVals_append, hnv, hta.no_next]; rfl)
  · rw [hm.tick]; exact nextVals_cut_nil _ (seqTick_act kind items s d).no_next

theorem concat_completed_step (hm : IsSeq .concat items m) (st : St SeqSt) (e : Ev α)
    (hc : Notif.completed ∈ emits (step m st e).2) : items st.s.idx = .stop := by
  rw [emits_step] at hc
  split at hc
  · cases hc
  · replace hc := mem_of_mem_cut _ _ hc
    revert hc
    refine hm.fired_cases st e (Q := fun r => Notif.completed ∈ actEmits r.2 → _) (fun k n t _ ht hc => ?_)
      (fun t ht hc => ht.completed hc)
    rw [actEmits_append, List.mem_append] at hc
    rw [← seqHandler_idx .concat st.s k n]
    refine ht.completed (hc.resolve_left ?_)
    cases n <;> simp [seqHandler, actEmits]

theorem seq_ids_sorted (hm : IsSeq kind items m) (es : List (Ev α)) (st : St SeqSt) (h : SInv st) :
    ((accepted m st es).map (·.1)).Pairwise (· ≤ ·) := by
  -- what was delivered so far came from sources yielded before `idx`, in order
  have := run_hist m
    (Q := fun acc _ st' => SInv st' ∧ (∀ kn, kn ∈ acc → kn.1 + 1 ≤ st'.s.idx) ∧ (acc.map (·.1)).Pairwise (· ≤ ·))
    (fun acc _ st' e hq => ?_) es [] [] st ⟨h, nofun, List.Pairwise.nil⟩
  · simpa using this.2.2
  · obtain ⟨hi, hle, hs⟩ := hq
    have hmo := seq_idx_mono hm st' e
    -- a delivered notification comes from the live source, the most recently yielded one
    have hone : ∀ kn, kn ∈ accOne st' e → kn.1 + 1 = st'.s.idx := fun kn hkn => hi.one_live.2 _ (mem_accOne hkn)
    refine ⟨seq_step_inv hm st' e hi, fun kn hkn => ?_, ?_⟩
    · rcases List.mem_append.mp hkn with h1 | h1
      · have := hle kn h1; omega
      · have := hone kn h1; omega
    · rw [List.map_append, List.pairwise_append]
      refine ⟨hs, ?_, ?_⟩
      · cases e with
        | src k n => simp only [accOne]; split <;> simp
        | tick => simp [accOne]
        | dispose => simp [accOne]
      · intro a ha b hb
        obtain ⟨kn, hkn, rfl⟩ := List.mem_map.mp ha
        obtain ⟨kn', hkn', rfl⟩ := List.mem_map.mp hb
        have := hle kn hkn; have := hone kn' hkn'; omega

theorem itemsCount_noFail (n : Option Nat) : ∀ j, (itemsCount n j).isFail = false := by
  intro j; cases n <;> simp only [itemsCount] <;> (try split) <;> rfl

theorem seq_run_count (hm : IsSeq kind items m) (hnf : ∀ j, (items j).isFail = false) (es : List (Ev α)) (st : St SeqSt) :
    List.range st.s.idx ++ subsOf (run m st es) = List.range (final m st es).s.idx := by
  refine run_hist m (Q := fun _ effs st' => List.range st.s.idx ++ subsOf effs = List.range st'.s.idx)
    (fun _ effs st' e h => ?_) es [] [] st (List.append_nil _)
  rw [subsOf_append, ← List.append_assoc, h]
  rcases seq_subs_step hm hnf st' e with h1 | h1
  · rw [h1.1, h1.2]; simp
  · rw [h1.1, h1.2.1]; simp [List.range_succ]

theorem seq_idx_le_count {n : Nat} (hm : IsSeq kind (itemsCount (some n)) m) (es : List (Ev α)) (st : St SeqSt)
    (h : st.s.idx ≤ n) : (final m st es).s.idx ≤ n := by
  refine final_inv m (I := fun st => st.s.idx ≤ n) (fun st e h => ?_) es st h
  rcases seq_subs_step hm (itemsCount_noFail _) st e with h1 | h1
  · omega
  · have := h1.2.2
    simp only [itemsCount] at this
    split at this
    · omega
    · cases this

theorem concat_completed_run (hm : IsSeq .concat items m) (es : List (Ev α)) (st : St SeqSt)
    (hc : Notif.completed ∈ emits (run m st es)) : ∃ j, st.s.idx ≤ j ∧ j ≤ (final m st es).s.idx ∧ items j = .stop := by
  -- the index only grows, and a completion that went out was that of a `stop` position passed since the start
  have := run_hist m (Q := fun _ effs st' => st.s.idx ≤ st'.s.idx ∧
      (Notif.completed ∈ emits effs → ∃ j, st.s.idx ≤ j ∧ j ≤ st'.s.idx ∧ items j = .stop))
    (fun _ effs st' e ⟨hle, hq⟩ => ?_) es [] [] st ⟨Nat.le_refl _, nofun⟩
  · exact this.2 (by simpa using hc)
  · have hmo := seq_idx_mono hm st' e
    refine ⟨Nat.le_trans hle hmo, fun hc => ?_⟩
    rw [emits_append, List.mem_append] at hc
    rcases hc with hc | hc
    · obtain ⟨j, h1, h2, h3⟩ := hq hc
      exact ⟨j, h1, Nat.le_trans h2 hmo, h3⟩
    · exact ⟨st'.s.idx, hle, hmo, concat_completed_step hm st' e hc⟩

theorem count_subs_le {n : Nat} (hm : IsSeq kind (itemsCount (some n)) m) (es : List (Ev α)) :
    (final m seqInit es).s.idx ≤ n ∧ subsOf (run m seqInit es) = List.range (final m seqInit es).s.idx := by
  have hcount := seq_run_count hm (itemsCount_noFail _) es seqInit
  rw [show List.range seqInit.s.idx = [] from rfl, List.nil_append] at hcount
  exact ⟨seq_idx_le_count hm es seqInit (Nat.zero_le _), hcount⟩

theorem count_subs_completed {n : Nat} (hm : IsSeq .concat (itemsCount (some n)) m) (es : List (Ev α))
    (hc : Notif.completed ∈ emits (run m seqInit es)) : subsOf (run m seqInit es) = List.range n := by
  obtain ⟨hle, hcount⟩ := count_subs_le hm es
  obtain ⟨j, _, hj2, hj3⟩ := concat_completed_run hm es seqInit hc
  have : n ≤ j := by
    simp only [itemsCount] at hj3
    split at hj3
    · cases hj3
    · omega
  rw [hcount]; exact congrArg List.range (by omega)

theorem catch_completed_stops (hm : IsSeq .catch items m) (pre post : List (Ev α)) (k : Nat)
    (hk : k ∈ (final m seqInit pre).p.live) :
    subsOf (run m seqInit (pre ++ .src k .completed :: post)) = subsOf (run m seqInit pre) ∧
    emits (run m seqInit (pre ++ .src k .completed :: post)) = emits (run m seqInit pre) ++ [.completed] := by
  have hI := final_inv m (seq_step_inv hm) pre _ seq_init_inv
  have h3 : (final m seqInit pre).s.pending = false := by
    rcases hI.one with h1 | ⟨_, _, h3⟩
    · rw [h1] at hk; cases hk
    · exact h3
  -- nothing is pending, so the handler only forwards the completion
  have hh : m.handler (final m seqInit pre).s k .completed = ((final m seqInit pre).s, [Act.emit .completed]) := by
    obtain ⟨t, hta, hte⟩ := hm.handler (final m seqInit pre).s k .completed
    rw [hte]
    cases hta with
    | idle => rfl
    | cancelled hp | sub _ hp | skip _ hp | stop _ _ _ hp => exact absurd (h3 ▸ hp) (by simp)
  obtain ⟨h1, h2⟩ := terminal_ends m seqInit seq_init_inv.wf pre post k .completed hk (by rw [hh]; rfl)
  rw [h1, h2 (fun s => by rw [hm.tick]; exact seqTick_done .catch items s), hh]
  exact ⟨List.append_nil _, rfl⟩

end

structure ChInv (st : St ChSt) : Prop where
  wf : st.p.WF
  one : st.p.live = [] ∨ (st.p.live = [0] ∧ st.s.switched = false) ∨ (st.p.live = [1] ∧ st.s.switched = true)

theorem ch_step_inv {α} (res : Except Err Unit) (st : St ChSt) (e : Ev α) (h : ChInv st) :
    ChInv (step (chM (α := α) res) st e).1 := by
  refine step_inv_static (chM (α := α) res) (fun _ _ => rfl) st e h (fun k n hk => ?_) ⟨fun _ => rfl, Or.inl rfl⟩
  refine ⟨step_WF _ st _ h.wf, ?_⟩
  rw [step_src_live _ _ _ _ h.wf hk, show (chM (α := α) res).handler = chHandler res from rfl]
  -- the live source is 0 before the switch, 1 after it
  have hlive : st.p.live = [k] ∧ (k = 0 ∧ st.s.switched = false ∨ k = 1 ∧ st.s.switched = true) := by
    rcases h.one with h1 | ⟨h1, h2⟩ | ⟨h1, h2⟩ <;> simp_all
  rw [hlive.1]
  fun_cases chHandler res st.s k n
  case case1 ex =>
    exact Or.inl rfl
  case case2 hk0 _ _ => -- the switch
    subst hk0; right; right; simp [actEmits, Notif.isTerminal]
  all_goals
    cases hn : n.isTerminal <;> simp [actEmits, hn]
    simpa using hlive.2

theorem ch_init_inv : ChInv chInit :=
  ⟨by intro h; simp [chInit] at h, Or.inr (Or.inl ⟨rfl, rfl⟩)⟩

end Comb
