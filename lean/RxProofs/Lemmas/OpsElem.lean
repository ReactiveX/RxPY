import RxProofs.Lemmas.Ops
import RxModel.OpsElem
import RxModel.OpsRef
/-!
# Per-operator lemmas: `Op.sem` of every C05 operator equals its reference list semantics

`sem_follows`: handlers that do, from every state, what one unfolding of a reference loop does show the subscriber that
loop.  Most `sem_X` name the loop for every state of the handlers and check the one step; compositions go through `sem_comp`.
-/
namespace Ops
variable {α β κ : Type}

@[simp] theorem cut_toNotifs (e : End) : cut (e.toNotifs : List (Notif β)) = e.toNotifs := by
  cases e <;> rfl

theorem outSeq_cons (y : β) (ys : List β) (e : End) : outSeq (y :: ys) e = .next y :: outSeq ys e := rfl
@[simp] theorem outSeq_nil (e : End) : outSeq ([] : List β) e = e.toNotifs := rfl
theorem outSeq_open (ys : List β) : outSeq ys .open = ys.map .next := List.append_nil _

/-- `cut (a ++ r)` for an `r` that is already cut; by recursion on `a`, so that literal call lists reduce by `rfl` -/
def cutThen : List (Notif β) → List (Notif β) → List (Notif β)
  | [], r => r
  | .next v :: a, r => .next v :: cutThen a r
  | .error e :: _, _ => [.error e]
  | .completed :: _, _ => [.completed]

theorem cut_append_eq_cutThen (a b : List (Notif β)) : cut (a ++ b) = cutThen a (cut b) := by
  induction a with
  | nil => rfl
  | cons n a ih => cases n <;> simp [cutThen, ih]

/-- one handler result followed by what the later inputs show from its new state -/
def HOut.thenCut {σ : Type} (h : HOut σ β) (rest : σ → List (Notif β)) : List (Notif β) :=
  cutThen h.out (if h.disp then [] else rest h.st)

theorem cut_emitsSeq_cons (op : Op α β) (s : op.σ) (x : α) (xs : List α) (e : End) :
    cut (op.emitsSeq s (x :: xs) e) = (op.onNext s x).thenCut (fun st => cut (op.emitsSeq st xs e)) := by
  unfold HOut.thenCut
  rw [Op.emitsSeq, cut_append_eq_cutThen]
  cases (op.onNext s x).disp <;> rfl

theorem cut_emitsSeq_nil (op : Op α β) (hE : op.onError = passErr) (hC : op.onCompleted = passDone)
    (s : op.σ) (e : End) : cut (op.emitsSeq s [] e) = e.toNotifs := by
  cases e <;> simp [Op.emitsSeq, hE, hC, passErr, passDone, End.toNotifs]

/-- `R s` is the reference loop started in the state that corresponds to the handlers' state `s` (finished states
included), `I` an invariant of that state; `hnil`/`hcons` say that the end of the input and one `on_next` do what one
unfolding of `R` does.  For an operator with `pre = []` the conclusion is `op.sem raw = R …` by definition of `cutThen`. -/
theorem sem_follows_inv (op : Op α β) (R : op.σ → List α → End → List (Notif β)) (I : op.σ → Prop)
    (hsub : op.sub = true) (h0 : I op.init) (hI : ∀ s x, I s → I (op.onNext s x).st)
    (hnil : ∀ s e, I s → cut (op.emitsSeq s [] e) = R s [] e)
    (hcons : ∀ s x xs e, I s → (op.onNext s x).thenCut (fun st => R st xs e) = R s (x :: xs) e)
    (raw : List (Notif α)) : op.sem raw = cutThen op.pre (R op.init (elems raw) (fin raw)) := by
  have key : ∀ xs s, I s → cut (op.emitsSeq s xs (fin raw)) = R s xs (fin raw) := by
    intro xs
    induction xs with
    | nil => exact fun s hs => hnil s _ hs
    | cons x xs ih =>
      intro s hs
      rw [cut_emitsSeq_cons, ← hcons s x xs _ hs]
      simp only [HOut.thenCut, ih _ (hI s x hs)]
  rw [sem_eq_seq, hsub, if_pos rfl, cut_append_eq_cutThen, key _ _ h0]

theorem sem_follows (op : Op α β) (R : op.σ → List α → End → List (Notif β)) (hsub : op.sub = true)
    (hnil : ∀ s e, cut (op.emitsSeq s [] e) = R s [] e)
    (hcons : ∀ s x xs e, (op.onNext s x).thenCut (fun st => R st xs e) = R s (x :: xs) e)
    (raw : List (Notif α)) : op.sem raw = cutThen op.pre (R op.init (elems raw) (fin raw)) :=
  sem_follows_inv op R (fun _ => True) hsub trivial (fun _ _ _ => trivial) (fun s e _ => hnil s e)
    (fun s x xs e _ => hcons s x xs e) raw

/-- the identity stage: `pipe()` of nothing, or the observer added by a trailing `.subscribe(obv)` -/
theorem sem_idOp (raw : List (Notif α)) : (idOp (α := α)).sem raw = outSeq (elems raw) (fin raw) :=
  sem_follows idOp (fun _ => outSeq) rfl (cut_emitsSeq_nil _ rfl rfl) (fun _ _ _ _ => rfl) raw

theorem sem_map (f : α → Except Err β) (raw : List (Notif α)) :
    (mapOp f).sem raw = refMap f (elems raw) (fin raw) :=
  sem_follows (mapOp f) (fun _ => refMap f) rfl (cut_emitsSeq_nil _ rfl rfl) (fun s x xs e => by
    simp only [mapOp, refMap]
    cases f x <;> rfl) raw

theorem sem_filter (p : α → Except Err Bool) (raw : List (Notif α)) :
    (filterOp p).sem raw = refFilter p (elems raw) (fin raw) :=
  sem_follows (filterOp p) (fun _ => refFilter p) rfl (cut_emitsSeq_nil _ rfl rfl) (fun s x xs e => by
    simp only [filterOp, refFilter]
    cases p x with
    | error er => rfl
    | ok b => cases b <;> rfl) raw

theorem sem_filterIndexed (p : α → Nat → Except Err Bool) (raw : List (Notif α)) :
    (filterIndexedOp (some p)).sem raw = refFilterIdx p 0 (elems raw) (fin raw) :=
  sem_follows (filterIndexedOp (some p)) (refFilterIdx p) rfl (cut_emitsSeq_nil _ rfl rfl) (fun i x xs e => by
    simp only [filterIndexedOp, refFilterIdx]
    cases p x i with
    | error er => rfl
    | ok b => cases b <;> rfl) raw

theorem sem_filterIndexed_none (raw : List (Notif α)) :
    (filterIndexedOp (α := α) none).sem raw = outSeq (elems raw) (fin raw) :=
  sem_follows (filterIndexedOp none) (fun _ => outSeq) rfl (cut_emitsSeq_nil _ rfl rfl) (fun _ _ _ _ => rfl) raw

theorem sem_take (n : Nat) (raw : List (Notif α)) :
    (takeOp n).sem raw = outSeq ((elems raw).take n) (if n ≤ (elems raw).length then .completed else fin raw) := by
  cases n with
  | zero => simp [takeOp, Op.sem, emptyOp, End.toNotifs]
  | succ n =>
    exact sem_follows (takePosOp (n + 1))
      (fun (rem : Nat) xs e =>
        if rem = 0 then e.toNotifs else outSeq (xs.take rem) (if rem ≤ xs.length then .completed else e))
      rfl (fun rem e => by cases rem <;> exact cut_emitsSeq_nil _ rfl rfl _ e)
      (fun rem x xs e => by
        rcases rem with _ | _ | k
        · rfl
        · rfl
        · simp [takePosOp, HOut.thenCut, emit, cutThen, outSeq_cons]) raw

theorem sem_skip (n : Nat) (raw : List (Notif α)) :
    (skipOp n).sem raw = outSeq ((elems raw).drop n) (fin raw) :=
  sem_follows (skipOp n) (fun (rem : Nat) xs e => outSeq (xs.drop rem) e) rfl
    (fun (rem : Nat) e => (cut_emitsSeq_nil (skipOp n) rfl rfl rem e).trans (by rw [List.drop_nil]; rfl))
    (fun rem _ _ _ => by cases rem <;> rfl) raw

/-- once `running` is false the loop is over: only the end of the input still shows -/
theorem sem_takeWhile (p : α → Except Err Bool) (incl : Bool) (raw : List (Notif α)) :
    (takeWhileOp p incl).sem raw = refTakeWhile p incl (elems raw) (fin raw) :=
  sem_follows (takeWhileOp p incl)
    (fun (running : Bool) => if running then refTakeWhile p incl else fun _ e => e.toNotifs) rfl
    (fun running e => by cases running <;> exact cut_emitsSeq_nil _ rfl rfl _ e)
    (fun running x xs e => by
      cases running
      · rfl
      · simp only [takeWhileOp, refTakeWhile, Bool.not_true, Bool.false_eq_true, if_false, if_true]
        cases p x with
        | error er => rfl
        | ok b => cases b <;> cases incl <;> rfl) raw

theorem sem_takeWhileIndexed (p : α → Nat → Except Err Bool) (incl : Bool) (raw : List (Notif α)) :
    (takeWhileIndexedOp p incl).sem raw = refTakeWhileIdx p incl 0 (elems raw) (fin raw) :=
  sem_follows (takeWhileIndexedOp p incl)
    (fun (s : Bool × Nat) => if s.1 then refTakeWhileIdx p incl s.2 else fun _ e => e.toNotifs) rfl
    (fun s e => by obtain ⟨running, i⟩ := s; cases running <;> exact cut_emitsSeq_nil _ rfl rfl _ e)
    (fun s x xs e => by
      obtain ⟨running, i⟩ := s
      cases running
      · rfl
      · simp only [takeWhileIndexedOp, refTakeWhileIdx, Bool.not_true, Bool.false_eq_true, if_false, if_true]
        cases p x i with
        | error er => rfl
        | ok b => cases b <;> cases incl <;> rfl) raw

theorem sem_skipWhile (p : α → Except Err Bool) (raw : List (Notif α)) :
    (skipWhileOp p).sem raw = refSkipWhile p (elems raw) (fin raw) :=
  sem_follows (skipWhileOp p) (fun (running : Bool) => if running then outSeq else refSkipWhile p) rfl
    (fun running e => by cases running <;> exact cut_emitsSeq_nil _ rfl rfl _ e)
    (fun running x xs e => by
      cases running
      · simp only [skipWhileOp, refSkipWhile, Bool.not_false, Bool.false_eq_true, if_false, if_true]
        cases p x with
        | error er => rfl
        | ok b => cases b <;> rfl
      · rfl) raw

theorem sem_zipIdx (raw : List (Notif α)) :
    (zipWithIterableOp (α := α) (fun i => some i)).sem raw = outSeq ((elems raw).zipIdx 0) (fin raw) :=
  sem_follows (zipWithIterableOp fun i => some i) (fun (i : Nat) xs e => outSeq (xs.zipIdx i) e) rfl
    (cut_emitsSeq_nil _ rfl rfl) (fun _ _ _ _ => rfl) raw

theorem refMap_pure (g : α → β) (xs : List α) (e : End) :
    refMap (fun x => .ok (g x)) xs e = outSeq (xs.map g) e := by
  induction xs with
  | nil => rfl
  | cons x xs ih => simp [refMap, ih, outSeq_cons]

theorem refMapIdx_pure (g : α → Nat → β) (i : Nat) (xs : List α) (e : End) :
    refMapIdx (fun x i => .ok (g x i)) i xs e = outSeq ((xs.zipIdx i).map (fun t => g t.1 t.2)) e := by
  induction xs generalizing i with
  | nil => rfl
  | cons x xs ih => simp [refMapIdx, ih, outSeq_cons]

theorem refMap_zipIdx (f : α → Nat → Except Err β) (i : Nat) (xs : List α) (e : End) :
    refMap (fun t : α × Nat => f t.1 t.2) (xs.zipIdx i) e = refMapIdx f i xs e := by
  induction xs generalizing i with
  | nil => rfl
  | cons x xs ih => simp only [List.zipIdx_cons, refMap, refMapIdx]; cases f x i <;> simp [ih]

theorem cut_refMapIdx (f : α → Nat → Except Err β) (i : Nat) (xs : List α) (e : End) :
    cut (refMapIdx f i xs e) = refMapIdx f i xs e := by
  induction xs generalizing i with
  | nil => simp [refMapIdx]
  | cons x xs ih => simp only [refMapIdx]; cases f x i <;> simp [ih]

theorem sem_mapIndexed (f : α → Nat → Except Err β) (raw : List (Notif α)) :
    (mapIndexedOp f).sem raw = refMapIdx f 0 (elems raw) (fin raw) := by
  rw [mapIndexedOp, sem_comp, sem_comp, sem_map, sem_zipIdx, sem_idOp, ← cut_eq_outSeq]
  simp only [elems_outSeq, fin_outSeq, refMap_zipIdx]
  exact cut_refMapIdx f 0 _ _

theorem refSkipWhile_zipIdx (p : α → Nat → Except Err Bool) (i : Nat) (xs : List α) (e : End) :
    refMap (fun t : α × Nat => Except.ok t.1)
        (elems (refSkipWhile (fun t : α × Nat => p t.1 t.2) (xs.zipIdx i) e))
        (fin (refSkipWhile (fun t : α × Nat => p t.1 t.2) (xs.zipIdx i) e))
      = refSkipWhileIdx p i xs e := by
  induction xs generalizing i with
  | nil => simp [refSkipWhile, refSkipWhileIdx, refMap]
  | cons x xs ih =>
    simp only [List.zipIdx_cons, refSkipWhile, refSkipWhileIdx]
    cases h : p x i with
    | error er => simp [refMap, End.toNotifs]
    | ok b =>
      cases b
      · simp only [Bool.false_eq_true, if_false, elems_outSeq, fin_outSeq]
        rw [← List.zipIdx_cons, refMap_pure Prod.fst, List.zipIdx_map_fst]
      · simpa using ih (i + 1)

theorem sem_skipWhileIndexed (p : α → Nat → Except Err Bool) (raw : List (Notif α)) :
    (skipWhileIndexedOp p).sem raw = refSkipWhileIdx p 0 (elems raw) (fin raw) := by
  rw [skipWhileIndexedOp, sem_comp, sem_comp, sem_map, sem_skipWhile, sem_mapIndexed, refMapIdx_pure fun x i => (x, i)]
  simp [refSkipWhile_zipIdx]

/-- the model's `findMatch` and the reference's `anyMatch` are the same recursion, declared once on each side -/
theorem findMatch_eq_anyMatch (cmp : κ → κ → Except Err Bool) (k : κ) (seen : List κ) :
    findMatch cmp k seen = anyMatch cmp k seen := by
  induction seen with
  | nil => rfl
  | cons a rest ih =>
    cases h : cmp a k with
    | error er => simp [findMatch, anyMatch, h]
    | ok b => cases b <;> simp [findMatch, anyMatch, h, ih]

theorem sem_distinct (key : α → Except Err κ) (cmp : κ → κ → Except Err Bool) (raw : List (Notif α)) :
    (distinctOp key cmp).sem raw = refDistinct key cmp [] (elems raw) (fin raw) :=
  sem_follows (distinctOp key cmp) (refDistinct key cmp) rfl (cut_emitsSeq_nil _ rfl rfl)
    (fun (seen : List κ) x xs e => by
      simp only [distinctOp, refDistinct]
      cases key x with
      | error er => rfl
      | ok k =>
        simp only [findMatch_eq_anyMatch]
        cases anyMatch cmp k seen with
        | error er => rfl
        | ok b => cases b <;> rfl) raw

theorem sem_duc (key : α → Except Err κ) (cmp : κ → κ → Except Err Bool) (raw : List (Notif α)) :
    (distinctUntilChangedOp key cmp).sem raw = refDUC key cmp none (elems raw) (fin raw) :=
  sem_follows (distinctUntilChangedOp key cmp) (refDUC key cmp) rfl (cut_emitsSeq_nil _ rfl rfl)
    (fun cur x xs e => by
      simp only [distinctUntilChangedOp, refDUC]
      cases key x with
      | error er => rfl
      | ok k =>
        cases cur with
        | none => rfl
        | some c =>
          simp only
          cases cmp c k with
          | error er => rfl
          | ok eq => cases eq <;> rfl) raw

theorem sem_pairwise (raw : List (Notif α)) :
    (pairwiseOp (α := α)).sem raw = outSeq ((elems raw).zip (elems raw).tail) (fin raw) :=
  sem_follows pairwiseOp
    (fun (prev : Option α) xs e => outSeq (match prev with | none => xs.zip xs.tail | some p => (p :: xs).zip xs) e)
    rfl (fun prev e => by cases prev <;> exact cut_emitsSeq_nil _ rfl rfl _ e)
    (fun prev _ _ _ => by cases prev <;> rfl) raw

theorem sem_startWith (args : List α) (raw : List (Notif α)) :
    (startWithOp args).sem raw = outSeq (args ++ elems raw) (fin raw) := by
  rw [sem_follows (startWithOp args) (fun _ => outSeq) rfl (cut_emitsSeq_nil _ rfl rfl) (fun _ _ _ _ => rfl) raw,
    ← cut_outSeq (elems raw), ← cut_append_eq_cutThen]
  show cut (args.map Notif.next ++ outSeq (elems raw) (fin raw)) = _
  rw [cut_map_next_append, cut_outSeq]; simp [outSeq]

theorem sem_defaultIfEmpty (d : α) (raw : List (Notif α)) :
    (defaultIfEmptyOp d).sem raw
      = outSeq (if (elems raw).isEmpty = true ∧ fin raw = .completed then [d] else elems raw) (fin raw) :=
  sem_follows (defaultIfEmptyOp d)
    (fun (found : Bool) xs e =>
      if found then outSeq xs e else outSeq (if xs.isEmpty = true ∧ e = .completed then [d] else xs) e)
    rfl (fun found e => by cases found <;> cases e <;> rfl) (fun found _ _ _ => by cases found <;> rfl) raw

theorem sem_ignoreElements (raw : List (Notif α)) :
    (ignoreElementsOp (α := α)).sem raw = outSeq [] (fin raw) :=
  sem_follows ignoreElementsOp (fun _ _ e => outSeq [] e) rfl (cut_emitsSeq_nil _ rfl rfl) (fun _ _ _ _ => rfl) raw

theorem lastN_of_length_le (n : Nat) (a : List α) (h : a.length ≤ n) : lastN n a = a := by
  unfold lastN; rw [Nat.sub_eq_zero_of_le h]; rfl

theorem lastN_cons_of_le (n : Nat) (x : α) (a : List α) (h : n ≤ a.length) : lastN n (x :: a) = lastN n a := by
  unfold lastN; rw [List.length_cons, Nat.succ_sub h]; rfl

theorem butLastN_of_length_le (n : Nat) (a : List α) (h : a.length ≤ n) : butLastN n a = [] := by
  unfold butLastN; rw [Nat.sub_eq_zero_of_le h]; rfl

theorem butLastN_cons_of_le (n : Nat) (x : α) (a : List α) (h : n ≤ a.length) :
    butLastN n (x :: a) = x :: butLastN n a := by
  unfold butLastN; rw [List.length_cons, Nat.succ_sub h]; rfl

theorem butLastN_take (n : Nat) (xs : List α) (k : Nat) (hk : k ≤ xs.length) :
    butLastN n (xs.take k) = xs.take (k - n) := by
  unfold butLastN
  rw [List.length_take_of_le hk, List.take_take, Nat.min_eq_left (Nat.sub_le k n)]

theorem lastN_map (f : α → β) (k : Nat) (zs : List α) : lastN k (zs.map f) = (lastN k zs).map f := by
  simp [lastN, List.map_drop]

theorem butLastN_map (f : α → β) (k : Nat) (zs : List α) : butLastN k (zs.map f) = (butLastN k zs).map f := by
  simp [butLastN, List.map_take]

/-! invariant of the three queue operators: the queue never holds more than `count` elements -/

theorem queue_full (q : List α) (x : α) (count : Int) (h : q.length ≤ count.toNat)
    (hlen : ((q ++ [x]).length : Int) > count) :
    ∃ front rest, q ++ [x] = front :: rest ∧ rest.length = count.toNat := by
  cases hq : q ++ [x] with
  | nil => simp at hq
  | cons front rest =>
    refine ⟨front, rest, rfl, ?_⟩
    have hl : (q ++ [x]).length = rest.length + 1 := by rw [hq]; rfl
    simp only [List.length_append, List.length_singleton] at hl hlen; omega

theorem pushBounded_spec (q : List α) (x : α) (count : Int) (h : q.length ≤ count.toNat) :
    (pushBounded q x count).length ≤ count.toNat ∧
    ∀ xs, lastN count.toNat (pushBounded q x count ++ xs) = lastN count.toNat (q ++ x :: xs) := by
  unfold pushBounded
  split
  · rename_i hlen
    obtain ⟨front, rest, hq, hr⟩ := queue_full q x count h hlen
    rw [hq]
    refine ⟨Nat.le_of_eq hr, fun xs => ?_⟩
    rw [show q ++ x :: xs = (q ++ [x]) ++ xs by simp, hq]
    exact (lastN_cons_of_le _ _ _ (by simp [hr])).symm
  · rename_i hlen
    refine ⟨by simp only [List.length_append, List.length_singleton] at hlen ⊢; omega, fun xs => by simp⟩

theorem sem_takeLast (count : Int) (raw : List (Notif α)) :
    (takeLastOp count).sem raw
      = outSeq (if fin raw = .completed then lastN count.toNat (elems raw) else []) (fin raw) :=
  sem_follows_inv (takeLastOp count)
    (fun (q : List α) xs e => outSeq (if e = .completed then lastN count.toNat (q ++ xs) else []) e)
    (fun (q : List α) => q.length ≤ count.toNat) rfl (Nat.zero_le _)
    (fun (q : List α) x h => (pushBounded_spec q x count h).1)
    (fun (q : List α) e h => by
      cases e <;> simp [Op.emitsSeq, takeLastOp, passErr, emit, End.toNotifs, outSeq, cut_map_next_append,
        lastN_of_length_le _ _ h])
    (fun (q : List α) x xs e h => by
      show outSeq (if e = .completed then lastN count.toNat (pushBounded q x count ++ xs) else []) e = _
      rw [(pushBounded_spec q x count h).2]) raw

theorem sem_takeLastBuffer (count : Int) (raw : List (Notif α)) :
    (takeLastBufferOp count).sem raw
      = outSeq (if fin raw = .completed then [lastN count.toNat (elems raw)] else []) (fin raw) :=
  sem_follows_inv (takeLastBufferOp count)
    (fun (q : List α) xs e => outSeq (if e = .completed then [lastN count.toNat (q ++ xs)] else []) e)
    (fun (q : List α) => q.length ≤ count.toNat) rfl (Nat.zero_le _)
    (fun (q : List α) x h => (pushBounded_spec q x count h).1)
    (fun (q : List α) e h => by
      cases e <;> simp [Op.emitsSeq, takeLastBufferOp, passErr, emit, End.toNotifs, outSeq, lastN_of_length_le _ _ h])
    (fun (q : List α) x xs e h => by
      show outSeq (if e = .completed then [lastN count.toNat (pushBounded q x count ++ xs)] else []) e = _
      rw [(pushBounded_spec q x count h).2]) raw

theorem skipLast_onNext (count : Int) (q : List α) (x : α) (h : q.length ≤ count.toNat) :
    (∃ front rest, q ++ [x] = front :: rest ∧ rest.length = count.toNat ∧
        (skipLastOp count).onNext q x = emit rest [.next front]) ∨
    ((q ++ [x]).length ≤ count.toNat ∧ (skipLastOp count).onNext q x = emit (q ++ [x]) []) := by
  by_cases hlen : ((q ++ [x]).length : Int) > count
  · obtain ⟨front, rest, hq, hr⟩ := queue_full q x count h hlen
    refine .inl ⟨front, rest, hq, hr, ?_⟩
    rw [hq] at hlen
    simp only [skipLastOp, hq, if_pos hlen]
  · exact .inr ⟨by simp only [List.length_append, List.length_singleton] at hlen ⊢; omega,
      by simp only [skipLastOp, if_neg hlen]⟩

theorem sem_skipLast (count : Int) (raw : List (Notif α)) :
    (skipLastOp count).sem raw = outSeq (butLastN count.toNat (elems raw)) (fin raw) :=
  sem_follows_inv (skipLastOp count) (fun (q : List α) xs e => outSeq (butLastN count.toNat (q ++ xs)) e)
    (fun (q : List α) => q.length ≤ count.toNat) rfl (Nat.zero_le _)
    (fun (q : List α) x h => by
      rcases skipLast_onNext count q x h with ⟨_, _, _, hr, hn⟩ | ⟨hl, hn⟩ <;> rw [hn]
      · exact Nat.le_of_eq hr
      · exact hl)
    (fun (q : List α) e h => (cut_emitsSeq_nil (skipLastOp count) rfl rfl q e).trans (by
      rw [List.append_nil, butLastN_of_length_le _ _ h]; rfl))
    (fun (q : List α) x xs e h => by
      rcases skipLast_onNext count q x h with ⟨front, rest, hq, hr, hn⟩ | ⟨_, hn⟩ <;> rw [hn]
      · show Notif.next front :: outSeq (butLastN count.toNat (rest ++ xs)) e = _
        rw [show q ++ x :: xs = (q ++ [x]) ++ xs by simp, hq, List.cons_append,
          butLastN_cons_of_le _ _ _ (by simp [hr]), outSeq_cons]
      · show outSeq (butLastN count.toNat (q ++ [x] ++ xs)) e = _
        rw [List.append_assoc]; rfl) raw

/-- own induction, not `sem_follows`: the state is an `Int` counted down through zero to `-1`, and a loop indexed by it
needs integer arithmetic at every step -/
theorem emitsSeq_elementAt (index : Nat) (dflt : Option α) (i : Nat) (xs : List α) (e : End) :
    cut ((elementAtOrDefaultOp index dflt).emitsSeq (i : Int) xs e) = refElementAt i dflt xs e := by
  induction xs generalizing i with
  | nil =>
    cases e <;> cases dflt <;>
      simp [Op.emitsSeq, elementAtOrDefaultOp, refElementAt, passErr, emit, End.toNotifs]
  | cons x xs ih =>
    cases i with
    | zero => simp [Op.emitsSeq, elementAtOrDefaultOp, refElementAt, emit]
    | succ k =>
      have := ih k
      have hpos : ((k + 1 : Nat) : Int) > 0 := by omega
      have hsub : ((k + 1 : Nat) : Int) - 1 = (k : Int) := by omega
      simp only [Op.emitsSeq, elementAtOrDefaultOp, emit, hpos, if_true, hsub, List.nil_append,
        Bool.false_eq_true, if_false] at this ⊢
      simpa [refElementAt] using this

theorem sem_elementAt (index : Nat) (dflt : Option α) (raw : List (Notif α)) :
    (elementAtOrDefaultOp index dflt).sem raw = refElementAt index dflt (elems raw) (fin raw) :=
  (sem_eq_seq _ raw).trans (emitsSeq_elementAt _ _ _ _ _)

theorem sem_find (p : α → Nat → Except Err Bool) (yes : α → Nat → β) (no : β) (raw : List (Notif α)) :
    (findValueOp p yes no).sem raw = refFind p yes no 0 (elems raw) (fin raw) :=
  sem_follows (findValueOp p yes no)
    (fun (s : Nat × Bool) => if s.2 then fun _ e => notFound no e else refFind p yes no s.1) rfl
    (fun s e => by obtain ⟨i, found⟩ := s; cases found <;> cases e <;> rfl)
    (fun s x xs e => by
      obtain ⟨i, found⟩ := s
      cases found
      · simp only [findValueOp, refFind, Bool.false_eq_true, if_false]
        cases p x i with
        | error er => rfl
        | ok b => cases b <;> rfl
      · rfl) raw

theorem sem_materialize (raw : List (Notif α)) :
    (materializeOp (α := α)).sem raw = refMaterialize (elems raw) (fin raw) :=
  sem_follows materializeOp (fun _ => refMaterialize) rfl (fun _ e => by cases e <;> rfl) (fun _ _ _ _ => rfl) raw

theorem sem_dematerialize (raw : List (Notif (Notif α))) :
    (dematerializeOp (α := α)).sem raw = cut (elems raw ++ (fin raw).toNotifs) :=
  sem_follows dematerializeOp (fun _ ns e => cut (ns ++ e.toNotifs)) rfl
    (fun s e => (cut_emitsSeq_nil dematerializeOp rfl rfl s e).trans (cut_toNotifs e).symm)
    (fun _ n _ _ => by cases n <;> rfl) raw

theorem elems_refMaterialize (xs : List α) (e : End) :
    elems (refMaterialize xs e) ++ (fin (refMaterialize xs e)).toNotifs
      = outSeq xs e ++ (match e with | .open => [] | _ => [.completed]) := by
  induction xs with
  | nil => cases e <;> simp [refMaterialize, End.toNotifs]
  | cons x xs ih =>
    simp only [refMaterialize, List.map_cons, List.cons_append, elems, fin, outSeq_cons] at ih ⊢
    rw [ih]

@[simp] theorem elems_map_next (xs : List α) : elems (xs.map Notif.next) = xs := by
  have := elems_outSeq xs .open; simpa [outSeq, End.toNotifs] using this
@[simp] theorem fin_map_next (xs : List α) : fin (xs.map Notif.next) = .open := by
  have := fin_outSeq xs .open; simpa [outSeq, End.toNotifs] using this

theorem sem_dematerialize_materialize (raw : List (Notif α)) :
    ((materializeOp (α := α)).comp dematerializeOp).sem raw = cut raw := by
  rw [sem_comp, sem_dematerialize, sem_materialize, elems_refMaterialize, cut_eq_outSeq raw]
  generalize fin raw = e; generalize elems raw = xs
  cases e <;> simp [outSeq, cut_map_next_append, End.toNotifs, cut_of_no_terminal]

theorem sem_scanSeed (f : β → α → Except Err β) (seed : β) (raw : List (Notif α)) :
    (scanSeedOp f seed).sem raw = refScan f seed (elems raw) (fin raw) :=
  sem_follows (scanSeedOp f seed) (fun acc => refScan f (acc.getD seed)) rfl (cut_emitsSeq_nil _ rfl rfl)
    (fun acc x xs e => by
      simp only [scanSeedOp, refScan]
      cases f (acc.getD seed) x <;> rfl) raw

theorem refFilter_pure (q : α → Bool) (xs : List α) (e : End) :
    refFilter (fun x => .ok (q x)) xs e = outSeq (xs.filter q) e := by
  induction xs with
  | nil => rfl
  | cons x xs ih => cases h : q x <;> simp [refFilter, ih, h, outSeq_cons]

theorem refFilterIdx_pure (q : α → Nat → Bool) (i : Nat) (xs : List α) (e : End) :
    refFilterIdx (fun x i => .ok (q x i)) i xs e
      = outSeq (((xs.zipIdx i).filter (fun t => q t.1 t.2)).map (·.1)) e := by
  induction xs generalizing i with
  | nil => rfl
  | cons x xs ih => cases h : q x i <;> simp [refFilterIdx, ih, h, outSeq_cons]

theorem refTakeWhile_pure (q : α → Bool) (incl : Bool) (xs : List α) (e : End) :
    refTakeWhile (fun x => .ok (q x)) incl xs e
      = outSeq (xs.takeWhile q ++ (if incl then (xs.dropWhile q).take 1 else []))
          (if xs.all q then e else .completed) := by
  induction xs with
  | nil => cases incl <;> simp [refTakeWhile]
  | cons x xs ih =>
    cases h : q x
    · cases incl <;> simp [refTakeWhile, h, outSeq, End.toNotifs]
    · simp [refTakeWhile, ih, h, outSeq_cons]

theorem refTakeWhileIdx_pure (q : α → Nat → Bool) (incl : Bool) (i : Nat) (xs : List α) (e : End) :
    refTakeWhileIdx (fun x i => .ok (q x i)) incl i xs e
      = outSeq (((xs.zipIdx i).takeWhile (fun t => q t.1 t.2) ++
            (if incl then ((xs.zipIdx i).dropWhile (fun t => q t.1 t.2)).take 1 else [])).map (·.1))
          (if (xs.zipIdx i).all (fun t => q t.1 t.2) then e else .completed) := by
  induction xs generalizing i with
  | nil => cases incl <;> simp [refTakeWhileIdx]
  | cons x xs ih =>
    cases h : q x i
    · cases incl <;> simp [refTakeWhileIdx, h, outSeq, End.toNotifs]
    · have hall : ((x :: xs).zipIdx i).all (fun t => q t.1 t.2)
          = (xs.zipIdx (i + 1)).all (fun t => q t.1 t.2) := by simp [h]
      rw [hall]; simp [refTakeWhileIdx, ih, h, outSeq_cons]

theorem refSkipWhile_pure (q : α → Bool) (xs : List α) (e : End) :
    refSkipWhile (fun x => .ok (q x)) xs e = outSeq (xs.dropWhile q) e := by
  induction xs with
  | nil => rfl
  | cons x xs ih => cases h : q x <;> simp [refSkipWhile, ih, h]

theorem refSkipWhileIdx_pure (q : α → Nat → Bool) (i : Nat) (xs : List α) (e : End) :
    refSkipWhileIdx (fun x i => .ok (q x i)) i xs e
      = outSeq (((xs.zipIdx i).dropWhile (fun t => q t.1 t.2)).map (·.1)) e := by
  induction xs generalizing i with
  | nil => rfl
  | cons x xs ih =>
    cases h : q x i
    · have : ((xs.zipIdx (i + 1)).map (·.1)) = xs := by simp
      simp [refSkipWhileIdx, h, this]
    · simp [refSkipWhileIdx, ih, h]

theorem anyMatch_pure (c : κ → κ → Bool) (k : κ) (seen : List κ) :
    anyMatch (fun a b => .ok (c a b)) k seen = .ok (seen.any (fun a => c a k)) := by
  induction seen with
  | nil => rfl
  | cons a rest ih => cases h : c a k <;> simp [anyMatch, h, ih]

theorem refDistinct_loop (g : α → κ) (cmp : κ → κ → Bool) (xs bs : List α) (e : End) :
    outSeq (List.eraseDupsBy.loop (fun new old => cmp (g old) (g new)) xs bs) e
      = bs.reverse.map Notif.next ++
          refDistinct (fun x => .ok (g x)) (fun a b => .ok (cmp a b)) (bs.reverse.map g) xs e := by
  induction xs generalizing bs with
  | nil => simp [List.eraseDupsBy.loop, refDistinct, outSeq]
  | cons x xs ih =>
    have hany : ((bs.reverse.map g).any fun a => cmp a (g x)) = bs.any (fun old => cmp (g old) (g x)) := by
      simp [List.any_map, List.any_reverse, Function.comp_def]
    simp only [List.eraseDupsBy.loop, refDistinct, anyMatch_pure, hany]
    cases h : bs.any (fun old => cmp (g old) (g x))
    · simp only []
      rw [ih (x :: bs)]; simp
    · simp only []; rw [ih bs]

theorem refDistinct_pure (g : α → κ) (cmp : κ → κ → Bool) (xs : List α) (e : End) :
    refDistinct (fun x => .ok (g x)) (fun a b => .ok (cmp a b)) [] xs e
      = outSeq (xs.eraseDupsBy (fun new old => cmp (g old) (g new))) e := by
  have := refDistinct_loop g cmp xs [] e
  simpa [List.eraseDupsBy] using this.symm

theorem refDUC_loop (g : α → κ) (cmp : κ → κ → Bool) (a : α) (xs acc : List α) (e : End) :
    outSeq (List.eraseRepsBy.loop (fun x y => cmp (g x) (g y)) a xs acc) e
      = (acc.reverse ++ [a]).map Notif.next ++
          refDUC (fun x => .ok (g x)) (fun c k => .ok (cmp c k)) (some (g a)) xs e := by
  induction xs generalizing a acc with
  | nil => simp [List.eraseRepsBy.loop, refDUC, outSeq]
  | cons x xs ih =>
    simp only [List.eraseRepsBy.loop, refDUC]
    cases h : cmp (g a) (g x)
    · simp only [Bool.false_eq_true, if_false]; rw [ih x (a :: acc)]; simp
    · simp only [if_true]; rw [ih a acc]

theorem refDUC_pure (g : α → κ) (cmp : κ → κ → Bool) (xs : List α) (e : End) :
    refDUC (fun x => .ok (g x)) (fun c k => .ok (cmp c k)) none xs e
      = outSeq (xs.eraseRepsBy (fun x y => cmp (g x) (g y))) e := by
  cases xs with
  | nil => rfl
  | cons x xs =>
    have := refDUC_loop g cmp x xs [] e
    simp only [List.eraseRepsBy, refDUC]
    rw [this]; simp

theorem refFind_pure (q : α → Nat → Bool) (yes : α → Nat → β) (no : β) (i : Nat) (xs : List α) (e : End) :
    refFind (fun x i => .ok (q x i)) yes no i xs e
      = match (xs.zipIdx i).find? (fun t => q t.1 t.2) with
        | some t => [.next (yes t.1 t.2), .completed]
        | none => notFound no e := by
  induction xs generalizing i with
  | nil => cases e <;> simp [refFind, notFound]
  | cons x xs ih => cases h : q x i <;> simp [refFind, ih, h]

end Ops
