import RxProofs.Lemmas.C02WinGrp
import RxProofs.Lemmas.WinGrpRouting
/-!
# When the source subscription of `group_by_until` is closed; what a group subscriber that outlives the outer subscription
still receives
-/
namespace WinGrp
variable {α κ β : Type}

theorem source_released_iff (cfg : Cfg α κ β) (hrefl : ∀ k, cfg.keyEq k k = true) (evs : List (Ev α)) :
    let s := run cfg (init : St κ β) evs
    s.srcOpen = false ↔
      (s.srcDone = true ∨ s.failed = true ∨ (s.outStopped = true ∧ ∀ r ∈ s.groups, r.holdsRef = false)) := by
  intro s
  have hi := reached hrefl (cfg := cfg) (β := β) evs
  have hf := hi.flags
  have hr1 := hi.r1
  constructor
  · intro ho
    rcases hf.closed_why ho with h1 | h1
    · exact Or.inl h1
    · right; right
      have hp := hi.wf.rc.disp_prim h1
      refine ⟨hf.prim_out hp, ?_⟩
      intro r hr
      exact hi.wf.nr h1 r hr
  · rintro (h1 | h1 | ⟨h1, h2⟩)
    · exact hf.done_closed h1
    · exact (hr1 (hf.failed_disposed h1)).1
    · exact (terminal_releases_all cfg hrefl evs h1 h2).1

theorem source_kept_while_holder (cfg : Cfg α κ β) (hrefl : ∀ k, cfg.keyEq k k = true) (evs : List (Ev α)) (r : Grp κ β) :
    let s := run cfg (init : St κ β) evs
    s.srcDone = false → s.failed = false → r ∈ s.groups → r.holdsRef = true → s.srcOpen = true := by
  intro s hd hf hr hh
  cases ho : s.srcOpen with
  | true => rfl
  | false =>
    rcases (source_released_iff cfg hrefl evs).mp ho with h | h | ⟨_, h⟩
    · rw [hd] at h; cases h
    · rw [hf] at h; cases h
    · rw [h r hr] at hh; cases hh

theorem source_released_with_last_holder (cfg : Cfg α κ β) (hrefl : ∀ k, cfg.keyEq k k = true) (evs : List (Ev α)) (e : Ev α) :
    let s' := step cfg (run cfg (init : St κ β) evs) e
    s'.outStopped = true → (∀ r ∈ s'.groups, r.holdsRef = false) → Released s' := by
  intro s' ho hn
  have := terminal_releases_all cfg hrefl (evs ++ [e])
  rw [run_append] at this
  exact this ho hn

theorem srcTerminal_get (s : St κ β) (n : Notif β) (n') (j : Nat) :
    ((closeSrc (termOuter s n n')).groups[j]?).map nodur =
      (s.groups[j]?).map fun r => if j ∈ s.writers.map (·.2) then termR n (nodur r) else nodur r := by
  rw [← foldl_writerTerm_get, ← List.getElem?_map, ← List.getElem?_map, (tear_closeSrc _).map nodur fun _ _ => rfl,
    outerTerm_map _ _ nodur fun _ _ => rfl]
  rfl

theorem live_subscriber_keeps_receiving (cfg : Cfg α κ β) (hrefl : ∀ k, cfg.keyEq k k = true)
    (hsymm : ∀ a b, cfg.keyEq a b = true → cfg.keyEq b a = true)
    (htrans : ∀ a b c, cfg.keyEq a b = true → cfg.keyEq b c = true → cfg.keyEq a c = true)
    (pre post : List (Ev α)) (g : Nat) (r : Grp κ β) :
    let s := run cfg (init : St κ β) (pre ++ .disposeOuter :: post)
    s.groups[g]? = some r → r.sub = .active → s.srcStopped = false →
      s.outStopped = true ∧ s.primary = true ∧
      (∀ (x : α) (k : κ) (v : β), cfg.keyMapper x = .ok k → cfg.elemMapper x = .ok v → cfg.keyEq r.key k = true →
        ∃ r', (step cfg s (.src (.next x))).groups[g]? = some r' ∧ r'.seen = r.seen ++ [.next v] ∧
          r'.wlog = r.wlog ++ [.next v] ∧ r'.sub = .active ∧ r'.stopped = false) ∧
      (∀ n : Notif α, n.isTerminal = true →
        ∃ r', (step cfg s (.src n)).groups[g]? = some r' ∧
          r'.seen = r.seen ++ [match n with | .error e => .error e | _ => .completed] ∧ r'.sub = .ended ∧
          (step cfg s (.src n)).srcOpen = false) := by
  intro s hg hsub hs
  have hi : Inv cfg s := inv_reach hrefl _
  have hout : s.outStopped = true := by
    show (run cfg init (pre ++ .disposeOuter :: post)).outStopped = true
    rw [run_append]
    simp only [run]
    exact (stp_run hrefl (stp_step hrefl (inv_reach hrefl pre) _).inv post).out
      (fr_rcdDispose { run cfg init pre with outStopped := true } rfl).outS
  have hok := hi.wf.gok hg
  have hst : r.stopped = false := hok.act_open hsub
  have hexp : r.expired = false := by
    cases he : r.expired with
    | false => rfl
    | true =>
      have := hok.es he
      rw [hst] at this; cases this
  refine ⟨hout, hi.wf.out_prim hout, ?_, ?_⟩
  · intro x k v hk hv hkey
    have hlive : LiveFor cfg s k g := ⟨r, hg, hkey, hexp⟩
    rw [step_src_next cfg s x hs]
    have hnone : ¬ s.writers.find? (fun p => cfg.keyEq p.1 k) = none := fun hf => (find_none_iff hi.wf k).mp hf ⟨g, hlive⟩
    have out := srcNext_out cfg s x
    generalize srcNext cfg s x = u at out ⊢
    cases out with
    | keyErr e hk' => rw [hk] at hk'; cases hk'
    | found k' p hk' hf =>
      cases hk.symm.trans hk'
      rw [live_unique hsymm htrans hi.wf k p.2 g (find_some_live hi.wf k p hf) hlive, pushElem_ok hv]
      simp only [writerNext_eq, act_of_not hg]
      simp [hg, hst, hsub, modGrp, emits, pushR]
    | subjErr k' e hk' hf _ => cases hk.symm.trans hk'; exact absurd hf hnone
    | durErr k' e hk' hf _ _ => cases hk.symm.trans hk'; exact absurd hf hnone
    | created k' hk' hf _ _ => cases hk.symm.trans hk'; exact absurd hf hnone
  · intro n hn
    have hgw : g ∈ s.writers.map (·.2) :=
      List.mem_map.mpr ⟨(r.key, g), (mem_writers_iff hi.wf _).mpr ⟨r, hg, hexp, rfl⟩, rfl⟩
    -- every variant of the handler rewrites record g by `termR`, whatever flags it sets first
    have key : ∀ (s0 : St κ β) (m : Notif β) m', s0.groups = s.groups → s0.writers = s.writers →
        ∃ r', (closeSrc (termOuter s0 m m')).groups[g]? = some r' ∧ r'.seen = r.seen ++ [m] ∧ r'.sub = .ended := by
      intro s0 m m' e1 e2
      have h := srcTerminal_get s0 m m' g
      rw [e1, e2, hg] at h
      simp only [Option.map_some, hgw, if_true, termR, nodur, hst, hsub, Bool.false_eq_true, if_false] at h
      cases hr : (closeSrc (termOuter s0 m m')).groups[g]? with
      | none => rw [hr] at h; cases h
      | some r' =>
        rw [hr] at h
        have k : ∀ {A : Type} (π : Grp κ β → A), π { r' with dur := .unsub } = π _ := fun π => congrArg π (Option.some.inj h)
        exact ⟨r', rfl, k Grp.seen, k Grp.sub⟩
    cases n with
    | next v => cases hn
    | error e =>
      simp only [step, hs, Bool.false_eq_true, if_false, errorAll]
      obtain ⟨r', hr', a1, a2⟩ := key { s with srcStopped := true, srcDone := true, failed := true } (.error e) (.error e) rfl rfl
      exact ⟨r', hr', a1, a2, closeSrc_closed _⟩
    | completed =>
      simp only [step, hs, Bool.false_eq_true, if_false]
      obtain ⟨r', hr', a1, a2⟩ := key { s with srcStopped := true, srcDone := true } .completed .completed rfl rfl
      exact ⟨r', hr', a1, a2, closeSrc_closed _⟩
end WinGrp
