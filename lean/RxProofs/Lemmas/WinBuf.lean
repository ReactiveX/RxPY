import RxModel.WinBuf
/-!
# Buffers: the `flat_map(to_list)` view (`BufView`); the buffer run (`Mach.runBuf` / `bufLog`) is the view of a run of the same
window machine; the non-empty filter of `buffer_with_count`.
-/
namespace Win
variable {σ α : Type}
namespace BufView

/-- every branch of `feed` starts from `{ v with seen := v.seen ++ [ent] }` and never writes `seen` again. -/
theorem seen_feed (ne : Bool) (v : BufView α) (ent : Nat × Out α) : (feed ne v ent).seen = v.seen ++ [ent] := by
  obtain ⟨t, o⟩ := ent
  cases o with
  | outer n => cases n <;> simp only [feed, emit] <;> (try split) <;> (try split) <;> rfl
  | win i n =>
    cases n with
    | next x => rfl
    | error e => simp only [feed, emit]; split <;> rfl
    | completed =>
      simp only [feed, emit]; split
      · rfl
      · split <;> split <;> rfl
  | sub k => rfl
  | unsub k => rfl
  | escaped e => rfl

theorem seen_fold (ne : Bool) (l : List (Nat × Out α)) (v : BufView α) : (l.foldl (feed ne) v).seen = v.seen ++ l := by
  induction l generalizing v with
  | nil => simp
  | cons e l ih => rw [List.foldl_cons, ih, seen_feed]; simp

end BufView

/-- the `flat_map(to_list)` view of a whole window log. -/
def viewOf (nonEmpty : Bool) (l : List (Nat × Out α)) : BufView α := l.foldl (BufView.feed nonEmpty) {}

namespace Mach

def Grows (m : Mach σ α) : Prop := ∀ s t e, m.log s <+: m.log (m.step s t e)

theorem bufAfter_view (m : Mach σ α) (hg : m.Grows) (ne : Bool) (s : σ) (L0 : List (Nat × Out α)) (t' : Nat)
    (hl : L0 <+: m.log s) :
    (m.bufAfter ne L0.length t' s (viewOf ne L0)).2 = viewOf ne (m.log (m.bufAfter ne L0.length t' s (viewOf ne L0)).1) := by
  obtain ⟨l, hl⟩ := hl
  have h1 : ((m.log s).drop L0.length).foldl (BufView.feed ne) (viewOf ne L0) = viewOf ne (m.log s) := by
    rw [← hl, List.drop_left, viewOf, viewOf, List.foldl_append]
  unfold bufAfter
  simp only [h1]
  split
  · obtain ⟨l2, hl2⟩ := hg s t' (.dispose true)
    simp only []
    rw [← hl2, List.drop_left, viewOf, viewOf, List.foldl_append]
  · rfl

theorem runBuf_view (m : Mach σ α) (hg : m.Grows) (ne : Bool) (horizon fuel : Nat) (sv : σ × BufView α) (evs : List (Nat × Ev α)) :
    sv.2 = viewOf ne (m.log sv.1) →
      (m.runBuf ne horizon fuel sv evs).2 = viewOf ne (m.log (m.runBuf ne horizon fuel sv evs).1) := by
  have step : ∀ (s : σ) (v : BufView α) (t : Nat) (e : Ev α) (t' : Nat), v = viewOf ne (m.log s) →
      (m.bufAfter ne (m.log s).length t' (m.step s t e) v).2 = viewOf ne (m.log (m.bufAfter ne (m.log s).length t' (m.step s t e) v).1) :=
    fun s v t e t' h => h ▸ bufAfter_view m hg ne (m.step s t e) (m.log s) t' (hg s t e)
  -- no fuel; no event: timer due / not due / none; an event: timer first / event first / no timer
  induction fuel, sv, evs using runBuf.induct m ne horizon with
  | case1 sv _ => exact id
  | case2 fuel s v d hp hd ih => intro h; simp only [runBuf, hp, hd, if_true]; exact ih (step s v d _ d h)
  | case3 fuel s v d hp hd => intro h; simp only [runBuf, hp, hd, if_false]; exact h
  | case4 fuel s v hp => intro h; simp only [runBuf, hp]; exact h
  | case5 fuel s v t e es e' d hp hd ih => intro h; simp only [runBuf, hp, hd, if_true]; exact ih (step s v d _ d h)
  | case6 fuel s v t e es e' d hp hd ih => intro h; simp only [runBuf, hp, hd, if_false]; exact ih (step s v t _ t h)
  | case7 fuel s v t e es e' hp ih => intro h; simp only [runBuf, hp]; exact ih (step s v t _ t h)

/-- what the buffer subscriber sees (`bufLog`) is the `flat_map(to_list)` view of the log of a
run of the SAME window machine (the one `runBuf` performs: the input events, with a `dispose` fed when the view
delivers a terminal downstream). -/
theorem bufLog_is_view (m : Mach σ α) (hg : m.Grows) (ne : Bool) (horizon fuel t0 : Nat) (s0 : σ) (evs : List (Nat × Ev α)) :
    m.bufLog ne horizon fuel t0 s0 evs =
      (viewOf ne (m.log (m.runBuf ne horizon fuel (m.bufAfter ne 0 t0 s0 {}) evs).1)).out := by
  unfold bufLog
  exact congrArg BufView.out
    (runBuf_view m hg ne horizon fuel _ evs (bufAfter_view m hg ne s0 [] t0 (List.nil_prefix)))
end Mach

def notEmptyBuf : Nat × BOut α → Bool
  | (_, .outer (.next [])) => false
  | _ => true

@[simp] theorem neb_sub (t k : Nat) : notEmptyBuf (α := α) (t, .sub k) = true := rfl
@[simp] theorem neb_unsub (t k : Nat) : notEmptyBuf (α := α) (t, .unsub k) = true := rfl
@[simp] theorem neb_esc (t : Nat) (e : Err) : notEmptyBuf (α := α) (t, .escaped e) = true := rfl
@[simp] theorem neb_err (t : Nat) (e : Err) : notEmptyBuf (α := α) (t, .outer (.error e)) = true := rfl
@[simp] theorem neb_comp (t : Nat) : notEmptyBuf (α := α) (t, .outer .completed) = true := rfl
@[simp] theorem neb_nil (t : Nat) : notEmptyBuf (α := α) (t, .outer (.next [])) = false := rfl
@[simp] theorem neb_cons (t : Nat) (a : α) (l : List α) : notEmptyBuf (t, .outer (.next (a :: l))) = true := rfl

/-- `v1` is `v2` with the empty buffers filtered out of what it has emitted. -/
structure BufView.Filtered (v1 v2 : BufView α) : Prop where
  seen : v1.seen = v2.seen
  active : v1.active = v2.active
  outerDone : v1.outerDone = v2.outerDone
  stopped : v1.stopped = v2.stopped
  out : v1.out = v2.out.filter notEmptyBuf

/-- every branch of `feed` appends at most `[next l]`, `[completed]` (or one error) to `out`; `nonEmpty` decides only whether an empty
`next l` is among them. -/
theorem feed_filter (v1 v2 : BufView α) (ent : Nat × Out α) (h : v1.Filtered v2) :
    (BufView.feed true v1 ent).Filtered (BufView.feed false v2 ent) := by
  obtain ⟨h1, h2, h3, h4, h5⟩ := h
  suffices h : _ ∧ _ ∧ _ ∧ _ ∧ _ from ⟨h.1, h.2.1, h.2.2.1, h.2.2.2.1, h.2.2.2.2⟩
  obtain ⟨t, o⟩ := ent
  cases o with
  | sub k => simp [BufView.feed, BufView.emit, h1, h2, h3, h4, h5, List.filter_cons, List.filter_nil, List.filter_append]
  | unsub k => simp [BufView.feed, BufView.emit, h1, h2, h3, h4, h5, List.filter_cons, List.filter_nil, List.filter_append]
  | escaped e => simp [BufView.feed, BufView.emit, h1, h2, h3, h4, h5, List.filter_cons, List.filter_nil, List.filter_append]
  | outer n =>
    cases n with
    | next id => simp only [BufView.feed, h1, h2, h3, h4]; split <;> simp [h5]
    | error e =>
      simp only [BufView.feed, BufView.emit, h1, h2, h3, h4]; split <;> simp [h5, List.filter_cons, List.filter_nil, List.filter_append]
    | completed =>
      simp only [BufView.feed, BufView.emit, h1, h2, h3, h4]; split
      · simp [h5]
      · split <;> simp [h5, List.filter_cons, List.filter_nil, List.filter_append]
  | win id n =>
    cases n with
    | next x => simp [BufView.feed, h1, h2, h3, h4, h5]
    | error e =>
      simp only [BufView.feed, BufView.emit, h1, h2, h3, h4]; split <;> simp [h5, List.filter_cons, List.filter_nil, List.filter_append]
    | completed =>
      simp only [BufView.feed, BufView.emit, h1, h2, h3, h4]
      split
      · simp [h5]
      · cases hI : itemsOf v2.seen id with
        | nil =>
          simp only [Bool.true_and, List.isEmpty_nil, if_true, Bool.false_and, Bool.false_eq_true, if_false]
          split <;> simp [h5, List.filter_cons, List.filter_nil, List.filter_append]
        | cons a l =>
          simp only [Bool.true_and, List.isEmpty_cons, Bool.false_eq_true, if_false, Bool.false_and]
          split <;> simp [h5, List.filter_cons, List.filter_nil, List.filter_append]

theorem viewOf_filtered (l : List (Nat × Out α)) : (viewOf true l).Filtered (viewOf false l) := by
  have : ∀ (l : List (Nat × Out α)) (v1 v2 : BufView α), v1.Filtered v2 →
      (l.foldl (BufView.feed true) v1).Filtered (l.foldl (BufView.feed false) v2) := by
    intro l
    induction l with
    | nil => intro v1 v2 h; exact h
    | cons e l ih => intro v1 v2 h; exact ih _ _ (feed_filter v1 v2 e h)
  exact this l {} {} ⟨rfl, rfl, rfl, rfl, rfl⟩

end Win
