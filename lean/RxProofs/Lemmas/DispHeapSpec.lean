import RxProofs.Lemmas.DispRefCountHeapForms
/-!
# The words in which C26Heap is stated
-/
namespace Pipe

/-- the results `Pipe.run` discards, call by call -/
def runRes (h : Heap) : List Op → List Res
  | [] => []
  | op :: ops => (apply h op).2 :: runRes (apply h op).1 ops

end Pipe

namespace Disp
open Pipe

/-- the outcomes of the calls in a log, as the heap model reports them: one per `ret` / `raised` -/
def resOf : List Ev → List Res
  | [] => []
  | .ret _ :: l => .ok :: resOf l
  | .raised :: l => .rejected :: resOf l
  | _ :: l => resOf l

/-- Leaf `i` is done iff item `i` was disposed at least once, the container node iff `is_disposed`. Its edges `co` are the held
items while the container is live; after its disposal the class holds nothing, but the heap keeps the edges it had (and gets
one more for every item handed over later), all to done leaves. -/
def HeapRel (K : Kind) (k : Nat) (dis : Bool) (held : List Nat) (cnt : Nat → Nat) (h : Heap) : Prop :=
  ∃ co, h = mkH K k (fun i => decide (0 < cnt i)) dis co ∧ (∀ x ∈ co, x < k) ∧
    (dis = false → co = held) ∧ (dis = true → held = [] ∧ ∀ x ∈ co, 0 < cnt x)

def cOk (k : Nat) : COp → Prop
  | .add i => i < k
  | .remove i => i < k
  | .clear => True
  | .dispose => True
  | _ => False

/-- the last clause is never read: `cOk` excludes `len`, `contains`, which the heap does not model -/
def cToPipe (k : Nat) : COp → Pipe.Op
  | .add i => .add k i
  | .remove i => .remove k i
  | .clear => .clear k
  | _ => .dispose k

def aOk (k : Nat) : AOp → Prop
  | .set i => i < k
  | .dispose => True
  | .get => False

/-- the last clause is never read: `aOk` excludes `get` -/
def aToPipe (k : Nat) : AOp → Pipe.Op
  | .set i => .assign k i
  | _ => .dispose k

/-- the `relMine` clause is never read: `rOk` excludes it -/
def rToPipe : ROp → Pipe.Op
  | .get => .getInner 1
  | .rel j => .dispose (2 + j)
  | .relMine j => .dispose (2 + j)
  | .dispose => .dispose 1

/-- handles must exist; `relMine` is `rel` of an own handle and is left out of the refinement -/
def rOk (n : Nat) : ROp → Prop
  | .get => True
  | .rel j => j < n
  | .relMine _ => False
  | .dispose => True

/-- every `rel j` refers to a dependent handed out earlier in the history -/
def rValid : Nat → List ROp → Prop
  | _, [] => True
  | n, op :: ops => rOk n op ∧ rValid (if op = .get then n + 1 else n) ops

end Disp
