import RxModel.PureBridges
import RxProofs.Lemmas.Basics
/-! Helper lemmas for C41 (bridges).  Each machine is a fold over its events: what a step writes, then a fact kept by the
fold.  `ToFuture.expAux` (the first terminal decides) is the one reading that every consumer is compared with. -/
namespace Pure.Bridges

theorem deliver_stopped {α} (ns : List (Notif α)) : deliver true ns = (true, []) := by
  cases ns <;> rfl

namespace FromFuture

theorem deliver_done {α} (f : Fut α) (h : f.isDone = true) :
    deliver false (doneNotifs f) = (true, doneNotifs f) := by
  cases f <;> simp_all [Fut.isDone, doneNotifs, deliver, Notif.isTerminal]

theorem step_frozen {α} {s : State α} (hs : s.stopped = true) (hf : s.fut.isDone = true) (e : Event α) :
    (step s e).stopped = true ∧ (step s e).fut = s.fut ∧ (step s e).out = s.out := by
  obtain ⟨fut, stopped, out, invalid⟩ := s
  cases fut with
  | pending => cases hf
  | _ =>
    cases e with
    | resolve o => cases o <;> exact ⟨hs, rfl, rfl⟩
    | dispose => exact ⟨rfl, rfl, rfl⟩

theorem frozen {α} (s : State α) (hs : s.stopped = true) (hf : s.fut.isDone = true) (evs : List (Event α)) :
    (evs.foldl step s).out = s.out ∧ (evs.foldl step s).fut = s.fut := by
  have := List.foldl_pres (P := fun s' => s'.stopped = true ∧ s'.fut = s.fut ∧ s'.out = s.out) step
    (fun s' e ⟨h1, h2, h3⟩ => by
      obtain ⟨k1, k2, k3⟩ := step_frozen h1 (h2 ▸ hf) e
      exact ⟨k1, k2.trans h2, k3.trans h3⟩) evs ⟨hs, rfl, rfl⟩
  exact ⟨this.2.2, this.2.1⟩

theorem outcome_done {α} (o : Outcome α) : o.fut.isDone = true := by cases o <;> rfl

theorem subscribe_done {α} {f : Fut α} (h : f.isDone = true) :
    subscribe f = { fut := f, stopped := true, out := doneNotifs f } := by
  simp only [subscribe, h, if_true, runDone, deliver_done f h, List.nil_append]

theorem step_resolve_pending {α} (s : State α) (hp : s.fut = .pending) (hs : s.stopped = false) (o : Outcome α) :
    step s (.resolve o) = { s with fut := o.fut, stopped := true, out := s.out ++ doneNotifs o.fut } := by
  simp only [step, hp, runDone, hs, deliver_done o.fut (outcome_done o)]

theorem step_dispose_pending {α} (s : State α) (hp : s.fut = .pending) :
    step s .dispose = { s with fut := .cancelled, stopped := true } := by
  simp only [step, hp, runDone, deliver_stopped, List.append_nil]

end FromFuture

namespace ToFuture

theorem step_frozen {α} {s : State α} (hs : s.stopped = true) (hf : s.fut.isDone = true) (e : Event α) :
    (step s e).stopped = true ∧ (step s e).fut = s.fut := by
  cases e with
  | src n => simp only [step, hs, if_true, and_self]
  | cancel =>
    obtain ⟨hv, last, fut, stopped⟩ := s
    cases fut with
    | pending => cases hf
    | _ => exact ⟨hs, rfl⟩

theorem step_cancel_pending {α} (s : State α) (hp : s.fut = .pending) :
    step s .cancel = { s with fut := .cancelled, stopped := true } := by
  simp only [step, hp]

theorem frozen {α} (s : State α) (hs : s.stopped = true) (hf : s.fut.isDone = true) (evs : List (Event α)) :
    (evs.foldl step s).fut = s.fut :=
  (List.foldl_pres (P := fun s' => s'.stopped = true ∧ s'.fut = s.fut) step
    (fun s' e ⟨h1, h2⟩ => by
      obtain ⟨k1, k2⟩ := step_frozen h1 (h2 ▸ hf) e
      exact ⟨k1, k2.trans h2⟩) evs ⟨hs, rfl⟩).2

theorem step_done_stopped {α} (s : State α) (h : s.fut.isDone = true → s.stopped = true) (e : Event α) :
    (step s e).fut.isDone = true → (step s e).stopped = true := by
  obtain ⟨hv, last, fut, stopped⟩ := s
  cases e with
  | src n =>
    cases stopped with
    | true => exact h
    | false =>
      cases n with
      | next v => exact h
      | error e => exact fun _ => rfl
      | completed => exact fun _ => rfl
  | cancel =>
    cases fut with
    | pending => exact fun _ => rfl
    | _ => exact h

/-- the first terminal decides; `l` = last value so far -/
def expAux {α} : Option α → List (Notif α) → Fut α
  | _, [] => .pending
  | _, .next v :: r => expAux (some v) r
  | _, .error e :: _ => .exception e
  | some v, .completed :: _ => .result v
  | none, .completed :: _ => .exception noElements

theorem run_aux {α} (l : Option α) (xs : List (Notif α)) :
    ((xs.map Event.src).foldl step ({ hasValue := l.isSome, last := l } : State α)).fut = expAux l xs := by
  induction xs generalizing l with
  | nil => rfl
  | cons n r ih =>
    cases n with
    | next v =>
      simp only [List.map_cons, List.foldl_cons, step, Bool.false_eq_true, if_false, expAux]
      exact ih (some v)
    | error e =>
      simp only [List.map_cons, List.foldl_cons, step, Bool.false_eq_true, if_false, expAux, Fut.isCancelled]
      exact frozen _ rfl rfl _
    | completed =>
      simp only [List.map_cons, List.foldl_cons, step, Bool.false_eq_true, if_false, Fut.isCancelled]
      rw [frozen _ rfl (by cases l <;> rfl)]
      cases l <;> rfl

theorem run_fut {α} (xs : List (Notif α)) : (run (xs.map .src)).fut = expAux none xs := run_aux none xs

theorem expAux_eq {α} (l : Option α) (xs : List (Notif α)) :
    expAux l xs =
      (match xs.dropWhile (fun n => !n.isTerminal) with
       | [] => Fut.pending
       | .error e :: _ => .exception e
       | _ :: _ =>
         match (l.toList ++ (xs.takeWhile (fun n => !n.isTerminal)).filterMap
             fun n => match n with | .next v => some v | _ => none).getLast? with
         | some v => .result v
         | none => .exception noElements) := by
  induction xs generalizing l with
  | nil => rfl
  | cons n r ih =>
    cases n with
    | next v =>
      have ht : (Notif.next v).isTerminal = false := rfl
      simp only [expAux, List.dropWhile_cons, List.takeWhile_cons, ht, Bool.not_false, if_true]
      rw [ih (some v)]
      have : ∀ (b : List α), (l.toList ++ v :: b).getLast? = ([v] ++ b).getLast? := by
        intro b
        rw [List.getLast?_append, List.singleton_append]
        cases h : (v :: b).getLast? with
        | none => simp at h
        | some w => simp
      simp only [List.filterMap_cons, Option.toList_some, this]
    | error e => simp [expAux, Notif.isTerminal]
    | completed =>
      cases l <;> simp [expAux, Notif.isTerminal]

def toRR {α} : Fut α → RunResult α
  | .result v => .returns v
  | .exception e => .raises e
  | _ => .blocks

theorem run_frozen {α} (s : RunState α) (hs : s.stopped = true) (xs : List (Notif α)) :
    xs.foldl runStep s = s := by
  induction xs with
  | nil => rfl
  | cons n r ih => simp [List.foldl_cons, runStep, hs, ih]

theorem runBlocking_aux {α} (l : Option α) (xs : List (Notif α)) :
    (let s := xs.foldl runStep ({ hasResult := l.isSome, result := l } : RunState α)
     if !s.done then RunResult.blocks
     else match s.exception with
       | some e => .raises e
       | none => match s.hasResult, s.result with
         | true, some v => .returns v
         | _, _ => .raises noElements) = toRR (expAux l xs) := by
  induction xs generalizing l with
  | nil => rfl
  | cons n r ih =>
    cases n with
    | next v =>
      simp only [List.foldl_cons, runStep, Bool.false_eq_true, if_false, expAux]
      exact ih (some v)
    | error e =>
      simp only [List.foldl_cons, runStep, Bool.false_eq_true, if_false, expAux]
      rw [run_frozen (α := α) { hasResult := l.isSome, result := l, exception := some e, done := true, stopped := true } rfl]
      rfl
    | completed =>
      simp only [List.foldl_cons, runStep, Bool.false_eq_true, if_false]
      rw [run_frozen (α := α) { hasResult := l.isSome, result := l, done := true, stopped := true } rfl]
      cases l <;> rfl

theorem runBlocking_eq {α} (xs : List (Notif α)) : runBlocking xs = toRR (expAux none xs) := runBlocking_aux none xs

end ToFuture

namespace ToAsync

def resultNotifs {α} : Except Err α → List (Notif α)
  | .ok r => [.next r, .completed]
  | .error e => [.error e]

def recvOf {α} (outs : List (Nat × Notif α)) (i : Nat) : List (Notif α) :=
  outs.filterMap (fun (j, n) => if j = i then some n else none)

theorem received_eq {α} (s : State α) (i : Nat) : received s i = recvOf s.outs i := rfl

theorem recvOf_append {α} (a b : List (Nat × Notif α)) (i : Nat) : recvOf (a ++ b) i = recvOf a i ++ recvOf b i := by
  simp [recvOf, List.filterMap_append]

def sent {α} (func : Except Err α) (j : Nat) : List (Nat × Notif α) := (resultNotifs func).map (fun n => (j, n))

theorem recvOf_sent {α} (func : Except Err α) (j i : Nat) :
    recvOf (sent func j) i = (List.replicate (if j = i then 1 else 0) (resultNotifs func)).flatten := by
  by_cases h : j = i <;> simp [recvOf, sent, h, List.filterMap_map, Function.comp_def]

theorem recvOf_flush {α} (func : Except Err α) (obs : List Nat) (i : Nat) :
    recvOf (obs.flatMap (sent func)) i = (List.replicate (obs.count i) (resultNotifs func)).flatten := by
  induction obs with
  | nil => rfl
  | cons j r ih =>
    rw [List.flatMap_cons, recvOf_append, recvOf_sent, ih, ← List.flatten_append, List.replicate_append_replicate,
      List.count_cons, Nat.add_comm]
    simp only [beq_iff_eq]

/-- the AsyncSubject after the action has run -/
structure Done {α} (func : Except Err α) (s : State α) : Prop where
  stopped : s.stopped = true
  invoked : s.invocations = 1
  holds : match func with
    | .ok r => s.exception = none ∧ s.value = some r
    | .error e => s.exception = some e

structure Fresh {α} (s : State α) : Prop where
  notStopped : s.stopped = false
  notInvoked : s.invocations = 0
  noException : s.exception = none

theorem step_run {α} (func : Except Err α) (s : State α) (hf : Fresh s) :
    Done func (step func s .run) ∧ (step func s .run).outs = s.outs ++ s.observers.flatMap (sent func) := by
  have h2 := hf.notInvoked
  cases func with
  | ok r =>
    exact ⟨by constructor <;> simp [step, h2, hf.noException], by simp only [step, h2, Nat.lt_irrefl, if_false]; rfl⟩
  | error e =>
    exact ⟨by constructor <;> simp [step, h2],
      by simp only [step, h2, Nat.lt_irrefl, if_false, List.map_eq_flatMap]; rfl⟩

theorem step_subscribe {α} (func : Except Err α) (s : State α) (hd : Done func s) (j : Nat) :
    Done func (step func s (.subscribe j)) ∧ (step func s (.subscribe j)).outs = s.outs ++ sent func j := by
  obtain ⟨h1, h3, h4⟩ := hd
  cases func <;> exact ⟨by constructor <;> simp_all [step], by simp_all [step, sent, resultNotifs]⟩

theorem after_done {α} (func : Except Err α) (s : State α) (hd : Done func s) (evs : List Event) (i : Nat) :
    recvOf (evs.foldl (step func) s).outs i =
      recvOf s.outs i ++ (List.replicate (evs.count (.subscribe i)) (resultNotifs func)).flatten ∧
    (evs.foldl (step func) s).invocations = 1 := by
  induction evs generalizing s with
  | nil => simp [hd.invoked]
  | cons e r ih =>
    rw [List.foldl_cons, List.count_cons]
    cases e with
    | run =>
      have hs : step func s .run = s := by simp [step, hd.invoked]
      rw [hs]
      simpa using ih s hd
    | subscribe j =>
      obtain ⟨hd', ho⟩ := step_subscribe func s hd j
      obtain ⟨h1, h2⟩ := ih _ hd'
      rw [h1, h2, ho, recvOf_append, recvOf_sent, List.append_assoc, ← List.flatten_append,
        List.replicate_append_replicate, Nat.add_comm]
      simp

theorem before_done {α} (func : Except Err α) (s : State α) (hf : Fresh s) (evs : List Event) (i : Nat) :
    recvOf (evs.foldl (step func) s).outs i =
      recvOf s.outs i ++
        (if Event.run ∈ evs then
          (List.replicate (s.observers.count i + evs.count (.subscribe i)) (resultNotifs func)).flatten else []) ∧
    (evs.foldl (step func) s).invocations = (if Event.run ∈ evs then 1 else 0) := by
  induction evs generalizing s with
  | nil => simp [hf.notInvoked]
  | cons e r ih =>
    rw [List.foldl_cons]
    cases e with
    | run =>
      obtain ⟨hd, ho⟩ := step_run func s hf
      obtain ⟨h1, h2⟩ := after_done func _ hd r i
      rw [h1, h2, ho, recvOf_append, recvOf_flush, List.append_assoc, ← List.flatten_append,
        List.replicate_append_replicate]
      simp
    | subscribe j =>
      have hs : step func s (.subscribe j) = { s with observers := s.observers ++ [j] } := by simp [step, hf.notStopped]
      obtain ⟨h1, h2⟩ := ih _ (show Fresh (step func s (.subscribe j)) by
        rw [hs]; exact ⟨hf.notStopped, hf.notInvoked, hf.noException⟩)
      rw [h1, h2, hs]
      simp [List.count_cons, Nat.add_assoc, Nat.add_comm]

end ToAsync

namespace FromCallback

theorem handler_shape {α} (cfg : Cfg α) (c : List α) :
    (∃ v, handler cfg c = [.next v, .completed]) ∨ (∃ e, handler cfg c = [.error e]) := by
  simp only [handler]
  split
  · split
    · exact Or.inr ⟨_, rfl⟩
    · exact Or.inl ⟨_, rfl⟩
  · split <;> exact Or.inl ⟨_, rfl⟩

theorem deliver_handler {α} (cfg : Cfg α) (c : List α) : deliver false (handler cfg c) = (true, handler cfg c) := by
  rcases handler_shape cfg c with ⟨v, h⟩ | ⟨e, h⟩ <;> rw [h] <;> rfl

theorem subscribeRun_stopped {α} (cfg : Cfg α) (cs : List (List α)) : subscribeRun cfg true cs = [] := by
  induction cs with
  | nil => rfl
  | cons c r ih =>
    simp [subscribeRun, deliver_stopped, ih]

end FromCallback

namespace RunLatch

/-- what every non-latch field looks like -/
def core {α} (sh : Shared α) : Option α × Bool × Option Err × Bool := (sh.result, sh.hasResult, sh.exception, sh.done)

theorem pstep_latch {α} (sh : Shared α) : core (pstep sh .setLatch) = core sh := rfl

/-- Where the producer thread is: what is left of its program and whether `done` is written, not what the cells hold.
`calls` also covers the end without a terminal (`compile []`) and the steps after `setException` (`compile [.completed]`). -/
inductive At {α} : List (PStep α) → Bool → Prop
  | calls (ys : List (Notif α)) : At (compile ys) false
  | hasResult (ys : List (Notif α)) : At (.setHasResult :: compile ys) false
  | latch : At [.setLatch] true
  | finished : At [] true

theorem At.step {α} {sh : Shared α} {p : PStep α} {r rem : List (PStep α)} {d : Bool} (h : At rem d)
    (hr : rem = p :: r) (hd : sh.done = d) : At r (pstep sh p).done := by
  cases h with
  | calls ys =>
    match ys with
    | [] => cases hr
    | .next v :: ys => cases hr; exact hd ▸ .hasResult ys
    | .error e :: _ => cases hr; exact hd ▸ .calls [.completed]
    | .completed :: _ => cases hr; exact .latch
  | hasResult ys => cases hr; exact hd ▸ .calls ys
  | latch => cases hr; exact (show (pstep sh .setLatch).done = true from hd) ▸ .finished
  | finished => cases hr

theorem At.of_done {α} {rem : List (PStep α)} (h : At rem true) : rem = [.setLatch] ∨ rem = [] := by
  cases h
  · exact .inl rfl
  · exact .inr rfl

theorem At.core_rest {α} {sh : Shared α} {rem : List (PStep α)} (h : At rem sh.done) (hd : sh.done = true) :
    core (rem.foldl pstep sh) = core sh := by
  rcases (hd ▸ h : At rem true).of_done with rfl | rfl
  · exact pstep_latch sh
  · rfl

theorem done_mono {α} (l : List (PStep α)) (sh : Shared α) (h : sh.done = true) : (l.foldl pstep sh).done = true :=
  List.foldl_pres (P := fun sh => sh.done = true) pstep (fun sh p h => by cases p <;> simp [pstep, h]) l h

theorem core_done {α} {a b : Shared α} (h : core a = core b) : a.done = b.done := congrArg (·.2.2.2) h

theorem outcome_core {α} (a b : Shared α) (h : core a = core b) : outcome a = outcome b := by
  simp only [core, Prod.mk.injEq] at h
  obtain ⟨h1, h2, h3, _⟩ := h
  simp [outcome, h1, h2, h3]

/-- the waiter's local knowledge is consistent with the shared cells -/
def WInv {α} (s : Sys α) : Prop :=
  match s.w with
  | .checkDone => True
  | .waiting => True
  | .readExc => s.sh.done = true
  | .readHas => s.sh.done = true ∧ s.sh.exception = none
  | .readRes => s.sh.done = true ∧ s.sh.exception = none ∧ s.sh.hasResult = true
  | .finished r => s.sh.done = true ∧ r = outcome s.sh

theorem WInv.finished {α} {s : Sys α} {r : ToFuture.RunResult α} (hw : WInv s) (h : s.w = .finished r) :
    s.sh.done = true ∧ r = outcome s.sh := by
  simp only [WInv, h] at hw
  exact hw

/-- kept by every step of every interleaving (`rest` by the definition of `foldl`) -/
structure Inv {α} (xs : List (Notif α)) (s : Sys α) : Prop where
  pos : At s.rem s.sh.done
  rest : s.rem.foldl pstep s.sh = (compile xs).foldl pstep {}
  waiter : WInv s

theorem inv_wstep {α} (xs : List (Notif α)) (s : Sys α) (h : Inv xs s) : Inv xs (wstep s) := by
  obtain ⟨hp, hr, hw⟩ := h
  obtain ⟨⟨res, has, exc, done, latch⟩, rem, w⟩ := s
  -- the waiter writes nothing shared; each read it makes is what `WInv` records for the next program counter
  cases w with
  | checkDone => cases done <;> exact ⟨hp, hr, by first | trivial | rfl⟩
  | waiting => cases latch <;> exact ⟨hp, hr, trivial⟩
  | readExc => cases exc <;> exact ⟨hp, hr, hw, rfl⟩
  | readHas =>
    obtain ⟨h1, h2⟩ := hw
    simp only at h2; subst h2
    cases has
    · exact ⟨hp, hr, h1, rfl⟩
    · exact ⟨hp, hr, h1, rfl, rfl⟩
  | readRes =>
    obtain ⟨h1, h2, h3⟩ := hw
    simp only at h2 h3; subst h2 h3
    cases res <;> exact ⟨hp, hr, h1, rfl⟩
  | finished r => exact ⟨hp, hr, hw⟩

theorem inv_pstep {α} (xs : List (Notif α)) (s : Sys α) (h : Inv xs s) : Inv xs (pstepSys s) := by
  obtain ⟨hp, hr, hw⟩ := h
  obtain ⟨sh, rem, w⟩ := s
  cases rem with
  | nil => exact ⟨hp, hr, hw⟩
  | cons p r =>
    refine ⟨hp.step rfl rfl, hr, ?_⟩
    -- if the waiter already saw `done`, the producer's step can only be `latch.set()`
    have key : sh.done = true → p = .setLatch := fun hd => by
      rcases (hd ▸ hp : At (p :: r) true).of_done with h | h
      · exact (List.cons.inj h).1
      · cases h
    cases w with
    | checkDone => trivial
    | waiting => trivial
    | readExc => simp only [WInv] at hw ⊢; rw [key hw]; simpa [pstepSys, pstep] using hw
    | readHas => simp only [WInv] at hw ⊢; rw [key hw.1]; simpa [pstepSys, pstep] using hw
    | readRes => simp only [WInv] at hw ⊢; rw [key hw.1]; simpa [pstepSys, pstep] using hw
    | finished r' =>
      simp only [WInv] at hw ⊢
      rw [key hw.1]
      refine ⟨by simpa [pstepSys, pstep] using hw.1, ?_⟩
      rw [hw.2]; exact outcome_core _ _ rfl

theorem inv_run {α} (xs : List (Notif α)) (sched : List Bool) : Inv xs (run xs sched) := by
  refine List.foldl_pres sysStep (fun s b h => ?_) sched ⟨.calls xs, rfl, trivial⟩
  cases b
  · exact inv_wstep xs s h
  · exact inv_pstep xs s h

theorem outcome_compile {α} (l : Option α) (xs : List (Notif α)) :
    let sh := (compile xs).foldl pstep ({ result := l, hasResult := l.isSome } : Shared α)
    sh.done = true → outcome sh = ToFuture.toRR (ToFuture.expAux l xs) ∧ ToFuture.toRR (ToFuture.expAux l xs) ≠ .blocks := by
  induction xs generalizing l with
  | nil => exact fun h => by cases h
  | cons n r ih =>
    cases n with
    | next v => exact ih (some v)
    | error e => exact fun _ => ⟨rfl, fun h => by cases h⟩
    | completed => cases l <;> exact fun _ => ⟨rfl, fun h => by cases h⟩

theorem final_done_latch {α} (xs : List (Notif α)) (sh : Shared α) (h : xs.any Notif.isTerminal = true) :
    ((compile xs).foldl pstep sh).done = true ∧ ((compile xs).foldl pstep sh).latch = true := by
  induction xs generalizing sh with
  | nil => simp at h
  | cons n r ih =>
    cases n with
    | next v =>
      simp only [List.any_cons, Notif.isTerminal, Bool.false_or] at h
      simpa [compile] using ih _ h
    | error e => simp [compile, pstep]
    | completed => simp [compile, pstep]

theorem waiter_finishes {α} (s : Sys α) (hd : s.sh.done = true) (hl : s.sh.latch = true) :
    ∃ r, (wstep (wstep (wstep (wstep (wstep s))))).w = .finished r := by
  obtain ⟨⟨res, has, exc, done, latch⟩, rem, w⟩ := s
  simp only at hd hl
  subst hd hl
  -- after at most two steps the waiter is at `readExc`; from there each cell it reads decides
  cases w with
  | finished r => exact ⟨r, rfl⟩
  | readRes => cases res <;> exact ⟨_, rfl⟩
  | readHas =>
    cases has
    · exact ⟨_, rfl⟩
    · cases res <;> exact ⟨_, rfl⟩
  | _ =>
    cases exc
    · cases has
      · exact ⟨_, rfl⟩
      · cases res <;> exact ⟨_, rfl⟩
    · exact ⟨_, rfl⟩

end RunLatch

end Pure.Bridges
