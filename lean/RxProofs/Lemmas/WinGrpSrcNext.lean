import RxModel.WinGrp
/-!
# The source's `on_next` handler of `group_by_until`, once for its three variants

The model has `srcNext`, `srcNextD` (durations derived from the group) and `srcNextN` (re-entrant feedback); they differ only in the functions
they call.  `srcNextG` is the handler with those left open.
-/
namespace WinGrp
variable {α κ β : Type}

/-- the state right after `writers[key] = writer` for a new key -/
def addGroup (s : St κ β) (k : κ) : St κ β :=
  { s with groups := s.groups ++ [{ key := k }], writers := s.writers ++ [(k, s.groups.length)] }

theorem addGroup_getElem? {s : St κ β} {k : κ} {j : Nat} {r : Grp κ β} (h : (addGroup s k).groups[j]? = some r) :
    s.groups[j]? = some r ∨ r = { key := k } := by
  simp only [addGroup] at h
  by_cases hj : j < s.groups.length
  · rw [List.getElem?_append_left hj] at h; exact Or.inl h
  · rw [List.getElem?_append_right (Nat.le_of_not_lt hj)] at h
    cases hi : j - s.groups.length with
    | zero => simp [hi] at h; exact Or.inr h.symm
    | succ m => simp [hi] at h

/-- `err`: on a raising mapper; `push`: an element to a writer; `ann`: a new group is handed over and its duration subscribed -/
def srcNextG (err : St κ β → Err → St κ β) (push : St κ β → Nat → α → St κ β) (ann : St κ β → Nat → κ → St κ β)
    (cfg : Cfg α κ β) (s : St κ β) (x : α) : St κ β :=
  match cfg.keyMapper x with
  | .error e => err s e
  | .ok k =>
    match s.writers.find? (fun p => cfg.keyEq p.1 k) with
    | some p => push s p.2 x
    | none =>
      match cfg.subjMapper s.groups.length with
      | .error e => err s e
      | .ok _ =>
        match cfg.durMapper s.groups.length with
        | .error e => err (addGroup s k) e
        | .ok _ => push (ann (addGroup s k) s.groups.length k) s.groups.length x

theorem srcNext_eq_G (cfg : Cfg α κ β) : srcNext cfg = srcNextG errorAll (pushElem cfg) (announce cfg) cfg := by
  funext s x; unfold srcNext srcNextG addGroup; rfl
theorem srcNextD_eq_G (cfg : Cfg α κ β) : srcNextD cfg = srcNextG (errAllD cfg) (pushElemD cfg) (announceD cfg) cfg := by
  funext s x; unfold srcNextD srcNextG addGroup; rfl
theorem srcNextN_eq_G (cfg : Cfg α κ β) : srcNextN cfg = srcNextG (errAllD cfg) (pushElemD cfg) (announceN cfg) cfg := by
  funext s x; unfold srcNextN srcNextG addGroup; rfl

inductive SrcNext (err : St κ β → Err → St κ β) (push : St κ β → Nat → α → St κ β) (ann : St κ β → Nat → κ → St κ β)
    (cfg : Cfg α κ β) (s : St κ β) (x : α) : St κ β → Prop
  | keyErr (e) (hk : cfg.keyMapper x = .error e) : SrcNext err push ann cfg s x (err s e)
  | found (k p) (hk : cfg.keyMapper x = .ok k) (hf : s.writers.find? (fun p => cfg.keyEq p.1 k) = some p) :
      SrcNext err push ann cfg s x (push s p.2 x)
  | subjErr (k e) (hk : cfg.keyMapper x = .ok k) (hf : s.writers.find? (fun p => cfg.keyEq p.1 k) = none)
      (hs : cfg.subjMapper s.groups.length = .error e) : SrcNext err push ann cfg s x (err s e)
  | durErr (k e) (hk : cfg.keyMapper x = .ok k) (hf : s.writers.find? (fun p => cfg.keyEq p.1 k) = none)
      (hs : cfg.subjMapper s.groups.length = .ok ()) (hd : cfg.durMapper s.groups.length = .error e) :
      SrcNext err push ann cfg s x (err (addGroup s k) e)
  | created (k) (hk : cfg.keyMapper x = .ok k) (hf : s.writers.find? (fun p => cfg.keyEq p.1 k) = none)
      (hs : cfg.subjMapper s.groups.length = .ok ()) (hd : cfg.durMapper s.groups.length = .ok ()) :
      SrcNext err push ann cfg s x (push (ann (addGroup s k) s.groups.length k) s.groups.length x)

theorem srcNextG_cases (err push ann) (cfg : Cfg α κ β) (s : St κ β) (x : α) :
    SrcNext err push ann cfg s x (srcNextG err push ann cfg s x) := by
  cases hk : cfg.keyMapper x with
  | error e => simp only [srcNextG, hk]; exact .keyErr e hk
  | ok k =>
    cases hf : s.writers.find? (fun p => cfg.keyEq p.1 k) with
    | some p => simp only [srcNextG, hk, hf]; exact .found k p hk hf
    | none =>
      cases hs : cfg.subjMapper s.groups.length with
      | error e => simp only [srcNextG, hk, hf, hs]; exact .subjErr k e hk hf hs
      | ok u =>
        cases hd : cfg.durMapper s.groups.length with
        | error e => simp only [srcNextG, hk, hf, hs, hd]; exact .durErr k e hk hf hs hd
        | ok u' => simp only [srcNextG, hk, hf, hs, hd]; exact .created k hk hf hs hd

theorem srcNextG_found {err push ann} {cfg : Cfg α κ β} {s : St κ β} {x : α} {k : κ} {p : κ × Nat} (hk : cfg.keyMapper x = .ok k)
    (hf : s.writers.find? (fun p => cfg.keyEq p.1 k) = some p) : srcNextG err push ann cfg s x = push s p.2 x := by
  simp only [srcNextG, hk, hf]

theorem srcNextG_created {err push ann} {cfg : Cfg α κ β} {s : St κ β} {x : α} {k : κ} (hk : cfg.keyMapper x = .ok k)
    (hf : s.writers.find? (fun p => cfg.keyEq p.1 k) = none) (hs : cfg.subjMapper s.groups.length = .ok ())
    (hd : cfg.durMapper s.groups.length = .ok ()) :
    srcNextG err push ann cfg s x = push (ann (addGroup s k) s.groups.length k) s.groups.length x := by
  simp only [srcNextG, hk, hf, hs, hd]

theorem SrcNext.walk {err : St κ β → Err → St κ β} {push : St κ β → Nat → α → St κ β} {ann : St κ β → Nat → κ → St κ β} {cfg : Cfg α κ β}
    {T : St κ β → St κ β → Prop} (trans : ∀ {a b c}, T a b → T b c → T a c)
    (herr : ∀ s e, T s (err s e)) (hpush : ∀ s g x, T s (push s g x))
    (hadd : ∀ s k, s.writers.find? (fun p => cfg.keyEq p.1 k) = none → T s (addGroup s k))
    (hann : ∀ s k, T (addGroup s k) (ann (addGroup s k) s.groups.length k))
    {s : St κ β} {x : α} {s' : St κ β} (h : SrcNext err push ann cfg s x s') : T s s' := by
  cases h with
  | keyErr e _ => exact herr s e
  | found k p _ _ => exact hpush s _ x
  | subjErr k e _ _ _ => exact herr s e
  | durErr k e _ hf _ _ => exact trans (hadd s k hf) (herr _ e)
  | created k _ hf _ _ => exact trans (hadd s k hf) (trans (hann s k) (hpush _ _ x))

theorem srcNext_out (cfg : Cfg α κ β) (s : St κ β) (x : α) :
    SrcNext errorAll (pushElem cfg) (announce cfg) cfg s x (srcNext cfg s x) := srcNext_eq_G cfg ▸ srcNextG_cases ..

/-- `skip`: source observer stopped, no such group, duration not live, or subscriber not active; which of these is not recorded -/
inductive Step (cfg : Cfg α κ β) (s : St κ β) : Ev α → St κ β → Prop
  | skip (e) : Step cfg s e s
  | next (x) (hs : s.srcStopped = false) : Step cfg s (.src (.next x)) (srcNext cfg s x)
  | error (e) (hs : s.srcStopped = false) :
      Step cfg s (.src (.error e)) (closeSrc (errorAll { s with srcStopped := true, srcDone := true } e))
  | completed (hs : s.srcStopped = false) :
      Step cfg s (.src .completed) (closeSrc (outerTerm (termAll { s with srcStopped := true, srcDone := true } .completed) .completed))
  | dur (g n r) (hg : s.groups[g]? = some r) (hl : r.dur = .live) : Step cfg s (.dur g n) (durFire cfg s g n)
  | disposeOuter : Step cfg s .disposeOuter (rcdDispose { s with outStopped := true })
  | subGroup (g) : Step cfg s (.subGroup g) (subscribeLate s g)
  | disposeGroup (g r) (hg : s.groups[g]? = some r) (ha : r.sub = .active) : Step cfg s (.disposeGroup g) (subEnd s g)

theorem step_out (cfg : Cfg α κ β) (s : St κ β) (e : Ev α) : Step cfg s e (step cfg s e) := by
  cases e with
  | src n =>
    cases n with
    | next x => simp only [step]; split; exact .skip _; exact .next x (by simpa using ‹¬ s.srcStopped = true›)
    | error e => simp only [step]; split; exact .skip _; exact .error e (by simpa using ‹¬ s.srcStopped = true›)
    | completed => simp only [step]; split; exact .skip _; exact .completed (by simpa using ‹¬ s.srcStopped = true›)
  | dur g n =>
    simp only [step, durEvent]
    split
    next r hg =>
      split
      next hl => exact .dur g n r hg hl
      · exact .skip _
    · exact .skip _
  | disposeOuter => exact .disposeOuter
  | subGroup g => exact .subGroup g
  | disposeGroup g =>
    simp only [step]
    split
    next r hg =>
      split
      next ha => exact .disposeGroup g r hg ha
      · exact .skip _
    · exact .skip _

theorem run_walk {cfg : Cfg α κ β} {T : St κ β → St κ β → Prop} (refl : ∀ s, T s s) (trans : ∀ {a b c}, T a b → T b c → T a c)
    (hstep : ∀ s e, T s (step cfg s e)) (s : St κ β) (evs : List (Ev α)) : T s (run cfg s evs) := by
  induction evs generalizing s with
  | nil => exact refl s
  | cons e es ih => exact trans (hstep s e) (ih _)

theorem run_append (cfg : Cfg α κ β) (s : St κ β) (a b : List (Ev α)) :
    run cfg s (a ++ b) = run cfg (run cfg s a) b := by
  induction a generalizing s with
  | nil => rfl
  | cons x l ih => simp [run, ih]

end WinGrp
