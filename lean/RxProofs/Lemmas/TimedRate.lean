import RxProofs.Lemmas.TimedBase
/-! throttle_first, debounce, sample: run = rule from an arbitrary state of the operator. -/

namespace Timed

/-- inside the window opened by the element emitted at `l` -/
def tfWin {α} (w l : Nat) : Nat × Notif α → Bool := fun m => isNext m.2 && decide (m.1 < l + w)

theorem tfRun_dropWhile {α} (w l : Nat) (rest : TL α) :
    tfRun w (some l) rest = tfRun w (some l) (rest.dropWhile (tfWin w l)) := by
  induction rest with
  | nil => rfl
  | cons a r ih =>
    obtain ⟨t, n⟩ := a
    cases n with
    | next x =>
      by_cases h : t < l + w
      · have hn : ¬ (l + w ≤ t) := by omega
        simp only [timeline_simp, List.dropWhile_cons, tfWin, h, decide_true, Bool.and_self, if_true]
        rw [← ih]
        simp [timeline_simp, tfRun, tfOnNext, hn]
      · simp [timeline_simp, tfWin, h]
    | error e => simp [timeline_simp, tfWin]
    | completed => simp [timeline_simp, tfWin]

theorem tfRun_some_eq {α} (w : Nat) (n : Nat) : ∀ (rest : TL α), rest.length ≤ n → ∀ l,
    tfRun w (some l) rest = tfSpec w (rest.dropWhile (tfWin w l)) := by
  induction n with
  | zero =>
    intro rest hl l
    have : rest = [] := List.eq_nil_of_length_eq_zero (Nat.le_zero.1 hl)
    subst this
    simp [tfRun, tfSpec]
  | succ n ih =>
    intro rest hl l
    rw [tfRun_dropWhile]
    have hsub : (rest.dropWhile (tfWin w l)).length ≤ rest.length := (List.dropWhile_sublist _).length_le
    cases hL : rest.dropWhile (tfWin w l) with
    | nil => simp [tfRun, tfSpec]
    | cons a L' =>
      obtain ⟨t, m⟩ := a
      have hhead : tfWin w l (t, m) = false := by
        have := List.head?_dropWhile_not (tfWin w l) rest
        rw [hL] at this
        simpa using this
      have hlen : L'.length ≤ n := by
        rw [hL] at hsub; simp only [List.length_cons] at hsub; omega
      cases m with
      | next x =>
        have hn : l + w ≤ t := by
          simp [timeline_simp, tfWin] at hhead; omega
        rw [tfSpec]
        simp only [timeline_simp, tfRun, tfOnNext, hn, if_true, List.singleton_append]
        rw [ih L' hlen t]
        rfl
      | error e => simp [tfRun, tfSpec]
      | completed => simp [tfRun, tfSpec]

theorem tf_run_eq_spec {α} (w : Nat) (last : Option Nat) (msgs : TL α) :
    tfRun w last msgs = tfSpec w (match last with | none => msgs | some l => msgs.dropWhile (tfWin w l)) := by
  cases last with
  | some l => exact tfRun_some_eq w msgs.length msgs (Nat.le_refl _) l
  | none =>
    cases msgs with
    | nil => simp [tfRun, tfSpec]
    | cons a r =>
      obtain ⟨t, n⟩ := a
      cases n with
      | next x =>
        rw [tfSpec]
        simp only [timeline_simp, tfRun, tfOnNext, List.singleton_append]
        rw [tfRun_some_eq w r.length r (Nat.le_refl _) t]
        rfl
      | error e => simp [tfRun, tfSpec]
      | completed => simp [tfRun, tfSpec]

/-- the state while the element `x` that arrived at `t` is pending -/
def DebPending {α} (s : DebSt α) (t d : Nat) (x : α) : Prop :=
  s.hasValue = true ∧ s.value = some x ∧ s.timer = some (t + d, s.id)

theorem debOnNext_pending {α} (d t : Nat) (s : DebSt α) (x : α) : DebPending (debOnNext d t s x) t d x := by
  simp [DebPending, debOnNext]

theorem deb_pending {α} (d : Nat) (rest : TL α) (s : DebSt α) (t : Nat) (x : α) (h : DebPending s t d x) :
    debRun d s rest = debSpec d ((t, .next x) :: rest) := by
  induction rest generalizing s t x with
  | nil =>
    obtain ⟨h1, h2, h3⟩ := h
    simp [timeline_simp, debRun, debSpec, h3, debAction, h1, debEmit, h2]
  | cons a tl ih =>
    obtain ⟨t', n'⟩ := a
    obtain ⟨h1, h2, h3⟩ := h
    by_cases hlt : t + d < t'
    · cases n' with
      | next x' =>
        have := ih _ t' x' (debOnNext_pending d t' (debAdvance s t').1 x')
        simp only [debRun, this]
        simp [timeline_simp, debSpec, hlt, debAdvance, h3, debAction, h1, debEmit, h2]
      | error e =>
        simp [timeline_simp, debRun, debSpec, hlt, debAdvance, h3, debAction, h1, debEmit, h2, debOnError]
      | completed =>
        simp [timeline_simp, debRun, debSpec, hlt, debAdvance, h3, debAction, h1, debEmit, h2, debOnCompleted]
    · cases n' with
      | next x' =>
        have := ih _ t' x' (debOnNext_pending d t' (debAdvance s t').1 x')
        simp only [debRun, this]
        simp [debSpec, hlt, debAdvance, h3]
      | error e =>
        simp [timeline_simp, debRun, debSpec, hlt, debAdvance, h3, debOnError]
      | completed =>
        simp [timeline_simp, debRun, debSpec, hlt, debAdvance, h3, debOnCompleted, h1, debEmit, h2]

def DebIdle {α} (s : DebSt α) : Prop := s.timer = none ∧ s.hasValue = false

/-- the operator's state while `pend` is what is pending -/
def DebHolds {α} (d : Nat) (s : DebSt α) : Option (Nat × α) → Prop
  | none => DebIdle s
  | some (t, x) => DebPending s t d x

theorem deb_run_eq_spec {α} (d : Nat) (msgs : TL α) (s : DebSt α) (pend : Option (Nat × α)) (h : DebHolds d s pend) :
    debRun d s msgs = debSpec d (match pend with | none => msgs | some (t, x) => (t, .next x) :: msgs) := by
  cases pend with
  | some tx => exact deb_pending d msgs s tx.1 tx.2 h
  | none =>
    obtain ⟨htm, hv⟩ : DebIdle s := h
    cases msgs with
    | nil => simp [debRun, debSpec, htm]
    | cons a tl =>
      obtain ⟨t, n⟩ := a
      have hadv : debAdvance s t = (s, []) := by simp [debAdvance, htm]
      cases n with
      | next x =>
        have := deb_pending d tl _ t x (debOnNext_pending d t s x)
        simp only [debRun, hadv, this, List.nil_append]
      | error e => simp [timeline_simp, debRun, debSpec, hadv, debOnError]
      | completed => simp [timeline_simp, debRun, debSpec, hadv, debOnCompleted, hv]

/-- the element waiting to be sampled -/
def pendOf {α} (s : SampSt α) : Option α := if s.hasValue then s.value else none

theorem sampTick_out {α} (k : Nat) (s : SampSt α) :
    at_ k (sampTick s).2 = emitAt k (pendOf s) ++ (if s.atEnd then [(k, .completed)] else []) := by
  cases hv : s.hasValue <;> cases hval : s.value <;> cases he : s.atEnd <;>
    simp [timeline_simp, sampTick, pendOf, emitAt, hv, hval, he]

theorem pendOf_tick {α} (s : SampSt α) : pendOf (sampTick s).1 = none := by simp [pendOf, sampTick]
theorem atEnd_tick {α} (s : SampSt α) : (sampTick s).1.atEnd = s.atEnd := by simp [sampTick]
theorem pendOf_onNext {α} (s : SampSt α) (v : α) : pendOf (sampOnNext s v) = some v := by simp [pendOf, sampOnNext]
theorem atEnd_onNext {α} (s : SampSt α) (v : α) : (sampOnNext s v).atEnd = s.atEnd := by simp [sampOnNext]

theorem sampRun_cons_cons {α} (tf : Bool) (s : SampSt α) (t : Nat) (n : Notif α) (rest : TL α) (k : Nat) (ev : SampEv)
    (ticks : List (Nat × SampEv)) :
    sampRun tf s ((t, n) :: rest) ((k, ev) :: ticks) =
      if timerBefore tf k t then
        match ev with
        | .tick => at_ k (sampTick s).2 ++ (if s.atEnd then [] else sampRun tf (sampTick s).1 ((t, n) :: rest) ticks)
        | .err e => [(k, .error e)]
      else
        match n with
        | .next v => sampRun tf (sampOnNext s v) rest ((k, ev) :: ticks)
        | .error e => [(t, .error e)]
        | .completed => sampRun tf (sampOnCompleted s) [] ((k, ev) :: ticks) := by
  rw [sampRun.eq_def]
  cases ev <;> cases n <;> rfl

theorem samp_run_atEnd {α} (tf : Bool) (s : SampSt α) (h : s.atEnd = true) (ticks : List (Nat × SampEv)) :
    sampRun tf s [] ticks =
      match ticks with
      | [] => []
      | (k, .tick) :: _ => emitAt k (pendOf s) ++ [(k, .completed)]
      | (k, .err e) :: _ => [(k, .error e)] := by
  cases ticks with
  | nil => simp [sampRun]
  | cons a tl =>
    obtain ⟨k, ev⟩ := a
    cases ev with
    | tick => simp [sampRun, sampTick_out, h]
    | err e => simp [sampRun]

theorem samp_run_no_ticks {α} (tf : Bool) (msgs : TL α) (s : SampSt α) :
    sampRun tf s msgs [] = sampSpec tf (pendOf s) msgs [] := by
  induction msgs generalizing s with
  | nil => simp [sampRun, sampSpec, firstTerminal]
  | cons a r ih =>
    obtain ⟨t, n⟩ := a
    cases n with
    | next v =>
      have := ih (sampOnNext s v)
      simp only [sampSpec, firstTerminal] at this ⊢
      rw [sampRun]; exact this
    | error e => simp [sampRun, sampSpec, firstTerminal]
    | completed => simp [sampRun, sampSpec, firstTerminal]

theorem samp_run_eq_spec {α} (tf : Bool) (ticks : List (Nat × SampEv)) : ∀ (msgs : TL α) (s : SampSt α),
    s.atEnd = false → sampRun tf s msgs ticks = sampSpec tf (pendOf s) msgs ticks := by
  induction ticks with
  | nil => intro msgs s _; exact samp_run_no_ticks tf msgs s
  | cons a ticks iht =>
    obtain ⟨k, ev⟩ := a
    intro msgs
    induction msgs with
    | nil =>
      intro s hs
      cases ev with
      | tick =>
        have := iht [] (sampTick s).1 (by rw [atEnd_tick]; exact hs)
        rw [pendOf_tick] at this
        simp [sampRun, sampSpec, firstTerminal, sampTick_out, hs, this, latestOf, nexts]
      | err e => simp [sampRun, sampSpec, firstTerminal]
    | cons b r ihm =>
      obtain ⟨t, n⟩ := b
      intro s hs
      rw [sampRun_cons_cons]
      by_cases hb : timerBefore tf k t = true
      · cases ev with
        | tick =>
          have := iht ((t, n) :: r) (sampTick s).1 (by rw [atEnd_tick]; exact hs)
          rw [pendOf_tick] at this
          simp [sampSpec, hb, firstTerminal, sampTick_out, hs, this, latestOf, nexts]
        | err e => simp [sampSpec, hb, firstTerminal]
      · simp only [Bool.not_eq_true] at hb
        cases n with
        | next v =>
          have := ihm (sampOnNext s v) (by rw [atEnd_onNext]; exact hs)
          rw [pendOf_onNext] at this
          simp only [hb, Bool.false_eq_true, if_false, this]
          simp [sampSpec, hb, firstTerminal, latestOf, nexts]
        | error e => simp [sampSpec, hb, firstTerminal]
        | completed =>
          simp only [hb, Bool.false_eq_true, if_false]
          rw [samp_run_atEnd tf _ (by simp [sampOnCompleted])]
          cases ev <;> simp [sampSpec, hb, firstTerminal, latestOf, nexts, pendOf, sampOnCompleted] <;> rfl

end Timed
