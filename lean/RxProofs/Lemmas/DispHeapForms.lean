import RxProofs.Lemmas.PipeHeap
/-!
# `Pipe.apply` on a heap of `k` leaves followed by one container (C26Heap)

`mkH K k df cd co` is the heap `leaf_0 … leaf_{k-1}, container` where leaf `i` has `done = df i` and the container
(kind `K`) has `done = cd`, owning edges `co`.  On such heaps `settle` is one round of propagation, and every
`Pipe.Op` on the container has a closed form.
-/
namespace Pipe

def leafN (d : Bool) : Node := { kind := .leaf, done := d }

def mkH (K : Kind) (k : Nat) (df : Nat → Bool) (cd : Bool) (co : List Nat) : Heap :=
  (List.range k).map (fun i => leafN (df i)) ++ [{ kind := K, done := cd, owned := co }]

def IsCont (K : Kind) : Prop := K = .comp ∨ K = .serial ∨ K = .single ∨ K = .multi

theorem IsAssign.isCont {K : Kind} (h : IsAssign K) : IsCont K := .inr h

/-- every closed form below is read off index by index (`List.ext_getElem?`) -/
theorem mkH_get (K : Kind) (k : Nat) (df : Nat → Bool) (cd : Bool) (co : List Nat) (i : Nat) :
    (mkH K k df cd co)[i]? =
      if i < k then some (leafN (df i)) else if i = k then some { kind := K, done := cd, owned := co } else none := by
  unfold mkH
  by_cases h : i < k
  · simp [List.getElem?_append_left, h]
  · by_cases e : i = k
    · subst e; simp
    · rw [List.getElem?_eq_none (by simp; omega)]; simp [h, e]

theorem obf_mkH (K : Kind) (hK : IsCont K) (k : Nat) (df : Nat → Bool) (cd : Bool) (co : List Nat) (y : Nat) :
    ownedByFiring (mkH K k df cd co) y = (cd && co.contains y) := by
  rcases hK with rfl | rfl | rfl | rfl <;>
  simp [ownedByFiring, mkH, leafN, Node.fires, List.any_append, List.any_map, Function.comp_def]

theorem propDone_mkH (K : Kind) (hK : IsCont K) (k : Nat) (df : Nat → Bool) (cd : Bool) (co : List Nat) :
    propDone (mkH K k df cd co) = mkH K k (fun i => df i || (cd && co.contains i)) cd co := by
  refine List.ext_getElem? fun i => ?_
  rw [propDone_get, mkH_get, mkH_get]
  rcases Nat.lt_trichotomy i k with h | rfl | h
  · simp [h, stepDone, obf_mkH K hK, leafN]
  · simp [stepDone, obf_mkH K hK]; exact fun h _ => h
  · simp [Nat.lt_asymm h, Nat.ne_of_gt h]

theorem propReleased_mkH (K : Kind) (hK : IsCont K) (k : Nat) (df : Nat → Bool) (cd : Bool) (co : List Nat) :
    propReleased (mkH K k df cd co) = mkH K k df cd co := by
  refine List.ext_getElem? fun i => ?_
  rw [propReleased_get, mkH_get]
  rcases Nat.lt_trichotomy i k with h | rfl | h
  · simp [h, stepReleased, leafN]
  · rcases hK with rfl | rfl | rfl | rfl <;> simp [stepReleased]
  · simp [Nat.lt_asymm h, Nat.ne_of_gt h]

theorem propagate_mkH (K : Kind) (hK : IsCont K) (k : Nat) (df : Nat → Bool) (cd : Bool) (co : List Nat) :
    propagate (mkH K k df cd co) = mkH K k (fun i => df i || (cd && co.contains i)) cd co := by
  unfold propagate
  rw [propDone_mkH K hK, propReleased_mkH K hK]

/-- on these heaps nested disposal is one round: the leaves owned by a disposed container are disposed -/
theorem settle_mkH (K : Kind) (hK : IsCont K) (k : Nat) (df : Nat → Bool) (cd : Bool) (co : List Nat) :
    settle (mkH K k df cd co) = mkH K k (fun i => df i || (cd && co.contains i)) cd co := by
  have hp := propagate_mkH K hK k df cd co
  rw [settle_iter 1] <;> simp only [iter]
  · exact hp
  rw [hp, propagate_mkH K hK]
  congr 1
  funext i
  cases df i <;> cases cd <;> cases co.contains i <;> rfl

theorem getCont_mkH (K : Kind) (k : Nat) (df : Nat → Bool) (cd : Bool) (co : List Nat) :
    (mkH K k df cd co)[k]? = some { kind := K, done := cd, owned := co } := by
  simp [mkH]

theorem setNode_mkH (K : Kind) (k : Nat) (df : Nat → Bool) (cd : Bool) (co co' : List Nat) :
    setNode (mkH K k df cd co) k (fun n => { n with owned := co' }) = mkH K k df cd co' := by
  refine List.ext_getElem? fun i => ?_
  rw [setNode_get, mkH_get, mkH_get]
  rcases Nat.lt_trichotomy i k with h | rfl | h
  · simp [h, Nat.ne_of_lt h]
  · simp
  · simp [Nat.lt_asymm h, Nat.ne_of_gt h]

theorem markDone_mkH (K : Kind) (k : Nat) (df : Nat → Bool) (cd : Bool) (co ids : List Nat) :
    markDone (mkH K k df cd co) ids = mkH K k (fun i => df i || ids.contains i) (cd || ids.contains k) co := by
  refine List.ext_getElem? fun i => ?_
  rw [markDone_get, mkH_get, mkH_get]
  rcases Nat.lt_trichotomy i k with h | rfl | h
  · by_cases hi : i ∈ ids <;> simp [h, hi, leafN]
  · by_cases hi : i ∈ ids <;> simp [hi]
  · simp [Nat.lt_asymm h, Nat.ne_of_gt h]

theorem mkH_congr (K : Kind) (k : Nat) (df df' : Nat → Bool) (cd : Bool) (co : List Nat)
    (h : ∀ i, i < k → df i = df' i) : mkH K k df cd co = mkH K k df' cd co := by
  refine List.ext_getElem? fun i => ?_
  rw [mkH_get, mkH_get]
  split
  · rw [h i ‹_›]
  · rfl

theorem settle_applyEff (K : Kind) (hK : IsCont K) (k : Nat) (df : Nat → Bool) (cd : Bool) (co co' ids : List Nat)
    (upd : Option (Nat × List Nat))
    (hupd : upd = some (k, co') ∨ (upd = none ∧ co' = co)) :
    settle (applyEff (mkH K k df cd co) { upd := upd, marks := ids }) =
      mkH K k (fun i => df i || ids.contains i || ((cd || ids.contains k) && co'.contains i)) (cd || ids.contains k) co' := by
  rcases hupd with rfl | ⟨rfl, rfl⟩
  · simp only [applyEff, setNode_mkH, markDone_mkH]
    rw [settle_mkH K hK]
  · simp only [applyEff, markDone_mkH]
    rw [settle_mkH K hK]

theorem apply_dispose (K : Kind) (hK : IsCont K) (k : Nat) (df : Nat → Bool) (cd : Bool) (co : List Nat) :
    apply (mkH K k df cd co) (.dispose k) = (mkH K k (fun j => df j || co.contains j) true co, .ok) := by
  simp only [apply, applyRaw, effect]
  rw [settle_applyEff K hK k df cd co co [k] none (Or.inr ⟨rfl, rfl⟩)]
  simp only [List.contains_cons, List.contains_nil, Bool.or_false, beq_self_eq_true, Bool.or_true, Bool.true_and]
  congr 1
  apply mkH_congr
  intro j hj
  have : (j == k) = false := by simp; omega
  simp [this]

theorem apply_add (k : Nat) (df : Nat → Bool) (cd : Bool) (co : List Nat) (x : Nat) :
    apply (mkH .comp k df cd co) (.add k x) =
      (mkH .comp k (fun j => df j || (cd && (co ++ [x]).contains j)) cd (co ++ [x]), .ok) := by
  simp only [apply, applyRaw, effect, getCont_mkH, beq_self_eq_true, if_true]
  rw [settle_applyEff .comp (Or.inl rfl) k df cd co (co ++ [x]) [] _ (Or.inl rfl)]
  simp

theorem apply_remove_hit (k : Nat) (df : Nat → Bool) (co : List Nat) (x : Nat)
    (hx : x < k) (hmem : x ∈ co) :
    apply (mkH .comp k df false co) (.remove k x) =
      (mkH .comp k (fun j => df j || decide (j = x)) false (co.erase x), .ok) := by
  have hc : co.contains x = true := by simp [hmem]
  have hkx : k ≠ x := by omega
  simp only [apply, applyRaw, effect, getCont_mkH, bne_self_eq_false, Bool.false_eq_true, if_false, hc, if_true]
  rw [settle_applyEff .comp (Or.inl rfl) k df false co (co.erase x) [x] _ (Or.inl rfl)]
  simp [hkx]

theorem apply_remove_miss (k : Nat) (df : Nat → Bool) (cd : Bool) (co : List Nat) (x : Nat) (hmiss : cd = true ∨ x ∉ co) :
    apply (mkH .comp k df cd co) (.remove k x) =
      (mkH .comp k (fun j => df j || (cd && co.contains j)) cd co, .ok) := by
  have hres : effect (mkH .comp k df cd co) (.remove k x) = {} := by
    simp only [effect, getCont_mkH, bne_self_eq_false, Bool.false_eq_true, if_false]
    rcases hmiss with h | h
    · simp [h]
    · cases cd <;> simp [h]
  simp only [apply, applyRaw, hres]
  rw [settle_applyEff .comp (Or.inl rfl) k df cd co co [] none (Or.inr ⟨rfl, rfl⟩)]
  simp

theorem apply_clear (k : Nat) (df : Nat → Bool) (cd : Bool) (co : List Nat) (hco : ∀ y ∈ co, y < k) :
    apply (mkH .comp k df cd co) (.clear k) =
      (mkH .comp k (fun j => df j || co.contains j) cd (if cd then co else []), .ok) := by
  cases cd
  · simp only [apply, applyRaw, effect, getCont_mkH, bne_self_eq_false, Bool.false_eq_true, if_false]
    rw [settle_applyEff .comp (Or.inl rfl) k df false co [] co _ (Or.inl rfl)]
    have hk : k ∉ co := fun h => absurd (hco k h) (Nat.lt_irrefl k)
    simp [hk]
  · simp only [apply, applyRaw, effect, getCont_mkH, bne_self_eq_false, Bool.false_eq_true, if_false, if_true]
    rw [settle_applyEff .comp (Or.inl rfl) k df true co co [] none (Or.inr ⟨rfl, rfl⟩)]
    simp

theorem apply_assign_dead (K : Kind) (hK : IsAssign K) (k : Nat) (df : Nat → Bool)
    (co : List Nat) (x : Nat) :
    apply (mkH K k df true co) (.assign k x) =
      (mkH K k (fun j => df j || (co ++ [x]).contains j) true (co ++ [x]), .ok) := by
  have hKc := hK.isCont
  rcases hK with rfl | rfl | rfl <;>
    (simp only [apply, applyRaw, effect, getCont_mkH, if_true]
     rw [settle_applyEff _ hKc k df true co (co ++ [x]) [] _ (Or.inl rfl)]
     simp)

theorem apply_assign_serial (k : Nat) (df : Nat → Bool) (co : List Nat) (x : Nat) (hco : ∀ y ∈ co, y < k) :
    apply (mkH .serial k df false co) (.assign k x) =
      (mkH .serial k (fun j => df j || co.contains j) false [x], .ok) := by
  simp only [apply, applyRaw, effect, getCont_mkH, Bool.false_eq_true, if_false]
  rw [settle_applyEff .serial (Or.inr (Or.inl rfl)) k df false co [x] co _ (Or.inl rfl)]
  have hk : k ∉ co := fun h => absurd (hco k h) (Nat.lt_irrefl k)
  simp [hk]

theorem apply_assign_multi (k : Nat) (df : Nat → Bool) (co : List Nat) (x : Nat) :
    apply (mkH .multi k df false co) (.assign k x) = (mkH .multi k df false [x], .ok) := by
  simp only [apply, applyRaw, effect, getCont_mkH, Bool.false_eq_true, if_false]
  rw [settle_applyEff .multi (Or.inr (Or.inr (Or.inr rfl))) k df false co [x] [] _ (Or.inl rfl)]
  simp

theorem apply_assign_single_empty (k : Nat) (df : Nat → Bool) (x : Nat) :
    apply (mkH .single k df false []) (.assign k x) = (mkH .single k df false [x], .ok) := by
  simp only [apply, applyRaw, effect, getCont_mkH, Bool.false_eq_true, if_false, List.isEmpty_nil, if_true]
  rw [settle_applyEff .single (Or.inr (Or.inr (Or.inl rfl))) k df false [] [x] [] _ (Or.inl rfl)]
  simp

theorem apply_assign_single_full (k : Nat) (df : Nat → Bool) (c : Nat) (co : List Nat) (x : Nat) :
    apply (mkH .single k df false (c :: co)) (.assign k x) = (mkH .single k df false (c :: co), .rejected) := by
  have he : effect (mkH .single k df false (c :: co)) (.assign k x) = { res := .rejected } := by
    simp [effect, getCont_mkH]
  have ha : applyEff (mkH .single k df false (c :: co)) { res := .rejected } = applyEff (mkH .single k df false (c :: co)) {} := rfl
  simp only [apply, applyRaw, he, ha]
  rw [settle_applyEff .single (Or.inr (Or.inr (Or.inl rfl))) k df false (c :: co) (c :: co) [] none (Or.inr ⟨rfl, rfl⟩)]
  simp

end Pipe
