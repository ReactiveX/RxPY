import RxProofs.Lemmas.Thr2Serial
/-!
# Lemmas for C43 — the lock

Programs that never call downstream outside the lock exclude each other from the observer (`LInv`); programs made of
locked blocks only are simulated by the machine that runs whole blocks in the order of acquisition (`SInv`).
-/

namespace Thr2

variable {σ α : Type}

/-- an invariant of every system, whatever its programs -/
def Own (S : Sys σ α) : Prop := ∀ j, (S.thr j).holds = true → S.lock = some j

theorem init_Own (s0 : σ) (progs : Nat → TProg σ α) : Own (init s0 progs) :=
  fun j hj => by simp [init, TS.holds] at hj

theorem step_Own (S S' : Sys σ α) (i : Nat) (hO : Own S) (hs : step S i = some S') : Own S' := by
  have mk : ∀ (t' : TS σ α) (lk : Option Nat) (S'' : Sys σ α), S''.thr = upd S.thr i t' → S''.lock = lk →
      (t'.holds = true → lk = some i) → (∀ j, j ≠ i → (S.thr j).holds = true → lk = some j) → Own S'' := by
    intro t' lk S'' ht hl h1 h2 j hj
    rw [hl]
    by_cases hji : j = i
    · subst hji; rw [ht] at hj; simp at hj; exact h1 hj
    · rw [ht, upd_other _ _ _ _ hji] at hj; exact h2 j hji hj
  have keep : ∀ (t' : TS σ α) (S'' : Sys σ α), S''.thr = upd S.thr i t' → S''.lock = S.lock →
      (t'.holds = true → (S.thr i).holds = true) → Own S'' :=
    fun t' S'' ht hl hh => mk t' S.lock S'' ht hl (fun h => hO i (hh h)) (fun j _ hj => hO j hj)
  cases step_Step hs with
  | acquire h hl =>
    exact mk _ (some i) _ rfl rfl (fun _ => rfl) fun j _ hj => by have := hO j hj; rw [hl] at this; cases this
  | release h =>
    have hli : S.lock = some i := hO i (by simp [h, TS.holds])
    exact mk _ none _ rfl rfl (by simp [TS.holds]) fun j hji hj => by
      have := hO j hj; rw [hli] at this; exact absurd (Option.some.inj this).symm hji
  | ucall h _ => exact keep _ _ rfl rfl (by split <;> simp [TS.holds])
  | free h | skip h _ | uEnter h | uExit h => exact keep _ _ rfl rfl (by simp [TS.holds])
  | body h _ | bodyCall h _ | enter h | exit h => exact keep _ _ rfl rfl (by simp [h, TS.holds])

theorem AllLocked.noUCall {p : TProg σ α} (h : AllLocked p) : NoUCall p := by
  induction h with
  | halt => exact .halt
  | crit _ ih => exact .crit ih

def LockedTS (P : TProg σ α → Prop) : TS σ α → Prop
  | .run p => P p
  | .crit _ k | .critChk _ _ k | .critIn _ k => P k
  | .uChk .. | .uIn .. => False

theorem LockedTS.holds {P : TProg σ α → Prop} {t : TS σ α} (h : LockedTS P t) (hi : t.inObs = true) :
    t.holds = true := by
  cases t <;> first | rfl | exact False.elim h | cases hi

theorem LockedTS.step {P : TProg σ α → Prop} (hfree : ∀ {u n} (s : σ), P (.free u n) → P (n s))
    (hcrit : ∀ {b k}, P (.crit b k) → P k) (hucall : ∀ {o k}, ¬P (.ucall o k)) {S S' : Sys σ α} {i : Nat}
    (h : ∀ j, LockedTS P (S.thr j)) (hs : step S i = some S') : ∀ j, LockedTS P (S'.thr j) := by
  have hi := h i
  have mk : ∀ t' : TS σ α, LockedTS P t' → ∀ j, LockedTS P (upd S.thr i t' j) := fun _ => forall_upd h i
  cases step_Step hs with
  | free h' => rw [h'] at hi; exact mk _ (hfree _ hi)
  | acquire h' _ => rw [h'] at hi; exact mk _ (hcrit hi)
  | skip h' _ | ucall h' _ => rw [h'] at hi; exact absurd hi hucall
  | uEnter h' | uExit h' => rw [h'] at hi; exact hi.elim
  | release h' | body h' _ | enter h' | exit h' => rw [h'] at hi; exact mk _ hi
  | bodyCall h' _ => rw [h'] at hi; exact mk _ (by split <;> exact hi)

structure LInv (S : Sys σ α) : Prop where
  own : Own S
  noUCall : ∀ j, LockedTS NoUCall (S.thr j)

theorem LInv_excl (S : Sys σ α) (h : LInv S) : Excl S := fun j k hj hk =>
  Option.some.inj ((h.own j ((h.noUCall j).holds hj)).symm.trans (h.own k ((h.noUCall k).holds hk)))

theorem init_LInv (s0 : σ) (progs : Nat → TProg σ α) (hp : ∀ i, NoUCall (progs i)) : LInv (init s0 progs) :=
  ⟨init_Own s0 progs, hp⟩

theorem step_LInv (S S' : Sys σ α) (i : Nat) (hL : LInv S) (hs : step S i = some S') : LInv S' :=
  ⟨step_Own S S' i hL.own hs,
    LockedTS.step (fun _ h => by cases h with | free hh => exact hh _) (fun h => by cases h with | crit hh => exact hh)
      nofun hL.noUCall hs⟩

def TS.cont : TS σ α → TProg σ α
  | .run p => p
  | .crit _ k | .critChk _ _ k | .critIn _ k | .uChk _ k | .uIn k => k

/-- what the block in progress (if any) still does when run to its end from the current state -/
def pending (S : Sys σ α) : σ × List (Notif α) :=
  match S.lock with
  | none => (S.st, [])
  | some i =>
    match S.thr i with
    | .crit b _ | .critChk _ b _ | .critIn b _ => b.exec S.st
    | _ => (S.st, [])

/-- `pending`, thread by thread -/
def TS.todo (t : TS σ α) (st : σ) : σ × List (Notif α) :=
  match t with
  | .crit b _ | .critChk _ b _ | .critIn b _ => b.exec st
  | _ => (st, [])

theorem pending_free {S : Sys σ α} (h : S.lock = none) : pending S = (S.st, []) := by
  unfold pending; rw [h]

theorem pending_held {S : Sys σ α} {i : Nat} (h : S.lock = some i) : pending S = (S.thr i).todo S.st := by
  unfold pending TS.todo; rw [h]

theorem pending_moved {S : Sys σ α} {i : Nat} {f : Nat → TS σ α} {t : TS σ α} (h : S.lock = some i)
    (ht : S.thr = upd f i t) : pending S = t.todo S.st := by
  rw [pending_held h, ht, upd_same]

/-- the sequential machine that has run the blocks in the order of `S.acq` is where `S` will be once the block in
progress is done -/
structure SInv (q0 : Seq σ α) (S : Sys σ α) : Prop where
  own : Own S
  locked : ∀ j, LockedTS AllLocked (S.thr j)
  thr : (Seq.run q0 S.acq).thr = fun j => (S.thr j).cont
  st : (Seq.run q0 S.acq).st = (pending S).1
  calls : (Seq.run q0 S.acq).calls = S.calls ++ (pending S).2

theorem Seq.run_snoc (q : Seq σ α) (l : List Nat) (i : Nat) : Seq.run q (l ++ [i]) = Seq.step (Seq.run q l) i := by
  simp [Seq.run, List.foldl_append]

theorem Seq.step_crit {q : Seq σ α} {i : Nat} {b : Prog σ α} {k : TProg σ α} (h : q.thr i = .crit b k) :
    q.step i = { st := (b.exec q.st).1, calls := q.calls ++ (b.exec q.st).2, thr := upd q.thr i k } := by
  unfold Seq.step; rw [h]

theorem Prog.exec_step (u : σ → σ) (o : σ → Option (Notif α)) (n : σ → Prog σ α) (s : σ) :
    (Prog.step u o n).exec s = (((n s).exec (u s)).1, (o s).toList ++ ((n s).exec (u s)).2) := rfl

theorem init_SInv (s0 : σ) (progs : Nat → TProg σ α) (hp : ∀ i, AllLocked (progs i)) :
    SInv { st := s0, calls := [], thr := progs } (init s0 progs) :=
  ⟨init_Own s0 progs, hp, rfl, by rw [pending_free rfl]; rfl, by rw [pending_free rfl]; rfl⟩

theorem step_SInv (q0 : Seq σ α) (S S' : Sys σ α) (i : Nat) (hI : SInv q0 S) (hs : step S i = some S') :
    SInv q0 S' := by
  have hown' := step_Own S S' i hI.own hs
  have hlk' := LockedTS.step (P := AllLocked) (fun _ h => nomatch h) (fun h => by cases h with | crit hh => exact hh)
    nofun hI.locked hs
  have hali := hI.locked i
  -- thread `i` holds the lock and keeps it, or gives it back with nothing left to do
  have holder : ∀ (t t' : TS σ α) (S'' : Sys σ α), S.thr i = t → t.holds = true → Own S'' → S''.thr = upd S.thr i t' →
      S''.acq = S.acq → (S''.lock = S.lock ∨ S''.lock = none ∧ t'.todo S''.st = (S''.st, [])) →
      (∀ j, LockedTS AllLocked (S''.thr j)) →
      t'.cont = t.cont → (t'.todo S''.st).1 = (t.todo S.st).1 →
      S''.calls ++ (t'.todo S''.st).2 = S.calls ++ (t.todo S.st).2 → SInv q0 S'' := by
    intro t t' S'' h hh ho ht ha hl hall hc h1 h2
    have hli := hI.own i (h ▸ hh)
    have hp : pending S = t.todo S.st := h ▸ pending_held hli
    have hp' : pending S'' = t'.todo S''.st := by
      rcases hl with hl | ⟨hl, hn⟩
      · exact pending_moved (hl.trans hli) ht
      · rw [pending_free hl, hn]
    refine ⟨ho, hall, ?_, ?_, ?_⟩
    · rw [ha, ht]; exact hI.thr.trans (map_upd_same TS.cont S.thr i (hc.trans (congrArg TS.cont h.symm))).symm
    · rw [ha, hp', h1, ← hp]; exact hI.st
    · rw [ha, hp', h2, ← hp]; exact hI.calls
  cases step_Step hs with
  | free h | skip h _ | ucall h _ | uEnter h | uExit h => rw [h] at hali; cases hali
  | @acquire b k h hl =>
    -- the sequential machine runs the block `b` of thread `i`
    have hq : (Seq.run q0 S.acq).thr i = .crit b k := (congrFun hI.thr i).trans (by rw [h]; rfl)
    have hst := hI.st
    have hcalls := hI.calls
    rw [pending_free hl] at hst hcalls
    refine ⟨hown', hlk', ?_, ?_, ?_⟩
    · show (Seq.run q0 (S.acq ++ [i])).thr = _
      rw [Seq.run_snoc, Seq.step_crit hq, hI.thr]; exact (map_upd TS.cont S.thr i (.crit b k)).symm
    · show (Seq.run q0 (S.acq ++ [i])).st = _
      rw [Seq.run_snoc, Seq.step_crit hq, pending_moved (i := i) rfl rfl, hst]; rfl
    · show (Seq.run q0 (S.acq ++ [i])).calls = _
      rw [Seq.run_snoc, Seq.step_crit hq, pending_moved (i := i) rfl rfl, hst, hcalls, List.append_nil]; rfl
  | release h => exact holder _ _ _ h rfl hown' rfl rfl (.inr ⟨rfl, rfl⟩) hlk' rfl rfl rfl
  | @body u o n k h ho =>
    refine holder _ _ _ h rfl hown' rfl rfl (.inl rfl) hlk' rfl rfl ?_
    show S.calls ++ ((n S.st).exec (u S.st)).2 = S.calls ++ ((Prog.step u o n).exec S.st).2
    rw [Prog.exec_step, ho]; rfl
  | @bodyCall u o n k c h hc =>
    refine holder _ _ _ h rfl hown' rfl rfl (.inl rfl) hlk' (by split <;> rfl)
      (by split <;> rfl) ?_
    show (S.calls ++ [c]) ++ _ = S.calls ++ ((Prog.step u o n).exec S.st).2
    rw [Prog.exec_step, hc, List.append_assoc]; split <;> rfl
  | enter h => exact holder _ _ _ h rfl hown' rfl rfl (.inl rfl) hlk' rfl rfl rfl
  | exit h => exact holder _ _ _ h rfl hown' rfl rfl (.inl rfl) hlk' rfl rfl rfl

end Thr2
