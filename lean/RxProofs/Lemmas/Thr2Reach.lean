/-!
# Invariants of schedule-driven models (`step : σ → α → Option σ`, a `run` that skips disabled actions); reachable sets

`explore key next n todo seen`: `seen` are the states found, `todo ⊆ seen` those not yet expanded; `none` when the
fuel runs out.  `key` is compared first because the derived equality of a large `σ` is slow to evaluate; any `key` is
sound.
-/

namespace Thr2Reach

/-- `run` is given by its two equations (`rfl` for each model's own `run`). -/
theorem run_invariant {σ α : Type} {step : σ → α → Option σ} {run : σ → List α → σ}
    (hnil : ∀ s, run s [] = s) (hcons : ∀ s a as, run s (a :: as) = run ((step s a).getD s) as)
    {P : σ → Prop} (hstep : ∀ s t a, P s → step s a = some t → P t) :
    ∀ (sch : List α) (s : σ), P s → P (run s sch)
  | [], s, h => by rw [hnil]; exact h
  | a :: as, s, h => by
    rw [hcons]
    refine run_invariant hnil hcons hstep as _ ?_
    cases hst : step s a with
    | none => exact h
    | some t => exact hstep s t a h hst

/-- for `step = (stepL …).map f` -/
theorem of_outcomes {β γ : Type} {f : β → γ} {o : Option β} {t : γ} {P : γ → Prop} (h : ∀ p ∈ o, P (f p))
    (hs : o.map f = some t) : P t := by
  obtain ⟨p, hp, rfl⟩ := Option.map_eq_some_iff.1 hs
  exact h p hp

variable {σ : Type} [DecidableEq σ]

def explore (key : σ → Nat) (next : σ → List σ) : Nat → List σ → List σ → Option (List σ)
  | 0, _, _ => none
  | _ + 1, [], seen => some seen
  | n + 1, s :: todo, seen =>
    let new := (next s).filter fun t => !seen.any fun u => key u == key t && u == t
    explore key next n (new ++ todo) (new ++ seen)

theorem explore_closed {key : σ → Nat} {next : σ → List σ} {R : List σ} : ∀ (n : Nat) (todo seen : List σ),
    explore key next n todo seen = some R →
    (∀ s ∈ seen, s ∈ todo ∨ ∀ t ∈ next s, t ∈ seen) →
    (∀ s ∈ seen, s ∈ R) ∧ ∀ s ∈ R, ∀ t ∈ next s, t ∈ R
  | 0, _, _, h, _ => by simp [explore] at h
  | _ + 1, [], seen, h, inv => by
    cases h
    exact ⟨fun _ hs => hs, fun s hs => (inv s hs).resolve_left (by simp)⟩
  | n + 1, s :: todo, seen, h, inv => by
    have ih := explore_closed n _ _ h fun x hx => by
      rcases List.mem_append.1 hx with hx | hx
      · exact .inl (List.mem_append_left _ hx)
      · rcases inv x hx with hx' | hx'
        · rcases List.mem_cons.1 hx' with rfl | hx'
          · refine .inr fun t ht => ?_
            by_cases hts : t ∈ seen
            · exact List.mem_append_right _ hts
            · refine List.mem_append_left _ (List.mem_filter.2 ⟨ht, ?_⟩)
              simp only [Bool.not_eq_eq_eq_not, Bool.not_true, List.any_eq_false, Bool.and_eq_true, beq_iff_eq]
              rintro u hu ⟨_, rfl⟩
              exact hts hu
          · exact .inl (List.mem_append_right _ hx')
        · exact .inr fun t ht => List.mem_append_right _ (hx' t ht)
    exact ⟨fun x hx => ih.1 x (List.mem_append_right _ hx), ih.2⟩

theorem run_mem {α : Type} {step : σ → α → Option σ} {run : σ → List α → σ}
    (hnil : ∀ s, run s [] = s) (hcons : ∀ s a as, run s (a :: as) = run ((step s a).getD s) as)
    {key : σ → Nat} {next : σ → List σ} (hnext : ∀ s a t, step s a = some t → t ∈ next s)
    {s0 : σ} {R : List σ} {n : Nat} (h : explore key next n [s0] [s0] = some R) (sch : List α) :
    run s0 sch ∈ R := by
  obtain ⟨hinit, hclosed⟩ := explore_closed n _ _ h (by simp)
  exact run_invariant hnil hcons (fun s t a hs hst => hclosed s hs t (hnext s a t hst)) sch _ (hinit _ (by simp))

end Thr2Reach
