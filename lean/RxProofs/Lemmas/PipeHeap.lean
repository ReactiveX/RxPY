import RxModel.PipeHeap
/-! `Pipe.settle` reaches a fixpoint and only raises flags (`HeapExt`); lookups of the index-wise heap maps. -/
namespace Pipe

/-- the kinds with one owning edge at most: Serial / SingleAssignment / MultipleAssignment disposable -/
def IsAssign (K : Kind) : Prop := K = .serial ∨ K = .single ∨ K = .multi

theorem getElem?_zipIdx_map {α β} (l : List α) (f : α × Nat → β) (i : Nat) :
    ((l.zipIdx).map f)[i]? = (l[i]?).map (fun a => f (a, i)) := by
  simp [List.getElem?_map, List.getElem?_zipIdx]
  cases l[i]? <;> simp

theorem propDone_get (h : Heap) (i : Nat) : (propDone h)[i]? = (h[i]?).map (fun n => stepDone h (n, i)) :=
  getElem?_zipIdx_map h _ i

theorem propReleased_get (h : Heap) (i : Nat) : (propReleased h)[i]? = (h[i]?).map (fun n => stepReleased h (n, i)) :=
  getElem?_zipIdx_map h _ i

theorem propagate_get (h : Heap) (i : Nat) :
    (propagate h)[i]? = (h[i]?).map (fun n => stepReleased (propDone h) (stepDone h (n, i), i)) := by
  unfold propagate
  rw [propReleased_get, propDone_get]; cases h[i]? <;> simp

theorem propagate_fix_done (h : Heap) (hfix : propagate h = h) (i : Nat) (n : Node)
    (hn : h[i]? = some n) : ownedByFiring h i = true → n.done = true := by
  intro ho
  have := propagate_get h i
  rw [hfix, hn] at this
  simp only [Option.map_some, Option.some.injEq] at this
  have hd : n.done = (stepReleased (propDone h) (stepDone h (n, i), i)).done := by rw [← this]
  simp [stepReleased, stepDone, ho] at hd
  exact hd

theorem propDone_fix_of (h : Heap) (hfix : propagate h = h) : propDone h = h := by
  apply List.ext_getElem?
  intro i
  rw [propDone_get]
  cases hn : h[i]? with
  | none => rfl
  | some n =>
    simp only [Option.map_some, Option.some.injEq]
    obtain ⟨k, d, r, o, p⟩ := n
    have := propagate_fix_done h hfix i _ hn
    cases hf : ownedByFiring h i <;> simp_all [stepDone]

theorem propagate_fix_released (h : Heap) (hfix : propagate h = h) (i : Nat) (n : Node)
    (hn : h[i]? = some n) (hk : n.kind = .refcount) (hd : n.done = true) (hl : liveInners h i = 0) :
    n.released = true := by
  have hpd := propDone_fix_of h hfix
  have := propagate_get h i
  rw [hfix, hn] at this
  simp only [Option.map_some, Option.some.injEq] at this
  have hr : n.released = (stepReleased (propDone h) (stepDone h (n, i), i)).released := by rw [← this]
  rw [hpd] at hr
  simp [stepReleased, stepDone, hk, hd, hl] at hr
  exact hr

theorem settleFuel_fix (n : Nat) (h : Heap) (hp : pending h ≤ n) :
    propagate (settleFuel n h) = settleFuel n h := by
  induction n generalizing h with
  | zero =>
    simp only [settleFuel]
    by_cases hfix : propagate h = h
    · exact hfix
    · have := pending_propagate_lt h hfix; omega
  | succ n ih =>
    simp only [settleFuel]
    by_cases hfix : propagate h = h
    · simp [hfix]
    · simp only [hfix, if_false]
      have := pending_propagate_lt h hfix
      exact ih _ (by omega)

theorem settle_fix (h : Heap) : propagate (settle h) = settle h :=
  settleFuel_fix _ h (Nat.le_refl _)

structure Ext (a b : Node) : Prop where
  kind : b.kind = a.kind
  owned : b.owned = a.owned
  parent : b.parent = a.parent
  done : a.done = true → b.done = true
  released : a.released = true → b.released = true

theorem Ext.refl (a : Node) : Ext a a := ⟨rfl, rfl, rfl, id, id⟩
theorem Ext.trans {a b c : Node} (h1 : Ext a b) (h2 : Ext b c) : Ext a c :=
  ⟨h2.kind.trans h1.kind, h2.owned.trans h1.owned, h2.parent.trans h1.parent,
   fun h => h2.done (h1.done h), fun h => h2.released (h1.released h)⟩

structure HeapExt (h h' : Heap) : Prop where
  get : ∀ {i : Nat} {a : Node}, h[i]? = some a → ∃ b, h'[i]? = some b ∧ Ext a b
  get' : ∀ {i : Nat} {b : Node}, h'[i]? = some b → ∃ a, h[i]? = some a ∧ Ext a b

theorem HeapExt.refl (h : Heap) : HeapExt h h := ⟨fun ha => ⟨_, ha, Ext.refl _⟩, fun hb => ⟨_, hb, Ext.refl _⟩⟩

theorem HeapExt.trans {a b c : Heap} (h1 : HeapExt a b) (h2 : HeapExt b c) : HeapExt a c where
  get ha := let ⟨_, hb, e1⟩ := h1.get ha; let ⟨z, hc, e2⟩ := h2.get hb; ⟨z, hc, e1.trans e2⟩
  get' hc := let ⟨_, hb, e2⟩ := h2.get' hc; let ⟨x, ha, e1⟩ := h1.get' hb; ⟨x, ha, e1.trans e2⟩

/-- the frame of propagation: kinds, owning edges and parents never change; flags only go up -/
theorem propagate_ext (h : Heap) : HeapExt h (propagate h) := by
  have key : ∀ (n : Node) (i : Nat), Ext n (stepReleased (propDone h) (stepDone h (n, i), i)) := fun n i => by
    refine ⟨rfl, rfl, rfl, ?_, ?_⟩ <;> simp [stepReleased, stepDone] <;> intro hh <;> simp [hh]
  constructor
  · intro i a ha
    exact ⟨_, by rw [propagate_get, ha]; rfl, key a i⟩
  · intro i b hb
    rw [propagate_get] at hb
    cases e : h[i]? with
    | none => rw [e] at hb; cases hb
    | some n => rw [e] at hb; cases hb; exact ⟨n, rfl, key n i⟩

theorem settleFuel_ext (n : Nat) (h : Heap) : HeapExt h (settleFuel n h) := by
  induction n generalizing h with
  | zero => exact HeapExt.refl h
  | succ n ih =>
    simp only [settleFuel]
    by_cases hfix : propagate h = h
    · simp [hfix]; exact HeapExt.refl h
    · simp only [hfix, if_false]; exact HeapExt.trans (propagate_ext h) (ih _)

theorem settle_ext (h : Heap) : HeapExt h (settle h) := settleFuel_ext _ h

def iter (f : Heap → Heap) : Nat → Heap → Heap
  | 0, h => h
  | n + 1, h => iter f n (f h)

theorem iter_fix (f : Heap → Heap) (h : Heap) (hf : f h = h) (n : Nat) : iter f n h = h := by
  induction n with
  | zero => rfl
  | succ n ih => simp [iter, hf, ih]

theorem settleFuel_iter (m : Nat) : ∀ (h : Heap) (n : Nat), pending h ≤ n →
    iter propagate (m + 1) h = iter propagate m h → settleFuel n h = iter propagate m h := by
  induction m with
  | zero =>
    intro h n _ hfix
    have : propagate h = h := by simpa [iter] using hfix
    cases n <;> simp [settleFuel, this, iter]
  | succ m ih =>
    intro h n hn hfix
    by_cases he : propagate h = h
    · rw [iter_fix propagate h he]
      cases n <;> simp [settleFuel, he]
    · have hlt := pending_propagate_lt h he
      cases n with
      | zero => omega
      | succ n =>
        simp only [settleFuel, he, if_false]
        exact ih (propagate h) n (by omega) (by simpa [iter] using hfix)

theorem settle_iter (m : Nat) (h : Heap) (hfix : iter propagate (m + 1) h = iter propagate m h) :
    settle h = iter propagate m h := settleFuel_iter m h _ (Nat.le_refl _) hfix

theorem markDone_get (h : Heap) (ids : List Nat) (i : Nat) :
    (markDone h ids)[i]? = (h[i]?).map (fun n => if ids.contains i then { n with done := true } else n) := by
  unfold markDone; rw [getElem?_zipIdx_map]

theorem markDone_nil (h : Heap) : markDone h [] = h := by
  refine List.ext_getElem? fun i => ?_
  rw [markDone_get]; cases h[i]? <;> rfl

theorem setNode_get (h : Heap) (i j : Nat) (f : Node → Node) :
    (setNode h i f)[j]? = (h[j]?).map (fun n => if j == i then f n else n) := by
  unfold setNode; rw [getElem?_zipIdx_map]

theorem applyEff_get (h : Heap) (e : Eff) (i : Nat) (a : Node) (ha : h[i]? = some a) :
    (applyEff h e)[i]? = some { a with
      owned := (match e.upd with | some (j, o) => if i = j then o else a.owned | none => a.owned),
      done := a.done || e.marks.contains i } := by
  obtain ⟨upd, marks, push, res⟩ := e
  have hm : ∀ (h1 : Heap) (a1 : Node), h1[i]? = some a1 →
      (markDone h1 marks)[i]? = some { a1 with done := a1.done || marks.contains i } ∧
      ∀ n, (markDone h1 marks ++ [n])[i]? = some { a1 with done := a1.done || marks.contains i } := fun h1 a1 h1i => by
    have : (markDone h1 marks)[i]? = some { a1 with done := a1.done || marks.contains i } := by
      rw [markDone_get, h1i]; cases marks.contains i <;> simp
    exact ⟨this, fun n => by rw [List.getElem?_append_left (List.getElem?_eq_some_iff.mp this).1]; exact this⟩
  unfold applyEff
  rcases upd with _ | ⟨j, o⟩
  · rcases push with _ | n
    · exact (hm h a ha).1
    · exact (hm h a ha).2 n
  · have hs : (setNode h j fun n => { n with owned := o })[i]? = some { a with owned := if i = j then o else a.owned } := by
      rw [setNode_get, ha]; by_cases hij : i = j <;> simp [hij]
    rcases push with _ | n
    · exact (hm _ _ hs).1
    · exact (hm _ _ hs).2 n

end Pipe
