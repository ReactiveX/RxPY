import RxProofs.Lemmas.WinFinSim
/-!
# Release of the source subscription by the WinFin operators (support for C02 / C03)

`using`, `finally_action`, `do_finally`, `do_action` and the `do_*` family (`RxModel/WinFin.lean`): what happens to the
subscription object returned by the source's subscribe body (`Eff.srcDispose` = its `dispose()` was called;
`St.u.cur` = `U`'s SingleAssignmentDisposable still holds it, i.e. it is live), to `throw`'s subscription on
`using`'s factory-failure path (the same object in the model) and to `using`'s resource.

The accounting invariant `SrcK` needs no hypothesis (any operator, raising callbacks, the fault), which is why it has its
own walk of the procedures (`Pres`) and is not a clause of the release machine's `DirInv`.
-/
namespace WinFin

/-- number of `dispose()` calls on the source's subscription -/
def srcCount {α} (l : List (Eff α)) : Nat := (l.filter Eff.isSrcDispose).length

@[simp] theorem srcCount_append {α} (a b : List (Eff α)) : srcCount (a ++ b) = srcCount a + srcCount b := by
  simp [srcCount]
@[simp] theorem srcCount_nil {α} : srcCount ([] : List (Eff α)) = 0 := rfl
@[simp] theorem srcCount_cons {α} (e : Eff α) (l : List (Eff α)) : srcCount (e :: l) = e.isSrcDispose.toNat + srcCount l := by
  cases h : e.isSrcDispose <;> simp [srcCount, List.filter, h] <;> omega
@[simp] theorem srcCount_single {α} (e : Eff α) : srcCount [e] = e.isSrcDispose.toNat := by
  cases e <;> simp [srcCount, Eff.isSrcDispose, List.filter]

theorem srcCount_view {α} (l : List (Eff α)) : srcCount (view l) = srcCount l := by
  simp only [srcCount, view, List.filter_filter]
  exact congrArg (fun q => (l.filter q).length) (funext fun e => by cases e <;> rfl)

def srcAbs {α} (s : St α) : Bool × Bool × Bool × Nat := (s.u.cur, s.u.live, s.u.sad, srcCount s.log)

/-- `p` neither touches `U`'s SingleAssignmentDisposable nor disposes the source subscription -/
def Frame {α} (p : P α) : Prop := ∀ s, srcAbs (p s).1 = srcAbs s

def Pres {α} (I : St α → Prop) (p : P α) : Prop := ∀ s, I s → I (p s).1

theorem pres_seq {α} {I : St α → Prop} {a b : P α} (ha : Pres I a) (hb : Pres I b) : Pres I (seq a b) := by
  intro s h
  have h1 := ha s h
  simp only [seq]
  rcases hx : a s with ⟨s1, _ | e⟩ <;> rw [hx] at h1
  · exact hb _ h1
  · exact h1

theorem pres_tryFinally {α} {I : St α → Prop} {a b : P α} (ha : Pres I a) (hb : Pres I b) : Pres I (tryFinally a b) := by
  intro s h
  rw [tryFinally_fst]
  exact hb _ (ha s h)

theorem pres_tryCatch {α} {I : St α → Prop} {a : P α} {h : Err → P α} (ha : Pres I a) (hh : ∀ e, Pres I (h e)) :
    Pres I (tryCatch a h) := by
  intro s hs
  have h1 := ha s hs
  simp only [tryCatch]
  rcases hx : a s with ⟨s1, _ | e⟩ <;> rw [hx] at h1
  · exact h1
  · exact hh e _ h1

theorem pres_branch {α} {I : St α → Prop} {a b : P α} {h : Err → P α} (ha : Pres I a) (hb : Pres I b)
    (hh : ∀ e, Pres I (h e)) : Pres I (branch a b h) := by
  intro s hs
  have h1 := ha s hs
  simp only [branch]
  rcases hx : a s with ⟨s1, _ | e⟩ <;> rw [hx] at h1
  · exact hb _ h1
  · exact hh e _ h1

def AbsInv {α} (I : St α → Prop) : Prop := ∀ s t : St α, srcAbs s = srcAbs t → I s → I t

theorem pres_of_frame {α} {I : St α → Prop} (hI : AbsInv I) {p : P α} (hp : Frame p) : Pres I p :=
  fun s h => hI s _ (hp s).symm h

theorem frame_action {α} (c : Cfg) (k : ActK) (a : Option (Notif α)) : Frame (action c k a) := by
  intro s; simp [srcAbs, action, Eff.isSrcDispose]

theorem frame_userCb {α} (c : Cfg) (n : Notif α) : Frame (userCb c n) := by
  intro s; simp [srcAbs, userCb, Eff.isSrcDispose]

theorem frame_logE {α} (e : Eff α) (he : e.isSrcDispose = false) : Frame (logE e) := by
  intro s; simp [srcAbs, logE, he]

/-- **accounting invariant**: the source's subscription is held by `U` only if the source's subscribe body returned
it and `U` is not disposed; and `dispose()` has been called on it exactly once iff it was returned and is no longer held -/
def SrcK {α} (s : St α) : Prop :=
  (s.u.cur = true → s.u.live = true ∧ s.u.sad = false) ∧ srcCount s.log = (s.u.live && !s.u.cur).toNat

/-- the same while the source's subscribe body has not returned -/
def SrcK0 {α} (s : St α) : Prop := SrcK s ∧ s.u.live = false

theorem absInv_K {α} : AbsInv (SrcK (α := α)) := by
  intro s t h hk
  simp only [srcAbs, Prod.mk.injEq] at h
  obtain ⟨h1, h2, h3, h4⟩ := h
  simp only [SrcK] at hk ⊢
  rw [← h1, ← h2, ← h3, ← h4]; exact hk

theorem absInv_K0 {α} : AbsInv (SrcK0 (α := α)) := by
  intro s t h ⟨hk, hl⟩
  refine ⟨absInv_K s t h hk, ?_⟩
  simp only [srcAbs, Prod.mk.injEq] at h
  rw [← h.2.1]; exact hl

/-- what `SrcK` and `SrcK0` have in common; everything above the leaf lemmas is proved from this -/
structure SrcInv {α} (c : Cfg) (I : St α → Prop) : Prop where
  abs : AbsInv I
  udisp : Pres I (uDispose c)

/-- the one step that changes the account: `U.dispose()` logs a `srcDispose` exactly when it drops `cur` -/
theorem pres_uDispose_K {α} (c : Cfg) : Pres (SrcK (α := α)) (uDispose c) := by
  intro s ⟨h1, h2⟩
  rw [uDispose_fst]
  simp only [SrcK, uDisp]
  cases hsad : s.u.sad <;> cases hcur : s.u.cur <;> cases hl : s.u.live <;> simp_all [srcIf, Eff.isSrcDispose]

theorem pres_uDispose_K0 {α} (c : Cfg) : Pres (SrcK0 (α := α)) (uDispose c) := by
  intro s ⟨hk, hl⟩
  refine ⟨pres_uDispose_K c s hk, ?_⟩
  rw [uDispose_fst]; simpa [uDisp] using hl

theorem srcInv_K {α} (c : Cfg) : SrcInv (α := α) c SrcK := ⟨absInv_K, pres_uDispose_K c⟩
theorem srcInv_K0 {α} (c : Cfg) : SrcInv (α := α) c SrcK0 := ⟨absInv_K0, pres_uDispose_K0 c⟩

section generic
variable {α : Type} {c : Cfg} {I : St α → Prop} (hI : SrcInv c I)
include hI

theorem pres_upd {p : P α} (hp : Pres I p) (f : St α → St α) (hf : ∀ s, srcAbs (f s) = srcAbs s) :
    Pres I (fun s => p (f s)) :=
  fun s h => hp _ (hI.abs s _ (hf s).symm h)

theorem pres_uSubDispose : Pres I (uSubDispose c) := by
  intro s h
  simp only [uSubDispose]
  split
  · exact h
  · exact hI.udisp _ (hI.abs s _ rfl h)

theorem pres_action (k : ActK) (a : Option (Notif α)) : Pres I (action c k a) :=
  pres_of_frame hI.abs (frame_action c k a)

theorem pres_finGuard : Pres I (finGuard c) := by
  intro s h
  simp only [finGuard]
  split
  · simp only [finGuardAsIs]
    split
    · exact h
    · exact pres_seq (pres_action hI _ _) (fun s h => hI.abs s _ rfl h) s h
  · simp only [finGuardFixed]
    split
    · exact h
    · exact pres_action hI _ _ _ (hI.abs s _ rfl h)

theorem pres_resDisposeP : Pres I (resDisposeP c) := by
  apply pres_of_frame hI.abs
  intro s
  simp only [resDisposeP]; split <;> simp [srcAbs, logE, Eff.isSrcDispose]

theorem pres_rDispose : Pres I (rDispose c) := by
  have hu := pres_uSubDispose hI
  intro s h
  have hs : ∀ t : St α, srcAbs { t with o.rDisposed := true } = srcAbs t := fun t => by simp [srcAbs]
  cases hop : c.oper <;> simp only [rDispose, hop]
  case «using» => split; exact h; exact pres_seq hu (pres_resDisposeP hI) _ (hI.abs s _ (hs s).symm h)
  case finallyAction => split; exact h; exact pres_tryFinally hu (pres_action hI _ _) _ (hI.abs s _ (hs s).symm h)
  case doFinally => split; exact h; exact pres_seq (pres_finGuard hI) hu _ (hI.abs s _ (hs s).symm h)
  case doOnDispose => split; exact h; exact pres_seq (pres_action hI _ _) hu _ (hI.abs s _ (hs s).symm h)
  all_goals exact hu s h

theorem pres_dDispose : Pres I (dDispose c) := by
  intro s h
  simp only [dDispose]
  split
  · exact hI.abs s _ rfl h
  · split
    · exact pres_rDispose hI _ (hI.abs s _ rfl h)
    · exact hI.abs s _ rfl h

theorem pres_userCb (n : Notif α) : Pres I (userCb c n) := pres_of_frame hI.abs (frame_userCb c n)

theorem pres_dNext (v : α) : Pres I (dNext c v) := by
  intro s h; simp only [dNext]; split
  · exact h
  · exact pres_userCb hI _ s h

theorem pres_dTerminal (n : Notif α) : Pres I (dTerminal c n) := by
  intro s h; simp only [dTerminal]; split
  · exact h
  · exact pres_tryFinally (pres_userCb hI n) (pres_dDispose hI) _ (hI.abs s _ rfl h)

theorem pres_hNext (v : α) : Pres I (hNext c v) := by
  cases hop : c.oper <;> simp only [hNext, hop]
  case doAction =>
    split
    · exact pres_dNext hI v
    · exact pres_seq (pres_tryCatch (pres_action hI _ _) (fun e => pres_dTerminal hI _)) (pres_dNext hI v)
  case doAfterNext =>
    exact pres_tryCatch (pres_seq (pres_dNext hI v) (pres_action hI _ _)) (fun e => pres_dTerminal hI _)
  all_goals exact pres_dNext hI v

theorem pres_hTerminal (t : Notif α) (ht : t.isTerminal = true) : Pres I (hTerminal c t) := by
  have hd := fun n => pres_dTerminal hI (α := α) n
  rw [hTerminal_eq c t ht]
  cases hop : c.oper <;> dsimp only
  case doAction =>
    split
    · exact pres_seq (pres_tryCatch (pres_action hI _ _) (fun e => hd _)) (hd _)
    · exact hd _
  case doOnTerminate => exact pres_branch (pres_action hI _ _) (hd _) (fun e' => hd _)
  case doAfterTerminate => exact pres_seq (hd _) (pres_tryCatch (pres_action hI _ _) (fun e => hd _))
  case doFinally => exact pres_seq (hd _) (pres_tryCatch (pres_finGuard hI) (fun e => hd _))
  all_goals exact hd _

theorem pres_uNotify (n : Notif α) : Pres I (uNotify c n) := by
  intro s h
  cases hn : n.isTerminal
  · obtain ⟨v, rfl⟩ := eq_next_of_not_terminal hn
    rw [uNotify_next]
    split
    · exact h
    · exact pres_hNext hI v s h
  · rw [uNotify_term c n hn]
    split
    · exact h
    · exact pres_tryFinally (pres_hTerminal hI n hn) hI.udisp _ (hI.abs s _ rfl h)

theorem pres_esc (x : Option Err) (s : St α) (h : I s) : I (esc x s) := by
  cases x with
  | none => exact h
  | some e => exact hI.abs s _ (by simp [srcAbs, esc, Eff.isSrcDispose]) h

theorem pres_emitSync (prop : Bool) (ns : List (Notif α)) : Pres I (emitSync c prop ns) :=
  emitSync_inv (fun s n => pres_uNotify hI n s) (fun s e => pres_esc hI (some e) s) prop ns

end generic

theorem srcK_of_K0 {α} {s : St α} (h : SrcK0 s) : SrcK s := h.1

theorem srcK_srcSubscribe {α} (c : Cfg) (sp : SyncPhase α) (s : St α) (h : SrcK0 s) :
    SrcK (srcSubscribe c sp s).1 := by
  refine srcSubscribe_inv (Q := fun r => SrcK r.1) sp s (pres_emitSync (srcInv_K0 c) sp.propagate sp.emits s h) ?_ ?_
  · intro e s1 h1
    dsimp only
    split
    · exact h1.1
    · exact (pres_hTerminal (srcInv_K0 c) (.error e) rfl _ (absInv_K0 s1 { s1 with u.stopped := true } rfl h1)).1
  · intro s1 ⟨⟨k1, k2⟩, hl⟩
    have hc : s1.u.cur = false := by cases hc : s1.u.cur <;> simp_all
    dsimp only
    split
    · simp only [srcDisposeP, SrcK]
      simp_all [Eff.isSrcDispose]
    · simp only [SrcK]
      simp_all

theorem srcK0_init {α} : SrcK0 ({} : St α) := ⟨⟨fun h => (by cases h), rfl⟩, rfl⟩

theorem srcK_opSubscribe {α} (c : Cfg) (sp : SyncPhase α) : SrcK (opSubscribe c sp ({} : St α)).1 := by
  have h0 : srcCount (c.opPre : List (Eff α)) = 0 := by rw [← srcCount_view, view_opPre]; rfl
  cases hop : c.oper
  case finallyAction =>
    simp only [opSubscribe, hop]
    have h1 := srcK_srcSubscribe c sp ({} : St α) srcK0_init
    rcases hs : srcSubscribe c sp ({} : St α) with ⟨s1, _ | e⟩ <;> rw [hs] at h1
    · exact h1
    · have h2 := pres_action (srcInv_K c) .fin none s1 h1
      simp only
      rcases ha : action c .fin none s1 with ⟨s2, _ | e2⟩ <;> rw [ha] at h2 <;> exact h2
  case doOnSubscribe =>
    -- the action may raise
    simp only [opSubscribe, hop]
    have h0 := pres_action (srcInv_K0 c) (α := α) .subscribe none _ srcK0_init
    simp only [seq]
    rcases ha : action c .subscribe none ({} : St α) with ⟨s1, _ | e⟩ <;> rw [ha] at h0
    · exact srcK_srcSubscribe c sp s1 h0
    · exact h0.1
  all_goals
    rw [opSubscribe_eq c sp _ (by simp [hop]) (by simp [hop])]
    exact srcK_srcSubscribe c _ _ (absInv_K0 ({} : St α) _ (by simp [srcAbs, h0]) srcK0_init)

theorem srcK_subscribePhase {α} (c : Cfg) (sp : SyncPhase α) : SrcK (subscribePhase c sp : St α) := by
  have h := srcK_opSubscribe (α := α) c sp
  simp only [subscribePhase, outerSubscribe]
  rcases ho : opSubscribe c sp ({} : St α) with ⟨s1, _ | e⟩ <;> rw [ho] at h <;> simp only at h ⊢
  · cases hsad : s1.d.sad <;> simp only [Bool.false_eq_true, if_false, if_true]
    · exact absInv_K s1 _ rfl h
    · have h2 := pres_rDispose (srcInv_K c) s1 h
      rcases hr : rDispose c s1 with ⟨s2, _ | e2⟩ <;> rw [hr] at h2
      · exact absInv_K s2 _ rfl h2
      · exact absInv_K s2 _ (by simp [srcAbs, Eff.isSrcDispose]) h2
  · cases hst : s1.d.stopped <;> simp only [Bool.false_eq_true, if_false, if_true]
    · have h2 := pres_userCb (srcInv_K c) (.error e) _ (absInv_K s1 { s1 with d.stopped := true } rfl h)
      rcases hu : userCb c (.error e) { s1 with d.stopped := true } with ⟨s2, _ | e2⟩ <;> rw [hu] at h2
      · exact absInv_K s2 _ rfl h2
      · exact absInv_K s2 _ (by simp [srcAbs, Eff.isSrcDispose]) h2
    · exact absInv_K s1 _ (by simp [srcAbs, Eff.isSrcDispose]) h

theorem srcK_step {α} (c : Cfg) (s : St α) (e : Ev α) (h : SrcK s) : SrcK (step c s e) := by
  cases e with
  | src n =>
    simp only [step]
    split
    · rw [swallow_eq]; exact pres_esc (srcInv_K c) _ _ (pres_uNotify (srcInv_K c) n s h)
    · exact h
  | dispose =>
    simp only [step, swallow_eq]
    apply pres_esc (srcInv_K c)
    simp only [handleDispose]
    split
    · exact h
    · exact pres_dDispose (srcInv_K c) _ (absInv_K s _ rfl h)

theorem srcK_run {α} (c : Cfg) (sp : SyncPhase α) (evs : List (Ev α)) : SrcK (run c sp evs) :=
  runFrom_inv c (srcK_step c) _ evs (srcK_subscribePhase c sp)

/-- from the accounting invariant: `U` disposed (or the source's subscribe body never returned a subscription)
means nothing is held and the subscription, if any, was disposed exactly once -/
theorem released_of_sad {α} (s : St α) (hk : SrcK s) (h : s.u.sad = true ∨ s.u.live = false) :
    s.u.cur = false ∧ srcCount s.log = s.u.live.toNat := by
  obtain ⟨k1, k2⟩ := hk
  have hc : s.u.cur = false := by
    cases hc : s.u.cur
    · rfl
    · obtain ⟨a, b⟩ := k1 hc
      rcases h with h | h <;> simp_all
  exact ⟨hc, by rw [k2, hc]; simp⟩

theorem hasTerm_view {α} (l : List (Eff α)) : hasTerm (view l) = hasTerm l := by
  simp only [hasTerm, view, List.any_filter]
  exact congrArg _ (funext fun e => by cases e <;> rfl)

theorem id_releases {α} (c : Cfg) (sp : SyncPhase α) (evs : List (Ev α))
    (h : hasTerm (run c.ident sp evs).log = true ∨ hasDispose evs = true) :
    (run c.ident sp evs).u.sad = true ∨ (run c.ident sp evs).u.live = false := by
  have H := hooks_ident c
  obtain ⟨w, hp⟩ := dirInv_subscribePhase H sp (by simp [Cfg.ident]) (by simp [Cfg.ident])
  exact run_released H (by simp [Cfg.ident]) sp evs hp h

/-- **source_disposed_at_most_once.** Every operator of the model, every history, whichever callbacks raise, with or
without the fault "the inner `dispose()` raises": `dispose()` is called on the source's subscription at most once —
exactly once iff the source's subscribe body returned one (`live`) and `U` no longer holds it; and `U` holds it
(`cur`: it is live) only while `U` is not disposed. -/
theorem source_disposed_at_most_once {α} (c : Cfg) (sp : SyncPhase α) (evs : List (Ev α)) :
    srcCount (run c sp evs).log ≤ 1 ∧
    (srcCount (run c sp evs).log = 1 ↔ ((run c sp evs).u.live = true ∧ (run c sp evs).u.cur = false)) ∧
    ((run c sp evs).u.cur = true → (run c sp evs).u.live = true ∧ (run c sp evs).u.sad = false) := by
  obtain ⟨k1, k2⟩ := srcK_run c sp evs
  refine ⟨?_, ?_, k1⟩
  · rw [k2]; cases (run c sp evs).u.live <;> cases (run c sp evs).u.cur <;> simp
  · rw [k2]; cases (run c sp evs).u.live <;> cases (run c sp evs).u.cur <;> simp

/-- both release theorems for the operators whose callbacks do not raise (`Quiet c`), by simulation against the
operator-free pipeline -/
theorem quiet_releases {α} (c : Cfg) (q : Quiet c) (sp : SyncPhase α) (evs : List (Ev α))
    (h : hasTerm (run c sp evs).log = true ∨ hasDispose evs = true) :
    (run c sp evs).u.cur = false ∧ srcCount (run c sp evs).log = (run c sp evs).u.live.toNat := by
  have hr := sim_run c q sp evs
  apply released_of_sad _ (srcK_run c sp evs)
  rw [hr.u]
  apply id_releases c sp evs
  rcases h with h | h
  · left; rw [← hasTerm_view, ← hr.v, hasTerm_view]; exact h
  · exact Or.inr h

/-- **terminal_releases_all_partial.** Every operator of the model (`using` with succeeding factories,
`finally_action`, `do_finally`, `do_action`/`do`, `do_after_next`, `do_on_subscribe`, `do_on_dispose`,
`do_on_terminate`, `do_after_terminate`), `Quiet c` (no callback of the operator raises; `do_after_next`: the
subscriber's callbacks do not raise; the inner `dispose()` does not raise), every history: once a terminal
notification has been delivered to the subscriber, the source's subscription is no longer held and — if the source's
subscribe body returned one — it has been disposed exactly once.  (`_partial`: the hypothesis `Quiet.nr` is used by
the proof (simulation) but is not known to be necessary for this statement; for `using` with failing factories and
`finally_action` with raising callbacks see `using_releases_all`, `finally_action_releases_all`.) -/
theorem terminal_releases_all_partial {α} (c : Cfg) (q : Quiet c) (sp : SyncPhase α) (evs : List (Ev α))
    (ht : hasTerm (run c sp evs).log = true) :
    (run c sp evs).u.cur = false ∧ srcCount (run c sp evs).log = (run c sp evs).u.live.toNat :=
  quiet_releases c q sp evs (Or.inl ht)

/-- **dispose_releases_all.** Same operators and hypotheses: after the subscriber called `dispose()` on the handle
returned by `subscribe` (anywhere in the history: before, at, after a terminal; once or several times) the source's
subscription is no longer held and has been disposed exactly once.  `Quiet.nr` is necessary for `do_on_dispose` /
`do_finally`: `dispose_leaks_source_when_hook_raises`. -/
theorem dispose_releases_all {α} (c : Cfg) (q : Quiet c) (sp : SyncPhase α) (evs : List (Ev α))
    (_hh : (subscribePhase c sp : St α).d.handle = true) (hd : hasDispose evs = true) :
    (run c sp evs).u.cur = false ∧ srcCount (run c sp evs).log = (run c sp evs).u.live.toNat :=
  quiet_releases c q sp evs (Or.inr hd)

/-- **using_releases_all.** `using`, every factory outcome (resource / `None` / raising resource factory; raising
observable factory, where the subscribed source is `throw`), any raising pattern of the subscriber's callbacks, inner
`dispose()` not raising, `subscribe` having returned a handle: after a delivered terminal or a `dispose` of the handle,
the source's (resp. `throw`'s) subscription is no longer held, was disposed exactly once if it exists, and the
resource — if one was created — was disposed exactly once. -/
theorem using_releases_all {α} (c : Cfg) (hc : c.oper = .using) (hsd : c.srcDisposeRaises = false)
    (sp : SyncPhase α) (evs : List (Ev α)) (hh : (subscribePhase c sp : St α).d.handle = true)
    (h : hasTerm (run c sp evs).log = true ∨ hasDispose evs = true) :
    (run c sp evs).u.cur = false ∧ srcCount (run c sp evs).log = (run c sp evs).u.live.toNat ∧
    resCount (run c sp evs).log = c.hasRes.toNat := by
  obtain ⟨w, ⟨hr, -⟩ | ⟨hf, -⟩⟩ := run_inv (hooks_using c hsd hc) sp evs (by simp [hc]) (by simp [hc])
  · obtain ⟨hsad, hu⟩ := hr.released (by simp [hc]) h
    have h1 := released_of_sad _ (srcK_run c sp evs) (Or.inl hu)
    refine ⟨h1.1, h1.2, ?_⟩
    rw [hr.res, hsad, cnt_nr hc]; simp
  · rw [hf.frz.hdl] at hh; cases hh

/-- **finally_action_releases_all.** `finally_action`, every history, whichever callbacks raise (the action included),
with or without the fault "the inner `dispose()` raises" (`try: subscription.dispose() finally: action()`): after a
delivered terminal, or a `dispose` of the handle, the source's subscription is no longer held and was disposed exactly
once if it exists. -/
theorem finally_action_releases_all {α} (c : Cfg) (hc : c.oper = .finallyAction)
    (sp : SyncPhase α) (evs : List (Ev α))
    (h : hasTerm (run c sp evs).log = true ∨
         ((subscribePhase c sp : St α).d.handle = true ∧ hasDispose evs = true)) :
    (run c sp evs).u.cur = false ∧ srcCount (run c sp evs).log = (run c sp evs).u.live.toNat :=
  released_of_sad _ (srcK_run c sp evs)
    (run_released (hooks_fin c hc) (by simp [hc]) sp evs (fin_subscribePhase c hc sp) (h.imp id (·.2)))

/-- `Quiet.nr` is necessary for `dispose_releases_all`: `do_on_dispose` / `do_finally` put their `OnDispose` hook first
into the `CompositeDisposable`; if the hook raises on an explicit `dispose()`, the loop over the items is left and the
source subscription stays live (held, never disposed) — a later source element is still processed by the operator. -/
theorem dispose_leaks_source_when_hook_raises :
    (let r := run (α := Nat) { oper := .doOnDispose, actRaises := fun k => k == 0 } {} [.dispose]
     r.d.handle = true ∧ r.u.cur = true ∧ srcCount r.log = 0) ∧
    (let r := run (α := Nat) { oper := .doFinally, actRaises := fun k => k == 0 } {} [.dispose, .dispose]
     r.d.handle = true ∧ r.u.cur = true ∧ srcCount r.log = 0) := by decide

/-- …whereas at a terminal the source is released even then (`U`'s own `finally: dispose()`) -/
example : (let r := run (α := Nat) { oper := .doOnDispose, actRaises := fun k => k == 0 } {} [.src .completed]
     r.u.cur = false ∧ srcCount r.log = 1) := by decide

/-- the inner `dispose()` raising: still called exactly once, nothing held (finally_action) -/
example : (let r := run (α := Nat) { oper := .finallyAction, srcDisposeRaises := true } {} [.src (.next 1), .dispose, .dispose]
     r.u.cur = false ∧ srcCount r.log = 1 ∧ actCount .fin r.log = 1) := by decide

example : (let r := run (α := Nat) { oper := .doAction } {} [.src (.next 1), .dispose, .src .completed, .dispose]
     hasDispose [Ev.src (Notif.next 1), .dispose, .src .completed, .dispose] = true ∧ r.d.handle = true ∧
     r.u.cur = false ∧ r.u.live = true ∧ srcCount r.log = 1) := by decide
example : (let r := run (α := Nat) { oper := .using, obsfRaises := true } { emits := [.error "obsf"], propagate := true } []
     hasTerm r.log = true ∧ r.d.handle = true ∧ r.u.cur = false ∧ srcCount r.log = 1 ∧ resCount r.log = 1) := by decide
example : (let r := run (α := Nat) { oper := .doFinally } { emits := [.next 1, .completed] } [.dispose]
     hasTerm r.log = true ∧ r.u.cur = false ∧ r.u.live = true ∧ srcCount r.log = 1) := by decide
example : (let r := run (α := Nat) { oper := .doAfterTerminate } {} [.src (.next 1)]
     r.u.cur = true ∧ srcCount r.log = 0) := by decide

end WinFin
