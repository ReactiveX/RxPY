import RxProofs.Lemmas.PureMarblesRead
/-! Helper lemmas for C38: the scanner reads its tokenization (`scan = specGo ∘ lex`, every string).  `scan` is unfolded
in this file only. -/
namespace Pure.Marbles

theorem scan_nil {α} (cfg : Cfg α) (f st) : scan cfg [] f st = .ok [] := by
  rw [scan]

theorem scan_tick {α} (cfg : Cfg α) (r : List Char) (f : Nat) (st : Bool) :
    scan cfg ('-' :: r) f st = scan cfg r (f + 1) st := by
  -- the scanner eats the whole run of hyphens at once, so both sides are unfolded
  rw [scan]
  simp only [show ('-' : Char) ≠ '(' by decide, if_false, if_true]
  cases r with
  | nil => simp [scan_nil]
  | cons c r =>
    by_cases h : c = '-'
    · subst h
      conv => rhs; rw [scan]
      simp [show ('-' : Char) ≠ '(' by decide]
      congr 1; omega
    · simp [h]

theorem scan_ticks {α} (cfg : Cfg α) (n : Nat) (r : List Char) (f : Nat) (st : Bool) :
    scan cfg (List.replicate n '-' ++ r) f st = scan cfg r (f + n) st := by
  induction n generalizing f with
  | zero => simp
  | succ n ih =>
    rw [List.replicate_succ, List.cons_append, scan_tick, ih]; congr 1; omega

/-- the tokens the regex finds, alternative by alternative -/
def lex : List Char → List Tok
  | [] => []
  | c :: cs =>
    if c = '(' then
      match findClose cs with
      | some body => .group (splitComma body) :: lex (cs.drop (body.length + 1))
      | none => .strayOpen :: lex cs
    else if c = '-' then
      .ticks (1 + (cs.takeWhile (· == '-')).length) :: lex (cs.dropWhile (· == '-'))
    else if c = ',' then .comma :: lex cs
    else if c = '#' then .error :: lex cs
    else if c = '|' then .completed :: lex cs
    else if c = ')' then .strayClose :: lex cs
    else .elem (c :: cs.takeWhile (fun x => !isSpecial x)) :: lex (cs.dropWhile (fun x => !isSpecial x))
termination_by s => s.length
decreasing_by
  all_goals simp_wf
  all_goals first
    | omega
    | (have := (List.dropWhile_sublist (l := cs) (fun x => x == '-')).length_le; omega)
    | (have := (List.dropWhile_sublist (l := cs) (fun x => !isSpecial x)).length_le; omega)

theorem splitComma_ne_nil (s : List Char) : splitComma s ≠ [] := by
  cases s with
  | nil => simp [splitComma]
  | cons c cs =>
    simp only [splitComma]
    split
    · simp
    · split <;> simp

theorem joinComma_splitComma (s : List Char) : joinComma (splitComma s) = s := by
  induction s with
  | nil => rfl
  | cons c cs ih =>
    obtain ⟨x, r, hs⟩ := List.exists_cons_of_ne_nil (splitComma_ne_nil cs)
    rw [hs] at ih
    simp only [splitComma, hs]
    split
    · rename_i h; subst h; simp only [joinComma, List.nil_append, ih]
    · cases r <;> simp only [joinComma, List.cons_append] at ih ⊢ <;> rw [ih]

theorem scan_eq_specGo_lex {α} (cfg : Cfg α) (s : List Char) (f : Nat) (st : Bool) :
    scan cfg s f st = specGo cfg (lex s) f st := by
  fun_induction lex s generalizing f st with
  | case1 => rw [scan, specGo]
  | case2 cs body hb ih =>
    -- `iframe += len(group)` is the token's width: `join (split body) = body`
    rw [scan, specGo_cons, ← funext (ih _)]
    simp only [if_true, hb, reduceCtorEq, if_false, marblesOf, width, render1, List.length_cons, List.length_append,
      joinComma_splitComma, List.length_nil]
    rfl
  | case6 | case7 | case9 =>
    -- `#`, `|`, an ordinary run: one marble; the sides differ only in the shape of the `match`
    rw [scan, specGo_cons]
    simp only [*, if_true, if_false, true_or, or_true, or_self, reduceCtorEq, marblesOf, width, render1,
      List.length_cons, List.length_nil, Nat.zero_add, emitThen_single]
    rfl
  | _ =>
    -- unclosed `(`, hyphens, comma, stray `)`: no marble
    rw [scan, specGo_cons]
    simp only [*, if_true, if_false, or_self, reduceCtorEq, marblesOf, width, render1, List.length_replicate,
      Nat.add_zero, emitThen_nil]

theorem parse_eq_spec_lex {α} (cfg : Cfg α) (s : List Char) :
    parse cfg s = spec cfg (lex (s.filter (· != ' '))) :=
  scan_eq_specGo_lex cfg _ 0 false

end Pure.Marbles
