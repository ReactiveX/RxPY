import RxModel.PureTimeConv
/-! Helper lemmas for C36: half-even rounding, and the float legs for any `Rounding`. -/
namespace Pure.TimeConv

/-- what the theorems assume of the double rounding: monotone, exact on integers below 2^53,
relative error at most 2^-53 (IEEE-754 round-to-nearest, normal range) -/
structure Rounding (rn : Rat → Rat) : Prop where
  mono : ∀ x y, x ≤ y → rn x ≤ rn y
  fixInt : ∀ k : Int, -9007199254740992 ≤ k → k ≤ 9007199254740992 → rn (k : Rat) = (k : Rat)
  errPos : ∀ x, 0 ≤ x → x - x / 9007199254740992 ≤ rn x ∧ rn x ≤ x + x / 9007199254740992
  errNeg : ∀ x, x ≤ 0 → x + x / 9007199254740992 ≤ rn x ∧ rn x ≤ x - x / 9007199254740992

theorem int_le_of_lt_add_one {a b : Int} (h : (a : Rat) < (b : Rat) + 1) : a ≤ b := by
  have : (a : Rat) < ((b + 1 : Int) : Rat) := by simpa using h
  have := Rat.intCast_lt_intCast.1 this
  omega

theorem floor_bounds (x : Rat) : (x.floor : Rat) ≤ x ∧ x < (x.floor : Rat) + 1 := by
  refine ⟨Rat.floor_le x, ?_⟩
  have := Rat.lt_floor_add_one x
  simpa using this

theorem rhe_of_lt_half {x : Rat} (h : x - x.floor < 1 / 2) : rhe x = x.floor := by
  simp only [rhe, h, if_true]

theorem rhe_of_half_lt {x : Rat} (h : 1 / 2 < x - x.floor) : rhe x = x.floor + 1 := by
  have h' : ¬ x - x.floor < 1 / 2 := Rat.not_lt.2 (Rat.le_of_lt h)
  simp only [rhe, h, h', if_true, if_false]

theorem rhe_floor (x : Rat) : x.floor ≤ rhe x ∧ rhe x ≤ x.floor + 1 := by
  simp only [rhe]
  split
  · omega
  · split
    · omega
    · split <;> omega

theorem rhe_near (x : Rat) : x - 1 / 2 ≤ (rhe x : Rat) ∧ (rhe x : Rat) ≤ x + 1 / 2 := by
  obtain ⟨h1, h2⟩ := floor_bounds x
  have l : (x.floor : Rat) ≤ rhe x := Rat.intCast_le_intCast.2 (rhe_floor x).1
  have u : (rhe x : Rat) ≤ ((x.floor + 1 : Int) : Rat) := Rat.intCast_le_intCast.2 (rhe_floor x).2
  have a : x - x.floor < 1 / 2 → (rhe x : Rat) = x.floor := fun h => by rw [rhe_of_lt_half h]
  have b : 1 / 2 < x - x.floor → (rhe x : Rat) = ((x.floor + 1 : Int) : Rat) := fun h => by rw [rhe_of_half_lt h]
  rw [Rat.intCast_add] at u b
  grind

theorem rhe_int (k : Int) : rhe (k : Rat) = k := by
  have h : (k : Rat) - ((k : Rat).floor : Rat) < 1 / 2 := by rw [Rat.floor_intCast]; grind
  rw [rhe_of_lt_half h, Rat.floor_intCast]

theorem rhe_mono {x y : Rat} (h : x ≤ y) : rhe x ≤ rhe y := by
  rcases Int.lt_or_eq_of_le (Rat.floor_monotone h) with hlt | heq
  · have := (rhe_floor x).2; have := (rhe_floor y).1; omega
  · by_cases a : x - x.floor < 1 / 2
    · rw [rhe_of_lt_half a, heq]; exact (rhe_floor y).1
    · by_cases b : 1 / 2 < y - y.floor
      · rw [rhe_of_half_lt b, ← heq]; exact (rhe_floor x).2
      · -- both fractional parts are exactly one half
        have : x = y := by rw [heq] at a; grind
        rw [this]; exact Int.le_refl _

theorem trunc_nonneg {x : Rat} (h : 0 ≤ x) : (trunc x : Rat) ≤ x ∧ x < (trunc x : Rat) + 1 ∧ 0 ≤ trunc x := by
  obtain ⟨h1, h2⟩ := floor_bounds x
  simp only [trunc, h, if_true]
  exact ⟨h1, h2, Rat.le_floor_iff.2 (by simpa using h)⟩

theorem trunc_neg {x : Rat} (h : x < 0) : x ≤ (trunc x : Rat) ∧ (trunc x : Rat) < x + 1 ∧ trunc x ≤ 0 := by
  obtain ⟨h1, h2⟩ := floor_bounds (-x)
  have h0 : (0 : Int) ≤ (-x).floor := Rat.le_floor_iff.2 (by simp; grind)
  simp only [trunc, Rat.not_le.2 h, if_false, Rat.intCast_neg]
  exact ⟨by grind, by grind, by omega⟩

theorem trunc_mono {x y : Rat} (h : x ≤ y) : trunc x ≤ trunc y := by
  by_cases hx : 0 ≤ x
  · simp only [trunc, hx, Rat.le_trans hx h, if_true]
    exact Rat.floor_monotone h
  · have a := (trunc_neg (Rat.not_le.1 hx)).2.2
    by_cases hy : 0 ≤ y
    · have := (trunc_nonneg hy).2.2; omega
    · have : (-y).floor ≤ (-x).floor := Rat.floor_monotone (Rat.neg_le_neg h)
      simp only [trunc, hx, hy, if_false]
      omega

theorem frac_bounds (x : Rat) :
    -1 < x - (trunc x : Rat) ∧ x - (trunc x : Rat) < 1 ∧
      (0 ≤ x → 0 ≤ x - (trunc x : Rat)) ∧ (x < 0 → x - (trunc x : Rat) ≤ 0) := by
  by_cases h : 0 ≤ x
  · obtain ⟨a, b, _⟩ := trunc_nonneg h
    grind
  · obtain ⟨a, b, _⟩ := trunc_neg (Rat.not_le.1 h)
    grind

theorem Rounding.rhe_le {rn} (R : Rounding rn) {y : Rat} {b : Int}
    (hlo : -9007199254740992 ≤ b) (hhi : b ≤ 9007199254740992) (h : y ≤ (b : Rat)) : rhe (rn y) ≤ b := by
  have := rhe_mono (R.mono _ _ h)
  rwa [R.fixInt b hlo hhi, rhe_int] at this

theorem Rounding.le_rhe {rn} (R : Rounding rn) {y : Rat} {a : Int}
    (hlo : -9007199254740992 ≤ a) (hhi : a ≤ 9007199254740992) (h : (a : Rat) ≤ y) : a ≤ rhe (rn y) := by
  have := rhe_mono (R.mono _ _ h)
  rwa [R.fixInt a hlo hhi, rhe_int] at this

theorem Rounding.near {rn} (R : Rounding rn) {x B : Rat} (h : -B ≤ x ∧ x ≤ B) :
    x - B / 9007199254740992 ≤ rn x ∧ rn x ≤ x + B / 9007199254740992 := by
  have := R.errPos x
  have := R.errNeg x
  grind

def fracUs (rn : Rat → Rat) (x : Rat) : Int := rhe (rn ((x - (trunc x : Rat)) * e6))

theorem usOfFloat_eq (rn : Rat → Rat) (x : Rat) : usOfFloat rn x = trunc x * 1000000 + fracUs rn x := rfl

theorem fromTimestamp_eq (rn : Rat → Rat) (x : Rat) :
    fromTimestamp rn x =
      if fracUs rn x ≥ 1000000 then (trunc x + 1, fracUs rn x - 1000000)
      else if fracUs rn x < 0 then (trunc x - 1, fracUs rn x + 1000000)
      else (trunc x, fracUs rn x) := rfl

theorem fracUs_bounds {rn} (R : Rounding rn) (x : Rat) :
    -1000000 ≤ fracUs rn x ∧ fracUs rn x ≤ 1000000 ∧
      (0 ≤ x → 0 ≤ fracUs rn x) ∧ (x < 0 → fracUs rn x ≤ 0) := by
  obtain ⟨a, b, c, d⟩ := frac_bounds x
  simp only [fracUs, e6]
  generalize x - (trunc x : Rat) = r at a b c d
  refine ⟨R.le_rhe (by decide) (by decide) ?_, R.rhe_le (by decide) (by decide) ?_,
    fun h => R.le_rhe (by decide) (by decide) ?_, fun h => R.rhe_le (by decide) (by decide) ?_⟩
  · simp; grind
  · simp; grind
  · have := c h; simp; grind
  · have := d h; simp; grind

theorem usOfFloat_mono {rn} (R : Rounding rn) {x y : Rat} (h : x ≤ y) : usOfFloat rn x ≤ usOfFloat rn y := by
  rw [usOfFloat_eq, usOfFloat_eq]
  rcases Int.lt_or_eq_of_le (trunc_mono h) with hlt | heq
  · -- a whole second apart
    obtain ⟨_, x1, _, x0⟩ := fracUs_bounds R x
    obtain ⟨y1, _, y0, _⟩ := fracUs_bounds R y
    by_cases hx : 0 ≤ x
    · have := y0 (Rat.le_trans hx h); omega
    · have := x0 (Rat.not_le.1 hx); omega
  · have : fracUs rn x ≤ fracUs rn y := by
      simp only [fracUs, heq]
      exact rhe_mono (R.mono _ _ (by simp [e6]; grind))
    omega

/-- the product `frac·10^6` is off by less than `10^6·2^-53 < 2^-33`, the half-even rounding by at most `1/2` -/
theorem usOfFloat_of_near {rn} (R : Rounding rn) (x : Rat) (us : Int)
    (h : (us : Rat) - 1 / 2 + 1 / 8589934592 ≤ x * 1000000 ∧
      x * 1000000 ≤ (us : Rat) + 1 / 2 - 1 / 8589934592) : usOfFloat rn x = us := by
  obtain ⟨a, b, _⟩ := frac_bounds x
  rw [usOfFloat_eq, fracUs, e6]
  generalize hf : (x - (trunc x : Rat)) * 1000000 = f
  obtain ⟨y1, y2⟩ := R.near (x := f) (B := 1000000) (by grind)
  obtain ⟨n1, n2⟩ := rhe_near (rn f)
  generalize rhe (rn f) = n at n1 n2
  generalize rn f = y at y1 y2 n1 n2
  have h : ((trunc x * 1000000 + n : Int) : Rat) < (us : Rat) + 1 ∧
      (us : Rat) < ((trunc x * 1000000 + n : Int) : Rat) + 1 := by
    rw [Rat.intCast_add, Rat.intCast_mul]; grind
  have := int_le_of_lt_add_one h.1
  have := int_le_of_lt_add_one h.2
  omega

theorem float_roundtrip {rn} (R : Rounding rn) (us : Int)
    (hlo : -(4503599627370496 - 1048576) ≤ us) (hhi : us ≤ 4503599627370496 - 1048576) :
    usOfFloat rn (rn ((us : Rat) / e6)) = us := by
  have hlo' : (-4503599626321920 : Rat) ≤ (us : Rat) := by
    simpa using Rat.intCast_le_intCast.2 (show (-4503599626321920 : Int) ≤ us by omega)
  have hhi' : (us : Rat) ≤ (4503599626321920 : Rat) := by
    simpa using Rat.intCast_le_intCast.2 (show us ≤ (4503599626321920 : Int) by omega)
  -- |rn q − q| ≤ |q|·2^-53 and |q|·10^6 ≤ 2^52 − 2^20, so |rn q·10^6 − us| ≤ 1/2 − 2^-33
  simp only [e6]
  obtain ⟨q1, q2⟩ := R.near (x := (us : Rat) / 1000000) (B := 4503599626321920 / 1000000) (by grind)
  exact usOfFloat_of_near R _ us (by grind)
end Pure.TimeConv
