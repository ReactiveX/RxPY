import RxProofs.Lemmas.StructConn
/-!
# The ref_count invariant over the Connectable model (C24)
-/

namespace Conn
namespace World
variable {α : Type}

/-- `ref_count`: the count is the number of live subscribers, the connectable is connected exactly
while it is positive, and `connectable_subscription` is the live connection handle. -/
structure RcInv (w : World α) : Prop where
  conn : ConnInv w
  wrap : w.wrap = .refCount
  cnt : w.count = (w.live.length : Int)
  iff : w.hasSub = decide (w.count > 0)
  hdl : w.hasSub = true → w.connSub = w.curHandle

/-- What a subscriber's dispose does under `ref_count`; the invariant rules out the other branches of
`disposeSub` (a connection at count 0, a `connSub` that is not the live handle). -/
inductive RcLeave (w : World α) (t i : Nat) (w' : World α) : Prop
  | absent (hi : w.live.contains i = false) (e : w' = w)
  | stay (hi : w.live.contains i = true) (hs : w.hasSub = decide (w.count - 1 > 0)) (e : w' = w.departed i (w.count - 1))
  | last (hd : Nat) (hi : w.live.contains i = true) (hc : w.count = 1) (hcur : w.curHandle = some hd)
      (e : w' = (w.departed i (w.count - 1)).disposeHandle t hd)

theorem rc_leave {w : World α} (h : RcInv w) (t i : Nat) : RcLeave w t i (w.disposeSub t i) := by
  cases hi : w.live.contains i with
  | false => exact .absent hi (disposeSub_absent t i hi)
  | true =>
    rw [disposeSub_rc h.wrap t i hi]
    split
    · next hz =>
      have hc : w.count = 1 := by have : w.count - 1 = 0 := by simpa using hz
                                  omega
      cases hs : w.hasSub with
      | false =>
        -- not connected: there is no live handle, whatever `connSub` holds
        rw [h.conn.noHandle hs]
        cases w.connSub <;> exact .stay hi (by rw [hs, hc]; rfl) rfl
      | true =>
        obtain ⟨hd, hcur⟩ := Option.isSome_iff_exists.mp (h.conn.handle hs)
        rw [h.hdl hs, hcur]
        simp only [↓reduceIte]
        exact .last hd hi hc hcur rfl
    · next hz =>
      have hz' : w.count - 1 ≠ 0 := by simpa using hz
      have := (List.length_erase_mem w.live i hi).2
      have := h.cnt
      exact .stay hi (by rw [h.iff]; simp only [decide_eq_decide]; omega) rfl

theorem rc_disposeSub {w : World α} (h : RcInv w) (t i : Nat) : RcInv (w.disposeSub t i) := by
  have hdec : w.live.contains i = true → w.count - 1 = ((w.live.erase i).length : Int) := fun hi => by
    have := List.length_erase_mem w.live i hi
    have := h.cnt
    omega
  cases rc_leave h t i with
  | absent _ e => rw [e]; exact h
  | stay hi hs e => rw [e]; exact ⟨h.conn, h.wrap, hdec hi, hs, h.hdl⟩
  | last hd hi hc hcur e =>
    rw [e]
    have hoff := disposeHandle_hasSub_cur (w.departed i (w.count - 1)) t hd hcur
    refine ⟨disposeHandle_inv (w := w.departed i (w.count - 1)) h.conn t hd, by simp [h.wrap],
      by simp; exact hdec hi, ?_, fun hh => by rw [hoff] at hh; cases hh⟩
    rw [hoff, disposeHandle_count]
    show false = decide (w.count - 1 > 0)
    rw [hc]; rfl

theorem rcInv_stable : Stable (RcInv (α := α)) where
  write _ _ _ h := ⟨h.conn, h.wrap, h.cnt, h.iff, h.hdl⟩
  popCold sid h := ⟨connInv_stable.popCold sid h.conn, h.wrap, h.cnt, h.iff, h.hdl⟩
  closeSrc t sid h :=
    ⟨connInv_stable.closeSrc t sid h.conn, by simp [h.wrap], by simp [h.cnt], by simp [h.iff], by simpa using h.hdl⟩
  disposeSub t i h := rc_disposeSub h t i

/-- What a subscribe does under `ref_count`, given the invariant: connected iff others are subscribed. -/
inductive RcJoin (w : World α) (t i : Nat) (w' : World α) : Prop
  | first (hc : w.count = 0) (hs : w.hasSub = false)
      (e : w' = w.settle t i { ((w.joined t i (w.count + 1)).connect t) with
        connSub := ((w.joined t i (w.count + 1)).connect t).curHandle })
  | more (hc : 0 < w.count) (hs : w.hasSub = true) (e : w' = w.settle t i (w.joined t i (w.count + 1)))

theorem rc_join {w : World α} (h : RcInv w) (t i : Nat) : RcJoin w t i (w.opSub t i) := by
  rw [opSub_rc h.wrap t i]
  have hcnt := h.cnt
  split
  · next h1 =>
    have hc : w.count = 0 := by have : w.count + 1 = 1 := by simpa using h1
                                omega
    exact .first hc (by rw [h.iff, hc]; rfl) rfl
  · next h1 =>
    have hc : 0 < w.count := by have : ¬ w.count + 1 = 1 := by simpa using h1
                                omega
    exact .more hc (by rw [h.iff]; exact decide_eq_true hc) rfl

theorem rc_opSub {w : World α} (h : RcInv w) (t i : Nat) : RcInv (w.opSub t i) := by
  have hcnt := h.cnt
  have hc1 : ConnInv (w.joined t i (w.count + 1)) := h.conn
  cases rc_join h t i with
  | first hc hs e =>
    rw [e]
    apply rcInv_stable.settle
    exact ⟨connect_inv hc1 t, by simp [h.wrap], by simp; omega, by simp; omega, fun _ => rfl⟩
  | more hc hs e =>
    rw [e]
    apply rcInv_stable.settle
    exact ⟨hc1, h.wrap, by simp; omega, by simp [hs]; omega, fun _ => h.hdl hs⟩

theorem rc_runOps (ops : List (Nat × Op)) {w : World α} (hs : List (Option Nat)) (h : RcInv w)
    (hso : subOnly ops = true) : RcInv (w.runOps hs ops).1 :=
  rcInv_stable.subOnly (fun t i k => rc_opSub k t i) hso hs h

theorem Fresh.rc {w : World α} (h : Fresh w) (hw : w.wrap = .refCount) : RcInv w := by
  have ⟨hs, _, _, _, hcnt, hlive, _⟩ := h
  exact ⟨h.inv, hw, by rw [hcnt, hlive]; rfl, by rw [hs, hcnt]; rfl, fun hs' => by rw [hs] at hs'; cases hs'⟩

end World
end Conn
