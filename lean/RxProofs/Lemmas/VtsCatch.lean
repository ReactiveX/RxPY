import RxProofs.Lemmas.Vts
/-! CatchScheduler on the virtual-time scheduler (C42).  For non-raising scripts two states are related when their
erasures `eraseW` coincide; `eraseW` touches only the queue, so updating the same fields on both sides keeps them
related by `congrArg`. -/

namespace C42
open Vts

/-- actions never schedule on the raw inner scheduler (they use the scheduler handed to them, or the
outer CatchScheduler) -/
def viaCatch : Step → Prop
  | .sched via _ _ _ => via ≠ .inner
  | _ => True

/-- every pending action is a CatchScheduler `wrapped_action` -/
def AllWrapped (s : St) : Prop := ∀ e ∈ s.queue.items, e.1.wrapped = true

theorem allWrapped_cancel {s : St} (h : AllWrapped s) (id : Nat) : AllWrapped (s.cancel id) := by
  intro e he
  obtain ⟨e0, he0, rfl⟩ := mem_cancel.1 he
  simp only [cancelEntry]
  split <;> simp [h e0 he0]

theorem allWrapped_iter (cfg : Cfg) (tgt : Option Int) :
    IterInv cfg tgt viaCatch AllWrapped (fun x s => x.wrapped = true ∧ AllWrapped s) where
  skip := by intro s x q' sp h _ _ hd _ _; exact fun e he => h e ((PQ.dequeue_mem hd).2 e he)
  begin := by
    intro s x q' sp h _ _ hd _ _
    obtain ⟨⟨c, hxc⟩, hq'⟩ := PQ.dequeue_mem hd
    exact ⟨h _ hxc, fun e he => h e (hq' e he)⟩
  enq := by
    intro x s via m t cid child hφ _ ⟨hx, h⟩
    refine ⟨hx, ?_⟩
    intro e he
    simp only [St.enqueue, PQ.enqueue, List.mem_append, List.mem_singleton] at he
    rcases he with he | rfl
    · exact h e he
    · simp only [viaCatch] at hφ
      cases via <;> simp_all [childWrapped]
  cancel := by intro x s id ⟨hx, h⟩; exact ⟨hx, allWrapped_cancel h id⟩
  link := by intro x s l h; exact h
  stop := by intro x s _ h; exact h
  sleep := by intro x s t _ _ h; exact h
  handled := by intro x s e _ _ h; exact h
  finish := by intro x s sp h; exact h.2

theorem allWrappedRun (cfg : Cfg) :
    RunInv cfg viaCatch (fun op => op.All viaCatch ∧ (match op with | .sched w _ _ _ _ => w = true | _ => True))
      AllWrapped where
  iter tgt := ⟨_, allWrapped_iter cfg tgt⟩
  flag _ _ _ h := h
  body _ _ _ _ _ h := h.1.2
  enq s w m t id b hok h e he := by
    simp only [St.enqueue, PQ.enqueue, List.mem_append, List.mem_singleton] at he
    rcases he with he | rfl
    · exact h e he
    · exact hok.2
  cancel _ id h := allWrapped_cancel h id
  clock := .inl fun _ _ h => h

theorem invoke_wrapped_raise (cfg : Cfg) (x : Item) (s : St) (e : Err) (hw : x.wrapped = true)
    (hr : (exec true x.body { s with log := s.log ++ [{ id := x.id, at_ := s.clock, due := x.due, seq := x.seq }] }).2 = some e) :
    invoke cfg x s =
      ({ (exec true x.body { s with log := s.log ++ [{ id := x.id, at_ := s.clock, due := x.due, seq := x.seq }] }).1 with
          hlog := s.hlog ++ [e] }, if cfg.handler s.hlog.length e then none else some e) := by
  rcases invoke_cases cfg x s with ⟨h1, _⟩ | ⟨e', _, h2, _⟩ | ⟨e', h1, _, h3⟩
  · rw [hw, hr] at h1; cases h1
  · rw [hw] at h2; cases h2
  · rw [hw] at h1 h3
    obtain rfl : e = e' := Option.some.inj (hr.symm.trans h1)
    rw [h3, exec_hlog]

/-- forget that an item was scheduled through a CatchScheduler -/
def eraseItem (x : Item) : Item := { x with wrapped := false }
def eraseEntry (e : Item × Int) : Item × Int := (eraseItem e.1, e.2)
def eraseQ (q : PQ Item) : PQ Item := { q with items := q.items.map eraseEntry }
/-- the same scheduler state with every pending action unwrapped -/
def eraseW (s : St) : St := { s with queue := eraseQ s.queue }

/-- actions that do not raise: no `raise`, no `sleep` of a negative time, no re-entrant `advance_to`/`advance_by` that
could be out of range without being caught by the action -/
def noRaise : Step → Prop
  | .raise _ => False
  | .sleep t => 0 ≤ t
  | .ctl c => ∀ clock, ctlRaises clock c = false
  | _ => True

def eraseIter : Iter → Iter
  | .exit s => .exit (eraseW s)
  | .next x s => .next (eraseItem x) (eraseW s)
  | .raised s e => .raised (eraseW s) e
  | .stuck s => .stuck (eraseW s)

theorem eraseW_idem (s : St) : eraseW (eraseW s) = eraseW s := by
  simp [eraseW, eraseQ, eraseEntry, eraseItem, Function.comp_def]

theorem qall_erase {φ : Step → Prop} (s : St) : QAll φ (eraseW s) ↔ QAll φ s := by
  constructor
  · intro h e he; exact h (eraseEntry e) (List.mem_map_of_mem he)
  · intro h e he; obtain ⟨e0, he0, rfl⟩ := List.mem_map.1 he; exact h e0 he0

theorem erase_proj {α : Type} (f : St → α) (hf : ∀ t, f (eraseW t) = f t) {s s' : St} (h : eraseW s = eraseW s') :
    f s = f s' := by
  rw [← hf s, ← hf s', h]

theorem popMinBy_map {β : Type} (lt : β → β → Bool) (g : β → β) (hg : ∀ a b, lt (g a) (g b) = lt a b) :
    ∀ l : List β, popMinBy lt (l.map g) = (popMinBy lt l).map (fun mr => (g mr.1, mr.2.map g)) := by
  intro l
  induction l with
  | nil => simp [popMinBy]
  | cons x xs ih =>
    simp only [List.map_cons, popMinBy, ih]
    cases popMinBy lt xs with
    | none => simp
    | some mr =>
      obtain ⟨m, r⟩ := mr
      simp only [Option.map_some, hg]
      split <;> simp

theorem dequeue_erase (q : PQ Item) :
    (eraseQ q).dequeue? Item.due = (q.dequeue? Item.due).map (fun xq => (eraseItem xq.1, eraseQ xq.2)) := by
  simp only [PQ.dequeue?, eraseQ]
  rw [popMinBy_map (PQ.entryLt Item.due) eraseEntry (by intro a b; rfl)]
  cases popMinBy (PQ.entryLt Item.due) q.items with
  | none => rfl
  | some mr => obtain ⟨m, r⟩ := mr; simp [eraseEntry, List.isEmpty_iff]

theorem erase_enqueue (s : St) (id : Nat) (due : Int) (b : Act) (w : Bool) :
    eraseW (s.enqueue id due b w) = (eraseW s).enqueue id due b false := by
  simp [eraseW, eraseQ, St.enqueue, PQ.enqueue, eraseEntry, eraseItem]

theorem erase_cancel (s : St) (id : Nat) : eraseW (s.cancel id) = (eraseW s).cancel id := by
  simp only [eraseW, eraseQ, St.cancel, List.map_map]
  congr 2
  apply List.map_congr_left
  intro e _
  simp only [Function.comp, cancelEntry, eraseEntry, eraseItem]
  by_cases h : e.1.id = id <;> simp [h]

theorem erase_dispose (s : St) (id : Nat) : eraseW (s.dispose id) = (eraseW s).dispose id :=
  (List.foldl_hom eraseW fun s i => (erase_cancel s i).symm).symm

theorem erase_attach (s : St) (id : Nat) (r : Option Nat) : eraseW (s.attachRet id r) = (eraseW s).attachRet id r := by
  cases r with
  | none => rfl
  | some c =>
    simp only [St.attachRet]
    rw [show (eraseW s).dead = s.dead from rfl]
    split
    · rw [erase_dispose]; rfl
    · rfl

theorem exec_noRaise (w : Bool) (a : Act) : ∀ s : St, a.All noRaise → (exec w a s).2 = none := by
  induction a with
  | done => intro s _; rfl
  | raise e => intro s ha; exact absurd ha (by simp [Act.All, noRaise])
  | sched via m t cid child rest _ ih => intro s ha; exact ih _ ha.2.2
  | cancel id rest ih => intro s ha; exact ih _ ha.2
  | stop rest ih => intro s ha; exact ih _ ha.2
  | sleep t rest ih =>
    intro s ha
    have ht : ¬ t < 0 := by have := ha.1; simp only [noRaise] at this; omega
    simp only [exec, if_neg ht]
    exact ih _ ha.2
  | ctl c rest ih =>
    intro s ha
    simp only [exec, (ha.1 : ∀ clock, ctlRaises clock c = false) s.clock, Bool.false_eq_true, if_false]
    exact ih _ ha.2
  | ret c => intro s _; rfl

theorem exec_erase (w w' : Bool) (a : Act) : ∀ (s s' : St), a.All noRaise → eraseW s = eraseW s' →
    eraseW (exec w a s).1 = eraseW (exec w' a s').1 := by
  induction a with
  | done => intro s s' _ h; exact h
  | raise e => intro s s' ha _; exact absurd ha (by simp [Act.All, noRaise])
  | sched via m t cid child rest _ ih =>
    intro s s' ha h
    refine ih _ _ ha.2.2 ?_
    rw [erase_enqueue, erase_enqueue, h, erase_proj St.clock (fun _ => rfl) h]
  | cancel id rest ih =>
    intro s s' ha h
    exact ih _ _ ha.2 (by rw [erase_dispose, erase_dispose, h])
  | stop rest ih =>
    intro s s' ha h
    exact ih _ _ ha.2 (congrArg (fun t : St => ({ t with enabled := false } : St)) h)
  | sleep t rest ih =>
    intro s s' ha h
    have ht : ¬ t < 0 := by have := ha.1; simp only [noRaise] at this; omega
    simp only [exec, if_neg ht]
    exact ih _ _ ha.2 (congrArg (fun u : St => ({ u with clock := u.clock + t } : St)) h)
  | ctl c rest ih =>
    intro s s' ha h
    have hc : ∀ clock, ctlRaises clock c = false := ha.1
    simp only [exec, hc s.clock, hc s'.clock, Bool.false_eq_true, if_false]
    exact ih _ _ ha.2 h
  | ret c => intro s s' _ h; exact h

theorem invoke_noRaise (cfg : Cfg) (x : Item) (s : St)
    (h : (exec x.wrapped x.body
      { s with log := s.log ++ [{ id := x.id, at_ := s.clock, due := x.due, seq := x.seq }] }).2 = none) :
    invoke cfg x s = ((exec x.wrapped x.body
      { s with log := s.log ++ [{ id := x.id, at_ := s.clock, due := x.due, seq := x.seq }] }).1.attachRet x.id x.body.retOf, none) := by
  rcases invoke_cases cfg x s with ⟨_, h2⟩ | ⟨e, h1, _, _⟩ | ⟨e, h1, _, _⟩
  · exact h2
  · rw [h] at h1; cases h1
  · rw [h] at h1; cases h1

theorem fin_erase (cfg : Cfg) (tgt : Option Int) (t t' : St) (x : Item) (w' : Bool) (hx : x.body.All noRaise)
    (ht : eraseW t = eraseW t') :
    eraseIter (fin cfg tgt t x) = eraseIter (fin cfg tgt t' { x with wrapped := w' }) := by
  have hs0 : eraseW { t with log := t.log ++ [{ id := x.id, at_ := t.clock, due := x.due, seq := x.seq }] } =
      eraseW { t' with log := t'.log ++ [{ id := x.id, at_ := t'.clock, due := x.due, seq := x.seq }] } :=
    congrArg (fun u : St => ({ u with log := u.log ++ [{ id := x.id, at_ := u.clock, due := x.due, seq := x.seq }] } : St)) ht
  have he := exec_erase x.wrapped w' x.body _ _ hx hs0
  simp only [fin]
  rw [invoke_noRaise cfg x t (exec_noRaise _ _ _ hx), invoke_noRaise cfg { x with wrapped := w' } t' (exec_noRaise _ _ _ hx)]
  cases hc : x.cancelled <;> simp only [if_true, Bool.false_eq_true, if_false, eraseIter, Iter.next.injEq]
  case true =>
    exact ⟨by simp [eraseItem, hc], congrArg (fun u : St =>
      ({ u with skipped := u.skipped ++ [x.id], spin := if tgt.isNone then u.spin + 1 else u.spin } : St)) ht⟩
  case false =>
    have ha := congrArg (fun u : St => u.attachRet x.id x.body.retOf) he
    simp only [← erase_attach] at ha
    exact ⟨by simp [eraseItem, hc], congrArg (fun u : St =>
      ({ u with spin := if tgt.isNone then u.spin + 1 else u.spin } : St)) ha⟩

theorem tick_erase (cfg : Cfg) (tgt : Option Int) (s : St) (x : Item) (q' : PQ Item) :
    tick cfg tgt (eraseW s) (eraseItem x) (eraseQ q') = (tick cfg tgt s x q').map eraseW := by
  simp only [tick, apply_ite (Option.map eraseW), Option.map_some, Option.map_none]
  rfl

theorem iter_eraseW (cfg : Cfg) (tgt : Option Int) (s : St) (hq : QAll noRaise s) :
    eraseIter (iter cfg tgt (eraseW s)) = eraseIter (iter cfg tgt s) := by
  have hexit : eraseIter (.exit (eraseW s)) = eraseIter (.exit s) := congrArg Iter.exit (eraseW_idem s)
  simp only [iter, show (eraseW s).enabled = s.enabled from rfl, show (eraseW s).queue = eraseQ s.queue from rfl,
    dequeue_erase]
  split
  · exact hexit
  cases hd : s.queue.dequeue? Item.due with
  | none => exact hexit
  | some xq =>
    obtain ⟨x, q'⟩ := xq
    obtain ⟨c, hc⟩ := (PQ.dequeue_mem hd).1
    simp only [Option.map_some, tick_erase, show pastTarget tgt (eraseItem x) = pastTarget tgt x from rfl]
    split
    · exact hexit
    cases tick cfg tgt s x q' with
    | none => exact congrArg Iter.stuck (eraseW_idem s)
    | some s1 => exact (fin_erase cfg tgt s1 (eraseW s1) x false (hq _ hc) (eraseW_idem s1).symm).symm

theorem iter_erase (cfg : Cfg) (tgt : Option Int) (s s' : St) (hq : QAll noRaise s) (h : eraseW s = eraseW s') :
    eraseIter (iter cfg tgt s) = eraseIter (iter cfg tgt s') := by
  rw [← iter_eraseW cfg tgt s hq, ← iter_eraseW cfg tgt s' ((qall_erase s').1 (h ▸ (qall_erase s).2 hq)), h]

theorem loop_erase (cfg : Cfg) (tgt : Option Int) : ∀ (s s' : St), QAll noRaise s → eraseW s = eraseW s' →
    eraseW (loop cfg tgt s).1 = eraseW (loop cfg tgt s').1 ∧ (loop cfg tgt s).2 = (loop cfg tgt s').2 := by
  intro s
  induction hn : s.queue.nodes using Nat.strongRecOn generalizing s with
  | _ n ih =>
    intro s' hq h
    have hi := iter_erase cfg tgt s s' hq h
    rw [loop_unfold cfg tgt s, loop_unfold cfg tgt s']
    -- the two iterations end the same way: `hi` is contradictory for the twelve mismatched pairs of outcomes
    cases h1 : iter cfg tgt s <;> cases h2 : iter cfg tgt s' <;> rw [h1, h2] at hi <;>
      simp only [eraseIter, reduceCtorEq, Iter.exit.injEq, Iter.next.injEq, Iter.raised.injEq, Iter.stuck.injEq] at hi
    · exact ⟨hi, rfl⟩
    · next x a x' a' =>
      have hq' := (iter_inv (trivInv cfg tgt _) s trivial hq).2
      rw [h1] at hq'
      exact ih _ (by subst hn; exact iter_next_nodes h1) a rfl _ hq' hi.2
    · exact ⟨hi.1, by rw [hi.2]⟩
    · exact ⟨hi, rfl⟩

/-- the script with every top-level call made on the inner scheduler instead of the CatchScheduler -/
def unwrapOp : Op → Op
  | .sched _ m t id body => .sched false m t id body
  | op => op

theorem closeRun_erase {g : St → St} (hg : ∀ a a', eraseW a = eraseW a' → eraseW (g a) = eraseW (g a')) {r r' : St × Out}
    (h : eraseW r.1 = eraseW r'.1 ∧ r.2 = r'.2) :
    eraseW (closeRun .ok g r).1 = eraseW (closeRun .ok g r').1 ∧ (closeRun .ok g r).2 = (closeRun .ok g r').2 := by
  simp only [closeRun, h.2]
  split
  · exact ⟨hg _ _ h.1, trivial⟩
  · exact ⟨h.1, trivial⟩

theorem advanceTo_erase (cfg : Cfg) (T : Int) (s s' : St) (hq : QAll noRaise s) (h : eraseW s = eraseW s') :
    eraseW (advanceTo cfg T s).1 = eraseW (advanceTo cfg T s').1 ∧ (advanceTo cfg T s).2 = (advanceTo cfg T s').2 := by
  have hcl : s.clock = s'.clock := erase_proj St.clock (fun _ => rfl) h
  have hen : s.enabled = s'.enabled := erase_proj St.enabled (fun _ => rfl) h
  by_cases c1 : s.clock > T
  · simp only [advanceTo_eq, if_pos c1, if_pos (hcl ▸ c1)]; exact ⟨h, trivial⟩
  by_cases c2 : s.clock = T ∨ s.enabled = true
  · simp only [advanceTo_eq, if_neg c1, if_neg (hcl ▸ c1), if_pos c2, if_pos (hcl ▸ hen ▸ c2)]; exact ⟨h, trivial⟩
  simp only [advanceTo_eq, if_neg c1, if_neg (hcl ▸ c1), if_neg c2, if_neg (hcl ▸ hen ▸ c2)]
  exact closeRun_erase (fun _ _ => congrArg (fun u : St => ({ u with enabled := false, clock := T } : St)))
    (loop_erase cfg (some T) { s with enabled := true } { s' with enabled := true } hq
      (congrArg (fun u : St => ({ u with enabled := true } : St)) h))

theorem start_erase (cfg : Cfg) (s s' : St) (hq : QAll noRaise s) (h : eraseW s = eraseW s') :
    eraseW (start cfg s).1 = eraseW (start cfg s').1 ∧ (start cfg s).2 = (start cfg s').2 := by
  have hen : s.enabled = s'.enabled := erase_proj St.enabled (fun _ => rfl) h
  by_cases c1 : s.enabled = true
  · simp only [start_eq, if_pos c1, if_pos (hen ▸ c1)]; exact ⟨h, trivial⟩
  simp only [start_eq, if_neg c1, if_neg (hen ▸ c1)]
  exact closeRun_erase (fun _ _ => congrArg (fun u : St => ({ u with enabled := false } : St)))
    (loop_erase cfg none { s with enabled := true, spin := 0 } { s' with enabled := true, spin := 0 } hq
      (congrArg (fun u : St => ({ u with enabled := true, spin := 0 } : St)) h))

theorem doOp_erase (cfg : Cfg) (s s' : St) (op : Op) (hq : QAll noRaise s) (h : eraseW s = eraseW s') :
    eraseW (doOp cfg s op).1 = eraseW (doOp cfg s' (unwrapOp op)).1 ∧ (doOp cfg s op).2 = (doOp cfg s' (unwrapOp op)).2 := by
  have hcl : s.clock = s'.clock := erase_proj St.clock (fun _ => rfl) h
  cases op with
  | sched w m t id body =>
    refine ⟨?_, rfl⟩
    show eraseW (s.enqueue id (dueOf s.clock m t) body w) = eraseW (s'.enqueue id (dueOf s'.clock m t) body false)
    rw [erase_enqueue, erase_enqueue, h, hcl]
  | cancel id =>
    refine ⟨?_, rfl⟩
    show eraseW (s.dispose id) = eraseW (s'.dispose id)
    rw [erase_dispose, erase_dispose, h]
  | stop => exact ⟨congrArg (fun u : St => ({ u with enabled := false } : St)) h, rfl⟩
  | sleep t =>
    show eraseW (sleep t s).1 = eraseW (sleep t s').1 ∧ (sleep t s).2 = (sleep t s').2
    simp only [sleep]
    split
    · exact ⟨h, rfl⟩
    · exact ⟨congrArg (fun u : St => ({ u with clock := u.clock + t } : St)) h, rfl⟩
  | start => exact start_erase cfg s s' hq h
  | advanceTo T => exact advanceTo_erase cfg T s s' hq h
  | advanceBy t =>
    show eraseW (advanceTo cfg (s.clock + t) s).1 = eraseW (advanceTo cfg (s'.clock + t) s').1 ∧
      (advanceTo cfg (s.clock + t) s).2 = (advanceTo cfg (s'.clock + t) s').2
    rw [← hcl]
    exact advanceTo_erase cfg _ s s' hq h

end C42
