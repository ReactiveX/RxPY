import RxProofs.Lemmas.TimedBase
import RxProofs.Lemmas.Basics
/-! skip/take_last/skip_last_with_time, timeout: run = rule from an arbitrary state; timeout's rule read as prefix + switch. -/

namespace Timed

theorem swt_run_eq_spec {α} (tf : Bool) (due : Nat) (msgs : TL α) (lo : Nat) (isOpen : Bool) (h : Mono lo msgs)
    (ho : isOpen = true → timerBefore tf due lo = true) :
    swtRun tf due isOpen msgs = swtSpec tf due msgs := by
  induction msgs generalizing lo isOpen with
  | nil => simp [swtRun, swtSpec, conform]
  | cons a r ih =>
    obtain ⟨t, n⟩ := a
    have hopen : (isOpen || timerBefore tf due t) = timerBefore tf due t := by
      cases isOpen with
      | false => simp
      | true => simp [tb_mono h.1 (ho rfl)]
    cases n with
    | next v =>
      have ih' := ih t (timerBefore tf due t) h.2 (fun x => x)
      simp only [swtSpec] at ih'
      simp only [timeline_simp, swtRun, hopen, ih', swtSpec, conform, List.filter_cons, Bool.not_true, Bool.false_or]
      cases timerBefore tf due t <;> simp [timeline_simp, swtOnNext]
    | error e => simp [timeline_simp, swtRun, swtSpec, conform]
    | completed => simp [timeline_simp, swtRun, swtSpec, conform]

theorem popOld_filter {α} (d now T : Nat) (hT : now ≤ T) (q : List (Nat × α)) :
    (popOld d now q).filter (fun e => keepFixed T e.1 d) = q.filter (fun e => keepFixed T e.1 d) := by
  induction q with
  | nil => rfl
  | cons a q ih =>
    obtain ⟨t, v⟩ := a
    by_cases h : t + d ≤ now
    · have : keepFixed T t d = false := by simp [keepFixed]; omega
      simp [popOld, h, ih, this]
    · simp [popOld, h]

/-- the run from an arbitrary queue, in declarative form -/
def tlwtG {α} (d : Nat) (q : List (Nat × α)) (msgs : TL α) : TL α :=
  match firstTerminal msgs with
  | none => []
  | some (T, .completed) =>
    ((q ++ nexts msgs).filter (fun e => keepFixed T e.1 d)).map (fun e => (T, Notif.next e.2)) ++ [(T, .completed)]
  | some (T, n) => [(T, n)]

theorem tlwt_run_eq_G {α} (d : Nat) (msgs : TL α) (q : List (Nat × α)) (lo : Nat) (h : Mono lo msgs) :
    tlwtRun keepFixed d q msgs = tlwtG d q msgs := by
  induction msgs generalizing q lo with
  | nil => simp [tlwtRun, tlwtG, firstTerminal]
  | cons a r ih =>
    obtain ⟨t, n⟩ := a
    cases n with
    | next x =>
      rw [tlwtRun, ih _ t h.2]
      simp only [tlwtG, firstTerminal, nexts]
      rcases firstTerminal_cases h.2 with hf | ⟨T, hT, hf⟩ | ⟨T, e, hT, hf⟩ <;> simp only [hf]
      simp only [tlwtOnNext, List.filter_append, popOld_filter d t T hT, List.append_assoc]
      rw [← List.filter_append, List.singleton_append]
    | error e => simp [tlwtRun, tlwtG, firstTerminal]
    | completed => simp [timeline_simp, tlwtRun, tlwtG, firstTerminal, nexts, tlwtOnCompleted]

theorem slwtDrain_eq {α} (d now : Nat) (L : List (Nat × α)) :
    slwtDrain d now L = ((L.takeWhile (fun e => decide (e.1 + d ≤ now))).map (fun e => Notif.next e.2),
      L.dropWhile (fun e => decide (e.1 + d ≤ now))) := by
  induction L with
  | nil => rfl
  | cons a L ih => obtain ⟨t, v⟩ := a; by_cases h : t + d ≤ now <;> simp [slwtDrain, h, ih]

theorem drain_filter_old {α} (d now : Nat) (L : List (Nat × α)) (hs : SortedQ L) :
    (slwtDrain d now L).1 = (L.filter (fun e => decide (e.1 + d ≤ now))).map (fun e => Notif.next e.2) := by
  rw [slwtDrain_eq, takeWhile_eq_filter_of_sorted (old_mono d now) hs]

theorem drain_filter_young {α} (d now : Nat) (L : List (Nat × α)) (hs : SortedQ L) :
    (slwtDrain d now L).2 = L.filter (fun e => decide (now < e.1 + d)) := by
  rw [slwtDrain_eq, dropWhile_eq_filter_of_sorted (old_mono d now) hs]
  apply List.filter_congr
  intro e _
  by_cases h : e.1 + d ≤ now <;> simp [h] <;> omega

/-- the element values a timeline delivers -/
def vals {α} (l : TL α) : List α :=
  l.filterMap (fun m => match m.2 with | .next v => some v | _ => none)

theorem vals_append {α} (a b : TL α) : vals (a ++ b) = vals a ++ vals b := by
  simp [vals, List.filterMap_append]

theorem vals_at_next {α} (t : Nat) (pre : List (Nat × α)) :
    vals (at_ t (pre.map (fun e => Notif.next e.2))) = pre.map (·.2) := by
  induction pre with
  | nil => rfl
  | cons a pre ih => simp [timeline_simp, vals] at ih ⊢; exact ih

theorem slwt_vals {α} (d : Nat) (msgs : TL α) (q : List (Nat × α)) (lo T : Nat) (h : Mono lo msgs)
    (hs : SortedQ q) (hq : ∀ e ∈ q, e.1 ≤ lo) (hf : firstTerminal msgs = some (T, .completed)) :
    vals (slwtRun d q msgs) = ((q ++ nexts msgs).filter (fun e => decide (e.1 + d ≤ T))).map (·.2) := by
  induction msgs generalizing q lo with
  | nil => simp [firstTerminal] at hf
  | cons a r ih =>
    obtain ⟨t, n⟩ := a
    cases n with
    | next x =>
      have hL : SortedQ (q ++ [(t, x)]) := sortedQ_snoc x hs hq h.1
      have hf' : firstTerminal r = some (T, .completed) := by simpa [firstTerminal] using hf
      have hT : t ≤ T := firstTerminal_ge h.2 hf'
      have hsub : ((q ++ [(t, x)]).dropWhile (fun e => decide (e.1 + d ≤ t))).Sublist (q ++ [(t, x)]) :=
        List.dropWhile_sublist _
      have ih' := ih _ t h.2 (List.Pairwise.sublist hsub hL) (fun e he => le_snoc x hq h.1 e (hsub.subset he)) hf'
      rw [slwtRun, slwtDrain_eq, vals_append, ih', vals_at_next]
      have e0 : q ++ nexts ((t, Notif.next x) :: r) = (q ++ [(t, x)]) ++ nexts r := by simp [nexts]
      rw [e0]
      -- what was popped at `t` is old at `T` as well
      have e1 : ((q ++ [(t, x)]).takeWhile (fun e => decide (e.1 + d ≤ t))).filter (fun e => decide (e.1 + d ≤ T))
          = (q ++ [(t, x)]).takeWhile (fun e => decide (e.1 + d ≤ t)) := by
        rw [List.filter_eq_self]; intro e he; have := List.mem_takeWhile_imp _ _ e he; simp at this ⊢; omega
      conv => rhs; rw [← List.takeWhile_append_dropWhile (p := fun e => decide (e.1 + d ≤ t)) (l := q ++ [(t, x)])]
      simp only [List.filter_append, List.map_append, List.append_assoc, e1]
    | error e => simp [firstTerminal] at hf
    | completed =>
      have hT : t = T := by simpa [firstTerminal] using hf
      subst hT
      simp only [slwtRun, nexts, List.append_nil]
      rw [drain_filter_old d t q hs]
      have : at_ t ((q.filter (fun e => decide (e.1 + d ≤ t))).map (fun e => Notif.next e.2) ++ [Notif.completed])
          = at_ t ((q.filter (fun e => decide (e.1 + d ≤ t))).map (fun e => Notif.next e.2)) ++ [(t, Notif.completed)] := by
        simp [timeline_simp]
      rw [this, vals_append, vals_at_next]
      simp [vals]

theorem slwt_run_eq_spec {α} (d : Nat) (msgs : TL α) (E : List (Nat × α)) (P lo : Nat) (h : Mono lo msgs)
    (hE : SortedQ E) (hEP : ∀ e ∈ E, e.1 ≤ P) (hP : P ≤ lo) :
    slwtRun d (E.filter (fun e => decide (P < e.1 + d))) msgs = slwtSpec d E P msgs := by
  induction msgs generalizing E P lo with
  | nil => simp [slwtRun, slwtSpec]
  | cons a r ih =>
    obtain ⟨τ, n⟩ := a
    have hPτ : P ≤ τ := Nat.le_trans hP h.1
    have hq : SortedQ (E.filter (fun e => decide (P < e.1 + d))) := List.Pairwise.sublist List.filter_sublist hE
    have hold : (E.filter (fun e => decide (P < e.1 + d))).filter (fun e => decide (e.1 + d ≤ τ))
        = E.filter (fun e => decide (P < e.1 + d) && decide (e.1 + d ≤ τ)) := by
      rw [List.filter_filter]; apply List.filter_congr; intro e _; exact Bool.and_comm _ _
    cases n with
    | next x =>
      have hL : SortedQ (E.filter (fun e => decide (P < e.1 + d)) ++ [(τ, x)]) :=
        sortedQ_snoc x hq (fun e he => hEP e (List.mem_filter.1 he).1) hPτ
      have ih' := ih (E ++ [(τ, x)]) τ τ h.2 (sortedQ_snoc x hE hEP hPτ) (le_snoc x hEP hPτ) (Nat.le_refl _)
      have hyoung : (E.filter (fun e => decide (P < e.1 + d))).filter (fun e => decide (τ < e.1 + d))
          = E.filter (fun e => decide (τ < e.1 + d)) := by
        rw [List.filter_filter]; apply List.filter_congr; intro e _
        by_cases hc : τ < e.1 + d <;> simp [hc]; omega
      rw [slwtRun, drain_filter_old d τ _ hL, drain_filter_young d τ _ hL]
      simp only [List.filter_append, hold, hyoung]
      rw [← List.filter_append, ih', slwtSpec]
      congr 1
      simp only [timeline_simp, List.filter_cons, List.filter_nil]
      by_cases hd : d = 0
      · subst hd; simp
      · have : ¬ (τ + d ≤ τ) := by omega
        simp [hd, this]
    | error e => simp [slwtRun, slwtSpec]
    | completed =>
      rw [slwtRun, drain_filter_old d τ _ hq, hold, slwtSpec]
      simp [timeline_simp]

/-- invariant of the reachable states before the fallback took over: not switched, and the single pending timer
was created for the current `_id` -/
structure ToOk (s : ToSt) (due fireAt : Nat) (first : Bool) : Prop where
  unswitched : s.switched = false
  timer_eq : s.timer = some { due := due, fireAt := fireAt, myId := s.id, first := first }

theorem to_run_eq_spec {α} (mode : Due) (cold1 : Bool) (other : Nat → TL α) (msgs : TL α) (s : ToSt)
    (due fireAt : Nat) (first : Bool) (hs : ToOk s due fireAt first) :
    toRun mode cold1 other s msgs = toSpec mode cold1 other due fireAt first msgs := by
  induction msgs generalizing s due fireAt first with
  | nil =>
    obtain ⟨h1, h2⟩ := hs
    simp [toRun, toSpec, h2, toAction]
  | cons a r ih =>
    obtain ⟨t, n⟩ := a
    obtain ⟨h1, h2⟩ := hs
    by_cases hb : timerBefore (first && cold1) due t = true
    · simp [toRun, toSpec, toFire, h2, hb, toAction]
    · simp only [Bool.not_eq_true] at hb
      cases n with
      | next v =>
        have ok : ToOk (toOnNext (α := α) mode t s v).1 (mode.at t) (max (mode.at t) t) false :=
          ⟨by simp [toOnNext, h1, toCreateTimer], by simp [toOnNext, h1, toCreateTimer]⟩
        have ih' := ih _ _ _ _ ok
        simp only [timeline_simp, toRun, toFire, h2, hb, Bool.false_eq_true, if_false, toHandle, if_true, ih', toSpec]
        simp [timeline_simp, toOnNext, h1]
      | error e => simp [timeline_simp, toRun, toSpec, toFire, h2, hb, toHandle, toOnTerminal, h1]
      | completed => simp [timeline_simp, toRun, toSpec, toFire, h2, hb, toHandle, toOnTerminal, h1]

theorem toInit_ok (mode : Due) (sub : Nat) : ToOk (toInit mode sub) (mode.at sub) (max (mode.at sub) sub) true :=
  ⟨rfl, rfl⟩

/-- The part of the source the subscriber gets, and the instant of the switch (if any), read off the declarative rule. -/
def toPrefix {α} (mode : Due) (cold1 : Bool) : (due : Nat) → (first : Bool) → TL α → TL α
  | _, _, [] => []
  | due, first, (t, n) :: rest =>
    if timerBefore (first && cold1) due t then []
    else match n with
      | .next v => (t, .next v) :: toPrefix mode cold1 (mode.at t) false rest
      | n => [(t, n)]

def toSwitchAt {α} (mode : Due) (cold1 : Bool) : (due fireAt : Nat) → (first : Bool) → TL α → Option Nat
  | _, fireAt, _, [] => some fireAt
  | due, fireAt, first, (t, n) :: rest =>
    if timerBefore (first && cold1) due t then some fireAt
    else match n with
      | .next _ => toSwitchAt mode cold1 (mode.at t) (max (mode.at t) t) false rest
      | _ => none

theorem toSpec_outcome {α} (mode : Due) (cold1 : Bool) (other : Nat → TL α) (msgs : TL α) (due fireAt : Nat) (first : Bool) :
    toSpec mode cold1 other due fireAt first msgs
        = toPrefix mode cold1 due first msgs ++
          (match toSwitchAt mode cold1 due fireAt first msgs with | some S => other S | none => [])
      ∧ (∀ S, toSwitchAt mode cold1 due fireAt first msgs = some S →
            ∀ m ∈ toPrefix mode cold1 due first msgs, isNext m.2 = true)
      ∧ (toSwitchAt mode cold1 due fireAt first msgs = none →
            toPrefix mode cold1 due first msgs = conform msgs ∧ hasTerminal (conform msgs) = true) := by
  induction msgs generalizing due fireAt first with
  | nil => simp [toSpec, toPrefix, toSwitchAt]
  | cons a r ih =>
    obtain ⟨t, n⟩ := a
    by_cases hb : timerBefore (first && cold1) due t = true
    · simp [toSpec, toPrefix, toSwitchAt, hb]
    · simp only [Bool.not_eq_true] at hb
      cases n with
      | next v =>
        obtain ⟨h1, h2, h3⟩ := ih (mode.at t) (max (mode.at t) t) false
        simp only [timeline_simp, toSpec, toPrefix, toSwitchAt, hb, Bool.false_eq_true, if_false, h1, List.cons_append, List.mem_cons,
          conform, Bool.not_true, Bool.false_or, true_and]
        refine ⟨fun S hS m hm => ?_, fun hN => ?_⟩
        · rcases hm with rfl | hm
          · rfl
          · exact h2 S hS m hm
        · exact ⟨by rw [(h3 hN).1], (h3 hN).2⟩
      | error e => simp [timeline_simp, toSpec, toPrefix, toSwitchAt, hb, conform]
      | completed => simp [timeline_simp, toSpec, toPrefix, toSwitchAt, hb, conform]

theorem to_run_rel {α} (d sub : Nat) (other : Nat → TL α) (msgs : TL α) :
    toRun (.rel d) false other (toInit (.rel d) sub) msgs
        = toPrefix (.rel d) false (sub + d) true msgs ++
          (match toSwitchAt (.rel d) false (sub + d) (sub + d) true msgs with | some S => other S | none => [])
      ∧ (toSwitchAt (.rel d) false (sub + d) (sub + d) true msgs = none →
            toPrefix (.rel d) false (sub + d) true msgs = conform msgs) := by
  have ok : ToOk (toInit (.rel d) sub) (sub + d) (sub + d) true :=
    ⟨rfl, by simp [toInit, toCreateTimer, Due.at, Nat.max_eq_left (Nat.le_add_right sub d)]⟩
  obtain ⟨h1, -, h3⟩ := toSpec_outcome (.rel d) false other msgs (sub + d) (sub + d) true
  exact ⟨(to_run_eq_spec _ _ _ msgs _ _ _ _ ok).trans h1, fun hN => (h3 hN).1⟩

/-- the arrival time of the last notification of `pre` (`prev` if there is none) -/
def lastTime {α} : Nat → TL α → Nat
  | prev, [] => prev
  | _, (t, _) :: r => lastTime t r

/-- every notification arrives at most `d` after the previous one (after `prev` for the first) -/
def GapsOk {α} (d : Nat) : Nat → TL α → Prop
  | _, [] => True
  | prev, (t, _) :: r => t ≤ prev + d ∧ GapsOk d t r

theorem gapsOk_append {α} (d : Nat) (a b : TL α) (prev : Nat) :
    GapsOk d prev (a ++ b) ↔ GapsOk d prev a ∧ GapsOk d (lastTime prev a) b := by
  induction a generalizing prev with
  | nil => simp [GapsOk, lastTime]
  | cons m a ih => obtain ⟨t, n⟩ := m; simp [GapsOk, lastTime, ih, and_assoc]

/-- against a hot source (`cold1 = false`) the `first` flag is never read -/
theorem toSwitchAt_hot {α} (mode : Due) (due fireAt : Nat) (first : Bool) (msgs : TL α) :
    toSwitchAt mode false due fireAt first msgs = toSwitchAt mode false due fireAt false msgs := by
  cases msgs <;> simp [toSwitchAt]

theorem toPrefix_hot {α} (mode : Due) (due : Nat) (first : Bool) (msgs : TL α) :
    toPrefix mode false due first msgs = toPrefix mode false due false msgs := by
  cases msgs <;> simp [toPrefix]

theorem to_relay_gaps {α} (d : Nat) (pre rest : TL α) (prev : Nat) (first : Bool)
    (hn : ∀ m ∈ pre, isNext m.2 = true) (hg : GapsOk d prev pre) :
    toSwitchAt (.rel d) false (prev + d) (prev + d) first (pre ++ rest)
        = toSwitchAt (.rel d) false (lastTime prev pre + d) (lastTime prev pre + d) false rest
      ∧ toPrefix (.rel d) false (prev + d) first (pre ++ rest)
        = pre ++ toPrefix (.rel d) false (lastTime prev pre + d) false rest := by
  induction pre generalizing prev first with
  | nil => exact ⟨toSwitchAt_hot .., toPrefix_hot ..⟩
  | cons a pre ih =>
    obtain ⟨t, n⟩ := a
    have hnext := hn (t, n) (List.mem_cons_self ..)
    cases n with
    | next v =>
      have hle : ¬ (prev + d < t) := by have := hg.1; omega
      obtain ⟨h1, h2⟩ := ih t false (fun m hm => hn m (List.mem_cons_of_mem _ hm)) hg.2
      refine ⟨?_, ?_⟩
      · simp only [List.cons_append, toSwitchAt, Bool.and_false, timerBefore, Bool.false_eq_true, if_false, hle,
          decide_false, Due.at, lastTime]
        rw [Nat.max_eq_left (Nat.le_add_right t d)]
        exact h1
      · simp only [List.cons_append, toPrefix, Bool.and_false, timerBefore, Bool.false_eq_true, if_false, hle,
          decide_false, Due.at, lastTime, h2]
    | error e => simp [timeline_simp] at hnext
    | completed => simp [timeline_simp] at hnext

theorem to_switch_at_gap {α} (d : Nat) (pre rest : TL α) (prev : Nat) (first : Bool)
    (hn : ∀ m ∈ pre, isNext m.2 = true) (hg : GapsOk d prev pre)
    (hr : rest = [] ∨ ∃ t n r, rest = (t, n) :: r ∧ lastTime prev pre + d < t) :
    toSwitchAt (.rel d) false (prev + d) (prev + d) first (pre ++ rest) = some (lastTime prev pre + d)
      ∧ toPrefix (.rel d) false (prev + d) first (pre ++ rest) = pre := by
  obtain ⟨h1, h2⟩ := to_relay_gaps d pre rest prev first hn hg
  rw [h1, h2]
  rcases hr with rfl | ⟨t, n, r, rfl, hlt⟩
  · simp [toSwitchAt, toPrefix]
  · simp [toSwitchAt, toPrefix, timerBefore, hlt]

theorem to_no_switch_small_gaps {α} (d : Nat) (pre post : TL α) (T : Nat) (n : Notif α) (prev : Nat) (first : Bool)
    (hn : ∀ m ∈ pre, isNext m.2 = true) (hterm : isNext n = false) (hg : GapsOk d prev (pre ++ [(T, n)])) :
    toSwitchAt (.rel d) false (prev + d) (prev + d) first (pre ++ (T, n) :: post) = none := by
  obtain ⟨hg1, hg2⟩ := (gapsOk_append d pre [(T, n)] prev).1 hg
  have hle : ¬ (lastTime prev pre + d < T) := by have := hg2.1; omega
  rw [(to_relay_gaps d pre ((T, n) :: post) prev first hn hg1).1]
  cases n with
  | next v => simp [timeline_simp] at hterm
  | error e => simp [toSwitchAt, timerBefore, hle]
  | completed => simp [toSwitchAt, timerBefore, hle]

end Timed
