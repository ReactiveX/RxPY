import RxModel.WinFin
/-!
# `RxModel/WinFin.lean`: observations on the log and closed forms of the procedures

For each Python procedure of the model its result in closed form (`…_eq`, under the hypotheses that decide its
branches) or the state it leaves whichever exceptions fly (`…_fst`, which is how the fault "the inner subscription's
`dispose()` raises" is covered).
-/
namespace WinFin

@[simp] theorem isTermEmit_emit {α} (n : Notif α) (r : Bool) : (Eff.emit n r).isTermEmit = n.isTerminal := rfl
@[simp] theorem isTermEmit_act {α} (k : ActK) (a : Option (Notif α)) (r : Bool) : (Eff.act k a r).isTermEmit = false := rfl
@[simp] theorem isTermEmit_res {α} : (Eff.resDispose : Eff α).isTermEmit = false := rfl
@[simp] theorem isTermEmit_src {α} : (Eff.srcDispose : Eff α).isTermEmit = false := rfl
@[simp] theorem isTermEmit_esc {α} (e : Err) : (Eff.escape e : Eff α).isTermEmit = false := rfl
@[simp] theorem isResDispose_emit {α} (n : Notif α) (r : Bool) : (Eff.emit n r).isResDispose = false := rfl
@[simp] theorem isResDispose_act {α} (k : ActK) (a : Option (Notif α)) (r : Bool) : (Eff.act k a r).isResDispose = false := rfl
@[simp] theorem isResDispose_res {α} : (Eff.resDispose : Eff α).isResDispose = true := rfl
@[simp] theorem isResDispose_src {α} : (Eff.srcDispose : Eff α).isResDispose = false := rfl
@[simp] theorem isResDispose_esc {α} (e : Err) : (Eff.escape e : Eff α).isResDispose = false := rfl
@[simp] theorem isTerminal_next {α} (v : α) : (Notif.next v).isTerminal = false := rfl
@[simp] theorem isTerminal_error {α} (e : Err) : (Notif.error e : Notif α).isTerminal = true := rfl
@[simp] theorem isTerminal_completed {α} : (Notif.completed : Notif α).isTerminal = true := rfl

theorem eq_next_of_not_terminal {α} {n : Notif α} (h : n.isTerminal = false) : ∃ v, n = .next v := by
  cases n <;> simp_all [Notif.isTerminal]

@[simp] theorem resCount_append {α} (a b : List (Eff α)) : resCount (a ++ b) = resCount a + resCount b := by
  simp [resCount]
@[simp] theorem hasTerm_append {α} (a b : List (Eff α)) : hasTerm (a ++ b) = (hasTerm a || hasTerm b) := by
  simp [hasTerm]
@[simp] theorem resCount_nil {α} : resCount ([] : List (Eff α)) = 0 := rfl
@[simp] theorem hasTerm_nil {α} : hasTerm ([] : List (Eff α)) = false := rfl
@[simp] theorem resCount_cons {α} (e : Eff α) (l) : resCount (e :: l) = e.isResDispose.toNat + resCount l := by
  cases e <;> simp [resCount, Eff.isResDispose, List.filter] <;> omega
@[simp] theorem hasTerm_cons {α} (e : Eff α) (l) : hasTerm (e :: l) = (e.isTermEmit || hasTerm l) := by
  simp [hasTerm]

@[simp] theorem isAct_emit {α} (k : ActK) (n : Notif α) (r : Bool) : (Eff.emit n r).isAct k = false := rfl
@[simp] theorem isAct_res {α} (k : ActK) : (Eff.resDispose : Eff α).isAct k = false := rfl
@[simp] theorem isAct_src {α} (k : ActK) : (Eff.srcDispose : Eff α).isAct k = false := rfl
@[simp] theorem isAct_esc {α} (k : ActK) (e : Err) : (Eff.escape e : Eff α).isAct k = false := rfl
@[simp] theorem isAct_act {α} (k k' : ActK) (a : Option (Notif α)) (r : Bool) : (Eff.act k' a r).isAct k = (k == k') := rfl
@[simp] theorem actCount_append {α} (k : ActK) (a b : List (Eff α)) : actCount k (a ++ b) = actCount k a + actCount k b := by
  simp [actCount]
@[simp] theorem actCount_nil {α} (k : ActK) : actCount k ([] : List (Eff α)) = 0 := rfl
@[simp] theorem actCount_cons {α} (k : ActK) (e : Eff α) (l) : actCount k (e :: l) = (e.isAct k).toNat + actCount k l := by
  cases h : e.isAct k <;> simp [actCount, List.filter, h] <;> omega

/-- `U.dispose()` as a state update -/
def uDisp (u : USt) : USt := { u with stopped := true, sad := true, cur := u.sad && u.cur }
def srcIf {α} (b : Bool) : List (Eff α) := if b then [.srcDispose] else []
def uSubDisp (u : USt) : USt := if u.subDisposed then u else uDisp { u with subDisposed := true }

@[simp] theorem uDisp_sad (u : USt) : (uDisp u).sad = true := rfl
@[simp] theorem uDisp_subDisposed (u : USt) : (uDisp u).subDisposed = u.subDisposed := rfl

@[simp] theorem uSubDisp_subDisposed (u : USt) : (uSubDisp u).subDisposed = true := by
  simp only [uSubDisp]; split <;> simp_all

theorem uSubDisp_fresh (u : USt) (h : u.subDisposed = false) : (uSubDisp u).stopped = true ∧ (uSubDisp u).sad = true := by
  simp [uSubDisp, uDisp, h]

theorem uSubDisp_again (u : USt) (h : u.subDisposed = true) : uSubDisp u = u := by simp [uSubDisp, h]

@[simp] theorem resCount_srcIf {α} (b : Bool) : resCount (srcIf b : List (Eff α)) = 0 := by
  cases b <;> simp [srcIf, Eff.isResDispose]
@[simp] theorem actCount_srcIf {α} (k : ActK) (b : Bool) : actCount k (srcIf b : List (Eff α)) = 0 := by
  cases b <;> simp [srcIf]

@[simp] theorem view_append {α} (a b : List (Eff α)) : view (a ++ b) = view a ++ view b := by simp [view]
@[simp] theorem view_nil {α} : view ([] : List (Eff α)) = [] := rfl
@[simp] theorem view_emit {α} (n : Notif α) (r : Bool) : view [Eff.emit n r] = [Eff.emit n r] := rfl
@[simp] theorem view_act {α} (k : ActK) (a : Option (Notif α)) (r : Bool) : view [Eff.act k a r] = [] := rfl
@[simp] theorem view_res {α} : view [(Eff.resDispose : Eff α)] = [] := rfl
@[simp] theorem view_src {α} : view [(Eff.srcDispose : Eff α)] = [Eff.srcDispose] := rfl
@[simp] theorem view_esc {α} (e : Err) : view [(Eff.escape e : Eff α)] = [Eff.escape e] := rfl
@[simp] theorem view_cons_emit {α} (n : Notif α) (r : Bool) (l) : view (Eff.emit n r :: l) = Eff.emit n r :: view l := rfl
@[simp] theorem view_cons_act {α} (k : ActK) (a : Option (Notif α)) (r : Bool) (l) : view (Eff.act k a r :: l) = view l := rfl
@[simp] theorem view_cons_res {α} (l) : view ((Eff.resDispose : Eff α) :: l) = view l := rfl
@[simp] theorem view_cons_src {α} (l) : view ((Eff.srcDispose : Eff α) :: l) = Eff.srcDispose :: view l := rfl
@[simp] theorem view_cons_esc {α} (e : Err) (l) : view ((Eff.escape e : Eff α) :: l) = Eff.escape e :: view l := rfl
@[simp] theorem view_srcIf {α} (b : Bool) : view (srcIf b : List (Eff α)) = srcIf b := by cases b <;> rfl

/-- operators whose returned disposable has its own `is_disposed` flag -/
def Cfg.guarded (c : Cfg) : Bool :=
  match c.oper with
  | .using | .finallyAction | .doFinally | .doOnDispose => true
  | _ => false

def srcExn (c : Cfg) (b : Bool) : Option Err := if b && c.srcDisposeRaises then some c.srcdErr else none

theorem uDispose_gen {α} (c : Cfg) (s : St α) :
    uDispose c s = ({ s with u := uDisp s.u, log := s.log ++ srcIf (!s.u.sad && s.u.cur) },
      srcExn c (!s.u.sad && s.u.cur)) := by
  obtain ⟨d, ⟨us, usad, ucur, usub, ulive⟩, o, log⟩ := s
  cases usad <;> cases ucur <;> simp [uDispose, uDisp, srcIf, srcDisposeP, srcExn]

theorem uSubDispose_gen {α} (c : Cfg) (s : St α) :
    uSubDispose c s = ({ s with u := uSubDisp s.u, log := s.log ++ srcIf (!s.u.subDisposed && !s.u.sad && s.u.cur) },
      srcExn c (!s.u.subDisposed && !s.u.sad && s.u.cur)) := by
  obtain ⟨d, ⟨us, usad, ucur, usub, ulive⟩, o, log⟩ := s
  cases usub <;> simp [uSubDispose, uDispose_gen, uSubDisp, srcIf, srcExn]

theorem srcExn_nofault (c : Cfg) (h : c.srcDisposeRaises = false) (b : Bool) : srcExn c b = none := by
  simp [srcExn, h]

theorem srcDisposeP_eq {α} (c : Cfg) (h : c.srcDisposeRaises = false) (s : St α) :
    srcDisposeP c s = ({ s with log := s.log ++ [.srcDispose] }, none) := by
  simp [srcDisposeP, h]

theorem uDispose_eq {α} (c : Cfg) (h : c.srcDisposeRaises = false) (s : St α) :
    uDispose c s = ({ s with u := uDisp s.u, log := s.log ++ srcIf (!s.u.sad && s.u.cur) }, none) := by
  rw [uDispose_gen, srcExn_nofault c h]

theorem uSubDispose_eq {α} (c : Cfg) (h : c.srcDisposeRaises = false) (s : St α) :
    uSubDispose c s = ({ s with u := uSubDisp s.u, log := s.log ++ srcIf (!s.u.subDisposed && !s.u.sad && s.u.cur) }, none) := by
  rw [uSubDispose_gen, srcExn_nofault c h]

def resIf {α} (c : Cfg) : List (Eff α) := if c.hasRes then [.resDispose] else []

@[simp] theorem view_resIf {α} (c : Cfg) : view (resIf c : List (Eff α)) = [] := by
  simp only [resIf]; split <;> rfl

/-- what `subscribe` logs before it calls `source.subscribe` -/
def Cfg.opPre {α} (c : Cfg) : List (Eff α) :=
  match c.oper with
  | .using =>
    match c.resf with
    | .raise => [.act .resf none true]
    | _ => [.act .resf none false, .act .obsf none c.obsfRaises]
  | .doOnSubscribe => [.act .subscribe none false]
  | _ => []

/-- the source it subscribes to: after a failed factory `using` subscribes to `throw(exception)`, whose `subscribe` returns -/
def Cfg.opSp {α} (c : Cfg) (sp : SyncPhase α) : SyncPhase α :=
  if c.oper = .using ∧ (c.resf = .raise ∨ c.obsfRaises = true) then { sp with exn := none } else sp

@[simp] theorem view_opPre {α} (c : Cfg) : view (c.opPre : List (Eff α)) = [] := by
  cases hop : c.oper <;> simp only [Cfg.opPre, hop] <;> first | rfl | (split <;> rfl)

/-- not `finally_action`, whose `subscribe` has an `except` -/
theorem opSubscribe_eq {α} (c : Cfg) (sp : SyncPhase α) (s : St α) (hf : c.oper ≠ .finallyAction)
    (hs : c.oper = .doOnSubscribe → c.actRaises s.o.acts = false) :
    opSubscribe c sp s = srcSubscribe c (c.opSp sp)
      { s with o.acts := if c.oper = .doOnSubscribe then s.o.acts + 1 else s.o.acts, log := s.log ++ c.opPre } := by
  cases hop : c.oper <;> simp only [opSubscribe, Cfg.opPre, Cfg.opSp, hop, reduceCtorEq, false_and, if_false, if_true,
    List.append_nil]
  case «using» => cases hr : c.resf <;> cases ho : c.obsfRaises <;> simp [seq, logE]
  case finallyAction => exact absurd hop hf
  case doOnSubscribe => simp [seq, action, hs hop]

theorem emitSync_inv {α} {c : Cfg} {I : St α → Prop} (hn : ∀ s n, I s → I (uNotify c n s).1)
    (he : ∀ s e, I s → I { s with log := s.log ++ [.escape e] }) (prop : Bool) (ns : List (Notif α)) (s : St α)
    (h : I s) : I (emitSync c prop ns s).1 := by
  induction ns generalizing s with
  | nil => exact h
  | cons n ns ih =>
    have h1 := hn s n h
    simp only [emitSync]
    generalize uNotify c n s = r at h1
    obtain ⟨s', _ | e⟩ := r
    · exact ih _ h1
    · cases prop
      · exact ih _ (he _ e h1)
      · exact h1

theorem srcSubscribe_inv {α} {c : Cfg} {I : St α → Prop} {Q : St α × Option Err → Prop} (sp : SyncPhase α) (s : St α)
    (hI : I (emitSync c sp.propagate sp.emits s).1)
    (hfail : ∀ e s1, I s1 →
      Q (if s1.u.stopped = true then (s1, some e) else hError c e { s1 with u.stopped := true }))
    (hret : ∀ s1, I s1 → Q (if s1.u.sad = true then srcDisposeP c { s1 with u.live := true }
      else ({ s1 with u.cur := true, u.live := true }, none))) :
    Q (srcSubscribe c sp s) := by
  simp only [srcSubscribe]
  generalize emitSync c sp.propagate sp.emits s = r at hI
  obtain ⟨s1, _ | e⟩ := r
  · cases sp.exn with
    | some e => exact hfail e s1 hI
    | none => exact hret s1 hI
  · exact hfail e s1 hI

structure Frozen {α} (s : St α) : Prop where
  hdl : s.d.handle = false
  dead : s.u.live = false ∨ s.u.stopped = true

theorem frozen_step {α} (c : Cfg) (s : St α) (e : Ev α) (h : Frozen s) : step c s e = s := by
  cases e with
  | dispose => simp [step, swallow, handleDispose, h.hdl]
  | src n =>
    rcases h.dead with hl | hs
    · simp [step, hl]
    · cases hl : s.u.live <;> simp [step, swallow, uNotify, hs, hl]

theorem runFrom_inv {α} (c : Cfg) {I : St α → Prop} (hs : ∀ s e, I s → I (step c s e)) (s : St α) (evs : List (Ev α))
    (h : I s) : I (runFrom c s evs) := by
  induction evs generalizing s with
  | nil => exact h
  | cons e es ih => exact ih _ (hs s e h)

theorem frozen_run {α} (c : Cfg) (s : St α) (evs : List (Ev α)) (h : Frozen s) : runFrom c s evs = s :=
  runFrom_inv c (I := (· = s)) (fun t e ht => by rw [ht]; exact frozen_step c s e h) s evs rfl

@[simp] theorem isEmit_emit {α} (n : Notif α) (r : Bool) : (Eff.emit n r).isEmit = true := rfl
@[simp] theorem isEmit_act {α} (k : ActK) (a : Option (Notif α)) (r : Bool) : (Eff.act k a r).isEmit = false := rfl
@[simp] theorem isEmit_res {α} : (Eff.resDispose : Eff α).isEmit = false := rfl
@[simp] theorem isEmit_src {α} : (Eff.srcDispose : Eff α).isEmit = false := rfl
@[simp] theorem isEmit_esc {α} (e : Err) : (Eff.escape e : Eff α).isEmit = false := rfl

theorem noEmitAfterAct_append {α} (k : ActK) (a b : List (Eff α)) :
    noEmitAfterAct k (a ++ b) =
      (noEmitAfterAct k a && noEmitAfterAct k b && (!a.any (Eff.isAct k) || b.all (fun x => !x.isEmit))) := by
  induction a with
  | nil => simp [noEmitAfterAct]
  | cons e a ih =>
    simp only [List.cons_append, noEmitAfterAct, ih, List.all_append, List.any_cons]
    cases e.isAct k <;> cases b.all (fun x => !x.isEmit) <;>
      simp [Bool.and_assoc, Bool.and_comm]

@[simp] theorem all_notEmit_srcIf {α} (b : Bool) : (srcIf b : List (Eff α)).all (fun x => !x.isEmit) = true := by
  cases b <;> simp [srcIf]

theorem noEmitAfterAct_of_count_zero {α} (k : ActK) (l : List (Eff α)) (h : actCount k l = 0) :
    noEmitAfterAct k l = true := by
  induction l with
  | nil => rfl
  | cons e l ih =>
    cases he : e.isAct k <;> simp_all [noEmitAfterAct]

theorem hasTerm_of_noEmit {α} (l : List (Eff α)) (h : l.all (fun x => !x.isEmit) = true) : hasTerm l = false := by
  induction l with
  | nil => rfl
  | cons e l ih => cases e <;> simp_all

theorem noEmitAfterAct_of_noEmit {α} (k : ActK) (l : List (Eff α)) (h : l.all (fun x => !x.isEmit) = true) :
    noEmitAfterAct k l = true := by
  induction l with
  | nil => rfl
  | cons e l ih => simp_all [noEmitAfterAct]

theorem noEmitAfterAct_append_noEmit {α} (k : ActK) (a b : List (Eff α)) (h : b.all (fun x => !x.isEmit) = true) :
    noEmitAfterAct k (a ++ b) = noEmitAfterAct k a := by
  simp [noEmitAfterAct_append, h, noEmitAfterAct_of_noEmit k b h]

theorem noEmitAfterAct_spec {α} (k : ActK) (l pre post : List (Eff α)) (e : Eff α)
    (h : noEmitAfterAct k l = true) (hl : l = pre ++ e :: post) (he : e.isAct k = true) :
    ∀ x ∈ post, x.isEmit = false := by
  subst hl
  rw [noEmitAfterAct_append] at h
  simp only [noEmitAfterAct, he, Bool.not_true, Bool.false_or, Bool.and_eq_true, List.all_eq_true,
    Bool.not_eq_eq_eq_not] at h
  exact h.1.2.1

/-- `try: a except Exception as e: h e else: b` -/
def branch {α} (a b : P α) (h : Err → P α) : P α := fun s =>
  match a s with
  | (s', none) => b s'
  | (s', some e) => h e s'

def Cfg.hasCb {α} (c : Cfg) : Notif α → Bool
  | .next _ => c.hasNext
  | .error _ => c.hasError
  | .completed => c.hasCompleted

/-- the `do_*` callbacks that are invoked once per notification -/
inductive CbK where
  | next | error | completed | afterNext | terminate | afterTerminate

def CbK.act : CbK → ActK
  | .next => .next
  | .error => .error
  | .completed => .completed
  | .afterNext => .afterNext
  | .terminate => .terminate
  | .afterTerminate => .afterTerminate

def cbKind {α} : Notif α → CbK
  | .next _ => .next
  | .error _ => .error
  | .completed => .completed

def cbArg {α} : Notif α → Option (Notif α)
  | .completed => none
  | n => some n

theorem hTerminal_eq {α} (c : Cfg) (t : Notif α) (ht : t.isTerminal = true) :
    hTerminal c t =
      match c.oper with
      | .doAction =>
        if c.hasCb t then
          seq (tryCatch (action c (cbKind t).act (cbArg t)) fun e' => dTerminal c (.error e')) (dTerminal c t)
        else dTerminal c t
      | .doOnTerminate => branch (action c .terminate none) (dTerminal c t) fun e' => dTerminal c (.error e')
      | .doAfterTerminate =>
        seq (dTerminal c t) (tryCatch (action c .afterTerminate none) fun e' => dTerminal c (.error e'))
      | .doFinally => seq (dTerminal c t) (tryCatch (finGuard c) fun e' => dTerminal c (.error e'))
      | _ => dTerminal c t := by
  cases t with
  | next v => cases ht
  | error e =>
    cases hop : c.oper <;> simp only [hTerminal, hError, hop]
    case doAction => cases h : c.hasError <;> simp [Cfg.hasCb, cbKind, CbK.act, cbArg, h]
    all_goals rfl
  | completed =>
    cases hop : c.oper <;> simp only [hTerminal, hCompleted, hop]
    case doAction => cases h : c.hasCompleted <;> simp [Cfg.hasCb, cbKind, CbK.act, cbArg, h]
    all_goals rfl

theorem uNotify_term {α} (c : Cfg) (t : Notif α) (ht : t.isTerminal = true) (s : St α) :
    uNotify c t s = if s.u.stopped then (s, none)
      else tryFinally (hTerminal c t) (uDispose c) { s with u.stopped := true } := by
  cases t with
  | next v => cases ht
  | _ => rfl

theorem uNotify_next {α} (c : Cfg) (v : α) (s : St α) :
    uNotify c (.next v) s = if s.u.stopped then (s, none) else hNext c v s := rfl

theorem uNotify_stopped {α} (c : Cfg) (n : Notif α) (s : St α) (h : s.u.stopped = true) : uNotify c n s = (s, none) := by
  simp [uNotify, h]

theorem tryFinally_fst {α} (a b : P α) (s : St α) : (tryFinally a b s).1 = (b (a s).1).1 := by
  simp only [tryFinally]
  rcases a s with ⟨s1, x⟩
  rcases hb : b s1 with ⟨s2, _ | e⟩ <;> rfl

theorem uNotify_term_fst {α} (c : Cfg) (s : St α) (t : Notif α) (ht : t.isTerminal = true) (hu : s.u.stopped = false) :
    (uNotify c t s).1 = (uDispose c (hTerminal c t { s with u.stopped := true }).1).1 := by
  rw [uNotify_term c t ht, hu, if_neg Bool.false_ne_true, tryFinally_fst]

theorem uDispose_fst {α} (c : Cfg) (s : St α) :
    (uDispose c s).1 = { s with u := uDisp s.u, log := s.log ++ srcIf (!s.u.sad && s.u.cur) } := by
  rw [uDispose_gen]

theorem userCb_fst {α} (c : Cfg) (n : Notif α) (s : St α) :
    (userCb c n s).1 = { s with d.cbs := s.d.cbs + 1, log := s.log ++ [.emit n (c.subRaises s.d.cbs)] } := rfl

def esc {α} (x : Option Err) (s : St α) : St α :=
  match x with
  | none => s
  | some e => { s with log := s.log ++ [.escape e] }

@[simp] theorem esc_d {α} (x : Option Err) (s : St α) : (esc x s).d = s.d := by cases x <;> rfl

@[simp] theorem uDispose_d {α} (c : Cfg) (s : St α) : (uDispose c s).1.d = s.d := by rw [uDispose_fst]

theorem swallow_eq {α} (p : P α) (s : St α) : swallow p s = esc (p s).2 (p s).1 := by
  simp only [swallow, esc]
  rcases p s with ⟨s1, _ | e⟩ <;> rfl

theorem dDispose_fst {α} (c : Cfg) (s : St α) :
    (dDispose c s).1 = if s.d.sad then { s with d.stopped := true }
      else if s.d.cur then (rDispose c { s with d.stopped := true, d.sad := true, d.cur := false }).1
      else { s with d.stopped := true, d.sad := true, d.cur := false } := by
  simp only [dDispose]
  split
  · rfl
  · split <;> rfl

theorem dTerminal_fst {α} (c : Cfg) (n : Notif α) (s : St α) :
    (dTerminal c n s).1 = if s.d.stopped then s else (dDispose c (userCb c n { s with d.stopped := true }).1).1 := by
  simp only [dTerminal]; split
  · rfl
  · rw [tryFinally_fst]

theorem dTerminal_stopped {α} (c : Cfg) (t : Notif α) (s : St α) (ds : s.d.stopped = true) : dTerminal c t s = (s, none) := by
  simp [dTerminal, ds]

theorem dTerminal_live {α} (c : Cfg) (t : Notif α) (s : St α) (ds : s.d.stopped = false) (sad : s.d.sad = false) :
    dTerminal c t s =
      let s1 : St α := { s with d.stopped := true, d.sad := true, d.cur := false, d.cbs := s.d.cbs + 1,
                                log := s.log ++ [.emit t (c.subRaises s.d.cbs)] }
      let x := if c.subRaises s.d.cbs then some (c.cbErr s.d.cbs) else none
      if s.d.cur then ((rDispose c s1).1, (rDispose c s1).2.or x) else (s1, x) := by
  simp only [dTerminal, ds, Bool.false_eq_true, if_false, tryFinally, userCb, dDispose, sad]
  cases s.d.cur
  · rfl
  · simp only [if_true]
    rcases rDispose c _ with ⟨s2, _ | e⟩ <;> rfl

/-- before the fix the flag was set only when the action returned: the same when it does not raise -/
theorem finGuard_fixed {α} (c : Cfg) (h : c.doFinallyAsIs = false ∨ ∀ k, c.actRaises k = false) (s : St α) :
    finGuard c s = if s.o.wasInvoked then (s, none) else
      ({ s with o.acts := s.o.acts + 1, o.wasInvoked := true, log := s.log ++ [.act .fin none (c.actRaises s.o.acts)] },
       if c.actRaises s.o.acts then some (c.actErr s.o.acts) else none) := by
  rcases h with hfx | hnr
  · cases hw : s.o.wasInvoked <;> simp [finGuard, hfx, finGuardFixed, action, hw]
  · cases h : c.doFinallyAsIs <;> cases hw : s.o.wasInvoked <;>
      simp [finGuard, finGuardAsIs, finGuardFixed, seq, action, hnr, h, hw]

theorem rDispose_unguarded {α} (c : Cfg) (hg : c.guarded = false) (s : St α) : rDispose c s = uSubDispose c s := by
  cases hop : c.oper <;> simp_all [rDispose, Cfg.guarded]

/-- under which `rDispose_rel` holds: nothing raises inside a `CompositeDisposable`, whose loop an exception would
leave (`using`, `do_finally`, `do_on_dispose`), except `do_finally`'s action under the fixed guard -/
structure RelOk (c : Cfg) : Prop where
  sd : c.oper = .using ∨ c.oper = .doFinally ∨ c.oper = .doOnDispose → c.srcDisposeRaises = false
  dod : c.oper = .doOnDispose → ∀ k, c.actRaises k = false
  fix : c.oper = .doFinally → c.doFinallyAsIs = false ∨ ∀ k, c.actRaises k = false

def hookRaises {α} (c : Cfg) (s : St α) : Bool := c.oper == .doFinally && !s.o.wasInvoked && c.actRaises s.o.acts

def relLog {α} (c : Cfg) (s : St α) : List (Eff α) :=
  let src : List (Eff α) := srcIf (!s.u.subDisposed && !s.u.sad && s.u.cur)
  match c.oper with
  | .using => src ++ resIf c
  | .finallyAction => src ++ [.act .fin none (c.actRaises s.o.acts)]
  | .doFinally =>
    if s.o.wasInvoked then src
    else if c.actRaises s.o.acts then [.act .fin none true] else .act .fin none false :: src
  | .doOnDispose => .act .dispose none false :: src
  | _ => src

def relO {α} (c : Cfg) (s : St α) : OSt :=
  match c.oper with
  | .using => { s.o with rDisposed := true }
  | .finallyAction | .doOnDispose => { s.o with rDisposed := true, acts := s.o.acts + 1 }
  | .doFinally =>
    if s.o.wasInvoked then { s.o with rDisposed := true }
    else { s.o with rDisposed := true, acts := s.o.acts + 1, wasInvoked := true }
  | _ => s.o

def relU {α} (c : Cfg) (s : St α) : USt := if hookRaises c s then s.u else uSubDisp s.u

def relExn {α} (c : Cfg) (s : St α) : Option Err :=
  match c.oper with
  | .using | .doOnDispose => none
  | .finallyAction =>
    if c.actRaises s.o.acts then some (c.actErr s.o.acts) else srcExn c (!s.u.subDisposed && !s.u.sad && s.u.cur)
  | .doFinally => if hookRaises c s then some (c.actErr s.o.acts) else none
  | _ => srcExn c (!s.u.subDisposed && !s.u.sad && s.u.cur)

theorem rDispose_rel {α} (c : Cfg) (h : RelOk c) (s : St α) (hrd : s.o.rDisposed = false) :
    rDispose c s = ({ s with o := relO c s, u := relU c s, log := s.log ++ relLog c s }, relExn c s) := by
  cases hop : c.oper
  case «using» =>
    -- `CompositeDisposable(subscription, resource)`
    simp only [rDispose, hop, hrd, Bool.false_eq_true, if_false, seq, uSubDispose_eq c (h.sd (Or.inl hop)), resDisposeP, logE, resIf, relO,
      relU, relLog, relExn, hookRaises]
    split <;> simp
  case finallyAction =>
    -- `try: subscription.dispose() finally: action()`
    simp only [rDispose, hop, hrd, tryFinally, uSubDispose_gen, action, relO, relU, relLog, relExn, hookRaises]
    cases hr : c.actRaises s.o.acts <;> simp
  case doFinally =>
    -- `CompositeDisposable([OnDispose, subscription])`
    simp only [rDispose, hop, hrd, seq, finGuard_fixed c (h.fix hop), uSubDispose_eq c (h.sd (Or.inr (Or.inl hop))), relO, relU, relLog, relExn, hookRaises]
    cases hw : s.o.wasInvoked <;> cases hra : c.actRaises s.o.acts <;> simp
  case doOnDispose =>
    simp [rDispose, hop, hrd, seq, action, h.dod hop, uSubDispose_eq c (h.sd (Or.inr (Or.inr hop))), relO, relU, relLog, relExn, hookRaises]
  all_goals
    simp [rDispose, hop, uSubDispose_gen, relO, relU, relLog, relExn, hookRaises]

end WinFin
