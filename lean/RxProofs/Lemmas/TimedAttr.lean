import Lean.Meta.Tactic.Simp.RegisterCommand
/-- what `at_`, `isNext`, `hasTerm`, `hasTerminal`, `effTm`, `Step.map` do on the forms of input that occur -/
register_simp_attr timeline_simp
