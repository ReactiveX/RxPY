import RxModel.PureSources
/-! Helper lemmas for C37 (source factories): a producer's closed form by induction over `chainFrom` from an arbitrary
state; the scheduler run of ANY producer as the list function `chainSpin`. -/
namespace Pure.Sources

theorem pyLen_pos_spec (lo hi step : Int) (hs : 0 < step) (i : Nat) :
    i < pyLen lo hi step ↔ lo + (i : Int) * step < hi := by
  unfold pyLen
  by_cases hlt : lo < hi
  · rw [if_pos ⟨hs, hlt⟩]
    have hnn : 0 ≤ (hi - lo - 1) / step := Int.ediv_nonneg (by omega) (by omega)
    have key : (i : Int) ≤ (hi - lo - 1) / step ↔ (i : Int) * step ≤ hi - lo - 1 :=
      Int.le_ediv_iff_mul_le hs
    omega
  · rw [if_neg (fun h => hlt h.2), if_neg (fun h => by omega)]
    have : 0 ≤ (i : Int) * step := Int.mul_nonneg (by omega) (by omega)
    omega

theorem pyLen_neg (lo hi step : Int) (hs : step < 0) : pyLen lo hi step = pyLen (-lo) (-hi) (-step) := by
  unfold pyLen
  rw [if_neg (fun h => by omega)]
  by_cases h : hi < lo
  · rw [if_pos ⟨hs, h⟩, if_pos ⟨by omega, by omega⟩]
    congr 2; congr 1; omega
  · rw [if_neg (fun hh => h hh.2), if_neg (fun hh => h (by omega)), if_neg (fun hh => by omega)]

theorem range_chainFrom (lo hi step : Int) (k : Nat) (cur : Int) (n : Nat) (hn : k + 1 ≤ n) (t : Int) :
    chainFrom (rangeP lo hi step) n t (cur, k, step) =
      ((List.range k).map (fun (i : Nat) => (t, Notif.next (cur + (i : Int) * step)))) ++ [(t, .completed)] := by
  induction k generalizing cur n with
  | zero =>
    obtain ⟨m, rfl⟩ : ∃ m, n = m + 1 := ⟨n - 1, by omega⟩
    simp [chainFrom, rangeP]
  | succ k ih =>
    obtain ⟨m, rfl⟩ : ∃ m, n = m + 1 := ⟨n - 1, by omega⟩
    have := ih (cur + step) m (by omega)
    simp only [chainFrom, rangeP, wait, Int.add_zero] at this ⊢
    rw [this, List.range_succ_eq_map]
    -- index shift: `cur + step + i·step = cur + (i + 1)·step`
    simp only [List.map_cons, List.map_map, List.cons_append, List.nil_append,
      Int.natCast_zero, Int.zero_mul, Int.add_zero, List.map_nil]
    congr 2
    apply List.map_congr_left
    intro i _
    simp only [Function.comp, Nat.succ_eq_add_one, Int.natCast_add, Int.natCast_one, Int.add_mul, Int.one_mul]
    congr 2
    omega

theorem range_chain (lo hi step : Int) (n : Nat) (hn : pyLen lo hi step + 1 ≤ n) (t : Int) :
    chain (rangeP lo hi step) n t =
      (pyRange lo hi step).map (fun x => (t, Notif.next x)) ++ [(t, .completed)] := by
  simp only [chain, rangeP, wait, Int.add_zero]
  have := range_chainFrom lo hi step (pyLen lo hi step) lo n hn t
  simp only [rangeP] at this
  rw [this, pyRange, List.map_map]
  rfl

/-- an action after the first one is the first action of the iterated state -/
theorem generate_chainFrom_next {α} (f : GenFns α) (init : α) (n : Nat) (t : Int) (s : α) :
    chainFrom (generateP init f) (n + 1) t (false, s) =
      match f.iter s with
      | .error e => [(t, Notif.error e)]
      | .ok s' => chainFrom (generateP init f) (n + 1) t (true, s') := by
  simp only [chainFrom, generateP, Bool.false_eq_true, if_false, if_true]
  cases f.iter s <;> rfl

theorem generate_chainFrom {α} (f : GenFns α) (init : α) (n : Nat) (t : Int) (s : α) :
    chainFrom (generateP init f) n t (true, s) = (whileLoop f n s).map (fun x => (t, x)) := by
  induction n generalizing s with
  | zero => rfl
  | succ n ih =>
    simp only [chainFrom, generateP, whileLoop, if_true]
    cases f.cond s with
    | error e => rfl
    | ok b =>
      cases b with
      | false => rfl
      | true =>
        simp only [wait, Int.add_zero, List.map_cons, List.map_nil, List.cons_append, List.nil_append]
        cases n with
        | zero => rfl
        | succ m =>
          have := generate_chainFrom_next f init m t s
          simp only [generateP] at this
          rw [this]
          cases f.iter s with
          | error e => rfl
          | ok s' => rw [← ih s']; rfl

theorem gwrt_chainFrom_next {α} (f : GenFns α) (tm : α → Except Err Int) (init : α) (n : Nat) (t : Int) (s r0 : α) :
    chainFrom (gwrtP init f tm) (n + 1) t ⟨false, s, true, s⟩ =
      (t, Notif.next s) ::
        match f.iter s with
        | .error e => [(t, Notif.error e)]
        | .ok s' => chainFrom (gwrtP init f tm) (n + 1) t ⟨true, s', false, r0⟩ := by
  simp only [chainFrom, gwrtP, gwrtStep, Bool.false_eq_true, if_false, if_true, Bool.true_eq_false, and_false]
  cases f.iter s with
  | error e => rfl
  | ok s' =>
    simp only
    cases f.cond s' with
    | error e => rfl
    | ok b =>
      cases b with
      | false => rfl
      | true => simp only; cases tm s' <;> rfl

theorem gwrt_chainFrom {α} (f : GenFns α) (tm : α → Except Err Int) (init : α) (n : Nat) (t : Int) (s r0 : α) :
    chainFrom (gwrtP init f tm) n t ⟨true, s, false, r0⟩ = delayLoop f tm n t s := by
  induction n generalizing t s r0 with
  | zero => rfl
  | succ n ih =>
    rw [delayLoop]
    simp only [chainFrom, gwrtP, gwrtStep, if_true, Bool.false_eq_true, if_false, Bool.true_eq_false, and_false]
    cases f.cond s with
    | error e => rfl
    | ok b =>
      cases b with
      | false => rfl
      | true =>
        simp only
        cases tm s with
        | error e => rfl
        | ok d =>
          simp only [List.map_nil, List.nil_append]
          cases n with
          | zero => rfl
          | succ m =>
            have := gwrt_chainFrom_next f tm init m (t + wait (some d)) s s
            simp only [gwrtP] at this
            rw [this]
            cases f.iter s with
            | error e => rfl
            | ok s' => simp only; rw [← ih]; rfl

/-- one action of the repaired `generate_with_relative_time`, after the pending `on_next`: a terminal, or a re-schedule -/
theorem gwrtStep_shape {α} (f : GenFns α) (tm : α → Except Err Int) (q : State4 α) :
    (∃ x, x.isTerminal = true ∧
      gwrtStep f tm true q = { emits := (if q.hasResult then [.next q.result] else []) ++ [x] }) ∨
    ∃ s d, gwrtStep f tm true q =
      { emits := if q.hasResult then [.next q.result] else [], next := some (⟨false, s, true, s⟩, some d) } := by
  simp only [gwrtStep]
  split
  · exact .inl ⟨_, rfl, rfl⟩            -- `iter` raises
  · split
    · exact .inl ⟨_, rfl, rfl⟩          -- `cond` raises
    · exact .inl ⟨_, rfl, rfl⟩          -- `cond` false
    · split
      · exact .inl ⟨_, rfl, rfl⟩        -- `time_mapper` raises
      · exact .inr ⟨_, _, by simp; exact ⟨rfl, rfl⟩⟩      -- re-schedules

theorem repeat_chainFrom {α} (v : α) (count : Option Int) (k : Nat) (n : Nat) (hn : 2 * k + 1 ≤ n) (t : Int) :
    chainFrom (repeatValueP v count) n t (.outer (some k)) =
      List.replicate k (t, Notif.next v) ++ [(t, .completed)] := by
  induction k generalizing n with
  | zero =>
    obtain ⟨m, rfl⟩ : ∃ m, n = m + 1 := ⟨n - 1, by omega⟩
    simp [chainFrom, repeatValueP]
  | succ k ih =>
    obtain ⟨m, rfl⟩ : ∃ m, n = m + 2 := ⟨n - 2, by omega⟩
    have := ih m (by omega)
    simp only [repeatValueP] at this
    simp only [chainFrom, repeatValueP, wait, Int.add_zero, List.map_nil, List.nil_append, List.map_cons,
      List.cons_append, this, List.replicate_succ]

theorem repeat_forever_chainFrom {α} (v : α) (count : Option Int) (m : Nat) (t : Int) :
    chainFrom (repeatValueP v count) (2 * m) t (.outer none) = List.replicate m (t, Notif.next v) := by
  induction m with
  | zero => simp [chainFrom]
  | succ m ih =>
    have : 2 * (m + 1) = 2 * m + 2 := by omega
    rw [this]
    simp only [repeatValueP] at ih
    simp only [chainFrom, repeatValueP, wait, Int.add_zero, List.map_nil, List.nil_append, List.map_cons,
      List.cons_append, ih, List.replicate_succ]

/-- terminal notifications only in last position -/
def wfEmits {α} : List (Notif α) → Bool
  | [] => true
  | [_] => true
  | x :: y :: r => !x.isTerminal && wfEmits (y :: r)

def endsTerm {α} : List (Notif α) → Bool
  | [] => false
  | [x] => x.isTerminal
  | _ :: y :: r => endsTerm (y :: r)

theorem deliver_wf {α} (t : Int) (emits : List (Notif α)) (h : wfEmits emits = true) :
    Sim.deliver t false emits = (endsTerm emits, emits.map (fun x => (t, x))) := by
  induction emits with
  | nil => rfl
  | cons x r ih =>
    cases r with
    | nil => simp [Sim.deliver, endsTerm]
    | cons y r' =>
      simp only [wfEmits, Bool.and_eq_true, Bool.not_eq_true'] at h
      have := ih h.2
      simp only [Sim.deliver, h.1, this, endsTerm, List.map_cons]

/-- the run from this action on is "quiet": every action runs strictly before the dispose time, the
scheduler's spin counter (`k` = its value when this action is dequeued, after a possible reset) never
exceeds 100, no exception escapes, emissions are well-formed, and the chain ends within `n` actions. -/
def quiet {σ α} (P : Producer σ α) (disp : Int) : Nat → Int → Nat → σ → Bool
  | 0, _, _, _ => false
  | n + 1, t, k, s =>
    let r := P.step s
    decide (t < disp) && decide (k ≤ 100) && r.escapes.isNone && wfEmits r.emits &&
      (match r.next with
       | none => true
       | some (s', d) =>
         !endsTerm r.emits &&
           quiet P disp n (t + wait d) (if t + d.getD 0 > t then 0 else k + 1) s')

/-- one clock in two spellings: `chainFrom` advances by the clamped `wait d`, the scheduler by the raw `d.getD 0`
and its rule that the clock never goes back -/
theorem wait_eq (t : Int) (d : Option Int) : t + wait d = if t + d.getD 0 > t then t + d.getD 0 else t := by
  cases d with
  | none => simp [wait]
  | some d =>
    simp only [wait, Option.getD_some]
    by_cases h : d > 0
    · have : t + d > t := by omega
      simp [h, this]
    · have : ¬ (t + d > t) := by omega
      simp [h, this]

open Sim in
theorem run_stopped {σ α} (P : Producer σ α) (fuel : Nat) (st : St σ α) (h : st.stopped = true) :
    (run P fuel st).out = st.out := by
  induction fuel generalizing st with
  | zero => rfl
  | succ f ih =>
    simp only [run]
    split
    · rfl
    · rename_i due act q _
      cases act with
      | sub => exact ih _ h
      | disp => exact ih _ (by simp [h])
      | prod s => simp only [h, if_true]; exact ih _ rfl

open Sim in
theorem run_disp_head {σ α} (P : Producer σ α) (fuel : Nat) (st : St σ α) (disp : Int) (q : List (Int × Act σ))
    (hs : st.subscribed = true) (hq : st.queue = (disp, .disp) :: q) : (run P fuel st).out = st.out := by
  cases fuel with
  | zero => rfl
  | succ f =>
    simp only [run, hq]
    exact run_stopped P f _ (by simp [hs])

/-- the producer's chain as the virtual-time scheduler really runs it next to the harness' dispose
action: an action due at or after `disp` never runs (the dispose goes first and cancels it); the
clock moves to the due time, or by one after more than 100 consecutive same-instant items (`k` is
the spin counter); emissions pass the AutoDetachObserver. -/
def chainSpin {σ α} (P : Producer σ α) (disp : Int) : Nat → Int → Nat → Int → σ → List (Int × Notif α)
  | 0, _, _, _, _ => []
  | n + 1, c, k, due, s =>
    if due < disp then
      let tk : Int × Nat := if due > c then (due, 0) else if k > 100 then (c + 1, 0) else (c, k)
      let r := P.step s
      let so := Sim.deliver tk.1 false r.emits
      so.2 ++
        (match r.escapes with
         | some _ => []
         | none =>
           if so.1 then []
           else
             match r.next with
             | none => []
             | some (s', d) => chainSpin P disp n tk.1 (tk.2 + 1) (tk.1 + d.getD 0) s')
    else []

open Sim in
theorem run_eq_chainSpin {σ α} (P : Producer σ α) (disp : Int) (fuel : Nat) :
    ∀ (c : Int) (k : Nat) (due : Int) (s : σ) (o : List (Int × Notif α)),
      (run P fuel { clock := c, spin := k, queue := enqueue [(disp, .disp)] (due, .prod s), subscribed := true,
                    stopped := false, out := o, escaped := none }).out
        = o ++ chainSpin P disp fuel c k due s := by
  induction fuel with
  | zero => intro c k due s o; simp [run, chainSpin]
  | succ f ih =>
    intro c k due s o
    by_cases hd : due < disp
    · have henq : enqueue [(disp, Act.disp)] (due, (Act.prod s : Act σ)) = [(due, Act.prod s), (disp, Act.disp)] := by
        simp [enqueue, hd]
      rw [henq]
      simp only [run, chainSpin, hd, if_true, Bool.false_eq_true, if_false]
      generalize htk : (if due > c then (due, 0) else if k > 100 then (c + 1, 0) else (c, k) : Int × Nat) = tk
      obtain ⟨t, k'⟩ := tk
      simp only
      generalize hso : deliver t false (P.step s).emits = so
      obtain ⟨stopped, o'⟩ := so
      simp only
      cases hesc : (P.step s).escapes with
      | some e => simp
      | none =>
        simp only
        cases stopped with
        | true =>
          simp only [if_true]
          rw [run_stopped P f _ rfl]; simp
        | false =>
          simp only [Bool.false_eq_true, if_false]
          cases hn : (P.step s).next with
          | none =>
            simp only [schedule]
            rw [run_disp_head P f _ disp [] rfl rfl]; simp
          | some sd =>
            obtain ⟨s', d⟩ := sd
            simp only [schedule]
            rw [ih t (k' + 1) (t + d.getD 0) s' (o ++ o'), List.append_assoc]
    · have henq : enqueue [(disp, Act.disp)] (due, (Act.prod s : Act σ)) = [(disp, Act.disp), (due, Act.prod s)] := by
        simp [enqueue, hd]
      rw [henq, run_disp_head P (f + 1) _ disp [(due, .prod s)] rfl rfl]
      simp [chainSpin, hd]

/-- no action is cut by the dispose, the spin counter never moves the clock, the observer passes every emission -/
theorem chainSpin_quiet {σ α} (P : Producer σ α) (disp : Int) (n : Nat) :
    ∀ (fuel : Nat) (c : Int) (k : Nat) (due : Int) (s : σ), n ≤ fuel →
      quiet P disp n (if due > c then due else c) (if due > c then 0 else k) s = true →
      chainSpin P disp fuel c k due s = chainFrom P n (if due > c then due else c) s := by
  induction n with
  | zero => intro fuel c k due s _ hq; simp [quiet] at hq
  | succ n ih =>
    intro fuel c k due s hf hq
    obtain ⟨f, rfl⟩ : ∃ f, fuel = f + 1 := ⟨fuel - 1, by omega⟩
    simp only [quiet, Bool.and_eq_true, decide_eq_true_eq, Option.isNone_iff_eq_none] at hq
    obtain ⟨⟨⟨⟨ht, hk⟩, hesc⟩, hwf⟩, hnext⟩ := hq
    have hdue : due < disp := by omega
    have hclock : (if due > c then (due, 0) else if k > 100 then (c + 1, 0) else (c, k)) =
        ((if due > c then due else c), (if due > c then 0 else k)) := by
      by_cases h : due > c
      · simp only [h, if_true]
      · simp only [h, if_false] at hk ⊢
        rw [if_neg (by omega)]
    simp only [chainSpin, hdue, if_true, hclock, deliver_wf _ _ hwf, hesc, chainFrom]
    generalize (if due > c then due else c) = t at *
    generalize (if due > c then 0 else k) = k' at *
    cases hn : (P.step s).next with
    | none => simp
    | some sd =>
      obtain ⟨s', d⟩ := sd
      simp only [hn, Bool.and_eq_true, Bool.not_eq_true'] at hnext
      rw [wait_eq] at hnext
      simp only [hnext.1, Bool.false_eq_true, if_false, wait_eq]
      rw [ih f t (k' + 1) (t + d.getD 0) s' (by omega) hnext.2]

/-- producers whose actions emit a terminal only last, and never re-schedule after one (`chainSpin_prefix` needs the first clause only) -/
def WFP {σ α} (P : Producer σ α) : Prop :=
  ∀ s, wfEmits (P.step s).emits = true ∧ (endsTerm (P.step s).emits = true → (P.step s).next = none)

theorem chainSpin_prefix {σ α} (P : Producer σ α) (hP : WFP P) (disp : Int) (n : Nat) :
    ∀ (c : Int) (k : Nat) (due t : Int) (s : σ),
      ((chainSpin P disp n c k due s).map (·.2)) <+: ((chainFrom P n t s).map (·.2)) := by
  induction n with
  | zero => intro c k due t s; simp [chainSpin, chainFrom]
  | succ n ih =>
    intro c k due t s
    simp only [chainSpin, chainFrom]
    split
    · obtain ⟨hwf, _⟩ := hP s
      rw [deliver_wf _ _ hwf]
      simp only [List.map_append, List.map_map, Function.comp_def, List.map_id']
      apply List.prefix_append_right_inj _ |>.2
      cases hesc : (P.step s).escapes with
      | some e => exact List.nil_prefix
      | none =>
        simp only
        cases hend : endsTerm (P.step s).emits with
        | true => exact List.nil_prefix
        | false =>
          simp only [Bool.false_eq_true, if_false]
          cases hn : (P.step s).next with
          | none => exact List.nil_prefix
          | some sd => obtain ⟨s', d⟩ := sd; exact ih _ _ _ _ _
    · exact List.nil_prefix

theorem wfp_range (lo hi st : Int) : WFP (rangeP lo hi st) := by
  intro ⟨cur, left, step⟩
  cases left <;> simp [rangeP, wfEmits, endsTerm, Notif.isTerminal]

theorem wfp_generate {α} (init : α) (f : GenFns α) : WFP (generateP init f) := by
  intro ⟨first, state⟩
  simp only [generateP]
  split
  · simp [wfEmits, endsTerm, Notif.isTerminal]
  · split <;> simp [wfEmits, endsTerm, Notif.isTerminal]

theorem wfp_gwrt {α} (init : α) (f : GenFns α) (tm : α → Except Err Int) : WFP (gwrtP init f tm) := by
  intro q
  rw [show (gwrtP init f tm).step q = gwrtStep f tm true q from rfl]
  rcases gwrtStep_shape f tm q with ⟨x, _, h⟩ | ⟨s, d, h⟩
  · rw [h]; cases q.hasResult <;> exact ⟨rfl, fun _ => rfl⟩
  · rw [h]; cases q.hasResult <;> simp [wfEmits, endsTerm, Notif.isTerminal]

theorem wfp_timer (d : Int) : WFP (timerP d) := by
  intro s; simp [timerP, wfEmits, endsTerm, Notif.isTerminal]

theorem wfp_repeat {α} (v : α) (count : Option Int) : WFP (repeatValueP v count) := by
  intro s
  cases s with
  | outer l =>
    cases l with
    | none => simp [repeatValueP, wfEmits, endsTerm]
    | some k => cases k <;> simp [repeatValueP, wfEmits, endsTerm, Notif.isTerminal]
  | inner l => simp [repeatValueP, wfEmits, endsTerm, Notif.isTerminal]

end Pure.Sources
