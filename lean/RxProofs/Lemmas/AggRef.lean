import RxProofs.Lemmas.AggOps
/-!
# Facts about the reference functions the aggregates are compared with (`RxModel/AggRef`, and the step functions of the folds)
-/

namespace Agg

def dictGet {κ ν} (eq : κ → κ → Bool) (m : List (κ × ν)) (q : κ) : Option ν :=
  (m.find? (fun kv => eq kv.1 q)).map (·.2)

theorem filterC_pure {α} (q : α → Bool) (xs : List α) (t : Ending) :
    filterC (fun x => (.ok (q x) : Except Err Bool)) xs t = (xs.filter q, t) := by
  induction xs with
  | nil => rfl
  | cons x xs ih =>
    simp only [filterC, List.filter_cons]
    cases h : q x <;> simp [ih]

theorem mapC_pure {α β} (g : α → β) (xs : List α) (t : Ending) :
    mapC (fun x => (.ok (g x) : Except Err β)) xs t = (xs.map g, t) := by
  induction xs with
  | nil => rfl
  | cons x xs ih => simp [mapC, ih]

/-- scan from an existing accumulation `a`, then `last`: the fold, at completion -/
theorem lastRef_scanC_some {α β} (f : β → α → Except Err β) (seed : Option β) (inj : α → β) (a : β)
    (xs : List α) (t : Ending) :
    atEnd (scanC f seed inj (some a) xs t).2
        [.next ((scanC f seed inj (some a) xs t).1.getLast?.getD a), .completed]
      = foldRef (xs.foldlM f a) id t := by
  induction xs generalizing a with
  | nil => simp [scanC, foldRef, pure, Except.pure]
  | cons x xs ih =>
    simp only [scanC, scanProj, List.foldlM_cons]
    cases h : f a x with
    | error e => simp [foldRef, bind, Except.bind]
    | ok v =>
      simp only [bind, Except.bind, List.getLast?_cons, Option.getD_some]
      exact ih v

theorem lastRef_scanC {α β} (f : β → α → Except Err β) (seed : Option β) (inj : α → β) (d : Option β)
    (xs : List α) (t : Ending) :
    lastRef d (scanC f seed inj none xs t).1 (scanC f seed inj none xs t).2
      = match xs with
        | [] => atEnd t (valueOrDefault none d)
        | x :: xs' => foldRef ((scanProj f seed inj none x).bind (fun v => xs'.foldlM f v)) id t := by
  cases xs with
  | nil => simp [scanC, lastRef]
  | cons x xs =>
    simp only [scanC]
    cases h : scanProj f seed inj none x with
    | error e => simp [lastRef, foldRef, Except.bind]
    | ok v =>
      simp only [lastRef, List.getLast?_cons, valueOrDefault, Except.bind]
      exact lastRef_scanC_some f seed inj v xs t

theorem foldlM_avgAcc (xs : List Int) (a : Int × Nat) :
    xs.foldlM avgAcc a = (.ok (a.1 + xs.sum, a.2 + xs.length) : Except Err (Int × Nat)) := by
  induction xs generalizing a with
  | nil => simp [pure, Except.pure]
  | cons x xs ih =>
    rw [List.foldlM_cons, List.sum_cons, List.length_cons]
    exact (ih _).trans (by show Except.ok (_, _) = Except.ok (_, _); rw [Int.add_assoc, Nat.add_assoc, Nat.add_comm 1])

section Extrema
variable {α κ : Type} (k : α → κ) (c : κ → κ → Int) (le : κ → κ → Bool)

theorem extremaStep_pure (s : Option κ × List α) (x : α) :
    extremaStep (fun x => .ok (k x)) (fun a b => .ok (c a b)) s x
      = .ok (match s.1 with
             | none => (some (k x), s.2 ++ [x])
             | some lk =>
               let s1 : Option κ × List α := if c (k x) lk > 0 then (some (k x), []) else s
               if c (k x) lk ≥ 0 then (s1.1, s1.2 ++ [x]) else s1) := by
  unfold extremaStep
  cases h : s.1 <;> simp

/-- Invariant of `extrema_by` over the consumed prefix `p` when the comparer is induced by the total
preorder `le` (`c a b > 0 ↔ ¬ a ≤ b`, `c a b ≥ 0 ↔ b ≤ a`): `last_key` is a greatest key, attained in `p`,
and `items` are exactly the elements of `p` whose key is greatest, in order. -/
theorem extrema_preorder_from
    (hgt : ∀ a b, c a b > 0 ↔ le a b = false) (hge : ∀ a b, c a b ≥ 0 ↔ le b a = true)
    (htot : ∀ a b, le a b = true ∨ le b a = true) (htr : ∀ a b d, le a b = true → le b d = true → le a d = true)
    (p xs : List α) (lk : κ) (items : List α)
    (hmax : ∀ y ∈ p, le (k y) lk = true) (hatt : ∃ z ∈ p, le lk (k z) = true)
    (hitems : items = p.filter (fun x => le lk (k x))) :
    (xs.foldlM (extremaStep (fun x => .ok (k x)) (fun a b => (.ok (c a b) : Except Err Int))) (some lk, items))
      = .ok ((xs.foldl (fun (m : κ) x => if le (k x) m then m else k x) lk |> some,
              (p ++ xs).filter (fun x => (p ++ xs).all (fun y => le (k y) (k x))))) := by
  induction xs generalizing p lk items with
  | nil =>
    simp only [List.foldlM_nil, List.foldl_nil, List.append_nil, pure, Except.pure]
    congr 2
    rw [hitems]
    apply List.filter_congr
    intro x hx
    obtain ⟨z, hz, hlz⟩ := hatt
    rw [Bool.eq_iff_iff]
    simp only [List.all_eq_true]
    constructor
    · intro h y hy; exact htr _ _ _ (hmax y hy) h
    · intro h; exact htr _ _ _ hlz (h z hz)
  | cons x xs ih =>
    rw [List.foldlM_cons, extremaStep_pure]
    simp only [bind, Except.bind, List.foldl_cons]
    rw [show p ++ x :: xs = (p ++ [x]) ++ xs by simp]
    have hrefl : le (k x) (k x) = true := by rcases htot (k x) (k x) with h | h <;> exact h
    have ext : ∀ m, (∀ y ∈ p, le (k y) m = true) → le (k x) m = true → ∀ y ∈ p ++ [x], le (k y) m = true :=
      fun m h1 h2 y hy => by
        rcases List.mem_append.1 hy with hy | hy
        · exact h1 y hy
        · cases List.mem_singleton.1 hy; exact h2
    have hatt' : ∃ z ∈ p ++ [x], le lk (k z) = true :=
      let ⟨z, hz, hlz⟩ := hatt; ⟨z, List.mem_append_left _ hz, hlz⟩
    by_cases h1 : c (k x) lk > 0
    · -- strictly greater: new key, items restart
      have hnle : le (k x) lk = false := (hgt _ _).1 h1
      have hge' : c (k x) lk ≥ 0 := by omega
      simp only [h1, hge', if_true, hnle, Bool.false_eq_true, if_false, List.nil_append]
      have hlkx : le lk (k x) = true := (htot lk (k x)).resolve_right (by rw [hnle]; simp)
      refine ih (p ++ [x]) (k x) [x] (ext _ (fun y hy => htr _ _ _ (hmax y hy) hlkx) hrefl) ⟨x, by simp, hrefl⟩ ?_
      have : p.filter (fun y => le (k x) (k y)) = [] :=
        List.filter_eq_nil_iff.2 fun y hy hxy => by rw [htr _ _ _ hxy (hmax y hy)] at hnle; cases hnle
      simp [List.filter_append, this, hrefl]
    · have hlex : le (k x) lk = true := by
        cases h : le (k x) lk
        · exact absurd ((hgt _ _).2 h) h1
        · rfl
      by_cases h2 : c (k x) lk ≥ 0
      · -- equal: appended
        have hlkx : le lk (k x) = true := (hge _ _).1 h2
        simp only [h1, h2, if_true, if_false, hlex]
        exact ih (p ++ [x]) lk (items ++ [x]) (ext _ hmax hlex) hatt' (by rw [List.filter_append, hitems]; simp [hlkx])
      · -- smaller: ignored
        have hnlkx : le lk (k x) = false := by
          cases h : le lk (k x)
          · rfl
          · exact absurd ((hge _ _).2 h) h2
        simp only [h1, h2, if_false, hlex, if_true]
        exact ih (p ++ [x]) lk items (ext _ hmax hlex) hatt' (by rw [List.filter_append, hitems]; simp [hnlkx])

theorem extrema_preorder
    (hgt : ∀ a b, c a b > 0 ↔ le a b = false) (hge : ∀ a b, c a b ≥ 0 ↔ le b a = true)
    (htot : ∀ a b, le a b = true ∨ le b a = true) (htr : ∀ a b d, le a b = true → le b d = true → le a d = true)
    (xs : List α) :
    ∃ m, (xs.foldlM (extremaStep (fun x => .ok (k x)) (fun a b => (.ok (c a b) : Except Err Int))) (none, []))
      = .ok (m, xs.filter (fun x => xs.all (fun y => le (k y) (k x)))) := by
  cases xs with
  | nil => exact ⟨none, rfl⟩
  | cons x xs =>
    rw [List.foldlM_cons, extremaStep_pure]
    simp only [bind, Except.bind, List.nil_append]
    have hxx : le (k x) (k x) = true := by rcases htot (k x) (k x) with h | h <;> exact h
    exact ⟨_, extrema_preorder_from k c le hgt hge htot htr [x] xs (k x) [x]
      (fun y hy => by cases List.mem_singleton.1 hy; exact hxx) ⟨x, List.mem_singleton.2 rfl, hxx⟩ (by simp [hxx])⟩
end Extrema

theorem dictGet_dictSet {κ ν} (eq : κ → κ → Bool)
    (hsymm : ∀ a b, eq a b = true → eq b a = true) (htr : ∀ a b d, eq a b = true → eq b d = true → eq a d = true)
    (m : List (κ × ν)) (k' : κ) (v : ν) (q : κ) :
    dictGet eq (dictSet eq m k' v) q = if eq k' q then some v else dictGet eq m q := by
  induction m with
  | nil => simp only [dictSet, dictGet, List.find?_cons, List.find?_nil]; cases eq k' q <;> rfl
  | cons kv m ih =>
    obtain ⟨k0, v0⟩ := kv
    simp only [dictSet]
    by_cases h0 : eq k0 k' = true
    · simp only [h0, if_true, dictGet, List.find?_cons]
      by_cases hq : eq k0 q = true
      · have : eq k' q = true := htr _ _ _ (hsymm _ _ h0) hq
        simp [hq, this]
      · have : ¬ eq k' q = true := fun h => hq (htr _ _ _ h0 h)
        simp only [Bool.not_eq_true] at hq this
        simp [hq, this]
    · simp only [h0, if_false, Bool.false_eq_true]
      simp only [dictGet, List.find?_cons] at ih ⊢
      by_cases hq : eq k0 q = true
      · have : ¬ eq k' q = true := fun h => h0 (htr _ _ _ hq (hsymm _ _ h))
        simp only [Bool.not_eq_true] at this
        simp [hq, this]
      · simp only [Bool.not_eq_true] at hq
        simp only [hq]
        exact ih

theorem dictFold_last_wins {κ ν} (eq : κ → κ → Bool)
    (hsymm : ∀ a b, eq a b = true → eq b a = true) (htr : ∀ a b d, eq a b = true → eq b d = true → eq a d = true)
    (kvs m : List (κ × ν)) (q : κ) :
    dictGet eq (kvs.foldl (fun m kv => dictSet eq m kv.1 kv.2) m) q
      = ((kvs.reverse.find? (fun kv => eq kv.1 q)).map (·.2)).or (dictGet eq m q) := by
  induction kvs generalizing m with
  | nil => simp
  | cons kv kvs ih =>
    simp only [List.foldl_cons, List.reverse_cons, List.find?_append]
    rw [ih, dictGet_dictSet eq hsymm htr]
    cases h1 : List.find? (fun kv => eq kv.1 q) kvs.reverse with
    | some r => simp
    | none => cases h2 : eq kv.1 q <;> simp [h2]

theorem dictStep_pure {α κ ν} (eq : κ → κ → Bool) (k : α → κ) (v : α → ν) (xs : List α) (m : List (κ × ν)) :
    xs.foldlM (dictStep eq (fun x => .ok (k x)) (fun x => (.ok (v x) : Except Err ν))) m
      = .ok ((xs.map (fun x => (k x, v x))).foldl (fun m kv => dictSet eq m kv.1 kv.2) m) := by
  induction xs generalizing m with
  | nil => rfl
  | cons x xs ih => simp only [List.foldlM_cons, dictStep, bind, Except.bind, List.map_cons, List.foldl_cons]; exact ih _

theorem setStepH_hashable {α} (h : α → Bool) (eq : α → α → Bool) (xs : List α) (s : List α) (hh : ∀ x ∈ xs, h x = true) :
    xs.foldlM (setStepH h eq) s = .ok (xs.foldl (setAdd eq) s) := by
  induction xs generalizing s with
  | nil => rfl
  | cons x xs ih =>
    simp only [List.foldlM_cons, setStepH, hh x List.mem_cons_self, if_true, bind, Except.bind, List.foldl_cons]
    exact ih _ (fun y hy => hh y (List.mem_cons_of_mem _ hy))

theorem setStepH_unhashable {α} (h : α → Bool) (eq : α → α → Bool) (pre : List α) (x : α) (post : List α) (s : List α)
    (hpre : ∀ y ∈ pre, h y = true) (hx : h x = false) :
    (pre ++ x :: post).foldlM (setStepH h eq) s = .error "TypeError" := by
  rw [List.foldlM_append, setStepH_hashable h eq pre s hpre]
  simp [List.foldlM_cons, setStepH, hx, bind, Except.bind]

end Agg
