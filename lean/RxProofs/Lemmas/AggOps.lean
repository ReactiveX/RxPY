import RxProofs.Lemmas.AggBase
import RxModel.AggRef
/-!
# Primitive operators: what the subscriber sees, as a function of the conforming input

The composite operators of C06 are these closed forms composed.
-/

namespace Agg

theorem Op.out_conf {α β} (op : Op α β) (lag : Bool) (raw : List (Notif α)) :
    op.out lag raw = cut (op.feed op.init ((elems raw).map .next ++ (ending raw).notifs)) := by
  rw [Op.out_eq, cut_eq_elems_ending raw]

/-- `rest` stands for what the handlers make of the remaining input, of which only its `cut` is known -/
theorem Op.out_follows {α β} (op : Op α β) (R : op.σ → List α → Ending → List (Notif β))
    (hnil : ∀ s t, cut (op.feed s t.notifs) = R s [] t)
    (hcons : ∀ s x xs t rest, cut rest = R (op.onNext s x).st xs t → cut ((op.onNext s x).calls ++ rest) = R s (x :: xs) t)
    (lag : Bool) (raw : List (Notif α)) : op.out lag raw = R op.init (elems raw) (ending raw) := by
  rw [Op.out_conf]
  generalize op.init = s
  induction elems raw generalizing s with
  | nil => exact hnil s _
  | cons x xs ih => exact hcons s x xs _ _ (ih _)

@[simp] theorem elems_conf_notifs {α} (c : Conf α) : elems c.notifs = c.1 := by
  simp [Conf.notifs]
@[simp] theorem ending_conf_notifs {α} (c : Conf α) : ending c.notifs = c.2 := by
  simp [Conf.notifs]

@[simp] theorem atEnd_open {β} (l : List (Notif β)) : atEnd .open l = [] := rfl
@[simp] theorem atEnd_done {β} (l : List (Notif β)) : atEnd .done l = l := rfl
@[simp] theorem atEnd_err {β} (e : Err) (l : List (Notif β)) : atEnd (.err e) l = [.error e] := rfl

theorem mapO_out {α β} (f : α → Except Err β) (lag : Bool) (raw : List (Notif α)) :
    (mapO f).out lag raw = (mapC f (elems raw) (ending raw)).notifs :=
  Op.out_follows _ (fun _ xs t => (mapC f xs t).notifs) (fun _ t => by cases t <;> rfl)
    (fun s x xs t rest ih => by
      simp only [mapO, mapC]
      cases f x with
      | error e => rfl
      | ok v => exact congrArg (Notif.next v :: ·) ih) lag raw

theorem mapO_out_atEnd {β γ} (f : β → Except Err γ) (lag : Bool) (t : Ending) (v : β) :
    (mapO f).out lag (atEnd t [.next v, .completed])
      = atEnd t (match f v with | .ok w => [.next w, .completed] | .error e => [.error e]) := by
  cases t with
  | «open» => rfl
  | done => rw [mapO_out]; show (mapC f [v] .done).notifs = _; unfold mapC; cases f v <;> rfl
  | err e => rfl

theorem filterO_out {α} (p : α → Except Err Bool) (lag : Bool) (raw : List (Notif α)) :
    (filterO p).out lag raw = (filterC p (elems raw) (ending raw)).notifs :=
  Op.out_follows _ (fun _ xs t => (filterC p xs t).notifs) (fun _ t => by cases t <;> rfl)
    (fun s x xs t rest ih => by
      simp only [filterO, filterC]
      cases p x with
      | error e => rfl
      | ok b =>
        cases b
        · exact ih
        · exact congrArg (Notif.next x :: ·) ih) lag raw

theorem stage_then_out {α β γ} {f : Op α β} {g : Op β γ} {C : List α → Ending → Conf β} {R : List β → Ending → List (Notif γ)}
    (hf : ∀ lag raw, f.out lag raw = (C (elems raw) (ending raw)).notifs)
    (hg : ∀ lag raw, g.out lag raw = R (elems raw) (ending raw)) (lag : Bool) (raw : List (Notif α)) :
    (f ⨾ g).out lag raw = R (C (elems raw) (ending raw)).1 (C (elems raw) (ending raw)).2 := by
  rw [Op.out_pipe, hf, hg, elems_conf_notifs, ending_conf_notifs]

theorem filterC_skip {α} (p : α → Except Err Bool) (ys rest : List α) (t : Ending) (h : ∀ y ∈ ys, p y = .ok false) :
    filterC p (ys ++ rest) t = filterC p rest t := by
  induction ys with
  | nil => rfl
  | cons y ys ih =>
    simp only [List.cons_append, filterC, h y List.mem_cons_self]
    exact ih (fun z hz => h z (List.mem_cons_of_mem _ hz))

theorem filterO_skip {α β} (p : α → Except Err Bool) (g : Op α β) (ys : List α) (h : ∀ y ∈ ys, p y = .ok false) (lag : Bool)
    (rest : List (Notif α)) :
    (filterO p ⨾ g).out lag (ys.map .next ++ rest) = (filterO p ⨾ g).out lag rest := by
  rw [Op.out_pipe, Op.out_pipe, filterO_out, filterO_out, elems_map_next_append, ending_map_next_append, filterC_skip p ys _ _ h]

/-- the library's `op(predicate)` forms -/
theorem afterFilter_out {α β} (g : Op α β) (R : List α → Ending → List (Notif β))
    (hg : ∀ lag raw, g.out lag raw = R (elems raw) (ending raw)) (pred : Option (α → Except Err Bool)) (lag : Bool)
    (raw : List (Notif α)) :
    (match pred with | some p => filterO p ⨾ g | none => g).out lag raw = R (afterFilter pred raw).1 (afterFilter pred raw).2 := by
  cases pred with
  | none => exact hg lag raw
  | some p => exact stage_then_out (filterO_out p) hg lag raw

theorem scanO_out {α β} (f : β → α → Except Err β) (seed : Option β) (inj : α → β) (lag : Bool)
    (raw : List (Notif α)) :
    (scanO f seed inj).out lag raw = (scanC f seed inj none (elems raw) (ending raw)).notifs :=
  Op.out_follows (scanO f seed inj) (fun (s : Option β) xs t => (scanC f seed inj s xs t).notifs) (fun _ t => by cases t <;> rfl)
    (fun s x xs t rest ih => by
      revert ih
      simp only [scanO, scanC]
      cases scanProj f seed inj s x with
      | error e => exact fun _ => rfl
      | ok v => exact fun ih => congrArg (Notif.next v :: ·) ih) lag raw

theorem lastO_feed_seen {α} (dflt : Option α) (y : α) (xs : List α) (t : Ending) :
    cut ((lastOrDefaultO dflt).feed (some y, true) (xs.map .next ++ t.notifs))
      = atEnd t [.next ((y :: xs).getLast (by simp)), .completed] := by
  induction xs generalizing y with
  | nil => cases t <;> rfl
  | cons x xs ih => exact ih x

theorem lastOrDefaultO_out {α} (dflt : Option α) (lag : Bool) (raw : List (Notif α)) :
    (lastOrDefaultO dflt).out lag raw = lastRef dflt (elems raw) (ending raw) := by
  rw [Op.out_conf]
  generalize elems raw = xs; generalize ending raw = t
  cases xs with
  | nil => cases t <;> cases dflt <;> rfl
  | cons x xs =>
    refine (lastO_feed_seen dflt x xs t).trans ?_
    rw [lastRef, List.getLast?_eq_some_getLast (by simp)]; rfl

theorem firstOrDefaultO_out {α} (dflt : Option α) (lag : Bool) (raw : List (Notif α)) :
    (firstOrDefaultO dflt).out lag raw = firstRef dflt (elems raw) (ending raw) := by
  rw [Op.out_conf]
  generalize elems raw = xs; generalize ending raw = t
  cases xs with
  | nil => cases t <;> cases dflt <;> rfl
  | cons x xs => rfl

theorem singleOrDefaultO_out {α} (dflt : Option α) (lag : Bool) (raw : List (Notif α)) :
    (singleOrDefaultO dflt).out lag raw = singleRef dflt (elems raw) (ending raw) := by
  rw [Op.out_conf]
  generalize elems raw = xs; generalize ending raw = t
  match xs with
  | [] => cases t <;> cases dflt <;> rfl
  | [x] => cases t <;> rfl
  | x :: y :: xs => rfl

theorem someOp_out {α} (lag : Bool) (raw : List (Notif α)) :
    (someOp : Op α Bool).out lag raw = someRef (elems raw) (ending raw) := by
  rw [Op.out_conf]
  generalize elems raw = xs; generalize ending raw = t
  cases xs with
  | nil => cases t <;> rfl
  | cons x xs => rfl

theorem notB_someRef {α} (lag : Bool) (xs : List α) (t : Ending) :
    (mapO notB).out lag (someRef xs t)
      = match xs with
        | _ :: _ => [.next false, .completed]
        | [] => atEnd t [.next true, .completed] := by
  cases xs with
  | nil => exact mapO_out_atEnd notB lag t false
  | cons x xs => exact mapO_out_atEnd notB lag .done true

/-! extrema_by, to_list, to_set, to_dict have one shape: `on_next` folds the element into the state or fails, `on_completed` emits a
value of the state (and leaves `fin s` behind). -/

def foldO {α σ β} (step : σ → α → Except Err σ) (init : σ) (val : σ → β) (fin : σ → σ) : Op α β where
  σ := σ
  init := init
  onNext s x :=
    match step s x with
    | .error e => emit s [.error e]
    | .ok s' => emit s' []
  onError s e := emit s [.error e]
  onCompleted s := emit (fin s) [.next (val s), .completed]

theorem extremaByO_eq_foldO {α κ} (key : α → Except Err κ) (cmp : κ → κ → Except Err Int) :
    extremaByO key cmp = foldO (extremaStep key cmp) (none, []) (·.2) id := by
  unfold extremaByO foldO; congr; funext s x; cases extremaStep key cmp s x <;> rfl
theorem toDictO_eq_foldO {α κ ν} (eq : κ → κ → Bool) (key : α → Except Err κ) (elem : α → Except Err ν) :
    toDictO eq key elem = foldO (dictStep eq key elem) [] id (fun _ => []) := by
  unfold toDictO foldO; congr; funext s x; cases dictStep eq key elem s x <;> rfl
theorem toSetHO_eq_foldO {α} (h : α → Bool) (eq : α → α → Bool) : toSetHO h eq = foldO (setStepH h eq) [] id id := by
  unfold toSetHO foldO; congr; funext s x; cases setStepH h eq s x <;> rfl
theorem toDictHO_eq_foldO {α κ ν} (h : κ → Bool) (eq : κ → κ → Bool) (key : α → Except Err κ) (elem : α → Except Err ν) :
    toDictHO h eq key elem = foldO (dictStepH h eq key elem) [] id (fun _ => []) := by
  unfold toDictHO foldO; congr; funext s x; cases dictStepH h eq key elem s x <;> rfl
theorem toListO_eq_foldO {α} : (toListO : Op α (List α)) = foldO (fun s x => .ok (s ++ [x])) [] id (fun _ => []) := rfl
theorem toSetO_eq_foldO {α} (eq : α → α → Bool) : toSetO eq = foldO (fun s x => .ok (setAdd eq s x)) [] id id := rfl

theorem foldO_out {α σ β} (step : σ → α → Except Err σ) (init : σ) (val : σ → β) (fin : σ → σ) (lag : Bool)
    (raw : List (Notif α)) :
    (foldO step init val fin).out lag raw = foldRef ((elems raw).foldlM step init) val (ending raw) :=
  Op.out_follows (foldO step init val fin) (fun (s : σ) xs t => foldRef (xs.foldlM step s) val t) (fun _ t => by cases t <;> rfl)
    (fun (s : σ) x xs t rest ih => by
      revert ih
      show cut rest = foldRef (xs.foldlM step (match step s x with | .error e => emit s [.error e] | .ok s' => emit s' []).st) val t →
        cut ((match step s x with | .error e => emit s [.error e] | .ok s' => emit s' []).calls ++ rest)
          = foldRef ((x :: xs).foldlM step s) val t
      rw [List.foldlM_cons]
      cases step s x with
      | error e => exact fun _ => rfl
      | ok s' => exact id) lag raw

theorem foldlM_pure {α β} (g : β → α → β) (xs : List α) (a : β) :
    xs.foldlM (fun a x => (Except.ok (g a x) : Except Err β)) a = .ok (xs.foldl g a) :=
  List.foldlM_pure

theorem extremaByO_out {α κ} (key : α → Except Err κ) (cmp : κ → κ → Except Err Int) (lag : Bool)
    (raw : List (Notif α)) :
    (extremaByO key cmp).out lag raw
      = foldRef ((elems raw).foldlM (extremaStep key cmp) (none, [])) (·.2) (ending raw) := by
  rw [extremaByO_eq_foldO]; exact foldO_out ..

theorem toSetHO_out {α} (h : α → Bool) (eq : α → α → Bool) (lag : Bool) (raw : List (Notif α)) :
    (toSetHO h eq).out lag raw = foldRef ((elems raw).foldlM (setStepH h eq) []) id (ending raw) := by
  rw [toSetHO_eq_foldO]; exact foldO_out ..

end Agg
