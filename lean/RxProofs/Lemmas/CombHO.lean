import RxModel.CombHO
import RxProofs.Lemmas.Comb
/-!
# merge_all, merge(max_concurrent), switch_latest (C11, C12)

The lemmas about `maHandler` and `swHandler` go through the handlers' own branches (`fun_cases`, in the order of the
definition); the branches of `mcHandler` have names (`McOut`).
-/

namespace Comb

/-- the inner elements of an accepted-notification list (`g` of `outVals_run_filterMap`) -/
def innerVal {α} : Nat × Notif (HV α) → Option α
  | (k, .next (.val v)) => if k = 0 then none else some v
  | _ => none

/-- the arrivals: trace ids of the inners carried by the accepted outer elements -/
def arrival {α} : Nat × Notif (HV α) → Option Nat
  | (k, .next (.obs j)) => if k = 0 then some (j + 1) else none
  | _ => none

/-- the completion rule of merge remembers the inners that arrived and have not completed yet, and whether the outer completed -/
structure MaT where
  pending : List Nat := []
  outerDone : Bool := false

def maTStep {α} (t : MaT) : Nat × Notif (HV α) → MaT
  | (k, .next (.obs j)) => if k = 0 then { t with pending := t.pending ++ [j + 1] } else t
  | (k, .completed) => if k = 0 then { t with outerDone := true } else { t with pending := t.pending.erase k }
  | _ => t

def maRule (t : MaT) : Prop := t.outerDone = true ∧ t.pending = []

/-- how many inners arrived, how many inner completions were delivered, whether the outer completed -/
structure McT where
  nArr : Nat := 0
  nComp : Nat := 0
  outerDone : Bool := false

def mcTStep {α} (t : McT) : Nat × Notif (HV α) → McT
  | (k, .next (.obs _)) => if k = 0 then { t with nArr := t.nArr + 1 } else t
  | (k, .completed) => if k = 0 then { t with outerDone := true } else { t with nComp := t.nComp + 1 }
  | _ => t

/-- the outer completed and every arrived inner has completed (each subscription completes at most once:
as many completions delivered as inners arrived) -/
def mcCountRule (t : McT) : Prop := t.outerDone = true ∧ t.nArr = t.nComp

/-- merge(max_concurrent): the completion rule on the operator's own counters -/
def mcRule (s : McSt) : Prop := s.stopped = true ∧ s.active = 0

/-- (inner id, element) of a delivered inner element -/
def innerKV {α} : Nat × Notif (HV α) → Option (Nat × α)
  | (k, .next (.val v)) => if k = 0 then none else some (k, v)
  | _ => none

/-- blocks `(inner id, its elements)` laid out one after the other -/
def expandBlocks {α} (bs : List (Nat × List α)) : List (Nat × α) := bs.flatMap (fun b => b.2.map (fun v => (b.1, v)))

/-- `maHandler`'s branches: 1 an arrival, 2 an `obs` from an inner; 3, 4 an element of the outer, of an inner; 5 an error;
6, 7 the completion of the outer, of an inner. -/
theorem ma_out {α} (s : MaSt) (k : Nat) (n : Notif (HV α)) :
    nextVals (cut (actEmits (maHandler s k n).2)) = (innerVal (k, n)).toList := by
  fun_cases maHandler s k n <;> simp [innerVal, actEmits, cut, nextVals, Notif.isTerminal, *] <;> split <;> rfl

/-- what `mcHandler` does, by the condition under which it does it: an arrival takes a free slot or waits; a completing inner
hands its slot to the head of the queue or gives it back -/
inductive McOut {α} (maxc : Nat) (s : McSt) (k : Nat) : Notif (HV α) → McSt × List (Act α) → Prop
  | start (j : Nat) : k = 0 → s.active < maxc →
      McOut maxc s k (.next (.obs j)) ({ s with active := s.active + 1 }, [.sub (j + 1)])
  | wait (j : Nat) : k = 0 → ¬ s.active < maxc → McOut maxc s k (.next (.obs j)) ({ s with queue := s.queue ++ [j + 1] }, [])
  | stray (j : Nat) : k ≠ 0 → McOut maxc s k (.next (.obs j)) (s, [])
  | outerVal (v : α) : k = 0 → McOut maxc s k (.next (.val v)) (s, [])
  | value (v : α) : k ≠ 0 → McOut maxc s k (.next (.val v)) (s, [.emit (.next v)])
  | error (e : Err) : McOut maxc s k (.error e) (s, [.emit (.error e)])
  | outerDone : k = 0 → McOut maxc s k .completed ({ s with stopped := true }, if s.active = 0 then [.emit .completed] else [])
  | handOver (j : Nat) (rest : List Nat) : k ≠ 0 → s.queue = j :: rest →
      McOut maxc s k .completed ({ s with queue := rest }, [.unsub k, .sub j])
  | slotBack : k ≠ 0 → s.queue = [] →
      McOut maxc s k .completed ({ s with active := s.active - 1 },
        .unsub k :: (if s.stopped && s.active - 1 = 0 then [.emit .completed] else []))

theorem mcHandler_out {α} (maxc : Nat) (s : McSt) (k : Nat) (n : Notif (HV α)) : McOut maxc s k n (mcHandler maxc s k n) := by
  fun_cases mcHandler maxc s k n <;> constructor <;> assumption

theorem mc_out {α} (maxc : Nat) (s : McSt) (k : Nat) (n : Notif (HV α)) :
    nextVals (cut (actEmits (mcHandler maxc s k n).2)) = (innerVal (k, n)).toList := by
  have h := mcHandler_out maxc s k n
  generalize mcHandler maxc s k n = r at h ⊢
  cases h <;> simp [innerVal, actEmits, cut, nextVals, Notif.isTerminal, *] <;> split <;> rfl

/-- number of live inner subscriptions (everything but the outer source 0) -/
def cnt (p : Plumb) : Nat := (p.live.filter (· != 0)).length

theorem cnt_erase (d : Bool) (l : List Nat) (k : Nat) (hk : k ∈ l) (h0 : k ≠ 0) : cnt ⟨d, l.erase k⟩ + 1 = cnt ⟨d, l⟩ := by
  have := ((List.perm_cons_erase hk).filter (· != 0)).length_eq
  simp [h0] at this
  simp only [cnt]; omega

theorem cnt_liveFold_le {β} (d : Bool) (as : List (Act β)) :
    ∀ l, cnt ⟨d, liveFold l as⟩ ≤ cnt ⟨d, l⟩ + (actSubs as).length := by
  induction as with
  | nil => intro l; exact Nat.le_refl _
  | cons a as ih =>
    intro l
    cases a with
    | emit n => exact ih l
    | sub j =>
      have := ih (l ++ [j])
      have h1 : cnt ⟨d, l ++ [j]⟩ ≤ cnt ⟨d, l⟩ + 1 := by
        simp only [cnt, List.filter_append, List.length_append]; by_cases hj : j = 0 <;> simp [hj]
      simp only [liveFold_sub, actSubs, List.length_cons]; omega
    | unsub j =>
      have := ih (l.erase j)
      have h1 : cnt ⟨d, l.erase j⟩ ≤ cnt ⟨d, l⟩ := (List.Sublist.filter _ (List.erase_sublist ..)).length_le
      simp only [liveFold_unsub, actSubs]; omega

theorem cnt_zero_no_inner (p : Plumb) (h : cnt p = 0) : ∀ j, j ∈ p.live → j = 0 := by
  intro j hj
  by_cases hj0 : j = 0
  · exact hj0
  · have : j ∈ p.live.filter (· != 0) := List.mem_filter.mpr ⟨hj, by simpa using hj0⟩
    rw [List.length_eq_zero_iff.mp h] at this; cases this

theorem cnt_pos (p : Plumb) (k : Nat) (hk : k ∈ p.live) (h0 : k ≠ 0) : 1 ≤ cnt p :=
  List.length_pos_of_mem (List.mem_filter.mpr ⟨hk, by simpa using h0⟩)

structure McInv (maxc : Nat) (st : St McSt) : Prop where
  wf : st.p.WF
  le : cnt st.p ≤ st.s.active
  amax : st.s.active ≤ maxc
  qfull : st.s.queue ≠ [] → maxc ≤ st.s.active
  qpos : ∀ j, j ∈ st.s.queue → j ≠ 0

theorem mc_handler_counters {α} (maxc : Nat) (s : McSt) (k : Nat) (n : Notif (HV α))
    (h1 : s.active ≤ maxc) (h2 : s.queue ≠ [] → maxc ≤ s.active) (h3 : ∀ j, j ∈ s.queue → j ≠ 0) :
    (mcHandler maxc s k n).1.active ≤ maxc ∧
    ((mcHandler maxc s k n).1.queue ≠ [] → maxc ≤ (mcHandler maxc s k n).1.active) ∧
    ∀ j, j ∈ (mcHandler maxc s k n).1.queue → j ≠ 0 := by
  have h := mcHandler_out maxc s k n
  generalize mcHandler maxc s k n = r at h ⊢
  cases h with
  | start j _ ha => exact ⟨ha, fun hq => by have := h2 hq; simp only; omega, h3⟩
  | wait j _ ha =>
    refine ⟨h1, fun _ => by simp only; omega, fun j' hj' => ?_⟩
    rcases List.mem_append.mp hj' with hj' | hj'
    · exact h3 j' hj'
    · simp at hj'; omega
  | handOver j rest _ hq => exact ⟨h1, fun _ => h2 (by simp [hq]), fun j' hj' => h3 j' (by simp [hq, hj'])⟩
  | slotBack _ hq => exact ⟨by simp only; omega, fun hq' => absurd hq hq', h3⟩
  | _ => exact ⟨h1, h2, h3⟩

/-- a completing inner's holder is removed first: then its slot is given back or handed to a queued inner -/
theorem mc_handler_active {α} (maxc : Nat) (s : McSt) (k : Nat) (n : Notif (HV α)) :
    s.active + (actSubs (mcHandler maxc s k n).2).length ≤ (mcHandler maxc s k n).1.active ∨
    (k ≠ 0 ∧ ∃ as, (mcHandler maxc s k n).2 = .unsub k :: as ∧
      s.active + (actSubs as).length ≤ (mcHandler maxc s k n).1.active + 1) := by
  have h := mcHandler_out maxc s k n
  generalize mcHandler maxc s k n = r at h ⊢
  cases h with
  | outerDone => left; simp only; split <;> simp [actSubs]
  | handOver j rest hk0 _ => exact Or.inr ⟨hk0, _, rfl, by simp [actSubs]⟩
  | slotBack hk0 _ => exact Or.inr ⟨hk0, _, rfl, by simp only; split <;> (simp [actSubs]; omega)⟩
  | _ => exact Or.inl (by simp [actSubs])

theorem mc_step_inv {α} (maxc : Nat) (st : St McSt) (e : Ev (HV α)) (h : McInv maxc st) :
    McInv maxc (step (mcM (α := α) maxc) st e).1 := by
  have hc : (fired (mcM (α := α) maxc) st e).1.active ≤ maxc ∧
      ((fired (mcM (α := α) maxc) st e).1.queue ≠ [] → maxc ≤ (fired (mcM (α := α) maxc) st e).1.active) ∧
      ∀ j, j ∈ (fired (mcM (α := α) maxc) st e).1.queue → j ≠ 0 :=
    fired_cases _ st e (Q := fun r _ => r.1.active ≤ maxc ∧ (r.1.queue ≠ [] → maxc ≤ r.1.active) ∧ ∀ j, j ∈ r.1.queue → j ≠ 0)
      ⟨h.amax, h.qfull, h.qpos⟩ (fun k n _ => mc_handler_counters maxc st.s k n h.amax h.qfull h.qpos)
      ⟨h.amax, h.qfull, h.qpos⟩
  refine ⟨step_WF _ st e h.wf, ?_, by rw [step_state]; exact hc.1, by rw [step_state]; exact hc.2.1,
    by rw [step_state]; exact hc.2.2⟩
  refine Nat.le_trans ((live_step_sublist _ st e h.wf).filter _).length_le ?_
  rw [step_state]
  have hle : cnt ⟨st.p.done, st.p.live⟩ ≤ st.s.active := h.le
  refine fired_cases _ st e (Q := fun r _ => cnt ⟨st.p.done, liveFold st.p.live r.2⟩ ≤ r.1.active) hle (fun k n hk => ?_) hle
  show cnt ⟨_, liveFold st.p.live (mcHandler maxc st.s k n).2⟩ ≤ (mcHandler maxc st.s k n).1.active
  rcases mc_handler_active (α := α) maxc st.s k n with h1 | ⟨hk0, as, h1, h2⟩
  · have := cnt_liveFold_le st.p.done (mcHandler (α := α) maxc st.s k n).2 st.p.live
    omega
  · -- the completing inner is live and its holder goes first
    rw [h1, liveFold_unsub]
    have := cnt_liveFold_le st.p.done as (st.p.live.erase k)
    have := cnt_erase st.p.done st.p.live k hk hk0
    omega

theorem mc_init_inv (maxc : Nat) : McInv maxc (hoInit {}) :=
  ⟨WF_of_not_done _ rfl, by simp [hoInit, cnt], by simp [hoInit], by simp [hoInit], by simp [hoInit]⟩

theorem mc_handler_fifo {α} (maxc : Nat) (s : McSt) (k : Nat) (n : Notif (HV α))
    (hq : s.queue ≠ [] → maxc ≤ s.active) :
    actSubs (mcHandler maxc s k n).2 ++ (mcHandler maxc s k n).1.queue = s.queue ++ (arrival (k, n)).toList := by
  have h := mcHandler_out maxc s k n
  generalize mcHandler maxc s k n = r at h ⊢
  cases h with
  | start j hk0 ha =>
    have : s.queue = [] := by
      cases hs : s.queue with
      | nil => rfl
      | cons a as => have := hq (by simp [hs]); omega
    simp [actSubs, arrival, hk0, this]
  | outerDone => simp only; split <;> simp [actSubs, arrival]
  | slotBack => simp only; split <;> simp [actSubs, arrival, *]
  | _ => simp [actSubs, arrival, *]

def maAbs (s : MaSt) : MaT := { pending := s.group, outerDone := s.stopped }

theorem ma_handler_abs {α} (s : MaSt) (k : Nat) (n : Notif (HV α)) :
    maAbs (maHandler s k n).1 = maTStep (maAbs s) (k, n) := by
  fun_cases maHandler s k n <;> simp [maTStep, maAbs, *] <;> rfl

theorem ma_rule_step {α} (s : MaSt) (k : Nat) (n : Notif (HV α)) (hr : ¬ maRule (maAbs s)) :
    (Notif.completed ∈ cut (actEmits ((maM (α := α)).handler s k n).2) ↔ maRule (maTStep (maAbs s) (k, n))) := by
  show Notif.completed ∈ cut (actEmits (maHandler s k n).2) ↔ _
  fun_cases maHandler s k n
  case case1 j hk0 =>
    simp [maTStep, maAbs, maRule, hk0, actEmits, cut]
  case case6 hk0 =>
    simp only [maTStep, hk0, if_true, maRule, maAbs]
    cases hg : s.group <;> simp [actEmits, cut, Notif.isTerminal]
  case case7 hk0 g =>
    simp only [maTStep, hk0, if_false, maRule, maAbs, g]
    cases hs : s.stopped <;> by_cases hg : s.group.erase k = [] <;> simp [hg, actEmits, cut, Notif.isTerminal]
  case case5 =>
    simpa [maTStep, actEmits, cut, Notif.isTerminal] using hr
  all_goals (rename_i hk0; simpa [maTStep, hk0, actEmits, cut, Notif.isTerminal] using hr)

theorem mc_rule_step {α} (maxc : Nat) (s : McSt) (k : Nat) (n : Notif (HV α)) (hr : ¬ mcRule s) :
    (Notif.completed ∈ cut (actEmits ((mcM (α := α) maxc).handler s k n).2)
      ↔ mcRule ((mcM (α := α) maxc).handler s k n).1) := by
  show Notif.completed ∈ cut (actEmits (mcHandler maxc s k n).2) ↔ mcRule (mcHandler maxc s k n).1
  have h := mcHandler_out maxc s k n
  generalize mcHandler maxc s k n = r at h ⊢
  cases h with
  | start => simp [mcRule, actEmits, cut]
  | outerDone => simp only [mcRule]; by_cases ha : s.active = 0 <;> simp [ha, actEmits, cut, Notif.isTerminal]
  | slotBack =>
    simp only [mcRule]
    cases hs : s.stopped <;> by_cases ha : s.active - 1 = 0 <;> simp [ha, actEmits, cut, Notif.isTerminal]
  | _ => simpa [mcRule, actEmits, cut, Notif.isTerminal] using hr

theorem maCompletes {α} : Completes (maM (α := α)) (fun _ => True) (fun s t => maAbs s = t) maTStep maRule where
  step := fun _ _ _ => trivial
  silent := fun _ _ => rfl
  handler := fun st _ k n _ _ h => h ▸ ⟨ma_handler_abs st.s k n, ma_rule_step st.s k n⟩

/-- concat_map (one slot): a live inner is the most recently subscribed one -/
structure OInv (subs : List Nat) (st : St McSt) : Prop where
  inv : McInv 1 st
  last : ∀ j, j ∈ st.p.live → j ≠ 0 → subs.getLast? = some j

theorem mc1_handler_subs {α} (s : McSt) (k : Nat) (n : Notif (HV α)) :
    (actSubs (mcHandler 1 s k n).2 = [] ∧ ∀ j, Act.sub j ∉ (mcHandler 1 s k n).2) ∨
    ∃ j', actSubs (mcHandler 1 s k n).2 = [j'] ∧
      ((s.active = 0 ∧ (mcHandler 1 s k n).2 = [.sub j']) ∨ (k ≠ 0 ∧ (mcHandler 1 s k n).2 = [.unsub k, .sub j'])) := by
  have h := mcHandler_out 1 s k n
  generalize mcHandler 1 s k n = r at h ⊢
  cases h with
  | start j _ ha => exact Or.inr ⟨j + 1, rfl, Or.inl ⟨by omega, rfl⟩⟩
  | handOver j rest hk0 _ => exact Or.inr ⟨j, rfl, Or.inr ⟨hk0, rfl⟩⟩
  | outerDone => left; simp only; split <;> exact ⟨rfl, by simp⟩
  | slotBack => left; simp only; split <;> exact ⟨rfl, by simp⟩
  | _ => exact Or.inl ⟨rfl, by simp⟩

theorem one_slot_step {α} (subs : List Nat) (st : St McSt) (e : Ev (HV α)) (h : OInv subs st) :
    OInv (subs ++ subsOf (step (mcM (α := α) 1) st e).2) (step (mcM (α := α) 1) st e).1 := by
  refine ⟨mc_step_inv 1 st e h.inv, fun j hj hj0 => ?_⟩
  rw [subsOf_step]
  replace hj := (live_step_sublist _ st e h.inv.wf).subset hj
  revert hj
  have hnone : j ∈ liveFold st.p.live ([] : List (Act α)) → (subs ++ actSubs ([] : List (Act α))).getLast? = some j :=
    fun hj => by simpa [actSubs] using h.last j hj hj0
  refine fired_cases _ st e (Q := fun r _ => j ∈ liveFold st.p.live r.2 → (subs ++ actSubs r.2).getLast? = some j)
    hnone (fun k n hk hj => ?_) hnone
  have hj : j ∈ liveFold st.p.live (mcHandler (α := α) 1 st.s k n).2 := hj
  show (subs ++ actSubs (mcHandler 1 st.s k n).2).getLast? = some j
  rcases mc1_handler_subs (α := α) st.s k n with ⟨h0, hns⟩ | ⟨j', hs, hcase⟩
  · rw [h0, List.append_nil]
    exact h.last j ((mem_liveFold _ j _ hj).resolve_right (hns j)) hj0
  · have hjj : j = j' := by
      rcases hcase with ⟨ha, hacts⟩ | ⟨hk0, hacts⟩
      · -- an arrival into the empty slot: no inner was live
        have hc0 : cnt st.p = 0 := by have := h.inv.le; omega
        rw [hacts, liveFold_sub, liveFold_nil] at hj
        rcases List.mem_append.mp hj with h1 | h1
        · exact absurd (cnt_zero_no_inner st.p hc0 j h1) hj0
        · simpa using h1
      · -- k was the only live inner: once its holder is removed none is, until the queued one is subscribed
        have h1 : cnt ⟨st.p.done, st.p.live.erase k⟩ + 1 = cnt st.p := cnt_erase st.p.done st.p.live k hk hk0
        have hc1 : cnt ⟨st.p.done, st.p.live.erase k⟩ = 0 := by
          have := h.inv.le; have := h.inv.amax; omega
        rw [hacts, liveFold_unsub, liveFold_sub, liveFold_nil] at hj
        rcases List.mem_append.mp hj with h2 | h2
        · exact absurd (cnt_zero_no_inner ⟨_, _⟩ hc1 j h2) hj0
        · simpa using h2
    rw [hs, hjj]; simp

/-- the counting rule against the counters: every arrived inner has completed, is active or waits in the queue -/
structure McB (s : McSt) (t : McT) : Prop where
  stp : s.stopped = t.outerDone
  bal : t.nArr = t.nComp + s.active + s.queue.length

theorem mc_handler_bal {α} (maxc : Nat) (s : McSt) (t : McT) (k : Nat) (n : Notif (HV α))
    (hpos : k ≠ 0 → 1 ≤ s.active) (hb : McB s t) : McB (mcHandler maxc s k n).1 (mcTStep t (k, n)) := by
  have h1 := hb.stp
  have h2 := hb.bal
  have h := mcHandler_out maxc s k n
  generalize mcHandler maxc s k n = r at h ⊢
  cases h with
  | start j hk0 _ => exact ⟨by simpa [mcTStep, hk0] using h1, by simp [mcTStep, hk0]; omega⟩
  | wait j hk0 _ => exact ⟨by simpa [mcTStep, hk0] using h1, by simp [mcTStep, hk0]; omega⟩
  | outerDone hk0 => exact ⟨by simp [mcTStep, hk0], by simpa [mcTStep, hk0] using h2⟩
  | handOver j rest hk0 hs =>
    have := hpos hk0
    exact ⟨by simpa [mcTStep, hk0] using h1, by simp [mcTStep, hk0, hs] at h2 ⊢; omega⟩
  | slotBack hk0 hs =>
    have := hpos hk0
    exact ⟨by simpa [mcTStep, hk0] using h1, by simp [mcTStep, hk0, hs] at h2 ⊢; omega⟩
  | stray j hk0 => simpa [mcTStep, hk0] using hb
  | _ => simpa [mcTStep] using hb

/-- under the balance the counting rule is the rule on the counters: with a slot to give (`1 ≤ maxc`) nothing waits while
no inner is active -/
theorem McB.rule_iff {maxc : Nat} {s : McSt} {t : McT} (hb : McB s t) (hm : 1 ≤ maxc)
    (hq : s.queue ≠ [] → maxc ≤ s.active) : mcCountRule t ↔ mcRule s := by
  have h1 := hb.stp
  have h2 := hb.bal
  constructor
  · intro hr; exact ⟨by rw [h1]; exact hr.1, by have := hr.2; omega⟩
  · intro hr
    have hq0 : s.queue = [] := by
      cases hs : s.queue with
      | nil => rfl
      | cons a as => have := hq (by simp [hs]); have := hr.2; omega
    exact ⟨by rw [← h1]; exact hr.1, by rw [hr.2, hq0] at h2; simpa using h2⟩

/-- The counting rule is tied to the counters through the container: a live inner holds a slot (`McInv.le`), so a completing
one finds `1 ≤ active`. -/
theorem mcCompletes {α} (maxc : Nat) (hm : 1 ≤ maxc) :
    Completes (mcM (α := α) maxc) (McInv maxc) McB mcTStep mcCountRule where
  step := mc_step_inv maxc
  silent := fun _ _ => rfl
  handler := fun st t k n hI hk hb => by
    have hb' := mc_handler_bal maxc st.s t k n (fun hk0 => Nat.le_trans (cnt_pos st.p k hk hk0) hI.le) hb
    refine ⟨hb', fun hr => ?_⟩
    rw [hb'.rule_iff hm (mc_handler_counters maxc st.s k n hI.amax hI.qfull hI.qpos).2.1]
    exact mc_rule_step maxc st.s k n (fun h => hr ((hb.rule_iff hm hI.qfull).mpr h))

theorem mcT_counts {α} (acc : List (Nat × Notif (HV α))) : ∀ t : McT,
    (acc.foldl mcTStep t).nArr = t.nArr + (acc.filterMap arrival).length ∧
    ((acc.foldl mcTStep t).outerDone = true ↔ (t.outerDone = true ∨ (0, Notif.completed) ∈ acc)) := by
  induction acc with
  | nil => intro t; simp
  | cons a r ih =>
    intro t
    obtain ⟨k, n⟩ := a
    have ih' := ih (mcTStep t (k, n))
    rw [List.foldl_cons]
    refine ⟨?_, ?_⟩
    · rw [ih'.1]
      cases n with
      | next x => cases x <;> by_cases hk0 : k = 0 <;> simp [mcTStep, arrival, hk0, List.filterMap_cons] <;> omega
      | error er => simp [mcTStep, arrival, List.filterMap_cons]
      | completed => by_cases hk0 : k = 0 <;> simp [mcTStep, arrival, hk0, List.filterMap_cons]
    · rw [ih'.2]
      cases n with
      | next x => cases x <;> by_cases hk0 : k = 0 <;> simp [mcTStep, hk0]
      | error er => simp [mcTStep]
      | completed =>
        by_cases hk0 : k = 0
        · simp [mcTStep, hk0]
        · have : ¬ (0 = k) := fun h => hk0 h.symm
          simp [mcTStep, hk0, this]

theorem expandBlocks_append {α} (a b : List (Nat × List α)) : expandBlocks (a ++ b) = expandBlocks a ++ expandBlocks b := by
  simp [expandBlocks]

theorem innerVal_eq_kv {α} (acc : List (Nat × Notif (HV α))) :
    acc.filterMap innerVal = (acc.filterMap innerKV).map (·.2) := by
  induction acc with
  | nil => rfl
  | cons a r ih =>
    simp only [List.filterMap_cons]
    fun_cases innerKV a <;> simp [innerVal, *]

/-- concat_map: the delivered inner elements are the blocks of the subscribed inners, laid out in subscription order -/
structure BInv {α} (kv : List (Nat × α)) (subs : List Nat) (st : St McSt) : Prop where
  o : OInv subs st
  blocks : ∃ bs : List (Nat × List α), bs.map (·.1) = subs ∧ kv = expandBlocks bs

theorem mc_handler_kv {α} (maxc : Nat) (s : McSt) (k : Nat) (n : Notif (HV α)) :
    innerKV (k, n) = none ∨ ∃ v, innerKV (k, n) = some (k, v) ∧ k ≠ 0 ∧ actSubs (mcHandler maxc s k n).2 = [] := by
  have h := mcHandler_out maxc s k n
  generalize mcHandler maxc s k n = r at h ⊢
  cases h with
  | value v hk0 => exact Or.inr ⟨v, by simp [innerKV, hk0], hk0, rfl⟩
  | _ => exact Or.inl (by simp [innerKV, *])

theorem blocks_step {α} (kv : List (Nat × α)) (subs : List Nat) (st : St McSt) (e : Ev (HV α)) (h : BInv kv subs st) :
    BInv (kv ++ (accOne st e).filterMap innerKV) (subs ++ subsOf (step (mcM (α := α) 1) st e).2)
      (step (mcM (α := α) 1) st e).1 := by
  refine ⟨one_slot_step subs st e h.o, ?_⟩
  obtain ⟨bs, hb1, hb2⟩ := h.blocks
  -- new subscriptions open empty blocks
  have hnew : ∀ (s : List Nat), ∃ bs' : List (Nat × List α), bs'.map (·.1) = subs ++ s ∧ kv = expandBlocks bs' := by
    intro s
    refine ⟨bs ++ s.map (fun j => (j, [])), by simp [hb1, Function.comp_def], ?_⟩
    rw [expandBlocks_append, ← hb2]
    have : expandBlocks (s.map (fun j => (j, ([] : List α)))) = [] := by
      simp [expandBlocks]
    rw [this, List.append_nil]
  rw [subsOf_step]
  refine fired_cases _ st e (Q := fun r acc => ∃ bs' : List (Nat × List α),
    bs'.map (·.1) = subs ++ actSubs r.2 ∧ kv ++ acc.filterMap innerKV = expandBlocks bs')
    (by simpa [actSubs] using hnew []) (fun k n hk => ?_) (by simpa [mcM, actSubs] using hnew [])
  rw [filterMap_one]
  rcases mc_handler_kv (α := α) 1 st.s k n with h0 | ⟨v, h1, hk0, h2⟩
  · rw [h0]; simpa using hnew _
  · -- an element of the live inner k: k is the most recently subscribed one, its block is the last one
    have hlast := h.o.last k hk hk0
    rw [← hb1] at hlast
    have hne : bs ≠ [] := by intro h0; simp [h0] at hlast
    obtain ⟨bs0, b, rfl⟩ : ∃ bs0 b, bs = bs0 ++ [b] :=
      ⟨bs.dropLast, bs.getLast hne, (List.dropLast_concat_getLast hne).symm⟩
    have hbk : b.1 = k := by simpa [List.getLast?_append] using hlast
    have h2' : actSubs ((mcM (α := α) 1).handler st.s k n).2 = [] := h2
    refine ⟨bs0 ++ [(b.1, b.2 ++ [v])], by rw [h2']; simpa using hb1, ?_⟩
    rw [h1, hb2, expandBlocks_append, expandBlocks_append]
    simp [expandBlocks, hbk]

theorem blocks_run {α} (es : List (Ev (HV α))) :
    BInv ((accepted (mcM (α := α) 1) (hoInit {}) es).filterMap innerKV) (subsOf (run (mcM (α := α) 1) (hoInit {}) es))
      (final (mcM (α := α) 1) (hoInit {}) es) := by
  simpa using run_hist (mcM (α := α) 1) (Q := fun acc effs st => BInv (acc.filterMap innerKV) (subsOf effs) st)
    (fun acc effs st e h => by simpa [List.filterMap_append, subsOf_append] using blocks_step _ _ st e h)
    es [] [] (hoInit {})
    ⟨⟨mc_init_inv 1, by intro j hj hj0; simp [hoInit] at hj; exact absurd hj hj0⟩, ⟨[], rfl, rfl⟩⟩

/-- the property's own notion of "latest": the inner carried by the most recent accepted outer element -/
def swCur {α} (cur : Option Nat) : Nat × Notif (HV α) → Option Nat
  | (k, .next (.obs j)) => if k = 0 then some (j + 1) else cur
  | _ => cur

/-- an accepted inner element is forwarded iff its inner is the latest -/
def swOut {α} (cur : Option Nat) : Nat × Notif (HV α) → List α
  | (k, .next (.val v)) => if k ≠ 0 ∧ cur = some k then [v] else []
  | _ => []

def swSpec {α} : Option Nat → List (Nat × Notif (HV α)) → List α
  | _, [] => []
  | cur, a :: r => swOut cur a ++ swSpec (swCur cur a) r

/-- what the completion rule remembers: the latest arrived inner, whether IT has completed since, whether the outer completed -/
structure SwT where
  cur : Option Nat := none
  curDone : Bool := false
  outerDone : Bool := false

def swTStep {α} (t : SwT) : Nat × Notif (HV α) → SwT
  | (k, .next (.obs j)) => if k = 0 then { cur := some (j + 1), curDone := false, outerDone := t.outerDone } else t
  | (k, .completed) =>
    if k = 0 then { t with outerDone := true }
    else if t.cur = some k then { t with curDone := true } else t
  | _ => t

/-- the outer completed, and there is no latest inner or it completed -/
def swRule (t : SwT) : Prop := t.outerDone = true ∧ (t.cur = none ∨ t.curDone = true)

/-- `swHandler`'s branches: 1 an arrival, 2 an `obs` from an inner; 3–5 an element, 6–8 an error, 9–11 the completion, each
of the outer, of the latest inner, of a stale one. -/
theorem sw_handler_out {α} (s : SwSt) (k : Nat) (n : Notif (HV α)) :
    nextVals (cut (actEmits (swHandler s k n).2)) = swOut s.cur (k, n) ∧
    (swHandler s k n).1.cur = swCur s.cur (k, n) := by
  fun_cases swHandler s k n <;> simp [swOut, swCur, actEmits, cut, nextVals, Notif.isTerminal, *] <;> split <;> rfl

theorem swSpec_eq {α} (cur : Option Nat) (acc : List (Nat × Notif (HV α))) :
    swSpec cur acc = specRun swCur swOut cur acc := by
  induction acc generalizing cur with
  | nil => rfl
  | cons a r ih => simp [swSpec, specRun, ih]

theorem swRefines {α} : Refines (swM (α := α)) nextVals (fun _ => True) (·.cur) swCur swOut where
  step := fun _ _ _ => trivial
  handler := fun st k n _ _ => sw_handler_out st.s k n
  tick := fun _ _ => ⟨rfl, rfl⟩

def swAbs (s : SwSt) : SwT := { cur := s.cur, curDone := s.cur.isSome && !s.hasLatest, outerDone := s.stopped }

/-- `has_latest` is only set while there is a latest inner -/
structure SwI (s : SwSt) : Prop where
  nl : s.cur = none → s.hasLatest = false

theorem sw_handler_I {α} (s : SwSt) (k : Nat) (n : Notif (HV α)) (h : SwI s) : SwI (swHandler s k n).1 := by
  refine ⟨?_⟩
  fun_cases swHandler s k n
  case case1 => intro hc; cases hc
  case case10 => intro _; rfl
  all_goals exact h.nl

theorem sw_handler_abs {α} (s : SwSt) (k : Nat) (n : Notif (HV α)) :
    swAbs (swHandler s k n).1 = swTStep (swAbs s) (k, n) := by
  fun_cases swHandler s k n <;> simp [swTStep, swAbs, *]

theorem sw_rule_step {α} (s : SwSt) (k : Nat) (n : Notif (HV α)) (h : SwI s)
    (hr : ¬ swRule (swAbs s)) :
    (Notif.completed ∈ cut (actEmits ((swM (α := α)).handler s k n).2) ↔ swRule (swTStep (swAbs s) (k, n))) := by
  show Notif.completed ∈ cut (actEmits (swHandler s k n).2) ↔ _
  fun_cases swHandler s k n
  case case1 j hk0 =>
    cases hc : s.cur <;> simp [swTStep, swAbs, swRule, hk0, hc, actEmits, cut]
  case case9 hk0 =>
    subst hk0
    simp only [swTStep, if_true, swRule, swAbs]
    cases hl : s.hasLatest
    · cases hc : s.cur <;> simp [actEmits, cut, Notif.isTerminal]
    · have : s.cur ≠ none := fun hc => by have := h.nl hc; rw [hl] at this; cases this
      cases hc : s.cur with
      | none => exact absurd hc this
      | some c => simp [actEmits, cut]
  case case10 hk0 hc =>
    simp only [swTStep, hk0, hc, if_true, if_false, swRule, swAbs]
    cases hs : s.stopped <;> simp [actEmits, cut, Notif.isTerminal]
  all_goals simpa [swTStep, actEmits, cut, Notif.isTerminal, swAbs, *] using hr

theorem swCompletes {α} : Completes (swM (α := α)) (fun st => SwI st.s) (fun s t => swAbs s = t) swTStep swRule where
  step := step_inv_state _ sw_handler_I (fun _ _ h => h)
  silent := fun _ _ => rfl
  handler := fun st _ k n hI _ h => h ▸ ⟨sw_handler_abs st.s k n, sw_rule_step st.s k n hI⟩

end Comb
