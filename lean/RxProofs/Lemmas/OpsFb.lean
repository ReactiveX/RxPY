import RxProofs.Lemmas.Ops
import RxModel.OpsFb
/-!
# Re-entrant (feedback) runs: `runFb = sequential semantics` for operators that commit their state before their
downstream calls (`ROp.Safe`), for every input list and every nesting bound (`runFb_eq_sem`).
-/
namespace Ops
variable {α β : Type}

def noNext (l : List (Notif β)) : Bool := l.all Notif.isTerminal

/-- "state committed before the downstream call": the conditions under which a re-entrant run of a split operator
is its sequential run on the arrival order. `done s` = the operator has decided to terminate. -/
structure ROp.Safe (r : ROp α β) where
  done : r.σ → Bool
  init_not_done : done r.init = false
  /-- once done, `on_next` does nothing at all -/
  done_noop : ∀ s x, done s = true →
    (r.onNext s x).st = s ∧ (r.onNext s x).calls = [] ∧ ∀ d, (r.onNext s x).post d = []
  /-- at most one element is emitted per `on_next`, and it is emitted first -/
  one_next : ∀ s x, done s = false → noNext (r.onNext s x).calls.tail = true
  post_terminal : ∀ s x d, noNext ((r.onNext s x).post d) = true
  post_not_done : ∀ s x d, done d = false → (r.onNext s x).post d = []
  post_done : ∀ s x d, done d = true → done (r.onNext s x).st = true →
    (r.onNext s x).post d = (r.onNext s x).post (r.onNext s x).st
  /-- if a terminal follows the emitted element, the decision was committed before the element was emitted -/
  committed : ∀ s x y ts, done s = false → (r.onNext s x).calls = .next y :: ts →
    ts ++ (r.onNext s x).post (r.onNext s x).st ≠ [] → done (r.onNext s x).st = true
  /-- becoming done emits a terminal -/
  done_terminates : ∀ s x, done s = false → done (r.onNext s x).st = true →
    hasTerminal ((r.onNext s x).calls ++ (r.onNext s x).post (r.onNext s x).st) = true

section
variable {σ : Type} (reenter : FS σ α → α → FS σ α × List (Notif β)) (cn : Bool)

theorem feedCall_down_stopped (s : FS σ α) (c : Notif β) (h : s.down.stopped = true) :
    feedCall reenter cn s c = (s, []) := by
  simp [feedCall, ado_stopped s.down h]

theorem feedCalls_down_stopped (s : FS σ α) (cs : List (Notif β)) (h : s.down.stopped = true) :
    feedCalls reenter cn s cs = (s, []) := by
  induction cs with
  | nil => rfl
  | cons c cs ih => simp [feedCalls, feedCall_down_stopped reenter cn s c h, ih]

theorem feedCall_terminal (s : FS σ α) (c : Notif β) (hc : c.isTerminal = true) (h : s.down.stopped = false) :
    feedCall reenter cn s c
      = ({ s with down := { stopped := true, cbs := s.down.cbs + 1 }, up := disposeAdo s.up }, [c]) := by
  cases c with
  | next v => cases hc
  | error e => simp [feedCall, ado_open s.down h, Notif.isTerminal]
  | completed => simp [feedCall, ado_open s.down h, Notif.isTerminal]

theorem feedCall_next (s : FS σ α) (y : β) (h : s.down.stopped = false) :
    ∃ d' : Ado, d'.stopped = false ∧
      ((feedCall reenter cn s (.next y) = ({ s with down := d' }, [.next y])) ∨
       (∃ x rest, s.pending = .next x :: rest ∧
          feedCall reenter cn s (.next y) =
            ((reenter { s with down := d', pending := rest } x).1,
             .next y :: (reenter { s with down := d', pending := rest } x).2))) := by
  refine ⟨{ stopped := false, cbs := s.down.cbs + 1 }, rfl, ?_⟩
  cases hp : s.pending with
  | nil => left; simp [feedCall, ado_open s.down h, Notif.isTerminal, hp]
  | cons n rest =>
    cases n with
    | next x =>
      cases cn
      · left; simp [feedCall, ado_open s.down h, Notif.isTerminal, hp]
      · right; exact ⟨x, rest, rfl, by simp [feedCall, ado_open s.down h, Notif.isTerminal, hp]⟩
    | error e => left; simp [feedCall, ado_open s.down h, Notif.isTerminal, hp]
    | completed => left; simp [feedCall, ado_open s.down h, Notif.isTerminal, hp]
end

/-! ### the future of a run state: what the sequential (atomic) run still shows -/
def Fut (r : ROp α β) (S : FS r.σ α) : List (Notif β) :=
  if S.up.stopped || S.down.stopped then [] else cut (r.toOp.emits S.st S.pending)

theorem Fut_open (r : ROp α β) (S : FS r.σ α) (hu : S.up.stopped = false) (hd : S.down.stopped = false) :
    Fut r S = cut (r.toOp.emits S.st S.pending) := by simp [Fut, hu, hd]
theorem Fut_of_up_stopped (r : ROp α β) (S : FS r.σ α) (h : S.up.stopped = true) : Fut r S = [] := by simp [Fut, h]
theorem Fut_of_down_stopped (r : ROp α β) (S : FS r.σ α) (h : S.down.stopped = true) : Fut r S = [] := by simp [Fut, h]
theorem Fut_of_no_pending (r : ROp α β) (S : FS r.σ α) (h : S.pending = []) : Fut r S = [] := by simp [Fut, h, Op.emits]

theorem toOp_handle (r : ROp α β) (s : r.σ) (n : Notif α) :
    r.toOp.handle s n = (r.handle s n).atomic := by cases n <;> rfl

theorem ROp.toOp_eq_mk (r : ROp α β) {onNext : r.σ → α → HOut r.σ β} {onError : r.σ → Err → HOut r.σ β}
    {onCompleted : r.σ → HOut r.σ β} (hn : ∀ s x, (r.onNext s x).atomic = onNext s x)
    (he : ∀ s e, (r.onError s e).atomic = onError s e) (hc : ∀ s, (r.onCompleted s).atomic = onCompleted s) :
    r.toOp = ⟨r.σ, r.init, r.pre, r.sub, onNext, onError, onCompleted⟩ := by
  obtain rfl : (fun s x => (r.onNext s x).atomic) = onNext := funext fun s => funext (hn s)
  obtain rfl : (fun s e => (r.onError s e).atomic) = onError := funext fun s => funext (he s)
  obtain rfl : (fun s => (r.onCompleted s).atomic) = onCompleted := funext hc
  rfl

theorem emits_toOp_cons (r : ROp α β) (s : r.σ) (n : Notif α) (p : List (Notif α)) :
    r.toOp.emits s (n :: p) = ((r.handle s n).calls ++ (r.handle s n).post (r.handle s n).st) ++
      (if n.isTerminal then [] else r.toOp.emits (r.handle s n).st p) := by
  simp [Op.emits, toOp_handle, HOutR.atomic]

theorem noNext_hasTerminal (l : List (Notif β)) (h : noNext l = true) (hne : l ≠ []) : hasTerminal l = true := by
  cases l with
  | nil => exact absurd rfl hne
  | cons c cs => cases c <;> simp_all [noNext, Notif.isTerminal]

theorem noNext_append (a b : List (Notif β)) (ha : noNext a = true) (hb : noNext b = true) : noNext (a ++ b) = true := by
  simp_all [noNext]

/-- What one `on_next` of a safe operator can be from a state that is not done: its calls, then what it reads after them
from the state it committed.  `post` read from any other state is left out. -/
inductive SafeStep {σ : Type} (done : σ → Bool) (h : HOutR σ β) : Prop
  | silent (hc : h.calls = []) (hp : h.post h.st = []) (hd : done h.st = false)
  | terminals (hc : noNext h.calls = true) (hne : h.calls ++ h.post h.st ≠ [])
  | one (y : β) (hc : h.calls = [.next y]) (hp : h.post h.st = []) (hd : done h.st = false)
  | last (y : β) (ts : List (Notif β)) (hc : h.calls = .next y :: ts) (hts : noNext ts = true)
      (hne : ts ++ h.post h.st ≠ []) (hd : done h.st = true)

theorem ROp.Safe.step {r : ROp α β} (sf : r.Safe) (s : r.σ) (x : α) (hd : sf.done s = false) :
    SafeStep sf.done (r.onNext s x) := by
  have hone := sf.one_next s x hd
  have hcom := sf.committed s x
  have hdt := sf.done_terminates s x hd
  generalize r.onNext s x = h at *
  have hnd : hasTerminal (h.calls ++ h.post h.st) = false → sf.done h.st = false := fun ht =>
    Bool.eq_false_iff.mpr fun hx => by rw [hdt hx] at ht; cases ht
  cases hc : h.calls with
  | nil =>
    by_cases hp : h.post h.st = []
    · exact .silent hc hp (hnd (by rw [hc, hp]; rfl))
    · exact .terminals (by rw [hc]; rfl) (by rw [hc]; exact hp)
  | cons c ts =>
    rw [hc] at hone
    have hts : noNext ts = true := by simpa using hone
    cases c with
    | next y =>
      by_cases hT : ts ++ h.post h.st = []
      · obtain ⟨rfl, hp⟩ := List.append_eq_nil_iff.mp hT
        exact .one y hc hp (hnd (by rw [hc, hp]; rfl))
      · exact .last y ts hc hts hT (hcom y ts hd hc hT)
    | error e => exact .terminals (by rw [hc]; exact hts) (by rw [hc]; exact List.cons_ne_nil _ _)
    | completed => exact .terminals (by rw [hc]; exact hts) (by rw [hc]; exact List.cons_ne_nil _ _)

/-- the invariant between two deliveries from the top level: an operator that is done and still subscribed has closed its
subscriber (inside a handler, between an element and the terminal behind it, this fails) -/
def Settled {r : ROp α β} (sf : r.Safe) (S : FS r.σ α) : Prop :=
  S.up.stopped = true ∨ S.down.stopped = true ∨ sf.done S.st = false

section
variable {r : ROp α β} {sf : r.Safe} {S : FS r.σ α}
theorem Settled.of_up (h : S.up.stopped = true) : Settled sf S := .inl h
theorem Settled.of_down (h : S.down.stopped = true) : Settled sf S := .inr (.inl h)
theorem Settled.of_not_done (h : sf.done S.st = false) : Settled sf S := .inr (.inr h)
theorem Settled.closed (h : Settled sf S) (hu : S.up.stopped = false) (hd : sf.done S.st = true) : S.down.stopped = true := by
  rcases h with h | h | h
  · rw [hu] at h; cases h
  · exact h
  · rw [hd] at h; cases h
end

structure Dropped {σ : Type} (S : FS σ α) (R : FS σ α × List (Notif β)) : Prop where
  out : R.2 = []
  st : R.1.st = S.st
  down : R.1.down = S.down
  pending : R.1.pending = S.pending
  up : R.1.up.stopped = S.up.stopped

/-- `fut`: what is shown, then the future of the new state, is the future of the old state with `n` put back.  The last
three clauses are what a handler re-entered half-way reads. -/
structure DeliverOK (r : ROp α β) (sf : r.Safe) (S : FS r.σ α) (n : Notif α) (R : FS r.σ α × List (Notif β)) : Prop where
  len : R.1.pending.length ≤ S.pending.length
  fut : Settled sf S → R.2 ++ Fut r R.1 = Fut r { S with pending := n :: S.pending }
  settled : Settled sf S → Settled sf R.1
  up_stopped : S.up.stopped = true → Dropped S R
  done_dropped : S.up.stopped = false → S.down.stopped = false → sf.done S.st = true → n.isTerminal = false → Dropped S R
  closes : S.up.stopped = false → S.down.stopped = false → sf.done S.st = false → n.isTerminal = false →
    sf.done R.1.st = true → R.1.down.stopped = true

section
variable (r : ROp α β) (sf : r.Safe) (cn : Bool) (fuel : Nat)
  (reenter : FS r.σ α → α → FS r.σ α × List (Notif β))
  (hre : ∀ t x, t.pending.length < fuel → DeliverOK r sf t (.next x) (reenter t x))
include hre

/-- what feeding `cs` to the subscriber of `s` gives when nothing re-enters visibly: as behind a plain observer -/
structure FedPlain {σ : Type} (s : FS σ α) (cs : List (Notif β)) (R : FS σ α × List (Notif β)) : Prop where
  out : R.2 = if s.down.stopped then [] else cut cs
  st : R.1.st = s.st
  len : R.1.pending.length ≤ s.pending.length
  down : R.1.down.stopped = (s.down.stopped || hasTerminal cs)
  up : R.1.up.stopped = (s.up.stopped || (!s.down.stopped && hasTerminal cs))

/-- no element among the calls, or the source subscription closed, so that whatever is fed back is dropped -/
theorem feedCalls_plain (s : FS r.σ α) (cs : List (Notif β)) (h : noNext cs = true ∨ s.up.stopped = true)
    (hl : s.pending.length < fuel + 1) : FedPlain s cs (feedCalls reenter cn s cs) := by
  induction cs generalizing s with
  | nil => cases hd : s.down.stopped <;> constructor <;> simp [feedCalls, hd]
  | cons c cs ih =>
    cases hd : s.down.stopped
    case true => constructor <;> simp [feedCalls_down_stopped reenter cn s (c :: cs) hd, hd]
    by_cases hc : c.isTerminal = true
    · have he := feedCall_terminal reenter cn s c hc hd
      have hrest : ∀ q : FS r.σ α, q.down.stopped = true → feedCalls reenter cn q cs = (q, []) :=
        fun q hq => feedCalls_down_stopped reenter cn q cs hq
      cases c with
      | next v => cases hc
      | error e => constructor <;> simp [feedCalls, hrest, he, hd, disposeAdo_eq]
      | completed => constructor <;> simp [feedCalls, hrest, he, hd, disposeAdo_eq]
    · -- an element: here only with the source subscription closed
      obtain ⟨y, rfl⟩ : ∃ y, c = .next y := by
        cases c with
        | next y => exact ⟨y, rfl⟩
        | error e => exact absurd rfl hc
        | completed => exact absurd rfl hc
      have hn : noNext (.next y :: cs) ≠ true := by simp [noNext, Notif.isTerminal]
      have hu : s.up.stopped = true := h.resolve_left hn
      obtain ⟨d', hd', hcase⟩ := feedCall_next reenter cn s y hd
      rcases hcase with h1 | ⟨x, rest, hp, h1⟩
      · have := ih { s with down := d' } (.inr hu) hl
        simp only [feedCalls, h1]
        exact ⟨by simpa [hd, hd'] using this.out, this.st, this.len, by simpa [hd, hd'] using this.down,
          by simpa [hu] using this.up⟩
      · have ok := hre { s with down := d', pending := rest } x (by simp [hp] at hl ⊢; omega)
        have dr := ok.up_stopped hu
        have hup : (reenter { s with down := d', pending := rest } x).1.up.stopped = true := dr.up.trans hu
        have hlen := ok.len
        simp only at hlen
        have := ih (reenter { s with down := d', pending := rest } x).1 (.inr hup) (by simp [hp] at hl; omega)
        simp only [feedCalls, h1, dr.out]
        refine ⟨by simpa [hd, hd', dr.down] using this.out, this.st.trans dr.st, ?_,
          by simpa [hd, hd', dr.down] using this.down, by simpa [hu, hup] using this.up⟩
        have := this.len; simp [hp]; omega

theorem finish_terminals (q : FS r.σ α) (ts : List (Notif β)) (post : r.σ → List (Notif β))
    (hts : noNext ts = true) (hpost : ∀ d, noNext (post d) = true) (hq : q.down.stopped = false)
    (hT : ts ++ post q.st ≠ []) (hl : q.pending.length < fuel + 1) :
    let a := feedCalls reenter cn q ts
    let b := feedCalls reenter cn a.1 (post a.1.st)
    a.2 ++ b.2 = cut (ts ++ post q.st) ∧ b.1.down.stopped = true ∧ b.1.pending.length ≤ q.pending.length := by
  intro a b
  have fa := feedCalls_plain r sf cn fuel reenter hre q ts (.inl hts) hl
  have fb := feedCalls_plain r sf cn fuel reenter hre a.1 (post a.1.st) (.inl (hpost _)) (Nat.lt_of_le_of_lt fa.len hl)
  refine ⟨?_, ?_, Nat.le_trans fb.len fa.len⟩
  · rw [fa.out, fb.out, fa.down, fa.st, hq, cut_append]; rfl
  · rw [fb.down, fa.down, fa.st, hq, Bool.false_or, ← hasTerminal_append]
    exact noNext_hasTerminal _ (noNext_append _ _ hts (hpost _)) hT
end

def ROp.deliverWith (r : ROp α β) (reenter : FS r.σ α → α → FS r.σ α × List (Notif β)) (cn : Bool)
    (S : FS r.σ α) (n : Notif α) : FS r.σ α × List (Notif β) :=
  match (Ado.step noRaise S.up (toCall n)).2.delivered with
  | none => ({ S with up := (Ado.step noRaise S.up (toCall n)).1 }, [])
  | some m =>
    let h := r.handle S.st m
    let s1 : FS r.σ α := { S with up := (Ado.step noRaise S.up (toCall n)).1, st := h.st }
    let a := feedCalls reenter cn s1 h.calls
    let b := feedCalls reenter cn a.1 (h.post a.1.st)
    (b.1, a.2 ++ b.2)

theorem deliver_succ (r : ROp α β) (bound fuel depth : Nat) (S : FS r.σ α) (n : Notif α) :
    r.deliver bound (fuel + 1) depth S n
      = r.deliverWith (fun t x => r.deliver bound fuel (depth + 1) t (.next x)) (decide (depth < bound)) S n := rfl

theorem cut_terminals_append (ts rest : List (Notif β)) (h : noNext ts = true) (hne : ts ≠ []) :
    cut (ts ++ rest) = cut ts := by
  rw [cut_append, noNext_hasTerminal ts h hne]; exact List.append_nil _

theorem deliver_open_terminal (r : ROp α β) (sf : r.Safe) (fuel : Nat)
    (reenter : FS r.σ α → α → FS r.σ α × List (Notif β)) (cn : Bool)
    (hre : ∀ t x, t.pending.length < fuel → DeliverOK r sf t (.next x) (reenter t x))
    (n : Notif α) (hn : n.isTerminal = true) (S : FS r.σ α) (hup : S.up.stopped = false) (hdn : S.down.stopped = false)
    (hl : S.pending.length < fuel + 1) : DeliverOK r sf S n (r.deliverWith reenter cn S n) := by
  obtain ⟨up, st, down, p⟩ := S
  simp only at hup hdn hl
  simp only [ROp.deliverWith, ado_open up hup, hn, if_true]
  generalize hh : r.handle st n = h
  have fa := feedCalls_plain r sf cn fuel reenter hre ⟨⟨true, up.cbs + 1⟩, h.st, down, p⟩ h.calls (.inr rfl) hl
  generalize feedCalls reenter cn ⟨⟨true, up.cbs + 1⟩, h.st, down, p⟩ h.calls = a at fa
  have fau : a.1.up.stopped = true := fa.up
  have fb := feedCalls_plain r sf cn fuel reenter hre a.1 (h.post a.1.st) (.inr fau) (Nat.lt_of_le_of_lt fa.len hl)
  generalize feedCalls reenter cn a.1 (h.post a.1.st) = b at fb
  have fbu : b.1.up.stopped = true := by rw [fb.up, fau]; rfl
  refine ⟨Nat.le_trans fb.len fa.len, fun _ => ?_, fun _ => .of_up fbu, fun hh => by simp [hup] at hh,
    fun _ _ _ hh => by simp [hn] at hh, fun _ _ _ hh => by simp [hn] at hh⟩
  have hF : Fut r b.1 = [] := Fut_of_up_stopped r _ fbu
  rw [Fut_open r ⟨up, st, down, n :: p⟩ hup hdn, hF, emits_toOp_cons, hh, hn, if_pos rfl, fa.out, fb.out, fa.down, fa.st]
  simp [cut_append, hdn]

theorem DeliverOK.mk_main (r : ROp α β) (sf : r.Safe) (S : FS r.σ α) (n : Notif α) (R : FS r.σ α × List (Notif β))
    (hup : S.up.stopped = false) (hdn : S.down.stopped = false) (hnd : sf.done S.st = false)
    (len : R.1.pending.length ≤ S.pending.length)
    (main : R.2 ++ Fut r R.1 = cut (r.toOp.emits S.st (n :: S.pending)))
    (inv : sf.done R.1.st = true → R.1.down.stopped = true) : DeliverOK r sf S n R :=
  ⟨len, fun _ => main.trans (Fut_open r { S with pending := n :: S.pending } hup hdn).symm,
    fun _ => (Bool.eq_false_or_eq_true (sf.done R.1.st)).elim (fun hx => .of_down (inv hx)) .of_not_done,
    fun h => by simp [hup] at h, fun _ _ h => by simp [hnd] at h, fun _ _ _ _ => inv⟩

theorem deliver_open_next (r : ROp α β) (sf : r.Safe) (fuel : Nat)
    (reenter : FS r.σ α → α → FS r.σ α × List (Notif β)) (cn : Bool)
    (hre : ∀ t x, t.pending.length < fuel → DeliverOK r sf t (.next x) (reenter t x))
    (x0 : α) (S : FS r.σ α) (hup : S.up.stopped = false) (hdn : S.down.stopped = false)
    (hl : S.pending.length < fuel + 1) : DeliverOK r sf S (.next x0) (r.deliverWith reenter cn S (.next x0)) := by
  obtain ⟨up, st, down, p⟩ := S
  simp only at hup hdn hl
  simp only [ROp.deliverWith, ado_open up hup, Notif.isTerminal, Bool.false_eq_true, if_false]
  have hhandle : r.handle st (.next x0) = r.onNext st x0 := rfl
  rw [hhandle]
  cases hd : sf.done st
  case true =>
    obtain ⟨h1, h2, h3⟩ := sf.done_noop st x0 hd
    simp only [h2, h3, feedCalls, h1, List.append_nil]
    exact ⟨Nat.le_refl _, fun h => absurd ((h.closed hup hd).symm.trans hdn) (by decide),
      fun h => absurd ((h.closed hup hd).symm.trans hdn) (by decide), fun h => by simp [hup] at h,
      fun _ _ _ _ => ⟨rfl, rfl, rfl, rfl, hup.symm⟩, fun _ _ h => by simp [hd] at h⟩
  case false =>
    have hstep := sf.step st x0 hd
    have hpt := sf.post_terminal st x0
    have hpnd := sf.post_not_done st x0
    have hem := emits_toOp_cons r st (.next x0) p
    rw [hhandle] at hem
    generalize r.onNext st x0 = h at *
    cases hstep with
    | silent hc hp0 hnd1 =>
      rw [hc] at hem ⊢
      simp only [feedCalls, hp0, List.append_nil]
      apply DeliverOK.mk_main r sf _ _ _ hup hdn hd
      · exact Nat.le_refl _
      · rw [Fut_open r _ rfl hdn, hem, hp0]; simp [Notif.isTerminal]
      · intro hx; simp [hnd1] at hx
    | terminals hq hT =>
      obtain ⟨f1, f2, f3⟩ := finish_terminals r sf cn fuel reenter hre ⟨⟨false, up.cbs + 1⟩, h.st, down, p⟩
        h.calls h.post hq hpt hdn hT hl
      apply DeliverOK.mk_main r sf _ _ _ hup hdn hd
      · exact f3
      · rw [Fut_of_down_stopped r _ f2, List.append_nil, f1, hem,
          cut_terminals_append _ _ (noNext_append _ _ hq (hpt _)) hT]
      · intro _; exact f2
    | one y hc hp0 hnd1 =>
      rw [hc] at hem ⊢
      obtain ⟨d', hd', hcase⟩ := feedCall_next reenter cn ⟨⟨false, up.cbs + 1⟩, h.st, down, p⟩ y hdn
      simp only [feedCalls]
      rcases hcase with h1 | ⟨x1, rest, hp, h1⟩
      · simp only [h1, feedCalls, hp0, List.append_nil]
        apply DeliverOK.mk_main r sf _ _ _ hup hdn hd
        · exact Nat.le_refl _
        · rw [Fut_open r _ rfl hd', hem, hp0]; simp [Notif.isTerminal]
        · intro hx; simp [hnd1] at hx
      · -- re-entered from inside the consumer's `on_next`, in the committed state
        simp only at hp
        have ok := hre ⟨⟨false, up.cbs + 1⟩, h.st, d', rest⟩ x1 (by simp [hp] at hl ⊢; omega)
        have m1 := (ok.fut (.of_not_done hnd1)).trans (Fut_open r _ rfl hd')
        have m3 := ok.closes rfl hd' hnd1
        have hb : feedCalls reenter cn (reenter ⟨⟨false, up.cbs + 1⟩, h.st, d', rest⟩ x1).1
            (h.post (reenter ⟨⟨false, up.cbs + 1⟩, h.st, d', rest⟩ x1).1.st)
            = ((reenter ⟨⟨false, up.cbs + 1⟩, h.st, d', rest⟩ x1).1, []) := by
          cases hx : sf.done (reenter ⟨⟨false, up.cbs + 1⟩, h.st, d', rest⟩ x1).1.st
          · rw [hpnd _ hx]; rfl
          · exact feedCalls_down_stopped _ _ _ _ (m3 rfl hx)
        simp only [h1, hb, List.append_nil]
        apply DeliverOK.mk_main r sf _ _ _ hup hdn hd
        · have := ok.len; simp only at this; simp [hp]; omega
        · simp only [List.cons_append, m1]
          rw [hem, hp0, hp]; simp [Notif.isTerminal]
        · exact m3 rfl
    | last y ts hc hts hT hdone =>
      rw [hc] at hem ⊢
      obtain ⟨d', hd', hcase⟩ := feedCall_next reenter cn ⟨⟨false, up.cbs + 1⟩, h.st, down, p⟩ y hdn
      have hTt : noNext (ts ++ h.post h.st) = true := noNext_append _ _ hts (hpt _)
      simp only [feedCalls]
      have hfin : ∀ (q : FS r.σ α), q.down.stopped = false → q.st = h.st → q.pending.length ≤ p.length →
          DeliverOK r sf ⟨up, st, down, p⟩ (.next x0)
            ((feedCalls reenter cn (feedCalls reenter cn q ts).1 (h.post (feedCalls reenter cn q ts).1.st)).1,
             ([Notif.next y] ++ (feedCalls reenter cn q ts).2) ++
               (feedCalls reenter cn (feedCalls reenter cn q ts).1 (h.post (feedCalls reenter cn q ts).1.st)).2) := by
        intro q hq hqst hqlen
        obtain ⟨f1, f2, f3⟩ := finish_terminals r sf cn fuel reenter hre q ts h.post hts hpt hq
          (by rw [hqst]; exact hT) (Nat.lt_of_le_of_lt hqlen hl)
        apply DeliverOK.mk_main r sf _ _ _ hup hdn hd
        · exact Nat.le_trans f3 hqlen
        · rw [Fut_of_down_stopped r _ f2, List.append_nil, List.append_assoc, f1, hqst, hem]
          simp only [List.cons_append, List.append_assoc, cut_next]
          rw [← List.append_assoc, cut_terminals_append _ _ hTt hT]; simp
        · intro _; exact f2
      rcases hcase with h1 | ⟨x1, rest, hp, h1⟩
      · rw [h1]; exact hfin _ hd' rfl (Nat.le_refl _)
      · -- re-entered between the element and its terminals: the operator is done, the handler does nothing
        simp only at hp
        have ok := hre ⟨⟨false, up.cbs + 1⟩, h.st, d', rest⟩ x1 (by simp [hp] at hl ⊢; omega)
        have dr := ok.done_dropped rfl hd' hdone rfl
        rw [h1, dr.out]
        exact hfin _ (by rw [dr.down]; exact hd') dr.st (by rw [dr.pending, hp]; simp)

theorem deliver_ok (r : ROp α β) (sf : r.Safe) (bound : Nat) :
    ∀ fuel depth (S : FS r.σ α) (n : Notif α), S.pending.length < fuel →
      DeliverOK r sf S n (r.deliver bound fuel depth S n) := by
  intro fuel
  induction fuel with
  | zero => intro _ S _ h; exact absurd h (Nat.not_lt_zero _)
  | succ fuel ih =>
    intro depth S n hl
    have hre : ∀ t x, t.pending.length < fuel →
        DeliverOK r sf t (.next x) ((fun (t : FS r.σ α) (x : α) => r.deliver bound fuel (depth + 1) t (.next x)) t x) :=
      fun t x ht => ih (depth + 1) t (.next x) ht
    rw [deliver_succ]
    generalize (fun (t : FS r.σ α) (x : α) => r.deliver bound fuel (depth + 1) t (.next x)) = reenter at hre ⊢
    generalize decide (depth < bound) = cn
    cases hu : S.up.stopped
    case true =>
      -- the source subscription is closed: the notification is dropped
      have e : r.deliverWith reenter cn S n = (S, []) := by simp [ROp.deliverWith, ado_stopped S.up hu]
      rw [e]
      exact ⟨Nat.le_refl _, fun _ => (Fut_of_up_stopped r S hu).trans (Fut_of_up_stopped r { S with pending := n :: S.pending } hu).symm,
        fun _ => .of_up hu,
        fun _ => ⟨rfl, rfl, rfl, rfl, rfl⟩, fun h => by simp [hu] at h, fun h => by simp [hu] at h⟩
    case false =>
      cases hd : S.down.stopped
      case true =>
        -- the subscriber is stopped: handlers run, nothing is seen
        have e : ∃ u' st', r.deliverWith reenter cn S n = (⟨u', st', S.down, S.pending⟩, []) := by
          simp [ROp.deliverWith, ado_open S.up hu, feedCalls_down_stopped, hd]
        obtain ⟨u', st', e⟩ := e
        rw [e]
        exact ⟨Nat.le_refl _, fun _ => (Fut_of_down_stopped r ⟨u', st', S.down, S.pending⟩ hd).trans
            (Fut_of_down_stopped r { S with pending := n :: S.pending } hd).symm, fun _ => .of_down hd,
          fun h => by simp [hu] at h, fun _ h => by simp [hd] at h, fun _ h => by simp [hd] at h⟩
      case false =>
        cases n with
        | next x0 => exact deliver_open_next r sf fuel reenter cn hre x0 S hu hd hl
        | error e => exact deliver_open_terminal r sf fuel reenter cn hre (.error e) rfl S hu hd hl
        | completed => exact deliver_open_terminal r sf fuel reenter cn hre .completed rfl S hu hd hl

theorem loop_eq (r : ROp α β) (sf : r.Safe) (bound fuel : Nat) :
    ∀ k (S : FS r.σ α), Settled sf S → S.pending.length ≤ k → S.pending.length ≤ fuel →
      r.loop bound fuel k S = Fut r S := by
  intro k
  induction k with
  | zero =>
    intro S _ hk _
    have : S.pending = [] := List.length_eq_zero_iff.mp (Nat.le_zero.mp hk)
    exact (Fut_of_no_pending r S this).symm
  | succ k ih =>
    intro S hJ hk hf
    obtain ⟨up, st, down, p⟩ := S
    cases p with
    | nil => exact (Fut_of_no_pending r _ rfl).symm
    | cons n rest =>
      simp only [List.length_cons] at hk hf
      have ok := deliver_ok r sf bound fuel 1 ⟨up, st, down, rest⟩ n (by simp only; omega)
      have hlen := ok.len
      simp only at hlen
      simp only [ROp.loop]
      rw [ih _ (ok.settled hJ) (by omega) (by omega)]
      exact ok.fut hJ

/-- **runFb_eq_sem.**  For an operator that commits its state before its downstream calls (`ROp.Safe`), the run over a
re-entrant feedback source — every input list, every nesting bound — shows the subscriber exactly what the
sequential run of the arrival order shows: the atomic operator's semantics. -/
theorem runFb_eq_sem (r : ROp α β) (sf : r.Safe) (bound : Nat) (raw : List (Notif α)) :
    r.runFb bound raw = r.toOp.sem raw := by
  unfold ROp.runFb
  obtain ⟨d', hf, hd'⟩ := feed_open {} rfl r.pre
  rw [hf]
  simp only
  have hpre : r.toOp.pre = r.pre := rfl
  have hsub : r.toOp.sub = r.sub := rfl
  have hinit : r.toOp.init = r.init := rfl
  rw [loop_eq r sf bound (raw.length + 1) (raw.length + 1) _ (.of_not_done sf.init_not_done) (by simp) (by simp)]
  simp only [Op.sem, hpre, hsub, hinit, Fut]
  rw [cut_append]
  cases hT : hasTerminal r.pre <;> cases r.sub <;> simp [disposeAdo_eq, hd', hT]

/-- a `SafeStep` whose `post` reads only whether the operator is done by then (`take`'s `if not remaining:`) -/
structure HOutR.Committed {σ : Type} (done : σ → Bool) (h : HOutR σ β) : Prop where
  post_eq : ∃ T, noNext T = true ∧ ∀ d, h.post d = if done d then T else []
  shape : SafeStep done h

namespace HOutR.Committed
variable {σ : Type} {done : σ → Bool} {st : σ}

theorem remit_post (out : List (Notif β)) :
    ∃ T, noNext T = true ∧ ∀ d, (remit st out).post d = if done d then T else [] :=
  ⟨[], rfl, fun _ => (ite_self _).symm⟩

theorem silent (hd : done st = false) : (remit st ([] : List (Notif β))).Committed done :=
  ⟨remit_post _, .silent rfl rfl hd⟩

theorem one (y : β) (hd : done st = false) : (remit st [.next y]).Committed done :=
  ⟨remit_post _, .one y rfl rfl hd⟩

theorem terminal {c : Notif β} (hc : c.isTerminal = true) (ts : List (Notif β)) (hts : noNext ts = true) :
    (remit st (c :: ts)).Committed done :=
  ⟨remit_post _, .terminals (by show (c.isTerminal && noNext ts) = true; rw [hc, hts]; rfl) (List.cons_ne_nil _ _)⟩

theorem last (y : β) {ts : List (Notif β)} (hd : done st = true) (hts : noNext ts = true) (hne : ts ≠ []) :
    (remit st (.next y :: ts)).Committed done :=
  ⟨remit_post _, .last y ts rfl hts (by show ts ++ [] ≠ []; rwa [List.append_nil]) hd⟩

theorem oneThen (y : β) {T : List (Notif β)} (hT : noNext T = true) (hne : T ≠ []) :
    (⟨st, [.next y], fun d => if done d then T else []⟩ : HOutR σ β).Committed done := by
  refine ⟨⟨T, hT, fun _ => rfl⟩, ?_⟩
  cases hd : done st
  · exact .one y rfl (by show (if done st = true then T else []) = []; rw [hd]; rfl) hd
  · exact .last y [] rfl rfl (by show [] ++ (if done st = true then T else []) ≠ []; rw [hd]; exact hne) hd

end HOutR.Committed

theorem noNext_tail (l : List (Notif β)) (h : noNext l = true) : noNext l.tail = true := by
  cases l with
  | nil => rfl
  | cons c cs => exact (Bool.and_eq_true _ _ ▸ h : c.isTerminal = true ∧ noNext cs = true).2

def ROp.Safe.ofCommitted (r : ROp α β) (done : r.σ → Bool) (h0 : done r.init = false)
    (hnoop : ∀ s x, done s = true → r.onNext s x = remit s [])
    (hc : ∀ s x, done s = false → (r.onNext s x).Committed done) : r.Safe :=
  have post : ∀ s x, ∃ T, noNext T = true ∧ ∀ d, (r.onNext s x).post d = if done d then T else [] := fun s x => by
    cases hd : done s
    · exact (hc s x hd).post_eq
    · rw [hnoop s x hd]; exact HOutR.Committed.remit_post _
  have hpt : ∀ s x d, noNext ((r.onNext s x).post d) = true := fun s x d => by
    obtain ⟨T, hT, hp⟩ := post s x
    rw [hp]
    cases done d
    · rfl
    · exact hT
  { done := done
    init_not_done := h0
    done_noop := fun s x hd => by rw [hnoop s x hd]; exact ⟨rfl, rfl, fun _ => rfl⟩
    one_next := fun s x hd => by
      cases (hc s x hd).shape with
      | silent hc _ _ => rw [hc]; rfl
      | terminals hq _ => exact noNext_tail _ hq
      | one y hc _ _ => rw [hc]; rfl
      | last y ts hc hts _ _ => rw [hc]; exact hts
    post_terminal := hpt
    post_not_done := fun s x d hd => by
      obtain ⟨T, _, hp⟩ := post s x
      rw [hp, hd]; rfl
    post_done := fun s x d hd hst => by
      obtain ⟨T, _, hp⟩ := post s x
      rw [hp, hp, hd, hst]
    committed := fun s x y ts hd hcalls hT => by
      cases (hc s x hd).shape with
      | silent hc _ _ => rw [hc] at hcalls; cases hcalls
      | terminals hq _ => rw [hcalls] at hq; cases hq
      | one y' hc hp _ =>
        rw [hc] at hcalls
        obtain rfl := (List.cons.inj hcalls).2
        exact absurd hp hT
      | last _ _ _ _ _ hd' => exact hd'
    done_terminates := fun s x hd h => by
      cases (hc s x hd).shape with
      | silent _ _ hnd => rw [hnd] at h; cases h
      | terminals hq hne => exact noNext_hasTerminal _ (noNext_append _ _ hq (hpt s x _)) hne
      | one _ _ _ hnd => rw [hnd] at h; cases h
      | last y ts hc hts hne _ =>
        rw [hc]
        show hasTerminal (ts ++ _) = true
        exact noNext_hasTerminal _ (noNext_append _ _ hts (hpt s x _)) hne }

structure ROp.Sound (r : ROp α β) (op : Op α β) where
  safe : r.Safe
  toOp : r.toOp = op

def ROp.Sound.of (r : ROp α β) {onNext : r.σ → α → HOut r.σ β} {onError : r.σ → Err → HOut r.σ β}
    {onCompleted : r.σ → HOut r.σ β} (done : r.σ → Bool) (h0 : done r.init = false)
    (hnoop : ∀ s x, done s = true → r.onNext s x = remit s [])
    (hn : ∀ s x, (r.onNext s x).atomic = onNext s x ∧ (done s = false → (r.onNext s x).Committed done))
    (he : ∀ s e, (r.onError s e).atomic = onError s e) (hc : ∀ s, (r.onCompleted s).atomic = onCompleted s) :
    r.Sound ⟨r.σ, r.init, r.pre, r.sub, onNext, onError, onCompleted⟩ :=
  ⟨.ofCommitted r done h0 hnoop fun s x h => (hn s x).2 h, r.toOp_eq_mk (fun s x => (hn s x).1) he hc⟩

theorem ROp.Sound.runFb_eq {r : ROp α β} {op : Op α β} (h : r.Sound op) (bound : Nat) (raw : List (Notif α)) :
    r.runFb bound raw = op.sem raw := by
  rw [runFb_eq_sem r h.safe, h.toOp]

end Ops
