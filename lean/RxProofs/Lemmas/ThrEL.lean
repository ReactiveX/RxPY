import RxModel.ThrEL
import RxProofs.Lemmas.ThrList
import RxProofs.Lemmas.ThrTQ
/-!
# EventLoopScheduler model, one thread step: what it does to the shared state, and what that keeps (C31)
-/
namespace Thr.EL

def nLoop : List Frame → Nat
  | [] => 0
  | .loop _ _ :: rest => 1 + nLoop rest
  | _ :: rest => nLoop rest

/-- frames of a scheduled action being executed -/
def nRun : List Frame → Nat
  | [] => 0
  | .act (some _) _ :: rest => 1 + nRun rest
  | .chk (some _) _ _ :: rest => 1 + nRun rest
  | .enq (some _) _ _ :: rest => 1 + nRun rest
  | _ :: rest => nRun rest

def isClient : Frame → Bool
  | .act none _ => true
  | .chk none _ _ => true
  | .enq none _ _ => true
  | _ => false
def isInner : Frame → Bool
  | .act (some _) _ => true
  | .chk (some _) _ _ => true
  | .enq (some _) _ _ => true
  | _ => false

inductive Shape : List Frame → Prop where
  | nil : Shape []
  | client (m) : isClient m = true → Shape [m]
  | loop (ph ready) : (ph ≠ .exec → ready = []) → Shape [.loop ph ready]
  | inner (f ready) : isInner f = true → Shape [f, .loop .exec ready]

theorem shape_counts {st : List Frame} (h : Shape st) : nRun st ≤ nLoop st ∧ nLoop st ≤ 1 := by
  cases h with
  | nil => simp [nRun, nLoop]
  | client m hm =>
    cases m with
    | act id ops => cases id <;> simp_all [nRun, nLoop, isClient]
    | chk id it ops => cases id <;> simp_all [nRun, nLoop, isClient]
    | enq id it ops => cases id <;> simp_all [nRun, nLoop, isClient]
    | loop ph r => simp [isClient] at hm
  | loop ph ready _ => simp [nRun, nLoop]
  | inner f ready hf =>
    cases f with
    | act id ops => cases id <;> simp_all [nRun, nLoop, isInner]
    | chk id it ops => cases id <;> simp_all [nRun, nLoop, isInner]
    | enq id it ops => cases id <;> simp_all [nRun, nLoop, isInner]
    | loop ph r => simp [isInner] at hf

theorem filter_take_drop {α} (p f : α → Bool) (l : List α) :
    (l.takeWhile p).filter f ++ (l.dropWhile p).filter f = l.filter f := by
  rw [← List.filter_append, List.takeWhile_append_dropWhile]

theorem merge_nil_queue (t : Int) (rl : List Item) : (merge t [] rl).2 = [] := rfl

/-- no immediate item is gathered before a timed item that is due earlier -/
def CrossOk (a b : Item) : Prop := ¬ (a.imm = true ∧ b.imm = false ∧ b.due < a.due)

/-- the merge loop, gathering `g` from the queue `qs` and the ready list `rl` and leaving `rest`, only interleaves -/
structure Gathered (t : Int) (qs rl g rest : List Item) : Prop where
  imm : g.filter (·.imm) = rl
  timed : g.filter (fun x => !x.imm) ++ rest = qs
  due : ∀ x ∈ g, x.imm = false → x.due ≤ t
  cross : qs.Pairwise (fun a b => a.due ≤ b.due) → g.Pairwise CrossOk

theorem merge_spec (t : Int) (qs rl : List Item) (hr : ∀ r ∈ rl, r.imm = true) (hq : ∀ q ∈ qs, q.imm = false) :
    Gathered t qs rl (merge t qs rl).1 (merge t qs rl).2 := by
  have imms : ∀ l : List Item, (∀ r ∈ l, r.imm = true) → l.filter (fun x => !x.imm) = [] ∧ Gathered t [] l l [] := fun l hl =>
    have hn : l.filter (fun x => !x.imm) = [] := List.filter_eq_nil_iff.mpr fun a ha => by simp [hl a ha]
    ⟨hn, List.filter_eq_self.mpr hl, by rw [hn]; rfl, fun x hx h => by simp [hl x hx] at h,
      fun _ => List.pairwise_of_forall_mem_list fun a _ b hb h => by simp [hl b hb] at h⟩
  induction qs generalizing rl with
  | nil => exact (imms rl hr).2
  | cons q qs ih =>
    have hq0 : q.imm = false := hq q List.mem_cons_self
    have hsplit := List.takeWhile_append_dropWhile (p := fun r : Item => decide (q.due > r.due)) (l := rl)
    have hA : ∀ r ∈ rl.takeWhile (fun r => decide (q.due > r.due)), r.imm = true :=
      fun r hx => hr r ((List.takeWhile_sublist _).subset hx)
    have hD : ∀ r ∈ rl.dropWhile (fun r => decide (q.due > r.due)), r.imm = true :=
      fun r hx => hr r ((List.dropWhile_sublist _).subset hx)
    simp only [merge]
    split
    · rw [hsplit]
      obtain ⟨hn, g⟩ := imms rl hr
      exact ⟨g.imm, by rw [hn]; rfl, g.due, fun _ => g.cross .nil⟩
    · rename_i hle
      have g := ih _ hD fun x hx => hq x (List.mem_cons_of_mem _ hx)
      obtain ⟨a2, a⟩ := imms _ hA
      refine ⟨?_, ?_, fun x hx hi => ?_, fun hs => ?_⟩
      · rw [List.filter_append, List.filter_cons, hq0, a.imm, g.imm]; exact hsplit
      · rw [List.filter_append, List.filter_cons, hq0, a2]; exact congrArg (q :: ·) g.timed
      · rcases List.mem_append.mp hx with hx | hx
        · rw [hA x hx] at hi; cases hi
        · rcases List.mem_cons.mp hx with rfl | hx
          · omega
          · exact g.due x hx hi
      · rw [List.pairwise_cons] at hs
        refine List.pairwise_append.mpr ⟨a.cross .nil, List.pairwise_cons.mpr ⟨fun b _ h => by simp [hq0] at h, g.cross hs.2⟩, ?_⟩
        -- an immediate item put before `q` is due before `q`, and `q` is due no later than the rest of the queue
        rintro a ha b hb ⟨_, hbt, hlt⟩
        have had : a.due < q.due := by simpa using List.mem_takeWhile_imp _ _ a ha
        rcases List.mem_cons.mp hb with rfl | hb
        · omega
        · have : b ∈ qs := by
            rw [← g.timed]; exact List.mem_append_left _ (List.mem_filter.mpr ⟨hb, by simp [hbt]⟩)
          have := hs.1 b this; omega

theorem merge_due (t : Int) (qs rl : List Item) (hr : ∀ r ∈ rl, r.imm = true) (hq : ∀ q ∈ qs, q.imm = false)
    (hd : ∀ r ∈ rl, r.due ≤ t) : ∀ x ∈ (merge t qs rl).1, x.due ≤ t := by
  have g := merge_spec t qs rl hr hq
  intro x hx
  cases hi : x.imm
  · exact g.due x hx hi
  · exact hd x (g.imm ▸ List.mem_filter.mpr ⟨hx, hi⟩)

theorem notify_ne (w : WS) : notify w ≠ .waitingU := by cases w <;> simp [notify]

theorem enqueue_eq_insertDue (q : List Item) (n : Item) : enqueue q n = insertDue (·.due) q n := by
  induction q with
  | nil => rfl
  | cons x xs ih => simp only [enqueue, insertDue, ih]

def readyOf : List Frame → List Item
  | [] => []
  | .loop _ r :: rest => r ++ readyOf rest
  | _ :: rest => readyOf rest
def readyT (th : Th) : List Item := readyOf th.stack
def readyAll (ths : List Th) : List Item := ths.flatMap readyT

def key (it : Item) : Int × Nat := (it.due, it.seq)

/-- sequence numbers of the immediately-due submissions, oldest first -/
def immEnq : List Ev → List Nat
  | [] => []
  | .enq _ _ seq true _ :: r => immEnq r ++ [seq]
  | _ :: r => immEnq r
/-- sequence numbers of the immediately-due items taken out of the loop's batch (started, or found cancelled) -/
def immPop : List Ev → List Nat
  | [] => []
  | .start _ _ _ seq true _ :: r => immPop r ++ [seq]
  | .skip _ _ _ seq true :: r => immPop r ++ [seq]
  | _ :: r => immPop r
/-- (due, seq) of the timed items taken out of the loop's batch, oldest first -/
def tPop : List Ev → List (Int × Nat)
  | [] => []
  | .start _ _ due seq false _ :: r => tPop r ++ [(due, seq)]
  | .skip _ _ due seq false :: r => tPop r ++ [(due, seq)]
  | _ :: r => tPop r

def okCancel : List Ev → Prop
  | [] => True
  | .start _ id _ _ _ _ :: rest => (∀ t, Ev.cancel t id ∉ rest) ∧ okCancel rest
  | _ :: rest => okCancel rest

/-- after the (first) dispose no `schedule*` call passes the `_is_disposed` test and the loop gathers nothing -/
def okDisp : List Ev → Prop
  | [] => True
  | .passed _ _ :: rest => (∀ t, Ev.dispose t true ∉ rest) ∧ okDisp rest
  | .collect _ _ _ :: rest => (∀ t, Ev.dispose t true ∉ rest) ∧ okDisp rest
  | _ :: rest => okDisp rest

def neutral : Ev → Bool
  | .enq .. => false
  | .start .. => false
  | .skip .. => false
  | .collect .. => false
  | _ => true

def nSpawn : List Ev → Nat
  | [] => 0
  | .enq _ _ _ _ (some _) :: r => 1 + nSpawn r
  | _ :: r => nSpawn r

/-- events that touch neither `cancelled` nor `disposed` -/
def plainEv : Ev → Bool
  | .cancel .. => false
  | .dispose _ true => false
  | .passed .. => false
  | _ => true

theorem plainEv_ne {e : Ev} (h : plainEv e = true) : (∀ t k, e ≠ .cancel t k) ∧ (∀ t, e ≠ .dispose t true) ∧ (∀ t id, e ≠ .passed t id) :=
  ⟨fun _ _ he => (by subst he; cases h), fun _ he => (by subst he; cases h), fun _ _ he => (by subst he; cases h)⟩

structure Unseen (es l : List Ev) : Prop where
  enq : immEnq (es ++ l) = immEnq l
  pop : immPop (es ++ l) = immPop l
  tpop : tPop (es ++ l) = tPop l
  cancel : okCancel (es ++ l) = okCancel l
  spawn : nSpawn (es ++ l) = nSpawn l

theorem neutral_log {es : List Ev} (hes : es = [] ∨ ∃ e, es = [e] ∧ neutral e = true) (l : List Ev) : Unseen es l := by
  rcases hes with rfl | ⟨e, rfl, he⟩
  · exact ⟨rfl, rfl, rfl, rfl, rfl⟩
  · cases e <;> first | exact ⟨rfl, rfl, rfl, rfl, rfl⟩ | cases he

/-- the effect of a step from a well-shaped stack, the new shared state as one record update -/
inductive Eff (xie : Bool) (me nth : Nat) (sh : Sh) (st : List Frame) (sh' : Sh) (st' : List Frame) (spawn : Bool) : Prop where
  | quiet (c : Int) (cs : List Nat) (es : List Ev)
      (hsh : sh' = { sh with clock := c, cancelled := cs, log := es ++ sh.log })
      (hc : sh.clock ≤ c) (hes : es = [] ∨ ∃ e, es = [e] ∧ neutral e = true)
      (hcan : ∀ k, (k ∈ sh.cancelled ∨ ∃ t, Ev.cancel t k ∈ es) → k ∈ cs)
      (hnd : ∀ t, Ev.dispose t true ∉ es) (hps : ∀ t id, Ev.passed t id ∈ es → sh.disposed = false)
      (hl : nLoop st' = nLoop st) (hr : readyOf st' = readyOf st) (hsp : spawn = false)
  | dispose (hsh : sh' = { sh with disposed := true, wstate := notify sh.wstate, log := .dispose me true :: sh.log })
      (hl : nLoop st' = nLoop st) (hr : readyOf st' = readyOf st) (hsp : spawn = false)
  | enq (it : Item)
      (hsh : sh' = { sh with
        readyList := if decide (it.due ≤ sh.clock) then
            sh.readyList ++ [{ it with seq := sh.nsched, imm := decide (it.due ≤ sh.clock) }] else sh.readyList,
        queue := if decide (it.due ≤ sh.clock) then sh.queue else
            enqueue sh.queue { it with seq := sh.nsched, imm := decide (it.due ≤ sh.clock) },
        wstate := notify sh.wstate,
        thread := if sh.thread.isNone then some nth else sh.thread,
        nsched := sh.nsched + 1,
        log := .enq me it.id sh.nsched (decide (it.due ≤ sh.clock)) (if sh.thread.isNone then some nth else none) :: sh.log })
      (hl : nLoop st' = nLoop st) (hr : readyOf st' = readyOf st) (hsp : spawn = sh.thread.isNone)
  | exitDisposed (hd : sh.disposed = true) (hsh : sh' = { sh with log := .exitDisposed me :: sh.log })
      (hst : st = [.loop .top []]) (hst' : st' = []) (hsp : spawn = false)
  /-- exit_if_empty: nothing pending, the loop thread gives up `_thread` and returns -/
  | exitEmpty (hx : xie = true) (hrl : sh.readyList = []) (hq : sh.queue = [])
      (hsh : sh' = { sh with thread := none, log := .exitEmpty me :: sh.log })
      (hst : st = [.loop .check []]) (hst' : st' = []) (hsp : spawn = false)
  | collect (hd : sh.disposed = false)
      (hsh : sh' = { sh with
        readyList := [], queue := (merge sh.clock sh.queue sh.readyList).2,
        log := .collect me ((merge sh.clock sh.queue sh.readyList).1.map (·.id)) sh.clock :: sh.log })
      (hst : st = [.loop .top []]) (hst' : st' = [.loop .exec (merge sh.clock sh.queue sh.readyList).1]) (hsp : spawn = false)
  | pop (it : Item) (ready : List Item) (started : Bool) (hnc : started = true → it.id ∉ sh.cancelled)
      (hsh : sh' = { sh with log :=
        (if started then Ev.start me it.id it.due it.seq it.imm sh.clock else Ev.skip me it.id it.due it.seq it.imm) :: sh.log })
      (hst : st = [.loop .exec (it :: ready)]) (hl : nLoop st' = 1) (hr : readyOf st' = ready) (hsp : spawn = false)
  /-- `_ready_list` is empty: the loop blocks, timed if the queue is not empty, untimed otherwise -/
  | wait (w : WS) (e : Ev) (hrl : sh.readyList = [])
      (hw : (w = .waitingT ∧ ∃ d, e = .waitT me d) ∨ (w = .waitingU ∧ sh.queue = [] ∧ e = .waitU me))
      (hsh : sh' = { sh with wstate := w, log := e :: sh.log })
      (hl : nLoop st' = nLoop st) (hr : readyOf st' = readyOf st) (hsp : spawn = false)
  | woke (hsh : sh' = { sh with wstate := .none, log := .woke me :: sh.log })
      (hl : nLoop st' = nLoop st) (hr : readyOf st' = readyOf st) (hsp : spawn = false)

theorem Eff.log {xie me nth sh st sh' st' spawn} (e : Ev) (he : neutral e = true)
    (hsh : sh' = { sh with log := e :: sh.log })
    (hp : plainEv e = true := by rfl)
    (hl : nLoop st' = nLoop st) (hr : readyOf st' = readyOf st) (hsp : spawn = false) :
    Eff xie me nth sh st sh' st' spawn :=
  .quiet sh.clock sh.cancelled [e] hsh (Int.le_refl _) (.inr ⟨e, rfl, he⟩)
    (fun k hk => hk.elim id (fun ⟨t, ht⟩ => absurd (List.mem_singleton.mp ht).symm ((plainEv_ne hp).1 t k)))
    (fun t ht => (plainEv_ne hp).2.1 t (List.mem_singleton.mp ht).symm) (fun t id ht => absurd (List.mem_singleton.mp ht).symm ((plainEv_ne hp).2.2 t id))
    hl hr hsp

theorem Eff.silent {xie me nth sh st sh' st' spawn} (c : Int) (hsh : sh' = { sh with clock := c }) (hc : sh.clock ≤ c)
    (hl : nLoop st' = nLoop st) (hr : readyOf st' = readyOf st) (hsp : spawn = false) :
    Eff xie me nth sh st sh' st' spawn :=
  .quiet c sh.cancelled [] hsh hc (.inl rfl) (fun _ hk => hk.elim id (fun ⟨_, ht⟩ => absurd ht List.not_mem_nil))
    (fun _ => List.not_mem_nil) (fun _ _ ht => absurd ht List.not_mem_nil) hl hr hsp

theorem top_eff (xie : Bool) (me nth : Nat) (sh : Sh) (f : Frame) (rest : List Frame) (hf : ∀ ph r, f ≠ .loop ph r) :
    Eff xie me nth sh (f :: rest) (thStep xie me nth sh ⟨f :: rest⟩).1 (thStep xie me nth sh ⟨f :: rest⟩).2.1.stack
      (thStep xie me nth sh ⟨f :: rest⟩).2.2 := by
  rcases sh with ⟨clk, disp, rl, q, thr, ws, can, ns, log⟩
  cases f with
  | act id ops =>
    cases ops with
    | nil =>
      cases id with
      | none => exact .silent clk rfl (Int.le_refl _) rfl rfl rfl
      | some j => exact .log (.fin me j) rfl rfl rfl rfl rfl rfl
    | cons op ops =>
      cases op with
      | tick d => exact .silent (clk + d) rfl (by show clk ≤ clk + d; omega) rfl rfl rfl
      | cancel k =>
        exact .quiet clk (k :: can) [.cancel me k] rfl (Int.le_refl _) (.inr ⟨_, rfl, rfl⟩) (by simp [or_comm]) (by simp) (by simp) rfl rfl rfl
      | dispose =>
        cases disp
        · exact .dispose rfl rfl rfl rfl
        · exact .log (.dispose me false) rfl rfl rfl rfl rfl rfl
      | sched l b => exact .log (.sched me l clk clk) rfl rfl rfl rfl rfl rfl
      | schedRel l d b => exact .log (.sched me l (clk + max d 0) clk) rfl rfl rfl rfl rfl rfl
      | schedAbs l t b => exact .log (.sched me l t clk) rfl rfl rfl rfl rfl rfl
  | chk id it ops =>
    cases disp
    · exact .quiet clk can [.passed me it.id] rfl (Int.le_refl _) (.inr ⟨_, rfl, rfl⟩) (by simp) (by simp) (by simp) rfl rfl rfl
    · exact .log (.raised me it.id) rfl rfl rfl rfl rfl rfl
  | enq id it ops => exact .enq it rfl rfl rfl rfl
  | loop ph r => exact absurd rfl (hf ph r)

theorem top_stack (xie : Bool) (me nth : Nat) (sh : Sh) (f : Frame) (rest : List Frame) (hf : ∀ ph r, f ≠ .loop ph r) :
    (thStep xie me nth sh ⟨f :: rest⟩).2.1.stack = rest ∨
      ∃ f', (thStep xie me nth sh ⟨f :: rest⟩).2.1.stack = f' :: rest ∧ isClient f' = isClient f ∧ isInner f' = isInner f := by
  rcases sh with ⟨clk, disp, rl, q, thr, ws, can, ns, log⟩
  cases f with
  | act id ops =>
    cases ops with
    | nil => exact .inl rfl
    | cons op ops => cases id <;> cases op <;> cases disp <;> exact .inr ⟨_, rfl, rfl, rfl⟩
  | chk id it ops => cases id <;> cases disp <;> exact .inr ⟨_, rfl, rfl, rfl⟩
  | enq id it ops => cases id <;> exact .inr ⟨_, rfl, rfl, rfl⟩
  | loop ph r => exact absurd rfl (hf ph r)

theorem thStep_spec (xie : Bool) (me nth : Nat) (sh : Sh) (th : Th) (h : Shape th.stack) :
    Shape (thStep xie me nth sh th).2.1.stack ∧
    Eff xie me nth sh th.stack (thStep xie me nth sh th).1 (thStep xie me nth sh th).2.1.stack (thStep xie me nth sh th).2.2 := by
  rcases th with ⟨stack⟩
  cases h with
  | nil => exact ⟨.nil, .silent sh.clock rfl (Int.le_refl _) rfl rfl rfl⟩
  | client m hm =>
    have hf : ∀ ph r, m ≠ .loop ph r := by intro ph r hh; subst hh; cases hm
    refine ⟨?_, top_eff xie me nth sh m [] hf⟩
    rcases top_stack xie me nth sh m [] hf with hst | ⟨f', hst, hc, _⟩
    · rw [hst]; exact .nil
    · rw [hst]; exact .client f' (hc.trans hm)
  | inner f ready hfi =>
    have hf : ∀ ph r, f ≠ .loop ph r := by intro ph r hh; subst hh; cases hfi
    refine ⟨?_, top_eff xie me nth sh f _ hf⟩
    rcases top_stack xie me nth sh f [.loop .exec ready] hf with hst | ⟨f', hst, _, hi⟩
    · rw [hst]; exact .loop _ _ (fun h => absurd rfl h)
    · rw [hst]; exact .inner f' ready (hi.trans hfi)
  | loop ph ready hre =>
    rcases sh with ⟨clk, disp, rl, q, thr, ws, can, ns, log⟩
    cases ph with
    | top =>
      cases hre (by simp)
      cases disp
      · exact ⟨.loop _ _ (fun h => absurd rfl h), .collect rfl rfl rfl rfl rfl⟩
      · exact ⟨.nil, .exitDisposed rfl rfl rfl rfl rfl⟩
    | exec =>
      cases ready with
      | nil => exact ⟨.loop _ _ (fun _ => rfl), .silent clk rfl (Int.le_refl _) rfl rfl rfl⟩
      | cons it ready =>
        by_cases hc : it.id ∈ can
        · simp only [thStep, if_pos hc]
          exact ⟨.loop _ _ (fun h => absurd rfl h), .pop it ready false nofun rfl rfl rfl (List.append_nil _) rfl⟩
        · simp only [thStep, if_neg hc]
          exact ⟨.inner _ _ rfl, .pop it ready true (fun _ => hc) rfl rfl rfl (List.append_nil _) rfl⟩
    | check =>
      cases hre (by simp)
      cases rl with
      | cons r rs => exact ⟨.loop _ _ (fun _ => rfl), .log (.cont me) rfl rfl rfl rfl rfl rfl⟩
      | nil =>
        cases q with
        | cons it qs =>
          by_cases hd : it.due > clk
          · simp only [thStep, if_pos hd]
            exact ⟨.loop _ _ (fun _ => rfl), .wait .waitingT (.waitT me it.due) rfl (.inl ⟨rfl, _, rfl⟩) rfl rfl rfl rfl⟩
          · simp only [thStep, if_neg hd]
            exact ⟨.loop _ _ (fun _ => rfl), .log (.recheck me) rfl rfl rfl rfl rfl rfl⟩
        | nil =>
          cases xie
          · exact ⟨.loop _ _ (fun _ => rfl), .wait .waitingU (.waitU me) rfl (.inr ⟨rfl, rfl, rfl⟩) rfl rfl rfl rfl⟩
          · exact ⟨.nil, .exitEmpty rfl rfl rfl rfl rfl rfl rfl⟩
    | waitU =>
      cases hre (by simp)
      by_cases hn : ws = .notified
      · simp only [thStep, if_pos hn]
        exact ⟨.loop _ _ (fun _ => rfl), .woke rfl rfl rfl rfl⟩
      · simp only [thStep, if_neg hn]
        exact ⟨.loop _ _ (fun _ => rfl), .silent clk rfl (Int.le_refl _) rfl rfl rfl⟩
    | waitT =>
      cases hre (by simp)
      exact ⟨.loop _ _ (fun _ => rfl), .woke rfl rfl rfl rfl⟩

/-- one loop thread, the threads summed up: `n` loop frames exist, `has t` = thread `t` exists and holds one -/
structure E1s (sh : Sh) (n : Nat) (has : Nat → Prop) : Prop where
  mx : n ≤ 1 ∧ (sh.thread = none → n = 0)
  w : sh.wstate = .waitingU → sh.readyList = [] ∧ sh.queue = []
  pt : sh.readyList ≠ [] ∨ sh.queue ≠ [] → sh.thread ≠ none
  al : ∀ t, sh.thread = some t → sh.disposed = false → has t

theorem Eff.e1 {xie me nth sh st sh' st' spawn} (e : Eff xie me nth sh st sh' st' spawn) {n n' : Nat} {has has' : Nat → Prop}
    (h : E1s sh n has) (hle : nLoop st ≤ n) (hn : n' + nLoop st = n + nLoop st' + spawn.toNat)
    (hoth : ∀ t, t ≠ me → has t → has' t) (hme : nLoop st' = nLoop st → has me → has' me) (hnew : spawn = true → has' nth) :
    E1s sh' n' has' := by
  obtain ⟨mx, w, pt, al⟩ := h
  -- for the kinds that leave `_thread` and `disposed` alone
  have mxk : spawn = false → nLoop st' ≤ nLoop st → n' ≤ 1 ∧ (sh.thread = none → n' = 0) := fun hsp hl => by
    subst hsp; have := mx.2; simp only [Bool.toNat_false] at hn; exact ⟨by omega, fun ht => by have := this ht; omega⟩
  have alk : nLoop st' = nLoop st → ∀ t, sh.thread = some t → sh.disposed = false → has' t := fun hl t ht hd => by
    by_cases htm : t = me
    · exact htm ▸ hme hl (htm ▸ al t ht hd)
    · exact hoth t htm (al t ht hd)
  cases e with
  | quiet c cs es hsh hc hes hcan hnd hps hl hr hsp => subst hsh; exact ⟨mxk hsp (Nat.le_of_eq hl), w, pt, alk hl⟩
  | dispose hsh hl hr hsp =>
    subst hsh; exact ⟨mxk hsp (Nat.le_of_eq hl), fun hw => absurd hw (notify_ne _), pt, fun _ _ hd => nomatch hd⟩
  | enq it hsh hl hr hsp =>
    subst hsh hsp
    -- the submission creates the loop thread if there is none: then no loop frame existed
    cases ht : sh.thread with
    | none =>
      have := mx.2 ht
      refine ⟨⟨by simp [ht] at hn; omega, nofun⟩, fun hw => absurd hw (notify_ne _), fun _ => nofun, fun t h _ => ?_⟩
      cases h; exact hnew (by rw [ht]; rfl)
    | some t0 =>
      refine ⟨⟨by simp [ht] at hn; omega, nofun⟩, fun hw => absurd hw (notify_ne _), fun _ => nofun, fun t h hd => alk hl t (ht ▸ h) hd⟩
  | exitDisposed hd hsh hst hst' hsp =>
    subst hsh; exact ⟨mxk hsp (by rw [hst']; exact Nat.zero_le _), w, pt, fun _ _ hd' => by rw [hd] at hd'; cases hd'⟩
  | exitEmpty hx hrl hq hsh hst hst' hsp =>
    subst hsh hsp hst hst'
    simp only [nLoop, Bool.toNat_false] at hn hle
    exact ⟨⟨by omega, fun _ => by omega⟩, w, fun hne => hne.elim (absurd hrl) (absurd hq), fun _ ht => nomatch ht⟩
  | collect hd hsh hst hst' hsp =>
    subst hsh
    have hl : nLoop st' = nLoop st := by rw [hst, hst']; rfl
    refine ⟨mxk hsp (Nat.le_of_eq hl), fun hw => ⟨rfl, ?_⟩, fun hne => pt (.inr fun hq0 => ?_), alk hl⟩
    · show (merge sh.clock sh.queue sh.readyList).2 = []
      rw [(w hw).2]; exact merge_nil_queue _ _
    · refine hne.elim (fun h1 => h1 rfl) (fun h1 => h1 ?_)
      show (merge sh.clock sh.queue sh.readyList).2 = []
      rw [hq0]; exact merge_nil_queue _ _
  | pop it ready started hnc hsh hst hl hr hsp =>
    subst hsh
    have hl : nLoop st' = nLoop st := by rw [hst, hl]; rfl
    exact ⟨mxk hsp (Nat.le_of_eq hl), w, pt, alk hl⟩
  | wait w' e hrl hw hsh hl hr hsp =>
    subst hsh
    refine ⟨mxk hsp (Nat.le_of_eq hl), fun hw' => ?_, pt, alk hl⟩
    rcases hw with ⟨rfl, _⟩ | ⟨_, hq, _⟩
    · cases hw'
    · exact ⟨hrl, hq⟩
  | woke hsh hl hr hsp => subst hsh; exact ⟨mxk hsp (Nat.le_of_eq hl), (fun hw => nomatch hw), pt, alk hl⟩

theorem Eff.loops {xie me nth sh st sh' st' spawn} (e : Eff xie me nth sh st sh' st' spawn) : nLoop st' ≤ nLoop st := by
  cases e with
  | exitDisposed hd hsh hst hst' hsp => rw [hst']; exact Nat.zero_le _
  | exitEmpty hx hrl hq hsh hst hst' hsp => rw [hst']; exact Nat.zero_le _
  | collect hd hsh hst hst' hsp => rw [hst, hst']; exact Nat.le_refl _
  | pop it ready started hnc hsh hst hl hr hsp => rw [hst, hl]; exact Nat.le_refl _
  | quiet _ _ _ _ _ _ _ _ _ hl | dispose _ hl | enq _ _ hl | wait _ _ _ _ _ hl | woke _ hl => exact Nat.le_of_eq hl

theorem Eff.spawn {me nth sh st sh' st' spawn} (e : Eff false me nth sh st sh' st' spawn)
    (h : nSpawn sh.log = sh.thread.isSome.toNat) : nSpawn sh'.log = sh'.thread.isSome.toNat := by
  cases e
  case quiet c cs es hsh hc hes hcan hnd hps hl hr hsp =>
    subst hsh
    exact (neutral_log hes sh.log).spawn.trans h
  case enq it hsh hl hr hsp =>
    subst hsh
    show nSpawn (Ev.enq me it.id sh.nsched _ (if sh.thread.isNone then some nth else none) :: sh.log)
      = (if sh.thread.isNone then some nth else sh.thread).isSome.toNat
    cases ht : sh.thread <;> simp_all [nSpawn]
  case exitEmpty hx hrl hq hsh hst hst' hsp => cases hx
  case pop it ready started hnc hsh hst hl hr hsp => subst hsh; cases started <;> exact h
  case wait w e hrl hw hsh hl hr hsp => subst hsh; rcases hw with ⟨_, d, rfl⟩ | ⟨_, _, rfl⟩ <;> exact h
  -- the other kinds log no submission and leave `_thread` alone
  all_goals (subst_vars; exact h)

end Thr.EL
