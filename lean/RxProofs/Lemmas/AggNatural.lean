import RxModel.AggOps
import RxProofs.Lemmas.AggBase
import RxProofs.Lemmas.OpsNatural
/-!
# Naturality of the aggregating operators (support for C08), through the L1 framework

`Agg.Op` and `Ops.Op` model the same handler triples around two run machines (observers as flags / as `Ado`; no `pre`, `sub`, `disp` here).
`Op.toOps` carries an operator over, `out_eq_sem` says both machines show the subscriber the same; naturality is then the L1 one.
`(f ⨾ g).toOps` is not `f.toOps.comp g.toOps` (the middle observer is a flag and never disposes its source), hence `Natural.aggComp`.
-/
namespace Agg

variable {α α' β β' γ γ' : Type}

def mapN {α α'} (ρ : α → α') (raw : List (Notif α)) : List (Notif α') := raw.map (Notif.map ρ)

theorem mapN_id (l : List (Notif β)) : mapN id l = l := Ops.mapN_id l

def HOut.toOps {σ : Type} (h : HOut σ β) : Ops.HOut σ β := ⟨h.st, h.calls, h.esc, false⟩

/-- no `pre`, always subscribes, never disposes its own source -/
def Op.toOps (op : Op α β) : Ops.Op α β where
  σ := op.σ
  init := op.init
  onNext s x := (op.onNext s x).toOps
  onError s e := (op.onError s e).toOps
  onCompleted s := (op.onCompleted s).toOps

/-- `Ops.HOut.rename` on this side -/
def HOut.rename {σ σ' : Type} (φ : σ → σ') (g : β → β') (h : HOut σ β) : HOut σ' β' := ⟨φ h.st, mapN g h.calls, h.esc⟩

theorem Op.nat_of {op : Op α β} {op' : Op α' β'} {ρ : α → α'} {g : β → β'} (φ : op.σ → op'.σ) (hinit : op'.init = φ op.init)
    (hN : ∀ s x, op'.onNext (φ s) (ρ x) = (op.onNext s x).rename φ g)
    (hE : ∀ s e, op'.onError (φ s) e = (op.onError s e).rename φ g)
    (hC : ∀ s, op'.onCompleted (φ s) = (op.onCompleted s).rename φ g) : Ops.Op.Nat op.toOps op'.toOps ρ g φ where
  init := hinit
  onNext s x := congrArg HOut.toOps (hN s x)
  onError s e := congrArg HOut.toOps (hE s e)
  onCompleted s := congrArg HOut.toOps (hC s)

theorem cut_eq (l : List (Notif β)) : cut l = Ops.cut l := by
  induction l with
  | nil => rfl
  | cons n l ih => cases n <;> simp [cut, Notif.isTerminal, ih]

theorem Op.feed_cut (op : Op α β) (s : op.σ) (raw : List (Notif α)) : op.feed s (cut raw) = op.toOps.emits s raw := by
  induction raw generalizing s with
  | nil => rfl
  | cons n r ih =>
    cases n with
    | next v => exact congrArg ((op.onNext s v).calls ++ ·) (ih _)
    | error e => exact (List.append_nil _).trans (List.append_nil _).symm
    | completed => exact (List.append_nil _).trans (List.append_nil _).symm

theorem Op.out_eq_sem (op : Op α β) (lag : Bool) (raw : List (Notif α)) : op.out lag raw = op.toOps.sem raw := by
  rw [Op.out_eq, cut_eq, Op.feed_cut]; rfl

theorem Op.toOps_comp_sem (f : Op α β) (g : Op β γ) (raw : List (Notif α)) :
    (f ⨾ g).toOps.sem raw = g.toOps.sem (f.toOps.sem raw) := by
  rw [← Op.out_eq_sem _ false, Op.out_comp f g false false false, Op.out_eq_sem, Op.out_eq_sem]


theorem natural_out {α α' β β'} {op : Op α β} {op' : Op α' β'} {ρ : α → α'} {σ : β → β'}
    (h : Ops.Natural op.toOps op'.toOps ρ σ) (lag : Bool) (raw : List (Notif α)) :
    op'.out lag (mapN ρ raw) = mapN σ (op.out lag raw) := by
  rw [Op.out_eq_sem, Op.out_eq_sem]; exact h raw

end Agg

namespace Ops
variable {α α' β β' γ γ' : Type}

theorem Natural.aggComp {a : Agg.Op α β} {a' : Agg.Op α' β'} {b : Agg.Op β γ} {b' : Agg.Op β' γ'} {ρ : α → α'}
    {g : β → β'} {k : γ → γ'} (ha : Natural a.toOps a'.toOps ρ g) (hb : Natural b.toOps b'.toOps g k) :
    Natural (a ⨾ b).toOps (a' ⨾ b').toOps ρ k := fun raw => by
  rw [Agg.Op.toOps_comp_sem, Agg.Op.toOps_comp_sem, ha, hb]

theorem Natural.refl (op : Op α β) : Natural op op id id := fun raw => by rw [mapN_id, mapN_id]

end Ops

namespace Agg

section Prims
variable {α α' β β' κ ν ν' : Type} (ρ : α → α')

/-- `map` is modelled twice (`RxModel/AggOps`, `RxModel/OpsElem`) -/
theorem mapO_toOps (f : α → Except Err β) : (mapO f).toOps = Ops.mapOp f := by
  unfold Op.toOps mapO Ops.mapOp; congr; funext s x; dsimp only; cases f x <;> rfl

theorem mapO_natural (σ : β → β') (f : α → Except Err β) (f' : α' → Except Err β') (hf : ∀ x, f' (ρ x) = (f x).map σ) :
    Ops.Natural (mapO f).toOps (mapO f').toOps ρ σ := by
  rw [mapO_toOps, mapO_toOps]; exact (Ops.mapOp_nat ρ σ f f' hf).natural

theorem filterO_toOps (p : α → Except Err Bool) : (filterO p).toOps = Ops.filterOp p := by
  unfold Op.toOps filterO Ops.filterOp; congr; funext s x; dsimp only
  cases p x with
  | error e => rfl
  | ok b => cases b <;> rfl

theorem filterO_natural (p : α → Except Err Bool) (p' : α' → Except Err Bool) (hp : ∀ x, p' (ρ x) = p x) :
    Ops.Natural (filterO p).toOps (filterO p').toOps ρ ρ := by
  rw [filterO_toOps, filterO_toOps]; exact (Ops.filterOp_nat ρ p p' hp).natural

theorem scanO_nat (σ : β → β') (f : β → α → Except Err β) (f' : β' → α' → Except Err β') (seed : Option β) (inj : α → β) (inj' : α' → β')
    (hf : ∀ a x, f' (σ a) (ρ x) = (f a x).map σ) (hinj : ∀ x, inj' (ρ x) = σ (inj x)) :
    Ops.Op.Nat (scanO f seed inj).toOps (scanO f' (seed.map σ) inj').toOps ρ σ (Option.map σ) := by
  have hproj : ∀ s x, scanProj f' (seed.map σ) inj' (s.map σ) (ρ x) = (scanProj f seed inj s x).map σ := by
    intro s x
    cases s with
    | some a => exact hf a x
    | none =>
      cases seed with
      | some sd => exact hf sd x
      | none => exact congrArg Except.ok (hinj x)
  refine Op.nat_of _ rfl (fun (s : Option β) x => ?_) (fun _ _ => rfl) (fun _ => rfl)
  simp only [scanO]; rw [hproj]; cases scanProj f seed inj s x <;> rfl

theorem lastOrDefaultO_nat (d : Option α) :
    Ops.Op.Nat (lastOrDefaultO d).toOps (lastOrDefaultO (d.map ρ)).toOps ρ ρ (fun s => (s.1.map ρ, s.2)) :=
  Op.nat_of _ rfl (fun _ _ => rfl) (fun _ _ => rfl)
    (fun s => by obtain ⟨v, seen⟩ := s; cases seen <;> cases d <;> cases v <;> rfl)

theorem firstOrDefaultO_nat (d : Option α) : Ops.Op.Nat (firstOrDefaultO d).toOps (firstOrDefaultO (d.map ρ)).toOps ρ ρ id :=
  Op.nat_of _ rfl (fun (s : Bool) _ => by cases s <;> rfl) (fun (s : Bool) _ => by cases s <;> rfl)
    (fun (s : Bool) => by cases s <;> cases d <;> rfl)

theorem singleOrDefaultO_nat (d : Option α) :
    Ops.Op.Nat (singleOrDefaultO d).toOps (singleOrDefaultO (d.map ρ)).toOps ρ ρ (fun s => (s.1.map ρ, s.2)) :=
  Op.nat_of _ rfl (fun s _ => by obtain ⟨v, seen⟩ := s; cases seen <;> rfl) (fun _ _ => rfl)
    (fun s => by obtain ⟨v, seen⟩ := s; cases seen <;> cases d <;> cases v <;> rfl)

theorem someOp_nat : Ops.Op.Nat (someOp : Op α Bool).toOps (someOp : Op α' Bool).toOps ρ id id :=
  Op.nat_of _ rfl (fun (s : Bool) _ => by cases s <;> rfl) (fun (s : Bool) _ => by cases s <;> rfl)
    (fun (s : Bool) => by cases s <;> rfl)

theorem toListO_nat : Ops.Op.Nat (toListO : Op α (List α)).toOps (toListO : Op α' (List α')).toOps ρ (List.map ρ) (List.map ρ) :=
  Op.nat_of _ rfl (fun (s : List α) x => by simp [toListO, HOut.rename, mapN]) (fun _ _ => rfl) (fun _ => rfl)

theorem setAdd_map (eq : α → α → Bool) (eq' : α' → α' → Bool) (heq : ∀ a b, eq' (ρ a) (ρ b) = eq a b) (s : List α) (x : α) :
    setAdd eq' (s.map ρ) (ρ x) = (setAdd eq s x).map ρ := by
  unfold setAdd
  have : (s.map ρ).any (fun y => eq' y (ρ x)) = s.any (fun y => eq y x) := by
    induction s with
    | nil => rfl
    | cons a s ih => simp [heq, ih]
  rw [this]; split <;> simp

theorem toSetO_nat (eq : α → α → Bool) (eq' : α' → α' → Bool) (heq : ∀ a b, eq' (ρ a) (ρ b) = eq a b) :
    Ops.Op.Nat (toSetO eq).toOps (toSetO eq').toOps ρ (List.map ρ) (List.map ρ) :=
  Op.nat_of _ rfl (fun (s : List α) x => by simp [toSetO, HOut.rename, mapN, setAdd_map ρ eq eq' heq])
    (fun _ _ => rfl) (fun _ => rfl)

theorem extremaByO_nat {κ' : Type} (κρ : κ → κ') (key : α → Except Err κ) (key' : α' → Except Err κ')
    (cmp : κ → κ → Except Err Int) (cmp' : κ' → κ' → Except Err Int)
    (hkey : ∀ x, key' (ρ x) = (key x).map κρ) (hcmp : ∀ a b, cmp' (κρ a) (κρ b) = cmp a b) :
    Ops.Op.Nat (extremaByO key cmp).toOps (extremaByO key' cmp').toOps ρ (List.map ρ) (fun s => (s.1.map κρ, s.2.map ρ)) := by
  have hstep : ∀ (s : Option κ × List α) x, extremaStep key' cmp' (s.1.map κρ, s.2.map ρ) (ρ x)
      = (extremaStep key cmp s x).map (fun s => (s.1.map κρ, s.2.map ρ)) := by
    intro s x
    obtain ⟨lk, items⟩ := s
    simp only [extremaStep, hkey]
    cases key x with
    | error e => rfl
    | ok k =>
      cases lk with
      | none => simp [Except.map]
      | some l =>
        simp only [Except.map, Option.map_some, hcmp]
        cases cmp k l with
        | error e => rfl
        | ok c => by_cases h1 : c > 0 <;> by_cases h2 : c ≥ 0 <;> simp [h1, h2]
  refine Op.nat_of _ rfl (fun (s : Option κ × List α) x => ?_) (fun _ _ => rfl) (fun _ => rfl)
  simp only [extremaByO]; rw [hstep]; cases extremaStep key cmp s x <;> rfl

theorem dictSet_map (eq : κ → κ → Bool) (τ : ν → ν') (m : List (κ × ν)) (k : κ) (v : ν) :
    dictSet eq (m.map (fun p => (p.1, τ p.2))) k (τ v) = (dictSet eq m k v).map (fun p => (p.1, τ p.2)) := by
  induction m with
  | nil => rfl
  | cons p m ih => obtain ⟨k0, v0⟩ := p; simp only [List.map_cons, dictSet]; split <;> simp [ih]

theorem toDictO_nat (eq : κ → κ → Bool) (τ : ν → ν') (key : α → Except Err κ) (key' : α' → Except Err κ)
    (elem : α → Except Err ν) (elem' : α' → Except Err ν') (hkey : ∀ x, key' (ρ x) = key x) (helem : ∀ x, elem' (ρ x) = (elem x).map τ) :
    Ops.Op.Nat (toDictO eq key elem).toOps (toDictO eq key' elem').toOps ρ (List.map (fun p => (p.1, τ p.2))) (List.map (fun p => (p.1, τ p.2))) := by
  have hstep : ∀ s x, dictStep eq key' elem' (s.map (fun p => (p.1, τ p.2))) (ρ x)
      = (dictStep eq key elem s x).map (List.map (fun p => (p.1, τ p.2))) := by
    intro s x
    simp only [dictStep, hkey, helem]
    cases key x with
    | error e => rfl
    | ok k => cases elem x with
      | error e => rfl
      | ok v => simp [Except.map, dictSet_map]
  refine Op.nat_of _ rfl (fun (s : List (κ × ν)) x => ?_) (fun _ _ => rfl) (fun _ => rfl)
  simp only [toDictO]; rw [hstep]; cases dictStep eq key elem s x <;> rfl

theorem reduceO_natural (σ : β → β') (f : β → α → Except Err β) (f' : β' → α' → Except Err β') (seed : Option β) (inj : α → β) (inj' : α' → β')
    (hf : ∀ a x, f' (σ a) (ρ x) = (f a x).map σ) (hinj : ∀ x, inj' (ρ x) = σ (inj x)) :
    Ops.Natural (reduceO f seed inj).toOps (reduceO f' (seed.map σ) inj').toOps ρ σ := by
  cases seed with
  | none => exact (scanO_nat ρ σ f f' none inj inj' hf hinj).natural.aggComp (lastOrDefaultO_nat σ none).natural
  | some sd => exact (scanO_nat ρ σ f f' (some sd) inj inj' hf hinj).natural.aggComp (lastOrDefaultO_nat σ (some sd)).natural

theorem map_key_natural (key : α → Except Err β) (key' : α' → Except Err β) (hkey : ∀ x, key' (ρ x) = key x) :
    Ops.Natural (mapO key).toOps (mapO key').toOps ρ id :=
  mapO_natural ρ id key key' (fun x => by rw [hkey]; cases key x <;> rfl)

theorem firstOnly_map (l : List α) : firstOnly (l.map ρ) = (firstOnly l).map ρ := by cases l <;> rfl
end Prims

end Agg
