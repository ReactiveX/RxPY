import RxProofs.Lemmas.TimedSim
import RxProofs.Lemmas.TimedRate
/-! debounce with re-entrant feedback: the scheduler simulation with echoes (`simRunFb (debOp d)`) against the rule. -/

namespace Timed

/-- the echo the consumer pushes on receiving `x` as its `k`-th delivery (echoes do not echo) -/
def echoFor {α} (echo : Nat → Option α) (isEcho : α → Bool) (k : Nat) (x : α) : Option α :=
  if isEcho x then none else echo k

/-- what the pending element (arrived at `t`) and its echo do before a source notification at `t'`:
(emitted, new delivery counter, what is pending at `t'`) -/
def debPre {α} (d : Nat) (echo : Nat → Option α) (isEcho : α → Bool) (k : Nat) (pend : Option (Nat × α)) (t' : Nat) :
    TL α × Nat × Option (Nat × α) :=
  match pend with
  | none => ([], k, none)
  | some (t, x) =>
    if t + d < t' then
      match echoFor echo isEcho k x with
      | some e =>
        if t + d + d < t' then ([(t + d, .next x), (t + d + d, .next e)], k + 2, none)
        else ([(t + d, .next x)], k + 1, some (t + d, e))
      | none => ([(t + d, .next x)], k + 1, none)
    else ([], k, some (t, x))

/-- An element is emitted `d` after its arrival iff the next source notification is later;
the echo the consumer pushes at that emission arrives at that instant and is emitted `d` later under the same condition;
a completion flushes what is pending, an error drops it. -/
def debSpecFb {α} (d : Nat) (echo : Nat → Option α) (isEcho : α → Bool) : Nat → Option (Nat × α) → TL α → TL α
  | _, none, [] => []
  | k, some (t, x), [] =>
    (t + d, .next x) :: (match echoFor echo isEcho k x with | some e => [(t + d + d, .next e)] | none => [])
  | k, pend, (t', n') :: tl =>
    (debPre d echo isEcho k pend t').1 ++
      match n' with
      | .next x' => debSpecFb d echo isEcho (debPre d echo isEcho k pend t').2.1 (some (t', x')) tl
      | .error e => [(t', .error e)]
      | .completed =>
        (match (debPre d echo isEcho k pend t').2.2 with | some (_, x) => [(t', Notif.next x)] | none => []) ++ [(t', .completed)]

/-- the source notification itself, once what was pending has (or has not) fired -/
def debMsgSpec {α} (d : Nat) (echo : Nat → Option α) (isEcho : α → Bool) (k : Nat) (pend : Option (Nat × α)) (t' : Nat)
    (n' : Notif α) (tl : TL α) : TL α :=
  match n' with
  | .next x' => debSpecFb d echo isEcho k (some (t', x')) tl
  | .error e => [(t', .error e)]
  | .completed => (match pend with | some (_, x) => [(t', Notif.next x)] | none => []) ++ [(t', .completed)]

theorem debSpecFb_cons {α} (d : Nat) (echo : Nat → Option α) (isEcho : α → Bool) (k : Nat) (pend : Option (Nat × α))
    (t' : Nat) (n' : Notif α) (tl : TL α) :
    debSpecFb d echo isEcho k pend ((t', n') :: tl) =
      (debPre d echo isEcho k pend t').1 ++
        debMsgSpec d echo isEcho (debPre d echo isEcho k pend t').2.1 (debPre d echo isEcho k pend t').2.2 t' n' tl := by
  cases pend <;> cases n' <;> simp [debSpecFb, debMsgSpec]

theorem simRunFb_nil {σ α β P} (op : SimOp σ α β P) (other : Nat → TL β) (echo : Nat → Option α) (isEcho : β → Bool)
    (fuel k clk : Nat) (s : σ) : simRunFb op other echo isEcho fuel k clk [] s = [] := by
  cases fuel <;> rfl

theorem debAction_pending {α} (s : DebSt α) (t d : Nat) (x : α) (h : DebPending s t d x) :
    (debAction s s.id).2 = [Notif.next x] ∧ DebIdle (debAction s s.id).1 := by
  obtain ⟨h1, h2, _⟩ := h
  simp [debAction, h1, debEmit, h2, DebIdle]

section
variable {α : Type} (d : Nat) (other : Nat → TL α) (echo : Nat → Option α) (isEcho : α → Bool)

/-- one source element: `on_next` re-arms the timer (SerialDisposable: the previous action is cancelled) -/
theorem deb_fb_step_next (f k clk t' : Nat) (x' : α) (q : SQueue α Nat) (s : DebSt α) (hc : clk ≤ t') :
    simRunFb (debOp d) other echo isEcho (f + 1) k clk ((t', SItem.src (Notif.next x')) :: q) s =
      simRunFb (debOp d) other echo isEcho f k t'
        (insertEv (t' + d, SItem.timer (s.id + 1)) (cancelTimers q)) (debOnNext d t' s x') := by
  simp only [timeline_simp, simRunFb, Nat.max_eq_right hc, debOp_onSrc_next, echoesOf, Bool.false_eq_true, if_false,
    List.map_nil, List.nil_append, applyEff]

theorem deb_fb_step_timer (f k clk t : Nat) (x : α) (q : SQueue α Nat) (s : DebSt α) (hp : DebPending s t d x)
    (hc : clk ≤ t + d) :
    simRunFb (debOp d) other echo isEcho (f + 1) k clk ((t + d, SItem.timer s.id) :: q) s =
      (t + d, Notif.next x) ::
        simRunFb (debOp d) other echo isEcho f (k + 1) (t + d)
          ((match echoFor echo isEcho k x with
            | some e => [(t + d, SItem.src (Notif.next e))]
            | none => []) ++ q) (debAction s s.id).1 := by
  obtain ⟨ho, _⟩ := debAction_pending s t d x hp
  simp only [timeline_simp, simRunFb, Nat.max_eq_right hc, debOp_onTimer, ho, Bool.false_eq_true, if_false, Bool.not_true, Bool.or_false, List.singleton_append]
  unfold echoFor
  cases hx : isEcho x
  · cases he : echo k <;> simp [echoesOf, hx, he]
  · simp [echoesOf, hx]

theorem deb_fb_idle_onNext_pending (t' : Nat) (s : DebSt α) (x' : α) : DebPending (debOnNext d t' s x') t' d x' :=
  debOnNext_pending d t' s x'

theorem deb_fb_step_error (f k clk t' : Nat) (e : Err) (q : SQueue α Nat) (s : DebSt α) (hc : clk ≤ t') :
    simRunFb (debOp d) other echo isEcho (f + 1) k clk ((t', SItem.src (Notif.error e)) :: q) s = [(t', .error e)] := by
  simp [timeline_simp, simRunFb, Nat.max_eq_right hc, debOp_onSrc_error, debOnError]

theorem deb_fb_step_completed (f k clk t' : Nat) (q : SQueue α Nat) (s : DebSt α) (hc : clk ≤ t') :
    simRunFb (debOp d) other echo isEcho (f + 1) k clk ((t', SItem.src Notif.completed) :: q) s
      = at_ t' (debOnCompleted s).2 := by
  have hterm : hasTerm (debOnCompleted s).2 = true := by simp [timeline_simp, debOnCompleted]
  simp only [simRunFb, Nat.max_eq_right hc, debOp_onSrc_completed, hterm, if_true, List.append_nil]

/-- the timer of the pending element: the one action in the queue -/
def debTm (s : DebSt α) : Option (Nat × α) → Option (Nat × Nat)
  | none => none
  | some (t, _) => some (t + d, s.id)

/-- the scheduler items a pending element still needs: its timer, and for an element that may echo also the echo and the
echo's timer -/
def debCost : Option (Nat × α) → Nat
  | none => 0
  | some (_, x) => if isEcho x then 1 else 3

theorem debCost_le (pend : Option (Nat × α)) : debCost isEcho pend ≤ 3 := by
  cases pend with
  | none => exact Nat.zero_le _
  | some tx => simp only [debCost]; split <;> omega

theorem debCost_pos (t : Nat) (x : α) : 1 ≤ debCost isEcho (some (t, x)) := by
  simp only [debCost]; split <;> omega

theorem debSpecFb_fire (hE : ∀ k e, echo k = some e → isEcho e = true) (k t : Nat) (x : α) (msgs : TL α)
    (hq : ∀ t' n' tl, msgs = (t', n') :: tl → t + d < t') :
    debSpecFb d echo isEcho k (some (t, x)) msgs =
      (t + d, .next x) ::
        debSpecFb d echo isEcho (k + 1) ((echoFor echo isEcho k x).map (fun e => (t + d, e))) msgs := by
  have he2 : ∀ e, echoFor echo isEcho k x = some e → echoFor echo isEcho (k + 1) e = none := by
    intro e he
    unfold echoFor at he ⊢
    cases hx : isEcho x <;> simp [hx] at he
    simp [hE k e he]
  cases msgs with
  | nil =>
    cases he : echoFor echo isEcho k x with
    | none => simp [debSpecFb, he]
    | some e => simp [debSpecFb, he, he2 e he]
  | cons a tl =>
    obtain ⟨t', n'⟩ := a
    have hlt := hq t' n' tl rfl
    rw [debSpecFb_cons, debSpecFb_cons]
    cases he : echoFor echo isEcho k x with
    | none => simp [debPre, hlt, he]
    | some e => by_cases hlt2 : t + d + d < t' <;> simp [debPre, hlt, he, hlt2, he2 e he]

/-- From any state between two items: `pend` is what the operator holds (`DebHolds`), its timer the one scheduled action
(`debTm`).  By induction on the fuel; `4·|msgs| + debCost pend` bounds the items still to run. -/
theorem deb_fb_run (hE : ∀ k e, echo k = some e → isEcho e = true) :
    ∀ (fuel : Nat) (msgs : TL α) (pend : Option (Nat × α)) (k clk : Nat) (s : DebSt α),
      Mono clk msgs → 4 * msgs.length + debCost isEcho pend ≤ fuel → DebHolds d s pend →
      (∀ t x, pend = some (t, x) → clk ≤ t + d) →
      simRunFb (debOp d) other echo isEcho fuel k clk (simQueue msgs (debTm d s pend)) s
        = debSpecFb d echo isEcho k pend msgs := by
  intro fuel
  induction fuel using Nat.strongRecOn with
  | ind fuel ih =>
  intro msgs pend k clk s hm hf hh hp
  cases fuel with
  | zero =>
    obtain rfl : msgs = [] := List.eq_nil_of_length_eq_zero (by omega)
    cases pend with
    | none => rfl
    | some tx => obtain ⟨t, x⟩ := tx; have := debCost_pos isEcho t x; omega
  | succ f =>
    have src : ∀ t' n' tl, msgs = (t', n') :: tl → (∀ t x, pend = some (t, x) → ¬ t + d < t') →
        simRunFb (debOp d) other echo isEcho (f + 1) k clk (simQueue msgs (debTm d s pend)) s
          = debSpecFb d echo isEcho k pend msgs := by
      intro t' n' tl hmsgs hnf
      subst hmsgs
      simp only [List.length_cons] at hf
      obtain ⟨q, hq1, hq2⟩ : ∃ q, simQueue ((t', n') :: tl) (debTm d s pend) = (t', SItem.src n') :: q ∧
          cancelTimers q = srcItems tl := by
        cases pend with
        | none => exact ⟨srcItems tl, rfl, cancelTimers_srcItems tl⟩
        | some tx =>
          obtain ⟨t, x⟩ := tx
          have := hnf t x rfl
          refine ⟨insertEv (t + d, SItem.timer s.id) (srcItems tl), ?_, cancelTimers_insert _ _ tl⟩
          simp [debTm, simQueue, srcItems, insertEv, this]
      have hpre : debPre d echo isEcho k pend t' = ([], k, pend) := by
        cases pend with
        | none => rfl
        | some tx => obtain ⟨t, x⟩ := tx; simp [debPre, hnf t x rfl]
      rw [hq1, debSpecFb_cons, hpre]
      simp only [List.nil_append, debMsgSpec]
      cases n' with
      | next x' =>
        rw [deb_fb_step_next d other echo isEcho f k clk t' x' q s hm.1, hq2]
        have := debCost_le isEcho (some (t', x'))
        exact ih f (Nat.lt_succ_self f) tl (some (t', x')) k t' _ hm.2 (by omega) (debOnNext_pending d t' s x')
          (by intro t x h; cases h; omega)
      | error e => exact deb_fb_step_error d other echo isEcho f k clk t' e q s hm.1
      | completed =>
        rw [deb_fb_step_completed d other echo isEcho f k clk t' q s hm.1]
        cases pend with
        | none => obtain ⟨_, h2⟩ := hh; simp [timeline_simp, debOnCompleted, h2]
        | some tx => obtain ⟨t, x⟩ := tx; obtain ⟨h1, h2, _⟩ := hh; simp [timeline_simp, debOnCompleted, h1, debEmit, h2]
    have fire : ∀ t x, pend = some (t, x) → (∀ t' n' tl, msgs = (t', n') :: tl → t + d < t') →
        simRunFb (debOp d) other echo isEcho (f + 1) k clk (simQueue msgs (debTm d s pend)) s
          = debSpecFb d echo isEcho k pend msgs := by
      intro t x hpend hq
      subst hpend
      have hm' : Mono (t + d) msgs := by
        cases msgs with
        | nil => trivial
        | cons a tl => obtain ⟨t', n'⟩ := a; exact ⟨Nat.le_of_lt (hq t' n' tl rfl), hm.2⟩
      have hqueue : simQueue msgs (debTm d s (some (t, x))) = (t + d, SItem.timer s.id) :: srcItems msgs := by
        cases msgs with
        | nil => rfl
        | cons a tl => obtain ⟨t', n'⟩ := a; simp [debTm, simQueue, srcItems, insertEv, hq t' n' tl rfl]
      have hidle := (debAction_pending s t d x hh).2
      have hpos := debCost_pos isEcho t x
      rw [hqueue, deb_fb_step_timer d other echo isEcho f k clk t x _ s hh (hp t x rfl),
        debSpecFb_fire d echo isEcho hE k t x msgs hq]
      congr 1
      cases he : echoFor echo isEcho k x with
      | none =>
        exact ih f (Nat.lt_succ_self f) msgs none (k + 1) (t + d) _ hm' (by show _ + 0 ≤ f; omega) hidle
          (fun _ _ h => nomatch h)
      | some e =>
        -- `x` is not an echo, so two more items are paid for: the echo's `on_next` and its timer
        have hx : isEcho x = false := by
          unfold echoFor at he; cases hx : isEcho x <;> simp [hx] at he; rfl
        have hee : isEcho e = true := by
          unfold echoFor at he; rw [hx] at he; exact hE k e (by simpa using he)
        have hf3 : 4 * msgs.length + 3 ≤ f + 1 := by simpa [debCost, hx] using hf
        obtain ⟨f', rfl⟩ : ∃ f', f = f' + 1 := ⟨f - 1, by omega⟩
        simp only [List.singleton_append, Option.map_some]
        rw [deb_fb_step_next d other echo isEcho f' (k + 1) (t + d) (t + d) e _ _ (Nat.le_refl _),
          cancelTimers_srcItems]
        exact ih f' (by omega) msgs (some (t + d, e)) (k + 1) (t + d) _ hm'
          (by simp only [debCost, hee, if_true]; omega) (debOnNext_pending d (t + d) _ e)
          (by intro _ _ h; cases h; omega)
    cases pend with
    | none =>
      cases msgs with
      | nil => exact simRunFb_nil ..
      | cons a tl => obtain ⟨t', n'⟩ := a; exact src t' n' tl rfl (fun _ _ h => nomatch h)
    | some tx =>
      obtain ⟨t, x⟩ := tx
      cases msgs with
      | nil => exact fire t x rfl (fun _ _ _ h => nomatch h)
      | cons a tl =>
        obtain ⟨t', n'⟩ := a
        by_cases hlt : t + d < t'
        · exact fire t x rfl (by intro _ _ _ h; cases h; exact hlt)
        · exact src t' n' tl rfl (by intro _ _ h; cases h; exact hlt)

end

theorem echoesOf_none {α β} (isEcho : β → Bool) (k : Nat) (out : List (Notif β)) :
    (echoesOf (fun _ => (none : Option α)) isEcho k out).1 = [] := by
  induction out generalizing k with
  | nil => rfl
  | cons n out ih => cases n <;> simp [echoesOf, ih]

theorem simRunFb_no_echo {σ α β P} (op : SimOp σ α β P) (other : Nat → TL β) (isEcho : β → Bool) :
    ∀ (fuel k clk : Nat) (q : SQueue α P) (s : σ),
      simRunFb op other (fun _ => none) isEcho fuel k clk q s = simRun op other fuel clk q s := by
  intro fuel
  induction fuel with
  | zero => intro k clk q s; rfl
  | succ f ih =>
    intro k clk q s
    cases q with
    | nil => rfl
    | cons a q =>
      obtain ⟨due, it⟩ := a
      cases it <;> simp only [simRunFb, simRun_cons_src, simRun_cons_timer, echoesOf_none, List.map_nil, List.nil_append, ih]

theorem debSpecFb_no_echo {α} (d : Nat) (isEcho : α → Bool) (msgs : TL α) : ∀ (k : Nat) (pend : Option (Nat × α)),
    debSpecFb d (fun _ => none) isEcho k pend msgs
      = debSpec d (match pend with | none => msgs | some (t, x) => (t, .next x) :: msgs) := by
  have he : ∀ k x, echoFor (fun _ => (none : Option α)) isEcho k x = none := by
    intro k x; unfold echoFor; split <;> rfl
  induction msgs with
  | nil => intro k pend; cases pend <;> simp [debSpecFb, debSpec, he]
  | cons a tl ih =>
    obtain ⟨t', n'⟩ := a
    intro k pend
    rw [debSpecFb_cons]
    cases pend with
    | none => cases n' <;> simp [debPre, debMsgSpec, debSpec, ih]
    | some tx =>
      obtain ⟨t, x⟩ := tx
      by_cases hlt : t + d < t' <;> cases n' <;> simp [debPre, debMsgSpec, debSpec, hlt, he, ih]

end Timed
