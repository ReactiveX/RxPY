import RxProofs.Lemmas.WinMachOps
import RxProofs.Lemmas.WinSliding
/-!
# Lemmas for `window_with_count_`: the invariant relating `n`, `q` and the window contents to the elements seen so far.
-/
namespace Win
variable {α : Type}

theorem mul_unique {s m b : Nat} (hs : 0 < s) (hm : m % s = 0) (hle : m ≤ b * s) (hlo : b = 0 ∨ (b - 1) * s < m) :
    m = b * s := by
  have hd : m = m / s * s := by
    have := Nat.div_add_mod m s; rw [hm, Nat.add_zero, Nat.mul_comm] at this; exact this.symm
  rcases hlo with rfl | hlo
  · simp at hle; simp [hle]
  · rw [hd] at hle hlo
    have h1 : m / s ≤ b := Nat.le_of_mul_le_mul_right hle hs
    have h2 : b - 1 < m / s := Nat.lt_of_mul_lt_mul_right hlo
    have : m / s = b := by omega
    rw [hd, this]

theorem drop_take_snoc_open {pre : List α} {x : α} {o count : Nat} (h1 : o ≤ pre.length) (h2 : pre.length < o + count) :
    ((pre ++ [x]).drop o).take count = (pre.drop o).take count ++ [x] := by
  rw [List.drop_append_of_le_length h1]
  have hl : (pre.drop o).length < count := by simp; omega
  rw [List.take_of_length_le (by simp; omega), List.take_of_length_le (Nat.le_of_lt hl)]

theorem drop_take_snoc_closed {pre : List α} {x : α} {o count : Nat} (h : o + count ≤ pre.length) :
    ((pre ++ [x]).drop o).take count = (pre.drop o).take count := by
  rw [List.drop_append_of_le_length (by omega)]
  rw [List.take_append_of_le_length (by simp; omega)]

namespace Cnt

/-- the state of `window_with_count_` after the elements `pre`: `a` windows created, `b` of them popped. -/
structure CInv (count skip : Nat) (pre : List α) (s : Cnt α) (a b : Nat) : Prop where
  n_eq : s.n = pre.length
  len : s.b.wins.length = a
  q_eq : s.q = List.range' b (a - b)
  ba : b ≤ a
  a_pos : 1 ≤ a
  a_lo : (a - 1) * skip ≤ pre.length
  a_hi : pre.length < a * skip
  b_lo : b = 0 ∨ (b - 1) * skip + count ≤ pre.length
  b_hi : pre.length < b * skip + count
  pushed : ∀ k, k < a → s.b.pushedOf k = (pre.drop (k * skip)).take count
  ended : ∀ k, k < a → s.b.endedOf k = if k < b then some none else none

theorem cinv_init (count skip t0 : Nat) (hc : 0 < count) (hs : 0 < skip) :
    CInv count skip ([] : List α) (Cnt.init t0) 1 0 :=
  have w := Base.Sliding.first (α := α) (c := fun k => (([] : List α).drop (k * skip)).take count) t0 (by simp)
  ⟨rfl, w.len, rfl, by omega, by omega, by simp, by simpa using hs, Or.inl rfl, by simpa using hc, w.pushed, w.ended⟩

/-- between the pop phase and the create phase of `on_next` (n already incremented). -/
structure MInv (count skip : Nat) (pre : List α) (s : Cnt α) (a b : Nat) : Prop where
  n_eq : s.n = pre.length
  len : s.b.wins.length = a
  q_eq : s.q = List.range' b (a - b)
  ba : b ≤ a
  a_pos : 1 ≤ a
  a_lo : (a - 1) * skip < pre.length
  a_hi : pre.length ≤ a * skip
  b_lo : b = 0 ∨ (b - 1) * skip + count ≤ pre.length
  b_hi : pre.length < b * skip + count
  pushed : ∀ k, k < a → s.b.pushedOf k = (pre.drop (k * skip)).take count
  ended : ∀ k, k < a → s.b.endedOf k = if k < b then some none else none

theorem CInv.sliding {count skip : Nat} {pre : List α} {s : Cnt α} {a b : Nat} (h : CInv count skip pre s a b) :
    Base.Sliding s.b a b (fun k => (pre.drop (k * skip)).take count) := ⟨h.len, h.pushed, h.ended⟩

theorem MInv.sliding {count skip : Nat} {pre : List α} {s : Cnt α} {a b : Nat} (h : MInv count skip pre s a b) :
    Base.Sliding s.b a b (fun k => (pre.drop (k * skip)).take count) := ⟨h.len, h.pushed, h.ended⟩

theorem mid_to_cinv {count skip : Nat} (hs : 0 < skip) {pre : List α} {s : Cnt α} {a b : Nat}
    (h : MInv count skip pre s a b) : ∃ a', CInv count skip pre (fin skip s) a' b := by
  unfold fin
  by_cases hm : s.n % skip = 0
  · rw [if_pos hm]
    have hn : pre.length = a * skip := by
      rw [h.n_eq] at hm
      exact mul_unique hs hm h.a_hi (Or.inr h.a_lo)
    have hsucc : (a + 1) * skip = a * skip + skip := Nat.succ_mul a skip
    -- window `a` opens at exactly `a·skip` elements: empty
    have w := h.sliding.open_ h.ba (by simp [hn])
    refine ⟨a + 1, by simpa using h.n_eq, w.len, ?_, by have := h.ba; omega, by omega, by simp [hn], by omega,
      h.b_lo, h.b_hi, w.pushed, w.ended⟩
    rw [createWindow_q, h.q_eq, h.len]; exact range'_concat h.ba
  · rw [if_neg hm]
    have hne : pre.length ≠ a * skip := by
      intro e; apply hm; rw [h.n_eq, e]; exact Nat.mul_mod_left a skip
    have := h.a_hi; have := h.a_lo
    exact ⟨a, h.n_eq, h.len, h.q_eq, h.ba, h.a_pos, by omega, by omega, h.b_lo, h.b_hi, h.pushed, h.ended⟩

theorem cinv_step {count skip : Nat} (hc : 0 < count) (hs : 0 < skip) {pre : List α} {s : Cnt α} {a b : Nat}
    (h : CInv count skip pre s a b) (x : α) :
    ∃ a' b', CInv count skip (pre ++ [x]) (onNext count skip s x) a' b' := by
  -- the element reaches the open windows `b..a-1`: those whose range `[k·skip, k·skip+count)` contains its index
  have w : Base.Sliding (s.q.foldl (fun b id => b.winNext id x) s.b) a b (fun k => ((pre ++ [x]).drop (k * skip)).take count) := by
    rw [h.q_eq]
    refine (h.sliding.push x).congr fun k hk => ?_
    by_cases hkb : b ≤ k
    · have h1 : k * skip ≤ (a - 1) * skip := Nat.mul_le_mul_right skip (by omega)
      have h2 : b * skip ≤ k * skip := Nat.mul_le_mul_right skip hkb
      have := h.a_lo; have := h.b_hi
      rw [if_pos hkb, drop_take_snoc_open (by omega) (by omega)]
    · have hb1 : (b - 1) * skip + count ≤ pre.length := by
        rcases h.b_lo with h0 | h1
        · omega
        · exact h1
      have : k * skip ≤ (b - 1) * skip := Nat.mul_le_mul_right skip (by omega)
      rw [if_neg hkb, drop_take_snoc_closed (by omega)]
  rw [onNext_eq]
  by_cases hpop : s.n + 1 ≥ count ∧ (s.n + 1 - count) % skip = 0
  · rw [if_pos hpop]
    rw [h.n_eq] at hpop
    have hb : pre.length + 1 - count = b * skip := by
      apply mul_unique hs hpop.2
      · have := h.b_hi; omega
      · rcases h.b_lo with h0 | h1
        · exact Or.inl h0
        · right; omega
    have hlt : b < a := by
      have h1 := h.a_hi
      have : b * skip < a * skip := by omega
      exact Nat.lt_of_mul_lt_mul_right this
    have hq : s.q = b :: List.range' (b + 1) (a - (b + 1)) := by rw [h.q_eq]; exact range'_pop hlt
    have w' := w.pop hlt
    rw [hq] at w' ⊢; simp only []
    have hsucc : (b + 1) * skip = b * skip + skip := Nat.succ_mul b skip
    obtain ⟨a', h'⟩ := mid_to_cinv (count := count) hs (pre := pre ++ [x]) (a := a) (b := b + 1)
      (s := { s with b := ((b :: List.range' (b + 1) (a - (b + 1))).foldl (fun b id => b.winNext id x) s.b).winEnd b none,
                     q := List.range' (b + 1) (a - (b + 1)), n := s.n + 1 })
      ⟨by simp [h.n_eq], w'.len, rfl, by omega, h.a_pos, by have := h.a_lo; simp; omega, by have := h.a_hi; simp; omega,
        by right; simp; omega, by simp; omega, w'.pushed, w'.ended⟩
    exact ⟨a', b + 1, h'⟩
  · rw [if_neg hpop]
    rw [h.n_eq] at hpop
    have hne : pre.length + 1 ≠ b * skip + count := by
      intro e; apply hpop
      refine ⟨by omega, ?_⟩
      have : pre.length + 1 - count = b * skip := by omega
      rw [this]; exact Nat.mul_mod_left b skip
    obtain ⟨a', h'⟩ := mid_to_cinv (count := count) hs (pre := pre ++ [x]) (a := a) (b := b)
      (s := { s with b := s.q.foldl (fun b id => b.winNext id x) s.b, n := s.n + 1 })
      ⟨by simp [h.n_eq], w.len, h.q_eq, h.ba, h.a_pos, by have := h.a_lo; simp; omega, by have := h.a_hi; simp; omega,
        by rcases h.b_lo with h0 | h1
           · exact Or.inl h0
           · right; simp; omega,
        by have := h.b_hi; simp; omega, w.pushed, w.ended⟩
    exact ⟨a', b, h'⟩

theorem ctl_createWindow (s : Cnt α) : s.createWindow.b.ctl = s.b.ctl := by simp [createWindow]

theorem ctl_onNext (count skip : Nat) (s : Cnt α) (x : α) (h : s.b.primary = false) :
    (onNext count skip s x).b.ctl = s.b.ctl := by
  have hp : (s.q.foldl (fun b id => b.winNext id x) s.b).primary = false := by
    rw [Base.ctl_primary (Base.ctl_foldl_winNext s.q s.b x)]; exact h
  rw [onNext_eq]; unfold fin
  -- a window is full: none queued (IndexError) / popped; then, as when none is full: a new one or not
  split
  · split
    · simp
    · simp only []; split
      · rw [ctl_createWindow]; simp [Base.ctl_winEnd _ _ _ hp]
      · simp [Base.ctl_winEnd _ _ _ hp]
  · simp only []; split
    · rw [ctl_createWindow]; simp
    · simp

/-- `ctl`: nothing of the RefCountDisposable is disposed and the source is live; elements leave it so. -/
theorem cinv_run {count skip : Nat} (hc : 0 < count) (hs : 0 < skip) (tx : List (Nat × α)) :
    ∀ {pre : List α} {s : Cnt α} {a b : Nat}, CInv count skip pre s a b →
      s.b.ctl = (false, false, [0]) →
      ∃ a' b', CInv count skip (pre ++ tx.map (·.2)) (run count skip s (nexts tx)) a' b' ∧
        (run count skip s (nexts tx)).b.ctl = (false, false, [0]) := by
  induction tx with
  | nil => intro pre s a b h hctl; exact ⟨a, b, by simpa [nexts, run] using h, hctl⟩
  | cons p tx ih =>
    intro pre s a b h hctl
    obtain ⟨t, x⟩ := p
    have hnow : CInv count skip pre ({ s with b := { s.b with now := t } } : Cnt α) a b :=
      ⟨h.n_eq, h.len, h.q_eq, h.ba, h.a_pos, h.a_lo, h.a_hi, h.b_lo, h.b_hi, h.pushed, h.ended⟩
    have hctl' : ({ s with b := { s.b with now := t } } : Cnt α).b.ctl = (false, false, [0]) := hctl
    have hlive : ({ s with b := { s.b with now := t } } : Cnt α).b.live.contains 0 = true := by
      show s.b.live.contains 0 = true; rw [Base.ctl_live hctl]; rfl
    obtain ⟨a1, b1, h1⟩ := cinv_step hc hs hnow x
    have hstep : step count skip ({ s with b := { s.b with now := t } } : Cnt α) (.src 0 (.next x))
        = onNext count skip ({ s with b := { s.b with now := t } } : Cnt α) x := by
      simp only [step, hlive, if_true]
    obtain ⟨a2, b2, h2, hctl2⟩ := ih h1 (by rw [ctl_onNext _ _ _ _ (Base.ctl_primary hctl')]; exact hctl')
    refine ⟨a2, b2, ?_, ?_⟩ <;> simp only [nexts, List.map_cons, run] at h2 hctl2 ⊢ <;> rw [hstep]
    · simpa [List.append_assoc] using h2
    · exact hctl2

theorem cinv_of_run {count skip : Nat} (hc : 0 < count) (hs : 0 < skip) (t0 : Nat) (tx : List (Nat × α)) :
    ∃ a b, CInv count skip (tx.map (·.2)) (run count skip (Cnt.init t0) (nexts tx)) a b ∧
      (run count skip (Cnt.init t0) (nexts tx)).b.ctl = (false, false, [0]) := by
  simpa using cinv_run hc hs tx (cinv_init count skip t0 hc hs) (by rw [init_b]; exact Base.first_ctl t0)

theorem CInv.lt_a {count skip : Nat} {pre : List α} {s : Cnt α} {a b : Nat} (h : CInv count skip pre s a b) {k : Nat}
    (hk : k * skip ≤ pre.length) : k < a :=
  Nat.lt_of_mul_lt_mul_right (Nat.lt_of_le_of_lt hk h.a_hi)

/-- window `k` is popped exactly when its `count`-th element has arrived. -/
theorem CInv.lt_b_iff {count skip : Nat} {pre : List α} {s : Cnt α} {a b : Nat} (h : CInv count skip pre s a b) (k : Nat) :
    k < b ↔ k * skip + count ≤ pre.length := by
  have hb1 := h.b_lo; have hb2 := h.b_hi
  refine ⟨fun hkb => ?_, fun hle => Nat.lt_of_not_le fun hbk => ?_⟩
  · have : k * skip ≤ (b - 1) * skip := Nat.mul_le_mul_right skip (by omega)
    omega
  · have : b * skip ≤ k * skip := Nat.mul_le_mul_right skip hbk
    omega

theorem run_append (count skip : Nat) (s : Cnt α) (l1 l2 : List (Nat × Ev α)) :
    run count skip s (l1 ++ l2) = run count skip (run count skip s l1) l2 := by
  rw [run_eq_fold, run_eq_fold, run_eq_fold]; exact Mach.fold_append ..

end Cnt
end Win
