import RxProofs.Lemmas.AggOps
/-!
# Delivery of a raising callback (C09)

That nothing escapes is `NoEsc`, closed under `⨾`.  That the subscriber is told is `Op.EndsAt`: an input that ends a live subscriber's
sequence with `on_error e` whatever follows.  It is read off one handler invocation (`raise_delivered`, `ends_of_handler`) and passes through
every stage that forwards errors and terminals (`EndsAt.comp`).  `FwdErr`, the handler-level form of forwarding, is not closed under `⨾`:
once the middle observer has stopped nothing is forwarded.
-/

namespace Agg

def Op.NoEsc {α β} (op : Op α β) : Prop := ∀ s n, (op.handle s n).esc = none

def Op.FwdErr {α β} (op : Op α β) : Prop := ∀ s e, (op.onError s e).calls = [.error e]

theorem Op.NoEsc.of_handlers {α β} {op : Op α β} (h1 : ∀ s x, (op.onNext s x).esc = none)
    (h2 : ∀ s e, (op.onError s e).esc = none) (h3 : ∀ s, (op.onCompleted s).esc = none) : op.NoEsc := by
  intro s n; cases n <;> simp [Op.handle, h1, h2, h3]

theorem pump_noEsc {β γ} (g : Op β γ) (hg : g.NoEsc) (m : Bool) (s : g.σ) (ns : List (Notif β)) :
    (pump g m s ns).2.2 = none := by
  induction ns generalizing m s with
  | nil => rfl
  | cons n ns ih =>
    cases m
    · simp only [pump, hg s n, ih]; rfl
    · rfl

theorem Op.NoEsc.comp {α β γ} {f : Op α β} {g : Op β γ} (hf : f.NoEsc) (hg : g.NoEsc) : (f ⨾ g).NoEsc := by
  intro s n
  have hh : (f ⨾ g).handle s n = compH g s.2.1 s.2.2 (f.handle s.1 n) := by cases n <;> rfl
  rw [hh]; simp only [compH, hf s.1 n, pump_noEsc g hg]; rfl

theorem Op.escapes_nil {α β} (op : Op α β) (h : op.NoEsc) (lag : Bool) (raw : List (Notif α)) :
    op.escapes lag raw = [] := by
  unfold Op.escapes
  generalize op.start = st
  induction raw generalizing st with
  | nil => rfl
  | cons n ns ih =>
    simp only [Op.steps, List.filterMap_cons]
    have : (op.step lag st n).esc = none := by
      unfold Op.step; split
      · rfl
      · exact h _ _
    rw [this]; exact ih _

/-- a raising first-stage callback in `source.pipe(f, g)`: `f` calls `on_error` on `g`'s (live) observer, `g` forwards it -/
theorem comp_raise {α β γ} (f : Op α β) (g : Op β γ) (sf : f.σ) (sg : g.σ) (n : Notif α) (e : Err)
    (hg : (g.onError sg e).calls = [.error e])
    (h : (f.handle sf n).calls = [.error e]) :
    ((f ⨾ g).handle (sf, false, sg) n).calls = [.error e] := by
  have hh : (f ⨾ g).handle (sf, false, sg) n = compH g false sg (f.handle sf n) := by cases n <;> rfl
  rw [hh]
  show (pump g false sg (f.handle sf n).calls).2.1 = [.error e]
  rw [h]
  show (g.onError sg e).calls ++ _ = _
  rw [hg]; simp [pump]

theorem Op.FwdErr.comp {α β γ} {f : Op α β} {g : Op β γ} (hf : f.FwdErr) (hg : g.FwdErr) (sf : f.σ) (sg : g.σ) (e : Err) :
    ((f ⨾ g).onError (sf, false, sg) e).calls = [.error e] :=
  comp_raise f g sf sg (.error e) e (hg sg e) (hf sf e)

/-- **Generic delivery theorem**: one handler invocation whose calls end in `on_error e`, run while source and subscriber are live -/
theorem Op.raise_delivered {α β} (op : Op α β) (lag : Bool) (pre post : List (Notif α)) (n : Notif α)
    (cs : List (Notif β)) (e : Err)
    (hup : (op.final lag pre).up = false) (hdown : (op.final lag pre).down = false)
    (hcalls : (op.handle (op.final lag pre).s n).calls = cs ++ [.error e]) (hcs : ∀ c ∈ cs, c.isTerminal = false) :
    op.out lag (pre ++ n :: post) = op.out lag pre ++ (cs ++ [.error e])
    ∧ (op.final lag (pre ++ n :: post)).down = true
    ∧ (lag = false → (op.final lag (pre ++ n :: post)).up = true) := by
  have hstep : (op.step lag (op.final lag pre) n).out = cs ++ [.error e]
      ∧ (op.step lag (op.final lag pre) n).st.down = true := by
    unfold Op.step
    simp only [hup, Bool.false_eq_true, if_false, hdown, hcalls, deliver_nonterminals_error cs e hcs, and_self]
  have h1 : op.out lag (pre ++ n :: post) = op.out lag pre ++ (cs ++ [.error e]) := by
    rw [Op.out_prefix, Op.outFrom_cons, hstep.1, Op.outFrom_down _ _ _ hstep.2, List.append_nil]
  exact ⟨h1, op.final_stopped lag _ (by rw [h1]; simp [Notif.isTerminal])⟩

def noTerm {β} (l : List (Notif β)) : Prop := l.any (·.isTerminal) = false

theorem ending_open_iff {β} (l : List (Notif β)) : ending l = .open ↔ noTerm l := by
  induction l with
  | nil => exact ⟨fun _ => rfl, fun _ => rfl⟩
  | cons n ns ih =>
    cases n with
    | next v => exact ih
    | error e => exact ⟨nofun, nofun⟩
    | completed => exact ⟨nofun, nofun⟩

@[simp] theorem noTerm_nil {β} : noTerm ([] : List (Notif β)) := rfl
@[simp] theorem noTerm_next {β} (v : β) (l : List (Notif β)) : noTerm (.next v :: l) ↔ noTerm l := Iff.rfl
@[simp] theorem not_noTerm_error {β} (e : Err) (l : List (Notif β)) : ¬ noTerm (.error e :: l) := nofun
@[simp] theorem not_noTerm_completed {β} (l : List (Notif β)) : ¬ noTerm (.completed :: l) := nofun

theorem noTerm_append {β} (a b : List (Notif β)) : noTerm (a ++ b) ↔ noTerm a ∧ noTerm b := by
  simp [noTerm]

theorem noTerm_cut {β} (l : List (Notif β)) : noTerm (cut l) ↔ noTerm l := by
  induction l with
  | nil => exact Iff.rfl
  | cons n l ih => cases n <;> simp [ih]

theorem out_nexts {α β} (op : Op α β) (lag : Bool) (raw : List (Notif α)) (h : noTerm (op.out lag raw)) :
    op.out lag raw = (elems (op.out lag raw)).map .next := by
  have := cut_eq_elems_ending (op.out lag raw)
  rw [cut_out, (ending_open_iff _).2 h] at this
  simpa [Ending.notifs] using this

theorem noTerm_map_next {β} (ws : List β) : noTerm (ws.map (Notif.next)) := by
  simp [noTerm, Notif.isTerminal]

theorem out_depends_on_cut {α β} (op : Op α β) (lag : Bool) (a b : List (Notif α)) (h : cut a = cut b) :
    op.out lag a = op.out lag b := by rw [Op.out_eq, Op.out_eq, h]

def Op.TermProp {α β} (g : Op α β) : Prop :=
  ∀ lag raw, ending raw ≠ .open → ¬ noTerm (g.out lag raw)

def Op.ErrThrough {α β} (g : Op α β) : Prop :=
  ∀ lag (ws : List α) (e : Err) (post : List (Notif α)), noTerm (g.out lag (ws.map .next)) →
    g.out lag (ws.map .next ++ .error e :: post) = g.out lag (ws.map .next) ++ [.error e]

def Op.RaisesAt {α β} (f : Op α β) (lag : Bool) (pre : List (Notif α)) (x : α) (e : Err) : Prop :=
  noTerm (f.out lag pre) → ∀ post, f.out lag (pre ++ .next x :: post) = f.out lag pre ++ [.error e]

/-- what `RaisesAt` (`n` an `on_next`) and `ErrThrough` (`n` the source's `on_error`) have in common -/
def Op.EndsAt {α β} (op : Op α β) (lag : Bool) (pre : List (Notif α)) (n : Notif α) (e : Err) : Prop :=
  noTerm (op.out lag pre) → ∀ post, op.out lag (pre ++ n :: post) = op.out lag pre ++ [.error e]

theorem Op.raisesAt_iff {α β} {f : Op α β} {lag : Bool} {pre : List (Notif α)} {x : α} {e : Err} :
    f.RaisesAt lag pre x e ↔ f.EndsAt lag pre (.next x) e := Iff.rfl

theorem Op.errThrough_iff {α β} {g : Op α β} : g.ErrThrough ↔ ∀ lag (ws : List α) e, g.EndsAt lag (ws.map .next) (.error e) e :=
  ⟨fun h lag ws e hl post => h lag ws e post hl, fun h lag ws e post hl => h lag ws e hl post⟩

theorem Op.ends_of_handler {α β} (op : Op α β) {lag : Bool} {pre : List (Notif α)} {n : Notif α} {e : Err}
    (hpre : ∀ m ∈ pre, m.isTerminal = false) (hB : (op.handle (op.final lag pre).s n).calls = [.error e]) :
    op.EndsAt lag pre n e := fun hlive post => by
  have hd : (op.final lag pre).down = false := by rw [Op.final_down_iff]; exact hlive
  simpa using (Op.raise_delivered op lag pre post n [] e (Op.final_up_false op lag pre hpre hd) hd (by simpa using hB) (by simp)).1

theorem Op.errThrough_of_fwd {α β} (op : Op α β) (h : op.FwdErr) : op.ErrThrough :=
  Op.errThrough_iff.2 fun _ _ e => op.ends_of_handler (by simp [Notif.isTerminal]) (h _ e)

theorem Op.TermProp.of_handlers {α β} {op : Op α β} (hE : ∀ s e, ¬ noTerm (op.onError s e).calls)
    (hC : ∀ s, ¬ noTerm (op.onCompleted s).calls) : op.TermProp := fun lag raw h => by
  rw [Op.out_conf, noTerm_cut]
  generalize op.init = s
  generalize ending raw = t at h
  induction elems raw generalizing s with
  | nil =>
    cases t with
    | «open» => exact absurd rfl h
    | done => exact fun hn => hC s ((noTerm_append _ _).1 hn).1
    | err e => exact fun hn => hE s e ((noTerm_append _ _).1 hn).1
  | cons x xs ih => exact fun hn => ih _ ((noTerm_append _ _).1 hn).2

theorem Op.TermProp.comp {α β γ} {f : Op α β} {g : Op β γ} (hf : f.TermProp) (hg : g.TermProp) : (f ⨾ g).TermProp :=
  fun lag raw hraw => by rw [Op.out_pipe f g]; exact hg lag _ fun he => hf lag raw hraw ((ending_open_iff _).1 he)

theorem comp_first_live {α β γ} (f : Op α β) (g : Op β γ) (hg : g.TermProp) (lag : Bool) (raw : List (Notif α))
    (hlive : noTerm ((f ⨾ g).out lag raw)) : noTerm (f.out lag raw) :=
  (ending_open_iff _).1 (Decidable.of_not_not fun h => hg lag _ h (by rwa [Op.out_pipe f g] at hlive))

theorem Op.EndsAt.comp {α β γ} {f : Op α β} {g : Op β γ} {lag : Bool} {pre : List (Notif α)} {n : Notif α} {e : Err}
    (hf : f.EndsAt lag pre n e) (hg : g.ErrThrough) (hgt : g.TermProp) : (f ⨾ g).EndsAt lag pre n e := fun hlive post => by
  have hfl := comp_first_live f g hgt lag _ hlive
  rw [Op.out_pipe f g, hf hfl, Op.out_pipe f g] at *
  rw [out_nexts f lag _ hfl] at hlive ⊢
  exact Op.errThrough_iff.1 hg lag _ e hlive []

theorem Op.ErrThrough.comp {α β γ} {f : Op α β} {g : Op β γ} (hf : f.ErrThrough) (hg : g.ErrThrough) (hgt : g.TermProp) :
    (f ⨾ g).ErrThrough :=
  Op.errThrough_iff.2 fun lag ws e => (Op.errThrough_iff.1 hf lag ws e).comp hg hgt

def Op.DeliversAt {α β} (op : Op α β) (lag : Bool) (pre : List (Notif α)) (x : α) (e : Err) : Prop :=
  noTerm (op.out lag pre) → ∀ post,
    op.out lag (pre ++ .next x :: post) = op.out lag pre ++ [.error e]
    ∧ op.escapes lag (pre ++ .next x :: post) = []
    ∧ (op.final lag (pre ++ .next x :: post)).down = true
    ∧ (lag = false → (op.final lag (pre ++ .next x :: post)).up = true)

theorem Op.raise_end_to_end {α β} (op : Op α β) (hA : op.NoEsc) (lag : Bool) (pre post : List (Notif α)) (x : α) (e : Err)
    (hB : op.RaisesAt lag pre x e) (hlive : noTerm (op.out lag pre)) :
    op.out lag (pre ++ .next x :: post) = op.out lag pre ++ [.error e]
    ∧ op.escapes lag (pre ++ .next x :: post) = []
    ∧ (op.final lag (pre ++ .next x :: post)).down = true
    ∧ (lag = false → (op.final lag (pre ++ .next x :: post)).up = true) := by
  have h1 := hB hlive post
  exact ⟨h1, Op.escapes_nil op hA lag _, op.final_stopped lag _ (by rw [h1]; simp [Notif.isTerminal])⟩

/-- what `source.pipe(f, g)` needs of `g` for an exception raised in `f` to reach the subscriber -/
structure Op.Stage {α β} (g : Op α β) : Prop where
  noEsc : g.NoEsc
  term : g.TermProp
  err : g.ErrThrough

theorem Op.Stage.comp {α β γ} {f : Op α β} {g : Op β γ} (hf : f.Stage) (hg : g.Stage) : (f ⨾ g).Stage :=
  ⟨hf.noEsc.comp hg.noEsc, hf.term.comp hg.term, hf.err.comp hg.err hg.term⟩

/-- the stage whose callback, invoked for `x` after `pre`, raises `e` -/
structure Op.Raises {α β} (f : Op α β) (lag : Bool) (pre : List (Notif α)) (x : α) (e : Err) : Prop where
  noEsc : f.NoEsc
  ends : f.RaisesAt lag pre x e

theorem Op.NoEsc.raises {α β} {op : Op α β} (hA : op.NoEsc) {lag : Bool} {pre : List (Notif α)} {x : α} {e : Err}
    (hpre : ∀ n ∈ pre, n.isTerminal = false) (hB : (op.handle (op.final lag pre).s (.next x)).calls = [.error e]) :
    op.Raises lag pre x e :=
  ⟨hA, Op.raisesAt_iff.2 (op.ends_of_handler hpre hB)⟩

theorem Op.Raises.pipe {α β γ} {f : Op α β} {g : Op β γ} {lag : Bool} {pre : List (Notif α)} {x : α} {e : Err}
    (hf : f.Raises lag pre x e) (hg : g.Stage) : (f ⨾ g).Raises lag pre x e :=
  ⟨hf.noEsc.comp hg.noEsc, Op.raisesAt_iff.2 ((Op.raisesAt_iff.1 hf.ends).comp hg.err hg.term)⟩

theorem Op.Raises.deliversAt {α β} {f : Op α β} {lag : Bool} {pre : List (Notif α)} {x : α} {e : Err}
    (hf : f.Raises lag pre x e) : f.DeliversAt lag pre x e :=
  fun hlive post => Op.raise_end_to_end f hf.noEsc lag pre post x e hf.ends hlive

end Agg
