import RxProofs.Lemmas.WinFinRelease
/-!
# Transparency of the operators whose callbacks do not raise

The run with the operator simulates the run of the same history without it (`c.ident`), procedure by procedure; a
callback of the operator is a step of one side only (`SimL`).
-/
namespace WinFin

structure Rel {α} (c : Cfg) (s t : St α) : Prop where
  d : s.d = t.d
  u : s.u = t.u
  v : view s.log = view t.log
  /-- the operator's own disposable is disposed exactly when the source subscription it wraps is (the reference
  pipeline hands out that subscription itself) -/
  o : s.o.rDisposed = (c.guarded && s.u.subDisposed)

def Sim {α} (c : Cfg) (p q : P α) : Prop :=
  ∀ s t, Rel c s t → Rel c (p s).1 (q t).1 ∧ (p s).2 = (q t).2

/-- a step of the operator pipeline that the reference pipeline does not make (a non-raising callback) -/
def SimL {α} (c : Cfg) (p : P α) : Prop :=
  ∀ s t, Rel c s t → Rel c (p s).1 t ∧ (p s).2 = none

theorem Sim.out {α} {c : Cfg} {p q : P α} (h : Sim c p q) {s t : St α} (hr : Rel c s t) :
    ∃ s1 t1 x, p s = (s1, x) ∧ q t = (t1, x) ∧ Rel c s1 t1 := by
  obtain ⟨h1, h2⟩ := h s t hr
  exact ⟨_, _, _, rfl, Prod.ext rfl h2.symm, h1⟩

theorem SimL.out {α} {c : Cfg} {p : P α} (h : SimL c p) {s t : St α} (hr : Rel c s t) :
    ∃ s1, p s = (s1, none) ∧ Rel c s1 t := by
  obtain ⟨h1, h2⟩ := h s t hr
  exact ⟨_, Prod.ext rfl h2, h1⟩

theorem sim_seq {α} {c : Cfg} {a b a' b' : P α} (ha : Sim c a a') (hb : Sim c b b') : Sim c (seq a b) (seq a' b') := by
  intro s t h
  obtain ⟨s1, t1, x, e1, e2, h1⟩ := ha.out h
  simp only [seq, e1, e2]
  cases x
  · exact hb _ _ h1
  · exact ⟨h1, rfl⟩

theorem sim_tryFinally {α} {c : Cfg} {a b a' b' : P α} (ha : Sim c a a') (hb : Sim c b b') :
    Sim c (tryFinally a b) (tryFinally a' b') := by
  intro s t h
  obtain ⟨s1, t1, x, e1, e2, h1⟩ := ha.out h
  obtain ⟨s2, t2, y, e3, e4, h2⟩ := hb.out h1
  simp only [tryFinally, e1, e2, e3, e4]
  cases y <;> exact ⟨h2, rfl⟩

theorem sim_tryCatch {α} {c : Cfg} {a a' : P α} {h h' : Err → P α} (ha : Sim c a a') (hh : ∀ e, Sim c (h e) (h' e)) :
    Sim c (tryCatch a h) (tryCatch a' h') := by
  intro s t hr
  obtain ⟨s1, t1, x, e1, e2, h1⟩ := ha.out hr
  simp only [tryCatch, e1, e2]
  cases x
  · exact ⟨h1, rfl⟩
  · exact hh _ _ _ h1

theorem sim_seqL_right {α} {c : Cfg} {p a a' : P α} (ha : Sim c a a') (hp : SimL c p) : Sim c (seq a p) a' := by
  intro s t h
  obtain ⟨s1, t1, x, e1, e2, h1⟩ := ha.out h
  cases x <;> simp only [seq, e1, e2]
  · obtain ⟨s2, e3, h2⟩ := hp.out h1
    rw [e3]; exact ⟨h2, rfl⟩
  · exact ⟨h1, trivial⟩

theorem simL_tryCatch {α} {c : Cfg} {p : P α} {h : Err → P α} (hp : SimL c p) : SimL c (tryCatch p h) := by
  intro s t hr
  obtain ⟨s1, e1, h1⟩ := hp.out hr
  simp only [tryCatch, e1]
  exact ⟨h1, trivial⟩

theorem simL_action {α} (c : Cfg) (hnr : ∀ k, c.actRaises k = false) (k : ActK) (a : Option (Notif α)) :
    SimL c (action c k a) := by
  intro s t ⟨hd, hu, hv, ho⟩
  simp only [action, hnr]
  exact ⟨⟨hd, hu, by simpa using hv, ho⟩, by simp⟩

theorem simL_finGuard {α} (c : Cfg) (hnr : ∀ k, c.actRaises k = false) : SimL (α := α) c (finGuard c) := by
  intro s t ⟨hd, hu, hv, ho⟩
  rw [finGuard_fixed c (Or.inr hnr)]
  split
  · exact ⟨⟨hd, hu, hv, ho⟩, rfl⟩
  · exact ⟨⟨hd, hu, by simpa using hv, ho⟩, by simp [hnr]⟩

theorem sim_userCb {α} (c : Cfg) (n : Notif α) : Sim c (userCb c n) (userCb c.ident n) := by
  intro s t ⟨hd, hu, hv, ho⟩
  simp only [userCb, Cfg.ident, hd]
  exact ⟨⟨by simp, hu, by simp [hv], ho⟩, rfl⟩

theorem sim_uDispose {α} (c : Cfg) (hsd : c.srcDisposeRaises = false) : Sim (α := α) c (uDispose c) (uDispose c.ident) := by
  intro s t ⟨hd, hu, hv, ho⟩
  rw [uDispose_eq c hsd, uDispose_eq c.ident hsd, hu]
  refine ⟨⟨hd, rfl, by simp [hv], ?_⟩, rfl⟩
  simp only [uDisp]; rw [ho, hu]

theorem sim_rDispose {α} (c : Cfg) (hsd : c.srcDisposeRaises = false) (hnr : ∀ k, c.actRaises k = false) :
    Sim (α := α) c (rDispose c) (rDispose c.ident) := by
  have rel : Releases c := releases c ⟨fun _ => hsd, fun _ => hnr, fun _ => Or.inr hnr⟩
  intro s t ⟨hd, hu, hv, ho⟩
  rw [rDispose_unguarded c.ident rfl, uSubDispose_eq c.ident hsd, ← hu]
  cases hrd : s.o.rDisposed
  · obtain ⟨o, u, R, r⟩ := rel s hrd
    have hx := r.noexn hnr hsd
    rw [r.eq, hx]
    rcases r.src with ⟨rfl, hR⟩ | ⟨-, hx'⟩
    · exact ⟨⟨hd, rfl, by simp [hv, hR], by simp [r.rd]⟩, rfl⟩
    · rw [hx] at hx'; cases hx'
  · -- `R` and the source subscription it wraps are both disposed
    obtain ⟨hg, hs⟩ : c.guarded = true ∧ s.u.subDisposed = true := by simpa [hrd] using ho.symm
    have : rDispose c s = (s, none) := by cases hop : c.oper <;> simp_all [rDispose, Cfg.guarded]
    rw [this]
    exact ⟨⟨hd, (uSubDisp_again _ hs).symm, by simp [hv, hs, srcIf], ho⟩, rfl⟩

theorem rel_updD {α} {c : Cfg} {s t : St α} (h : Rel c s t) (f : DSt → DSt) :
    Rel c { s with d := f s.d } { t with d := f t.d } := by
  obtain ⟨hd, hu, hv, ho⟩ := h
  exact ⟨by simp [hd], hu, hv, ho⟩

theorem rel_updU {α} {c : Cfg} {s t : St α} (h : Rel c s t) (f : USt → USt)
    (hf : ∀ u, (f u).subDisposed = u.subDisposed) :
    Rel c { s with u := f s.u } { t with u := f t.u } := by
  obtain ⟨hd, hu, hv, ho⟩ := h
  exact ⟨hd, by simp [hu], hv, by simp [hf, ho]⟩

theorem rel_log {α} {c : Cfg} {s t : St α} (h : Rel c s t) (e : Eff α) :
    Rel c { s with log := s.log ++ [e] } { t with log := t.log ++ [e] } := by
  obtain ⟨hd, hu, hv, ho⟩ := h
  exact ⟨hd, hu, by simp [hv], ho⟩

theorem sim_dDispose {α} (c : Cfg) (hsd : c.srcDisposeRaises = false) (hnr : ∀ k, c.actRaises k = false) :
    Sim (α := α) c (dDispose c) (dDispose c.ident) := by
  intro s t h
  have hd := h.d
  simp only [dDispose, hd]
  cases hsad : t.d.sad
  · cases hcur : t.d.cur
    · exact ⟨by simpa [hd] using rel_updD h (fun d => { d with stopped := true, sad := true, cur := false }), rfl⟩
    · have := sim_rDispose c hsd hnr _ _ (rel_updD h (fun d => { d with stopped := true, sad := true, cur := false }))
      simpa [hd] using this
  · exact ⟨by simpa [hd, hsad] using rel_updD h (fun d => { d with stopped := true }), rfl⟩

theorem sim_dNext {α} (c : Cfg) (v : α) : Sim c (dNext c v) (dNext c.ident v) := by
  intro s t h
  have hd := h.d
  simp only [dNext, hd]
  cases t.d.stopped
  · simpa using sim_userCb c (.next v) s t h
  · exact ⟨h, rfl⟩

theorem sim_dTerminal {α} (c : Cfg) (hsd : c.srcDisposeRaises = false) (hnr : ∀ k, c.actRaises k = false) (n : Notif α) :
    Sim c (dTerminal c n) (dTerminal c.ident n) := by
  intro s t h
  have hd := h.d
  simp only [dTerminal, hd]
  cases t.d.stopped
  · have := sim_tryFinally (sim_userCb c n) (sim_dDispose c hsd hnr) _ _ (rel_updD h (fun d => { d with stopped := true }))
    simpa [hd] using this
  · exact ⟨h, rfl⟩

theorem rel_logs {α} {c : Cfg} {s t : St α} (h : Rel c s t) {A : List (Eff α)} (hA : OnlyCbs A) : Rel c (logs A s) t :=
  ⟨h.d, h.u, by simp [hA.view, h.v], h.o⟩

theorem sim_wrap {α} {c : Cfg} {A B : List (Eff α)} {p q : P α} (hA : OnlyCbs A) (hB : OnlyCbs B) (h : Sim c p q) :
    Sim c (wrap A B p) q := by
  intro s t hr
  obtain ⟨s1, t1, x, e1, e2, h1⟩ := h.out (rel_logs hr hA)
  cases x <;> simp only [wrap, e1, e2]
  · exact ⟨rel_logs h1 hB, trivial⟩
  · exact ⟨h1, trivial⟩

theorem sim_hNext {α} (c : Cfg) (q : Quiet c) (v : α) : Sim c (hNext c v) (hNext c.ident v) := by
  rw [(hooks_quiet c q).next, hNext_direct (direct_ident c)]
  exact sim_wrap (onlyCbs_pre c _) (onlyCbs_post c _ false) (sim_dNext c v)

theorem sim_hTerminal {α} (c : Cfg) (q : Quiet c) (t : Notif α) (ht : t.isTerminal = true) :
    Sim c (hTerminal c t) (hTerminal c.ident t) := by
  rw [hTerminal_direct (direct_ident c) t ht]
  rw [(hooks_quiet c q).term t ht]
  split
  · -- the guarded action: an entry in the log, or nothing
    exact sim_seqL_right (sim_dTerminal c q.sd q.nr _) (simL_tryCatch (simL_finGuard c q.nr))
  · exact sim_wrap (onlyCbs_pre c _) (onlyCbs_post c _ false) (sim_dTerminal c q.sd q.nr t)

theorem sim_uNotify {α} (c : Cfg) (q : Quiet c) (n : Notif α) : Sim c (uNotify c n) (uNotify c.ident n) := by
  intro s t h
  have hu := h.u
  cases hn : n.isTerminal
  · obtain ⟨v, rfl⟩ := eq_next_of_not_terminal hn
    rw [uNotify_next, uNotify_next, hu]
    cases t.u.stopped
    · simpa using sim_hNext c q v s t h
    · exact ⟨h, rfl⟩
  · rw [uNotify_term c n hn, uNotify_term c.ident n hn, hu]
    cases t.u.stopped
    · have := sim_tryFinally (sim_hTerminal c q n hn) (sim_uDispose c q.sd) _ _
        (rel_updU h (fun u => { u with stopped := true }) (fun _ => rfl))
      simpa [hu] using this
    · exact ⟨h, rfl⟩

theorem sim_emitSync {α} (c : Cfg) (q : Quiet c) (prop : Bool) (ns : List (Notif α)) :
    Sim c (emitSync c prop ns) (emitSync c.ident prop ns) := by
  induction ns with
  | nil => intro s t h; exact ⟨h, rfl⟩
  | cons n ns ih =>
    intro s t h
    obtain ⟨s1, t1, x, e1, e2, h1⟩ := (sim_uNotify c q n).out h
    cases x <;> simp only [emitSync, e1, e2]
    · exact ih _ _ h1
    · cases prop
      · exact ih _ _ (rel_log h1 _)
      · exact ⟨h1, rfl⟩

theorem sim_srcSubscribe {α} (c : Cfg) (q : Quiet c) (sp : SyncPhase α) :
    Sim c (srcSubscribe c sp) (srcSubscribe c.ident sp) := by
  intro s t h
  obtain ⟨s1, t1, x, e1, e2, h1⟩ := (sim_emitSync c q sp.propagate sp.emits).out h
  have body : ∀ (e : Err) (s1 t1 : St α), Rel c s1 t1 →
      Rel c (if s1.u.stopped = true then (s1, some e) else hError c e { s1 with u.stopped := true }).1
            (if t1.u.stopped = true then (t1, some e) else hError c.ident e { t1 with u.stopped := true }).1 ∧
      (if s1.u.stopped = true then (s1, some e) else hError c e { s1 with u.stopped := true }).2 =
      (if t1.u.stopped = true then (t1, some e) else hError c.ident e { t1 with u.stopped := true }).2 := by
    intro e s1 t1 h1
    have hu := h1.u
    rw [hu]
    cases t1.u.stopped
    · have := sim_hTerminal c q (.error e) rfl _ _ (rel_updU h1 (fun u => { u with stopped := true }) (fun _ => rfl))
      simpa [hu, hTerminal] using this
    · exact ⟨h1, rfl⟩
  cases x <;> simp only [srcSubscribe, e1, e2]
  · cases sp.exn with
    | some e => exact body e s1 t1 h1
    | none =>
      have hu := h1.u
      simp only [hu]
      cases hsad : t1.u.sad
      · exact ⟨by simpa [hu, hsad] using rel_updU h1 (fun u => { u with cur := true, live := true }) (fun _ => rfl), rfl⟩
      · simp only [srcDisposeP_eq c q.sd, srcDisposeP_eq c.ident q.sd]
        exact ⟨by simpa [hu, hsad] using rel_log (rel_updU h1 (fun u => { u with live := true }) (fun _ => rfl)) .srcDispose, rfl⟩
  · exact body _ s1 t1 h1

theorem sim_opSubscribe {α} (c : Cfg) (q : Quiet c) (sp : SyncPhase α) :
    Sim c (opSubscribe c sp) (opSubscribe c.ident sp) := by
  change Sim c (opSubscribe c sp) (srcSubscribe c.ident sp)
  by_cases hf : c.oper = .finallyAction
  · intro s t h
    simp only [opSubscribe, hf]
    obtain ⟨s1, t1, x, e1, e2, h1⟩ := (sim_srcSubscribe c q sp).out h
    cases x <;> simp only [e1, e2]
    · exact ⟨h1, trivial⟩
    · obtain ⟨s2, e3, h2⟩ := (simL_action c q.nr .fin none).out h1
      simp only [e3]
      exact ⟨h2, trivial⟩
  · -- the factories succeed (`Quiet.us`) and the action returns: they only log, and the source is `sp` itself
    have hsp : c.opSp sp = sp := by
      simp only [Cfg.opSp]; exact if_neg fun ⟨hu, h⟩ => h.elim (q.us hu).1 (by simp [(q.us hu).2])
    intro s t h
    rw [opSubscribe_eq c sp s hf (fun _ => q.nr _), hsp]
    exact sim_srcSubscribe c q sp _ t ⟨h.d, h.u, by simp [h.v], h.o⟩

theorem sim_outerSubscribe {α} (c : Cfg) (q : Quiet c) (sp : SyncPhase α) :
    Sim c (outerSubscribe c sp) (outerSubscribe c.ident sp) := by
  intro s t h
  obtain ⟨s1, t1, x, e1, e2, h1⟩ := (sim_opSubscribe c q sp).out h
  have hd := h1.d
  cases x <;> simp only [outerSubscribe, e1, e2, hd]
  · cases hsad : t1.d.sad
    · exact ⟨by simpa [hd, hsad] using rel_updD h1 (fun d => { d with cur := true }), rfl⟩
    · simpa using sim_rDispose c q.sd q.nr s1 t1 h1
  · cases hst : t1.d.stopped
    · simpa [hd] using sim_userCb c (.error _) _ _ (rel_updD h1 (fun d => { d with stopped := true }))
    · exact ⟨h1, rfl⟩

theorem sim_subscribePhase {α} (c : Cfg) (q : Quiet c) (sp : SyncPhase α) :
    Rel c (subscribePhase c sp : St α) (subscribePhase c.ident sp) := by
  obtain ⟨s1, t1, x, e1, e2, h1⟩ := (sim_outerSubscribe c q sp).out (s := {}) (t := {}) ⟨rfl, rfl, rfl, by simp⟩
  cases x <;> simp only [subscribePhase, e1, e2]
  · exact rel_updD h1 (fun d => { d with handle := true })
  · exact rel_log h1 _

theorem sim_step {α} (c : Cfg) (q : Quiet c) (e : Ev α) (s t : St α) (h : Rel c s t) :
    Rel c (step c s e) (step c.ident t e) := by
  have swl : ∀ (p p' : P α), Sim c p p' → ∀ s t, Rel c s t → Rel c (swallow p s) (swallow p' t) := by
    intro p p' hp s t h
    obtain ⟨s1, t1, x, e1, e2, h1⟩ := hp.out h
    cases x <;> simp only [swallow, e1, e2]
    · exact h1
    · exact rel_log h1 _
  cases e with
  | src n =>
    simp only [step, h.u]
    cases t.u.live
    · simpa using h
    · simpa using swl _ _ (sim_uNotify c q n) s t h
  | dispose =>
    simp only [step]
    apply swl _ _ _ s t h
    intro s t h
    have hd := h.d
    simp only [handleDispose, hd]
    cases (!t.d.handle || t.d.retDisposed)
    · have := sim_dDispose c q.sd q.nr _ _ (rel_updD h (fun d => { d with retDisposed := true }))
      simpa [hd] using this
    · exact ⟨h, rfl⟩

theorem sim_run {α} (c : Cfg) (q : Quiet c) (sp : SyncPhase α) (evs : List (Ev α)) :
    Rel c (run c sp evs) (run c.ident sp evs) := by
  simp only [run]
  have h0 := sim_subscribePhase c q sp
  generalize subscribePhase c sp = s at h0
  generalize subscribePhase c.ident sp = t at h0
  induction evs generalizing s t with
  | nil => exact h0
  | cons e es ih => exact ih _ _ (sim_step c q e s t h0)

theorem delivered_view {α} (l : List (Eff α)) : delivered (view l) = delivered l := by
  simp only [delivered, view, List.filterMap_filter]
  exact congrArg (fun f => l.filterMap f) (funext fun e => by cases e <;> rfl)

end WinFin
