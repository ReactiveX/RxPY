import RxModel.AggBase
import RxProofs.Lemmas.CoreAdo
/-!
# The handler framework

What the subscriber sees is `cut ∘ feed ∘ cut` (`Op.out_eq`): the run flags and `lag` only show in `escapes` and in the final run state.
-/

namespace Agg

@[simp] theorem deliver_true {β} (ns : List (Notif β)) : deliver true ns = (true, []) := by
  cases ns <;> rfl

@[simp] theorem deliver_nil {β} (d : Bool) : deliver d ([] : List (Notif β)) = (d, []) := rfl

theorem deliver_false_cons {β} (n : Notif β) (ns : List (Notif β)) :
    deliver false (n :: ns) = ((deliver n.isTerminal ns).1, n :: (deliver n.isTerminal ns).2) := rfl

theorem deliver_append {β} (d : Bool) (a b : List (Notif β)) :
    deliver d (a ++ b) = ((deliver (deliver d a).1 b).1, (deliver d a).2 ++ (deliver (deliver d a).1 b).2) := by
  induction a generalizing d with
  | nil => simp
  | cons n ns ih =>
    cases d
    · simp only [List.cons_append, deliver_false_cons, ih]
    · simp

theorem deliver_eq_cut {β} (d : Bool) (ns : List (Notif β)) : (deliver d ns).2 = if d then [] else cut ns := by
  cases d
  · induction ns with
    | nil => rfl
    | cons n ns ih =>
      simp only [deliver_false_cons, cut]
      cases h : n.isTerminal <;> simp [ih]
  · simp

@[simp] theorem cut_nil {β} : cut ([] : List (Notif β)) = [] := rfl
@[simp] theorem cut_next {β} (v : β) (ns : List (Notif β)) : cut (.next v :: ns) = .next v :: cut ns := rfl
@[simp] theorem cut_error {β} (e : Err) (ns : List (Notif β)) : cut (.error e :: ns) = [.error e] := rfl
@[simp] theorem cut_completed {β} (ns : List (Notif β)) : cut (.completed :: ns) = [.completed] := rfl

theorem cut_cut {β} (ns : List (Notif β)) : cut (cut ns) = cut ns := by
  induction ns with
  | nil => rfl
  | cons n ns ih => cases n <;> simp [ih]

theorem cut_eq_elems_ending {α} (raw : List (Notif α)) :
    cut raw = (elems raw).map .next ++ (ending raw).notifs := by
  induction raw with
  | nil => rfl
  | cons n ns ih => cases n <;> simp [elems, ending, Ending.notifs, ih]

@[simp] theorem elems_map_next_append {α} (xs : List α) (rest : List (Notif α)) :
    elems (xs.map .next ++ rest) = xs ++ elems rest := by
  induction xs with
  | nil => rfl
  | cons x xs ih => simp [elems, ih]

@[simp] theorem ending_map_next_append {α} (xs : List α) (rest : List (Notif α)) :
    ending (xs.map .next ++ rest) = ending rest := by
  induction xs with
  | nil => rfl
  | cons x xs ih => simp [ending, ih]

@[simp] theorem elems_notifs {α} (t : Ending) : elems (t.notifs : List (Notif α)) = [] := by
  cases t <;> rfl
@[simp] theorem ending_notifs {α} (t : Ending) : ending (t.notifs : List (Notif α)) = t := by
  cases t <;> rfl
@[simp] theorem elems_nil {α} : elems ([] : List (Notif α)) = [] := rfl
@[simp] theorem ending_nil {α} : ending ([] : List (Notif α)) = .open := rfl
@[simp] theorem elems_next {α} (v : α) (ns) : elems (.next v :: ns) = v :: elems ns := rfl
@[simp] theorem elems_error {α} (e : Err) (ns : List (Notif α)) : elems (.error e :: ns) = [] := rfl
@[simp] theorem elems_completed {α} (ns : List (Notif α)) : elems (.completed :: ns) = [] := rfl
@[simp] theorem ending_next {α} (v : α) (ns) : ending (.next v :: ns) = ending ns := rfl
@[simp] theorem ending_error {α} (e : Err) (ns : List (Notif α)) : ending (.error e :: ns) = .err e := rfl
@[simp] theorem ending_completed {α} (ns : List (Notif α)) : ending (.completed :: ns) = .done := rfl

@[simp] theorem elems_map_next {α} (xs : List α) : elems (xs.map Notif.next) = xs := by
  simpa using elems_map_next_append xs []
@[simp] theorem ending_map_next {α} (xs : List α) : ending (xs.map Notif.next) = .open := by
  simpa using ending_map_next_append xs []

theorem elems_map {α β} (f : α → β) (l : List (Notif α)) : elems (l.map (Notif.map f)) = (elems l).map f := by
  induction l with
  | nil => rfl
  | cons n ns ih => cases n <;> simp [Notif.map, ih]

theorem ending_map {α β} (f : α → β) (l : List (Notif α)) : ending (l.map (Notif.map f)) = ending l := by
  induction l with
  | nil => rfl
  | cons n ns ih => cases n <;> simp [Notif.map, ih]

def Op.outFrom {α β} (op : Op α β) (lag : Bool) (st : RunSt op.σ) (raw : List (Notif α)) : List (Notif β) :=
  (op.steps lag st raw).flatMap (·.out)

theorem Op.outFrom_cons {α β} (op : Op α β) (lag : Bool) (st : RunSt op.σ) (n : Notif α) (ns) :
    op.outFrom lag st (n :: ns) = (op.step lag st n).out ++ op.outFrom lag (op.step lag st n).st ns := by
  simp [Op.outFrom, Op.steps]

theorem Op.outFrom_stopped {α β} (op : Op α β) (lag : Bool) (s : op.σ) (d : Bool) (raw : List (Notif α)) :
    op.outFrom lag ⟨true, s, d⟩ raw = [] := by
  induction raw with
  | nil => rfl
  | cons n ns ih => rw [Op.outFrom_cons]; simp [Op.step, ih]

theorem Op.outFrom_eq {α β} (op : Op α β) (lag : Bool) (s : op.σ) (d : Bool) (raw : List (Notif α)) :
    op.outFrom lag ⟨false, s, d⟩ raw = (deliver d (op.feed s (cut raw))).2 := by
  induction raw generalizing s d with
  | nil => rfl
  | cons n ns ih =>
    rw [Op.outFrom_cons]
    simp only [Op.step, Bool.false_eq_true, if_false]
    cases hn : n.isTerminal
    · have hc : cut (n :: ns) = n :: cut ns := by simp [cut, hn]
      rw [hc]; simp only [Op.feed, deliver_append, Bool.false_or]
      -- the only place `lag` matters: a prompt run stops the source once the subscriber is stopped — and then nothing is delivered anyway
      cases hd : (!lag && (deliver d (op.handle s n).calls).1)
      · rw [ih]
      · have : (deliver d (op.handle s n).calls).1 = true := by
          cases lag <;> simp_all
        rw [Op.outFrom_stopped, this]; simp
    · have hc : cut (n :: ns) = [n] := by simp [cut, hn]
      rw [hc]; simp only [Op.feed, deliver_append, Bool.true_or, Op.outFrom_stopped]
      simp

theorem Op.out_eq {α β} (op : Op α β) (lag : Bool) (raw : List (Notif α)) :
    op.out lag raw = cut (op.feed op.init (cut raw)) := by
  have := op.outFrom_eq lag op.init false raw
  simp only [deliver_eq_cut, Bool.false_eq_true, if_false] at this
  exact this

@[simp] theorem pump_true {β γ} (g : Op β γ) (s : g.σ) (ns : List (Notif β)) :
    pump g true s ns = ((true, s), [], none) := by
  cases ns <;> rfl

theorem pump_append {β γ} (g : Op β γ) (m : Bool) (s : g.σ) (a b : List (Notif β)) :
    (pump g m s (a ++ b)).2.1 = (pump g m s a).2.1 ++ (pump g (pump g m s a).1.1 (pump g m s a).1.2 b).2.1
    ∧ (pump g m s (a ++ b)).1 = (pump g (pump g m s a).1.1 (pump g m s a).1.2 b).1 := by
  induction a generalizing m s with
  | nil => simp [pump]
  | cons n ns ih =>
    cases m
    · simp only [List.cons_append, pump]
      have := ih n.isTerminal (g.handle s n).st
      simp [this.1, this.2]
    · simp

theorem feed_comp {α β γ} (f : Op α β) (g : Op β γ) (sf : f.σ) (m : Bool) (sg : g.σ) (ns : List (Notif α)) :
    (f ⨾ g).feed (sf, m, sg) ns = (pump g m sg (f.feed sf ns)).2.1 := by
  induction ns generalizing sf m sg with
  | nil => rfl
  | cons n ns ih =>
    have hstep : ∀ h : HOut f.σ β,
        (compH g m sg h).calls = (pump g m sg h.calls).2.1 ∧
        (compH g m sg h).st = (h.st, (pump g m sg h.calls).1.1, (pump g m sg h.calls).1.2) := by
      intro h; exact ⟨rfl, rfl⟩
    have hh : (f ⨾ g).handle (sf, m, sg) n = compH g m sg (f.handle sf n) := by
      cases n <;> rfl
    simp only [Op.feed, hh, (hstep _).1, (hstep _).2]
    rw [ih, (pump_append g m sg _ _).1]

theorem pump_calls_eq {β γ} (g : Op β γ) (s : g.σ) (ns : List (Notif β)) :
    (pump g false s ns).2.1 = g.feed s (cut ns) := by
  induction ns generalizing s with
  | nil => rfl
  | cons n ns ih =>
    simp only [pump]
    cases hn : n.isTerminal
    · have hc : cut (n :: ns) = n :: cut ns := by simp [cut, hn]
      rw [hc, ih]; rfl
    · have hc : cut (n :: ns) = [n] := by simp [cut, hn]
      rw [hc]; simp [Op.feed]

theorem Op.out_comp {α β γ} (f : Op α β) (g : Op β γ) (lag lag₁ lag₂ : Bool) (raw : List (Notif α)) :
    (f ⨾ g).out lag raw = g.out lag₂ (f.out lag₁ raw) := by
  rw [Op.out_eq, Op.out_eq g, Op.out_eq f, cut_cut]
  show cut ((f ⨾ g).feed (f.init, false, g.init) (cut raw)) = _
  rw [feed_comp, pump_calls_eq]

theorem Op.out_pipe {α β γ} (f : Op α β) (g : Op β γ) (lag : Bool) (raw : List (Notif α)) :
    (f ⨾ g).out lag raw = g.out lag (f.out lag raw) := Op.out_comp f g lag lag lag raw

theorem cut_out {α β} (op : Op α β) (lag : Bool) (raw : List (Notif α)) : cut (op.out lag raw) = op.out lag raw := by
  rw [Op.out_eq, cut_cut]

theorem Op.steps_append {α β} (op : Op α β) (lag : Bool) (st : RunSt op.σ) (a b : List (Notif α)) :
    op.steps lag st (a ++ b) = op.steps lag st a ++ op.steps lag (op.finalFrom lag st a) b := by
  induction a generalizing st with
  | nil => rfl
  | cons n ns ih => simp [Op.steps, Op.finalFrom, ih]

theorem Op.out_prefix {α β} (op : Op α β) (lag : Bool) (a b : List (Notif α)) :
    op.out lag (a ++ b) = op.out lag a ++ op.outFrom lag (op.final lag a) b := by
  simp [Op.out, Op.outFrom, Op.final, Op.steps_append]

theorem Op.steps_length {α β} (op : Op α β) (lag : Bool) (st : RunSt op.σ) (a : List (Notif α)) :
    (op.steps lag st a).length = a.length := by
  induction a generalizing st with
  | nil => rfl
  | cons n ns ih => simp [Op.steps, ih]

theorem Op.outT_untimed {α β τ} (op : Op α β) (lag : Bool) (raw : List (τ × Notif α)) :
    (op.outT lag raw).map (·.2) = op.out lag (raw.map (·.2)) := by
  unfold Op.outT Op.out
  generalize op.start = st
  induction raw generalizing st with
  | nil => rfl
  | cons p ps ih =>
    simp only [List.map_cons, Op.steps, List.zip_cons_cons, List.flatMap_cons, List.map_append, List.map_map]
    rw [ih]; congr 1
    simp [Function.comp_def]

theorem Op.outT_append {α β τ} (op : Op α β) (lag : Bool) (a b : List (τ × Notif α)) :
    ∃ r, op.outT lag (a ++ b) = op.outT lag a ++ r ∧ ∀ p ∈ r, p.1 ∈ b.map (·.1) := by
  unfold Op.outT
  simp only [List.map_append, Op.steps_append]
  rw [List.zip_append (by simp [Op.steps_length])]
  simp only [List.flatMap_append]
  refine ⟨_, rfl, ?_⟩
  intro p hp
  simp only [List.mem_flatMap, List.mem_map] at hp
  obtain ⟨q, hq, n, _, rfl⟩ := hp
  exact List.mem_map.mpr (by
    have := (List.of_mem_zip hq).1
    simpa using this)

theorem stamped_eq {τ β} (r : List (τ × Notif β)) (t : τ) (o : List (Notif β)) (hu : r.map (·.2) = o)
    (ht : ∀ p ∈ r, p.1 = t) : r = o.map (fun n => (t, n)) := by
  induction r generalizing o with
  | nil => subst hu; rfl
  | cons p ps ih =>
    subst hu
    obtain ⟨p1, p2⟩ := p
    have h1 : p1 = t := ht (p1, p2) List.mem_cons_self
    subst h1
    simp only [List.map_cons, List.cons.injEq, true_and]
    exact ih _ rfl (fun q hq => ht q (List.mem_cons_of_mem _ hq))

theorem Op.outFrom_down {α β} (op : Op α β) (lag : Bool) (st : RunSt op.σ) (h : st.down = true) (raw : List (Notif α)) :
    op.outFrom lag st raw = [] := by
  obtain ⟨up, s, d⟩ := st
  cases h
  cases up
  · rw [Op.outFrom_eq, deliver_true]
  · exact Op.outFrom_stopped op lag s true raw

theorem deliver_stops {β} (d : Bool) (l : List (Notif β)) : (deliver d l).1 = (d || (deliver d l).2.any (·.isTerminal)) := by
  induction l generalizing d with
  | nil => simp
  | cons c cs ih =>
    cases d
    · simp only [deliver_false_cons, List.any_cons, Bool.false_or]
      rw [ih]
    · simp

theorem deliver_nonterminals_error {β} (cs : List (Notif β)) (e : Err) (hcs : ∀ c ∈ cs, c.isTerminal = false) :
    deliver false (cs ++ [.error e]) = (true, cs ++ [.error e]) := by
  induction cs with
  | nil => rfl
  | cons c cs ih =>
    have hc : c.isTerminal = false := hcs c List.mem_cons_self
    simp only [List.cons_append, deliver_false_cons, hc]
    rw [ih (fun c' h => hcs c' (List.mem_cons_of_mem _ h))]

theorem Op.finalFrom_down_eq {α β} (op : Op α β) (lag : Bool) (st : RunSt op.σ) (raw : List (Notif α)) :
    (op.finalFrom lag st raw).down = (st.down || (op.outFrom lag st raw).any (·.isTerminal)) := by
  induction raw generalizing st with
  | nil => simp [Op.finalFrom, Op.outFrom, Op.steps]
  | cons n ns ih =>
    simp only [Op.finalFrom, Op.outFrom_cons, List.any_append, ih]
    unfold Op.step
    split
    · simp
    · simp only [deliver_stops st.down, Bool.or_assoc]

theorem Op.final_down_iff {α β} (op : Op α β) (lag : Bool) (raw : List (Notif α)) :
    (op.final lag raw).down = (op.out lag raw).any (·.isTerminal) :=
  Op.finalFrom_down_eq op lag op.start raw

/-- `b`: a terminal was sent before `st` -/
theorem Op.finalFrom_up_eq {α β} (op : Op α β) (lag : Bool) (raw : List (Notif α)) (st : RunSt op.σ) (b : Bool)
    (h : st.up = (b || (!lag && st.down))) :
    (op.finalFrom lag st raw).up = (b || raw.any (·.isTerminal) || (!lag && (op.finalFrom lag st raw).down)) := by
  induction raw generalizing st b with
  | nil => simpa [Op.finalFrom] using h
  | cons n ns ih =>
    rw [Op.finalFrom, ih _ (b || n.isTerminal), List.any_cons, Bool.or_assoc b]
    unfold Op.step
    split
    next hu =>
      show st.up = (b || n.isTerminal || (!lag && st.down))
      rw [Bool.or_right_comm, ← h, hu]; rfl
    next hu =>
      rw [Bool.not_eq_true] at hu; rw [hu] at h
      cases b
      · rfl
      · cases h

theorem Op.final_up_eq {α β} (op : Op α β) (lag : Bool) (raw : List (Notif α)) :
    (op.final lag raw).up = (raw.any (·.isTerminal) || (!lag && (op.final lag raw).down)) :=
  op.finalFrom_up_eq lag raw op.start false (Bool.and_false _).symm

theorem Op.final_up_false {α β} (op : Op α β) (lag : Bool) (pre : List (Notif α))
    (hpre : ∀ n ∈ pre, n.isTerminal = false) (hdown : (op.final lag pre).down = false) :
    (op.final lag pre).up = false := by
  rw [Op.final_up_eq, hdown, Bool.and_false, Bool.or_false]
  exact List.any_eq_false.2 (fun n hn => by rw [hpre n hn]; decide)

theorem Op.final_stopped {α β} (op : Op α β) (lag : Bool) (raw : List (Notif α)) (h : (op.out lag raw).any (·.isTerminal) = true) :
    (op.final lag raw).down = true ∧ (lag = false → (op.final lag raw).up = true) := by
  have hd : (op.final lag raw).down = true := by rw [Op.final_down_iff]; exact h
  exact ⟨hd, fun hl => by subst hl; rw [Op.final_up_eq, hd]; exact Bool.or_true _⟩

theorem Op.out_stopped {α β} (op : Op α β) (lag : Bool) (a b : List (Notif α))
    (h : (op.out lag a).any (·.isTerminal) = true) : op.out lag (a ++ b) = op.out lag a := by
  rw [Op.out_prefix, Op.outFrom_down _ _ _ (by rw [Op.final_down_iff]; exact h), List.append_nil]

theorem Op.outT_decisive {α β τ} (op : Op α β) (lag : Bool) (a : List (τ × Notif α)) (t : τ) (n : Notif α)
    (post : List (τ × Notif α)) (d : List (Notif β))
    (hd : op.out lag (a.map (·.2) ++ [n]) = op.out lag (a.map (·.2)) ++ d) (hterm : d.any (·.isTerminal) = true) :
    op.outT lag (a ++ (t, n) :: post) = op.outT lag a ++ d.map (fun m => (t, m)) := by
  obtain ⟨r1, hr1, ht1⟩ := Op.outT_append op lag a [(t, n)]
  obtain ⟨r2, hr2, _⟩ := Op.outT_append op lag (a ++ [(t, n)]) post
  have hmap : (a ++ [(t, n)]).map (·.2) = a.map (·.2) ++ [n] := by rw [List.map_append]; rfl
  have h1 : r1.map (·.2) = d := by
    have := Op.outT_untimed op lag (a ++ [(t, n)])
    rw [hr1, List.map_append, Op.outT_untimed, hmap, hd] at this
    exact List.append_cancel_left this
  have h2 : r2 = [] := by
    have := Op.outT_untimed op lag ((a ++ [(t, n)]) ++ post)
    rw [hr2, List.map_append, Op.outT_untimed, hmap, List.map_append, hmap,
      Op.out_stopped op lag (a.map (·.2) ++ [n]) (post.map (·.2)) (by rw [hd, List.any_append, hterm, Bool.or_true])] at this
    exact List.map_eq_nil_iff.1 (List.append_cancel_left (this.trans (List.append_nil _).symm))
  rw [show a ++ (t, n) :: post = (a ++ [(t, n)]) ++ post by rw [List.append_assoc]; rfl, hr2, hr1, h2, List.append_nil,
    stamped_eq r1 t d h1 (fun p hp => by simpa using ht1 p hp)]

def toCall {β} : Notif β → ObsCall β
  | .next v => .next v
  | .error e => .error e
  | .completed => .completed

theorem cut_eq_ado {β} (k : Nat) (ns : List (Notif β)) :
    cut ns = Ado.delivered (fun _ => false) { stopped := false, cbs := k } (ns.map toCall) := by
  induction ns generalizing k with
  | nil => rfl
  | cons n ns ih =>
    rw [List.map_cons, C01.delivered_cons]
    cases n with
    | next v => exact congrArg (Notif.next v :: ·) (ih (k + 1))
    | error e => exact congrArg (Notif.error e :: ·) (C01.stopped_silent _ _ _ rfl).symm
    | completed => exact congrArg (Notif.completed :: ·) (C01.stopped_silent _ _ _ rfl).symm

end Agg
