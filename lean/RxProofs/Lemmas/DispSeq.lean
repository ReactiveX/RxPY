import RxProofs.Lemmas.PipeHeap
import RxProofs.Lemmas.DispComposite
import RxProofs.Lemmas.DispAssign
/-!
# What one call does when no other thread interferes

`xSeq s op`: the state in which the call `op` ends when the one thread of the system makes it from `s`; `x_call`: it is reached.
-/
namespace Disp

def bumpAll (c : Nat → Nat) (l : List Nat) : Nat → Nat := l.foldl bump c

@[simp] theorem bumpAll_nil (c : Nat → Nat) : bumpAll c [] = c := rfl
@[simp] theorem bumpAll_cons (c : Nat → Nat) (i : Nat) (l : List Nat) : bumpAll c (i :: l) = bumpAll (bump c i) l := rfl

theorem bumpAll_pos (c : Nat → Nat) (l : List Nat) (i : Nat) : 0 < bumpAll c l i ↔ (0 < c i ∨ i ∈ l) := by
  induction l generalizing c with
  | nil => simp [bumpAll]
  | cons x l ih =>
    simp only [bumpAll, List.foldl_cons] at ih ⊢
    rw [ih]
    by_cases h : i = x
    · subst h; simp
    · simp [bump, h]

/-- the end of a call that left its lock block in `s1` (pre-check events logged) with step event `ev`, call-outs `l`, return value `r` -/
def CSh.fin (s1 : CSh) (ev : Ev) (l : List Nat) (r : RV) : CSh :=
  { s1 with cnt := bumpAll s1.cnt l, log := s1.log ++ ev :: l.map Ev.disp ++ [.ret r] }

def cSeq (s : CSh) : COp → CSh
  | .add i =>
    match s.isDisposed with
    | true => CSh.fin { s with given := bump s.given i } (.lock 0) [i] .unit
    | false => CSh.fin { s with items := s.items ++ [i], given := bump s.given i } (.lock 0) [] .unit
  | .remove i =>
    match s.isDisposed with
    | true => CSh.fin s (.rd true) [] (.bool false)
    | false =>
      if i ∈ s.items then CSh.fin { s with items := s.items.erase i, log := s.log ++ [.rd false] } (.lock 0) [i] (.bool true)
      else CSh.fin { s with log := s.log ++ [.rd false] } (.lock 0) [] (.bool false)
  | .clear => CSh.fin { s with items := [] } (.lock 0) s.items .unit
  | .dispose =>
    match s.isDisposed with
    | true => CSh.fin { s with dcalls := s.dcalls + 1 } (.rd true) [] .unit
    | false =>
      CSh.fin { s with isDisposed := true, items := [], dcalls := s.dcalls + 1, log := s.log ++ [.rd false] } (.lock 0) s.items .unit
  | .len => CSh.fin s (.rd (!s.items.isEmpty)) [] (.nat s.items.length)
  | .contains i => CSh.fin s (.rd (!s.items.isEmpty)) [] (.bool (s.items.contains i))

theorem c_drain (l : List Nat) (i : Nat) (s : CSh) (r : RV) (p : List COp) :
    Reach cStep ⟨s, [(.pend (i :: l) r, p)]⟩
      ⟨{ s with cnt := bumpAll s.cnt (i :: l), log := s.log ++ (i :: l).map Ev.disp ++ [.ret r] }, [(.idle, p)]⟩ := by
  induction l generalizing s i with
  | nil => simpa [cStep] using Reach.one cStep s (.pend [i] r, p)
  | cons j l ih =>
    refine (Reach.one cStep s _).trans ?_
    simpa [cStep] using ih j { s with cnt := bump s.cnt i, log := s.log ++ [.disp i] }

theorem c_run {s s1 : CSh} {t : CTh} {ev : Ev} {l : List Nat} {r : RV} {p : List COp}
    (h : cStep s t = CSh.out s1 ev l r p) : Reach cStep ⟨s, [t]⟩ ⟨s1.fin ev l r, [(.idle, p)]⟩ := by
  refine (Reach.one cStep s t).trans ?_
  rw [h]
  cases l with
  | nil => simpa [CSh.out, CSh.fin] using Reach.refl cStep _
  | cons i l => simpa [CSh.out, CSh.fin] using c_drain l i { s1 with log := s1.log ++ [ev] } r p

theorem c_call (s : CSh) (op : COp) (p : List COp) : Reach cStep ⟨s, [(.idle, op :: p)]⟩ ⟨cSeq s op, [(.idle, p)]⟩ := by
  cases op with
  | add i => cases hd : s.isDisposed <;> simp only [cSeq, hd] <;> exact c_run (by simp [cStep, hd])
  | remove i =>
    cases hd : s.isDisposed
    · by_cases hmem : i ∈ s.items <;> simp only [cSeq, hd, hmem] <;>
        exact (by simpa [cStep, hd] using Reach.one cStep s (.idle, .remove i :: p) :
          Reach cStep _ ⟨{ s with log := s.log ++ [.rd false] }, [(.chk1 i, p)]⟩).trans (c_run (by simp [cStep, hmem, hd]))
    · simp only [cSeq, hd]; exact c_run (by simp [cStep, hd])
  | clear => exact c_run (by simp [cStep])
  | dispose =>
    cases hd : s.isDisposed <;> simp only [cSeq, hd]
    · exact (by simpa [cStep, hd] using Reach.one cStep s (.idle, .dispose :: p) :
        Reach cStep _ ⟨{ s with log := s.log ++ [.rd false] }, [(.chk0, p)]⟩).trans (c_run (by simp [cStep]))
    · exact c_run (by simp [cStep, hd])
  | len => exact c_run (by simp [cStep])
  | contains i => exact c_run (by simp [cStep])

def AKind (f : ASh → ATh → ASh × ATh) (K : Pipe.Kind) : Prop :=
  (f = serStep ∧ K = .serial) ∨ (f = madStep ∧ K = .multi) ∨ (f = sadStep ∧ K = .single)

theorem AKind.isA {f K} (h : AKind f K) : IsAStep f := by
  rcases h with ⟨h, _⟩ | ⟨h, _⟩ | ⟨h, _⟩ <;> simp [IsAStep, h]

theorem AKind.kind {f K} (h : AKind f K) : Pipe.IsAssign K := by
  rcases h with ⟨_, h⟩ | ⟨_, h⟩ | ⟨_, h⟩ <;> simp [Pipe.IsAssign, h]

/-- as `CSh.fin`; an assignment class owes one call-out at most -/
def ASh.fin (s1 : ASh) (ev : Ev) (o : Option Nat) (r : RV) : ASh :=
  { s1 with cnt := bumpAll s1.cnt o.toList, log := s1.log ++ ev :: o.toList.map Ev.disp ++ [.ret r] }

/-- the three assignment classes by heap kind: the old item is disposed (Serial), dropped (MultipleAssignment), or there is none
(SingleAssignment raises otherwise) -/
def aSeq (K : Pipe.Kind) (s : ASh) : AOp → ASh
  | .set v =>
    if K = .single ∧ s.current.isSome = true then { s with rej := bump s.rej v, log := s.log ++ [.lock 0, .raised] }
    else match s.isDisposed with
      | true => ASh.fin { s with given := bump s.given v } (.lock 0) (some v) .unit
      | false =>
        ASh.fin { s with current := some v, given := bump s.given v, accepted := s.accepted + 1,
                         dropped := if K = .multi then (match s.current with | some o => bump s.dropped o | none => s.dropped)
                                    else s.dropped }
          (.lock 0) (if K = .serial then s.current else none) .unit
  | .get => ASh.fin s (.rd s.current.isSome) none (.item s.current)
  | .dispose =>
    match s.isDisposed with
    | true => ASh.fin { s with dcalls := s.dcalls + 1 } (.lock 0) none .unit
    | false =>
      ASh.fin { s with isDisposed := true, current := none, tookSome := s.tookSome || s.current.isSome, dcalls := s.dcalls + 1 }
        (.lock 0) s.current .unit

/-- what the call reports: an assignment to an assigned SingleAssignmentDisposable raises -/
def aRes (K : Pipe.Kind) (s : ASh) : AOp → Pipe.Res
  | .set _ => if K = .single ∧ s.current.isSome = true then .rejected else .ok
  | _ => .ok

theorem a_run {f : ASh → ATh → ASh × ATh} (hf : IsAStep f) {s s1 : ASh} {t : ATh} {ev : Ev} {o : Option Nat} {r : RV}
    {p : List AOp} (h : f s t = ASh.out s1 ev o.toList r p) : Reach f ⟨s, [t]⟩ ⟨s1.fin ev o r, [(.idle, p)]⟩ := by
  refine (Reach.one f s t).trans ?_
  rw [h]
  cases o with
  | none => simpa [ASh.out, ASh.fin] using Reach.refl f _
  | some i =>
    have h1 := Reach.one f { s1 with log := s1.log ++ [ev] } (.pend [i] r, p)
    rw [aStep_off_set f hf _ (by simp)] at h1
    simpa [ASh.out, ASh.fin, aCommon] using h1

theorem a_call {f : ASh → ATh → ASh × ATh} {K : Pipe.Kind} (hfK : AKind f K) (s : ASh) (op : AOp) (p : List AOp) :
    Reach f ⟨s, [(.idle, op :: p)]⟩ ⟨aSeq K s op, [(.idle, p)]⟩ := by
  have hf := hfK.isA
  cases op with
  | get => exact a_run hf (by rw [aStep_off_set f hf _ (by simp)]; simp [aCommon])
  | dispose =>
    cases hd : s.isDisposed <;> simp only [aSeq, hd] <;>
      exact a_run hf (by rw [aStep_off_set f hf _ (by simp)]; simp [aCommon, hd])
  | set v =>
    rcases hfK with ⟨rfl, rfl⟩ | ⟨rfl, rfl⟩ | ⟨rfl, rfl⟩
    · cases hd : s.isDisposed <;> simp [aSeq, hd] <;> exact a_run hf (by simp [serStep, hd])
    · cases hd : s.isDisposed <;> cases hc : s.current <;> simp [aSeq, hd, hc] <;> exact a_run hf (by simp [madStep, hd, hc])
    · cases hc : s.current
      · cases hd : s.isDisposed <;> simp [aSeq, hd, hc] <;> exact a_run hf (by simp [sadStep, hd, hc])
      · simpa [aSeq, sadStep, hc] using Reach.one sadStep s (.idle, .set v :: p)

theorem Reach.calls {σ α : Type} (f : σ → CPc × List α → σ × (CPc × List α)) (seq : σ → α → σ)
    (hcall : ∀ s op p, Reach f ⟨s, [(.idle, op :: p)]⟩ ⟨seq s op, [(.idle, p)]⟩) (ops : List α) (s : σ) :
    Reach f ⟨s, [(.idle, ops)]⟩ ⟨ops.foldl seq s, [(.idle, [])]⟩ := by
  induction ops generalizing s with
  | nil => exact Reach.refl _ _
  | cons op ops ih => exact (hcall s op ops).trans (ih _)

end Disp
