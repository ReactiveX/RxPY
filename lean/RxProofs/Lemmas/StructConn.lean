import RxProofs.Lemmas.StructConnStep
/-!
# One source subscription per connection (C24)

`ConnInv`: the source subscriptions that are open are at most the one owned by the live connection
handle.  Every primitive of the model preserves it (`connInv_stable` for those `advance` uses),
hence so does every history (`runOps_inv`, `run_inv`).
-/

namespace Conn
namespace World
variable {α : Type}

/-- not connected: nothing open, no live handle; connected: a live handle owning source
subscription `sid`, which is the only one that can be open. -/
def ConnInv (w : World α) : Prop :=
  (w.hasSub = false → w.srcOpen = [] ∧ w.curHandle = none ∧ w.curSrc = none) ∧
  (w.hasSub = true → w.curHandle.isSome = true ∧
    ∃ sid, w.curSrc = some sid ∧ (w.srcOpen = [] ∨ ∃ p, w.srcOpen = [⟨sid, p⟩]))

namespace ConnInv
variable {w : World α} (h : ConnInv w)
include h

theorem off (hs : w.hasSub = false) : w.srcOpen = [] ∧ w.curHandle = none ∧ w.curSrc = none := h.1 hs

theorem on (hs : w.hasSub = true) : w.curHandle.isSome = true ∧
    ∃ sid, w.curSrc = some sid ∧ (w.srcOpen = [] ∨ ∃ p, w.srcOpen = [⟨sid, p⟩]) := h.2 hs

theorem closed (hs : w.hasSub = false) : w.srcOpen = [] := (h.off hs).1

theorem noHandle (hs : w.hasSub = false) : w.curHandle = none := (h.off hs).2.1

theorem handle (hs : w.hasSub = true) : w.curHandle.isSome = true := (h.on hs).1

theorem length_le_one : w.srcOpen.length ≤ 1 := by
  cases hs : w.hasSub with
  | false => simp [h.closed hs]
  | true =>
    obtain ⟨_, sid, _, h3⟩ := h.on hs
    rcases h3 with h3 | ⟨p, h3⟩ <;> simp [h3]

end ConnInv

theorem ConnInv.shrink {w w' : World α} (h : ConnInv w) (hs : w'.hasSub = w.hasSub)
    (hh : w'.curHandle = w.curHandle) (hc : w'.curSrc = w.curSrc)
    (hlen : w'.srcOpen.length ≤ w.srcOpen.length) (hid : ∀ s' ∈ w'.srcOpen, ∃ s ∈ w.srcOpen, s'.id = s.id) :
    ConnInv w' := by
  unfold ConnInv
  rw [hs, hh, hc]
  refine ⟨fun hs => ?_, fun hs => ?_⟩
  · obtain ⟨ho, hn, hcn⟩ := h.off hs
    rw [ho] at hlen
    exact ⟨List.eq_nil_of_length_eq_zero (Nat.le_zero.mp hlen), hn, hcn⟩
  · obtain ⟨hsome, sid, hcs, ho⟩ := h.on hs
    refine ⟨hsome, sid, hcs, ?_⟩
    rcases ho with ho | ⟨p, ho⟩
    · rw [ho] at hlen
      exact .inl (List.eq_nil_of_length_eq_zero (Nat.le_zero.mp hlen))
    · rw [ho] at hlen hid
      match hw : w'.srcOpen, hlen with
      | [], _ => exact .inl rfl
      | [s'], _ =>
        obtain ⟨s, hsm, e⟩ := hid s' (by rw [hw]; exact List.mem_singleton.mpr rfl)
        cases List.mem_singleton.mp hsm
        exact .inr ⟨s'.pending, by cases s'; cases e; rfl⟩

theorem connect_inv {w : World α} (h : ConnInv w) (t : Nat) : ConnInv (w.connect t) := by
  unfold connect
  split
  · exact h
  · rename_i hs
    have hs' : w.hasSub = false := by simpa using hs
    have ho := h.closed hs'
    refine ⟨fun hc => by simp at hc, fun _ => ?_⟩
    refine ⟨rfl, w.nextSrc, rfl, Or.inr ⟨(match w.hot with
      | some _ => []
      | none => w.coldMsgs.map (fun m => (t + m.1, m.2))), ?_⟩⟩
    simp only [ho, List.nil_append]
    rfl

theorem disposeHandle_inv {w : World α} (h : ConnInv w) (t k : Nat) : ConnInv (w.disposeHandle t k) := by
  unfold disposeHandle
  split
  · next hk =>
    refine ⟨fun _ => ⟨?_, rfl, rfl⟩, fun hc' => by simp at hc'⟩
    cases hs : w.hasSub with
    | false => rw [h.noHandle hs] at hk; cases hk
    | true =>
      -- what can be open is the source subscription the handle owns, and `closeSrc` removes it
      obtain ⟨_, sid, hc, ho⟩ := h.on hs
      simp only [hc]
      rw [closeSrc_srcOpen]
      rcases ho with ho | ⟨p, ho⟩ <;> simp [ho]
  · exact h

theorem connInv_stable : Stable (ConnInv (α := α)) where
  write _ _ _ h := h
  popCold sid' h :=
    h.shrink rfl rfl rfl (by simp [popCold]) (fun s' hs' => by
      obtain ⟨s, hs, rfl⟩ := List.mem_map.mp hs'
      exact ⟨s, hs, by split <;> rfl⟩)
  closeSrc {w} t sid h :=
    h.shrink (closeSrc_hasSub w t sid) (closeSrc_curHandle w t sid) (closeSrc_curSrc w t sid)
      (by rw [closeSrc_srcOpen]; exact List.length_filter_le ..)
      (fun s hs => ⟨s, by rw [closeSrc_srcOpen] at hs; exact (List.mem_filter.mp hs).1, rfl⟩)
  disposeSub {w} t i h :=
    disposeSub_ind w t i h (fun _ _ => h) (fun _ _ _ => h)
      (fun _ _ => ⟨h, fun hd => disposeHandle_inv (w := w.departed i (w.count - 1)) h t hd⟩)

theorem record_inv {w : World α} (h : ConnInv w) (t : Nat) (dl : List (Nat × Notif α)) : ConnInv (w.record t dl) :=
  h

theorem opSub_inv {w : World α} (h : ConnInv w) (t i : Nat) : ConnInv (w.opSub t i) := by
  have hj : ∀ c, ConnInv (w.joined t i c) := fun _ => h
  have hc : ∀ c, ConnInv ((w.joined t i c).connect t) := fun c => connect_inv (hj c) t
  cases hw : w.wrap with
  | raw => rw [opSub_raw hw]; exact connInv_stable.settle w t i (hj _)
  | refCount =>
    rw [opSub_rc hw]
    apply connInv_stable.settle
    split
    · exact hc _
    · exact hj _
  | autoConnect n =>
    rw [opSub_ac hw]
    apply connInv_stable.settle
    split
    · exact hc _
    · exact hj _

theorem applyOp_inv {w : World α} (h : ConnInv w) (hs : List (Option Nat)) (t : Nat) (op : Op) :
    ConnInv (w.applyOp hs t op).1 := by
  cases op with
  | sub i => exact opSub_inv h t i
  | unsub i => exact connInv_stable.disposeSub t i h
  | connect => exact connect_inv h t
  | disconnect k =>
    simp only [applyOp]
    split
    · exact disposeHandle_inv h t _
    · exact h

theorem runOps_inv (ops : List (Nat × Op)) {w : World α} (hs : List (Option Nat)) (h : ConnInv w) :
    ConnInv (w.runOps hs ops).1 :=
  connInv_stable.runOps (fun o _ _ hs h => applyOp_inv h hs o.1 o.2) hs h

/-- a freshly built multicast observable: not connected, no source subscription -/
def Fresh (w : World α) : Prop :=
  w.hasSub = false ∧ w.srcOpen = [] ∧ w.curHandle = none ∧ w.curSrc = none ∧ w.count = 0 ∧ w.live = [] ∧
    w.isConnected = false ∧ w.connSub = none

theorem Fresh.inv {w : World α} (h : Fresh w) : ConnInv w := by
  obtain ⟨hs, ho, hh, hc, _⟩ := h
  exact ⟨fun _ => ⟨ho, hh, hc⟩, fun hs' => by rw [hs] at hs'; cases hs'⟩

theorem run_inv {w : World α} (h : ConnInv w) (ops : List (Nat × Op)) (horizon : Nat) :
    ConnInv (w.run ops horizon) := by
  unfold run
  simp only []
  have h0 : ConnInv (match w.wrap with
      | .autoConnect 0 => { (w.connect 0) with isConnected := true }
      | _ => w) := by
    split
    · exact connect_inv h 0
    · exact h
  split
  · exact disposeHandle_inv (connInv_stable.toHorizon horizon _ (runOps_inv ops [] h0)) horizon _
  · exact connInv_stable.toHorizon horizon _ (runOps_inv ops [] h0)

end World
end Conn
