import RxProofs.Lemmas.WinGrpTrk
import RxProofs.Lemmas.RefCount
/-!
# The invariant of the `group_by_until` machine

`WF` is kept by six kinds of change: one record replaced, the flags moved, a teardown, `settle`, an `act`, a record appended; every operation
below the handlers is one of these or a composition.  `Inv` adds the two clauses that fail inside a handler.
-/
namespace WinGrp
variable {α κ β : Type}

@[simp] theorem emit_groups (s : St κ β) (e) : (emit s e).groups = s.groups := rfl
@[simp] theorem emit_writers (s : St κ β) (e) : (emit s e).writers = s.writers := rfl
@[simp] theorem emit_srcStopped (s : St κ β) (e) : (emit s e).srcStopped = s.srcStopped := rfl
@[simp] theorem emit_outStopped (s : St κ β) (e) : (emit s e).outStopped = s.outStopped := rfl
@[simp] theorem emit_primary (s : St κ β) (e) : (emit s e).primary = s.primary := rfl
@[simp] theorem emit_count (s : St κ β) (e) : (emit s e).count = s.count := rfl
@[simp] theorem emit_rcdDisposed (s : St κ β) (e) : (emit s e).rcdDisposed = s.rcdDisposed := rfl
@[simp] theorem emit_srcOpen (s : St κ β) (e) : (emit s e).srcOpen = s.srcOpen := rfl
@[simp] theorem emit_out (s : St κ β) (e) : (emit s e).out = s.out ++ [e] := rfl

@[simp] theorem modGrp_groups (s : St κ β) (g f) : (modGrp s g f).groups = s.groups.modify g f := rfl
@[simp] theorem modGrp_writers (s : St κ β) (g f) : (modGrp s g f).writers = s.writers := rfl
@[simp] theorem modGrp_srcStopped (s : St κ β) (g f) : (modGrp s g f).srcStopped = s.srcStopped := rfl
@[simp] theorem modGrp_outStopped (s : St κ β) (g f) : (modGrp s g f).outStopped = s.outStopped := rfl
@[simp] theorem modGrp_primary (s : St κ β) (g f) : (modGrp s g f).primary = s.primary := rfl
@[simp] theorem modGrp_count (s : St κ β) (g f) : (modGrp s g f).count = s.count := rfl
@[simp] theorem modGrp_rcdDisposed (s : St κ β) (g f) : (modGrp s g f).rcdDisposed = s.rcdDisposed := rfl
@[simp] theorem modGrp_srcOpen (s : St κ β) (g f) : (modGrp s g f).srcOpen = s.srcOpen := rfl
@[simp] theorem modGrp_out (s : St κ β) (g f) : (modGrp s g f).out = s.out := rfl

/-- the `writers` map as determined by the records: the non-expired groups in creation order -/
def liveW : List (Grp κ β) → Nat → List (κ × Nat)
  | [], _ => []
  | r :: rs, i => if r.expired then liveW rs (i + 1) else (r.key, i) :: liveW rs (i + 1)

/-- the part of a group the invariants talk about -/
structure CG (κ : Type) where
  key : κ
  stopped : Bool
  expired : Bool
  announced : Bool
  sub : SubSt
  holdsRef : Bool

def cg (r : Grp κ β) : CG κ := ⟨r.key, r.stopped, r.expired, r.announced, r.sub, r.holdsRef⟩

/-- the part of the state the invariants talk about -/
structure Core (κ : Type) where
  gs : List (CG κ)
  writers : List (κ × Nat)
  srcStopped : Bool
  outStopped : Bool
  primary : Bool
  count : Nat
  rcdDisposed : Bool

def core (s : St κ β) : Core κ :=
  ⟨s.groups.map cg, s.writers, s.srcStopped, s.outStopped, s.primary, s.count, s.rcdDisposed⟩

@[simp] theorem core_gs (s : St κ β) : (core s).gs = s.groups.map cg := rfl
@[simp] theorem core_writers (s : St κ β) : (core s).writers = s.writers := rfl
@[simp] theorem core_srcStopped (s : St κ β) : (core s).srcStopped = s.srcStopped := rfl
@[simp] theorem core_outStopped (s : St κ β) : (core s).outStopped = s.outStopped := rfl
@[simp] theorem core_primary (s : St κ β) : (core s).primary = s.primary := rfl
@[simp] theorem core_count (s : St κ β) : (core s).count = s.count := rfl
@[simp] theorem core_rcdDisposed (s : St κ β) : (core s).rcdDisposed = s.rcdDisposed := rfl

/-- `termR` on the core -/
def termG (r : CG κ) : CG κ :=
  if r.stopped then r
  else if r.sub = .active then { r with stopped := true, sub := .ended, holdsRef := false }
  else { r with stopped := true }

theorem cg_termR (n : Notif β) (r : Grp κ β) : cg (termR n r) = termG (cg r) := by
  by_cases hs : r.stopped <;> by_cases ha : r.sub = .active <;> simp [termR, termG, cg, hs, ha]

theorem termG_key (r : CG κ) : (termG r).key = r.key := by
  unfold termG; by_cases h : r.stopped <;> by_cases h2 : r.sub = .active <;> simp [h, h2]

structure GOK (r : Grp κ β) : Prop where
  act_open : r.sub = .active → r.stopped = false
  ref_act : r.holdsRef = true → r.sub = .active
  es : r.expired = true → r.stopped = true

theorem GOK.of_cg {r r' : Grp κ β} (h : GOK r) (e : cg r' = cg r) : GOK r' := by
  simp only [cg, CG.mk.injEq] at e
  obtain ⟨_, hst, hex, _, hsub, hh⟩ := e
  exact { act_open := (by rw [hsub, hst]; exact h.act_open), ref_act := (by rw [hh, hsub]; exact h.ref_act), es := (by rw [hex, hst]; exact h.es) }

/-- `src_live`: `group_disposable.dispose()` stops the source observer; `out_prim`: the outer observer stops only together with the
primary dispose -/
structure WF (cfg : Cfg α κ β) (s : St κ β) : Prop where
  shape : s.writers = liveW s.groups 0
  uniq : s.writers.Pairwise (fun a b => cfg.keyEq a.1 b.1 = false)
  loc : ∀ r ∈ s.groups, GOK r
  rc : RC s.primary s.rcdDisposed s.count (s.groups.countP (·.holdsRef))
  src_live : s.srcStopped = false → s.rcdDisposed = false
  out_prim : s.outStopped = true → s.primary = true

variable {cfg : Cfg α κ β}

variable {keyEq : κ → κ → Bool}

theorem liveW_congr {l l' : List (Grp κ β)} (h : l'.map (fun r => (r.key, r.expired)) = l.map (fun r => (r.key, r.expired))) (i : Nat) :
    liveW l' i = liveW l i := by
  induction l generalizing l' i with
  | nil => cases l' with | nil => rfl | cons _ _ => simp at h
  | cons a l ih =>
    cases l' with
    | nil => simp at h
    | cons a' l' =>
      simp only [List.map_cons, List.cons.injEq, Prod.mk.injEq] at h
      simp only [liveW, h.1.1, h.1.2, ih h.2]

theorem liveW_set {l : List (Grp κ β)} {g : Nat} {r : Grp κ β} (hg : l[g]? = some r) (r' : Grp κ β) (i : Nat)
    (hk : r'.key = r.key) (he : r'.expired = r.expired) : liveW (l.set g r') i = liveW l i := by
  induction l generalizing g i with
  | nil => rfl
  | cons a l ih =>
    cases g with
    | zero => cases hg; simp only [List.set_cons_zero, liveW, hk, he]
    | succ g => simp only [List.set_cons_succ, liveW, ih (by simpa using hg)]

theorem mem_liveW_iff (l : List (Grp κ β)) (i : Nat) (p : κ × Nat) :
    p ∈ liveW l i ↔ ∃ j r, l[j]? = some r ∧ r.expired = false ∧ p = (r.key, i + j) := by
  induction l generalizing i with
  | nil => simp [liveW]
  | cons a l ih =>
    unfold liveW
    constructor
    · intro h
      by_cases ha : a.expired
      · simp only [ha, if_true] at h
        obtain ⟨j, r, hj, he, hp⟩ := (ih (i + 1)).mp h
        exact ⟨j + 1, r, by simpa using hj, he, by rw [hp]; congr 1; omega⟩
      · simp only [ha, Bool.false_eq_true, if_false, List.mem_cons] at h
        rcases h with h | h
        · exact ⟨0, a, by simp, by simpa using ha, by simpa using h⟩
        · obtain ⟨j, r, hj, he, hp⟩ := (ih (i + 1)).mp h
          exact ⟨j + 1, r, by simpa using hj, he, by rw [hp]; congr 1; omega⟩
    · rintro ⟨j, r, hj, he, hp⟩
      cases j with
      | zero =>
        simp only [List.getElem?_cons_zero, Option.some.injEq] at hj; subst hj
        simp [he, hp]
      | succ j =>
        simp only [List.getElem?_cons_succ] at hj
        have : p ∈ liveW l (i + 1) := (ih (i + 1)).mpr ⟨j, r, hj, he, by rw [hp]; congr 1; omega⟩
        split
        · exact this
        · exact List.mem_cons_of_mem _ this

theorem liveW_expire (hrefl : ∀ k, keyEq k k = true) (l : List (Grp κ β)) (g i : Nat) (r r' : Grp κ β) (hg : l[g]? = some r)
    (he : r.expired = false) (hx : r'.expired = true)
    (hp : (liveW l i).Pairwise (fun a b => keyEq a.1 b.1 = false)) :
    liveW (l.set g r') i = (liveW l i).eraseP (fun p => keyEq p.1 r.key) := by
  induction l generalizing g i with
  | nil => simp at hg
  | cons a l ih =>
    cases g with
    | zero =>
      simp only [List.getElem?_cons_zero, Option.some.injEq] at hg; subst hg
      simp [liveW, he, hx, hrefl]
    | succ g =>
      simp only [List.getElem?_cons_succ] at hg
      simp only [List.set_cons_succ]
      by_cases ha : a.expired
      · simp only [liveW, ha, if_true] at hp ⊢
        exact ih g (i + 1) hg hp
      · simp only [liveW, ha, Bool.false_eq_true, if_false] at hp ⊢
        rw [List.pairwise_cons] at hp
        have hm := (mem_liveW_iff l (i + 1) _).mpr ⟨g, r, hg, he, rfl⟩
        have hne := hp.1 _ hm
        simp only at hne
        rw [List.eraseP_cons_of_neg (by simp [hne])]
        rw [ih g (i + 1) hg hp.2]

theorem liveW_append (l : List (Grp κ β)) (x : Grp κ β) (i : Nat) :
    liveW (l ++ [x]) i = liveW l i ++ (if x.expired then [] else [(x.key, i + l.length)]) := by
  induction l generalizing i with
  | nil => simp [liveW]
  | cons a l ih =>
    simp only [List.cons_append, liveW, ih, List.length_cons]
    have e : i + 1 + l.length = i + (l.length + 1) := by omega
    split <;> simp [e]

theorem WF.gok {s : St κ β} (h : WF cfg s) {g : Nat} {r : Grp κ β} (hg : s.groups[g]? = some r) : GOK r :=
  h.loc r (List.mem_of_getElem? hg)

theorem WF.nr {s : St κ β} (h : WF cfg s) (hd : s.rcdDisposed = true) : ∀ r ∈ s.groups, r.holdsRef = false :=
  fun r hr => by simpa using List.countP_eq_zero.mp (h.rc.no_holder hd) r hr

theorem WF.set {s : St κ β} (h : WF cfg s) {g : Nat} {r' : Grp κ β} {w' : List (κ × Nat)} {n : Nat} {d ss so : Bool} {o : List (Eff κ β)}
    {dn fl : Bool}
    (hs : w' = liveW (s.groups.set g r') 0) (hu : w'.Pairwise (fun a b => cfg.keyEq a.1 b.1 = false)) (hok : GOK r')
    (hrc : RC s.primary d n ((s.groups.set g r').countP (·.holdsRef))) (hss : ss = false → s.srcStopped = false ∧ d = false) :
    WF cfg { groups := s.groups.set g r', writers := w', srcStopped := ss, srcOpen := so, outStopped := s.outStopped, primary := s.primary,
             count := n, rcdDisposed := d, out := o, srcDone := dn, failed := fl } :=
  ⟨hs, hu, List.forall_mem_set h.loc hok, hrc, fun x => (hss x).2, h.out_prim⟩

theorem WF.reflag {s : St κ β} (h : WF cfg s) {p d ss os so : Bool} {o : List (Eff κ β)} {dn fl : Bool}
    (hrc : RC p d s.count (s.groups.countP (·.holdsRef))) (hss : ss = false → d = false) (hop : os = true → p = true) :
    WF cfg { groups := s.groups, writers := s.writers, srcStopped := ss, srcOpen := so, outStopped := os, primary := p, count := s.count,
             rcdDisposed := d, out := o, srcDone := dn, failed := fl } :=
  ⟨h.shape, h.uniq, h.loc, hrc, hss, hop⟩

theorem WF.tear {s s' : St κ β} (h : WF cfg s) (ht : Tear s s') : WF cfg s' := by
  have hke := ht.map (fun r => (r.key, r.expired)) fun _ _ => rfl
  have hh := ht.map (·.holdsRef) fun _ _ => rfl
  refine ⟨by rw [ht.wr, h.shape]; exact (liveW_congr hke 0).symm, ht.wr ▸ h.uniq, fun r' hr' => ?_, ?_,
    fun x => ht.disp ▸ h.src_live (ht.src ▸ x), fun x => ht.prim ▸ h.out_prim (ht.outS ▸ x)⟩
  · obtain ⟨j, hj⟩ := List.getElem?_of_mem hr'
    have hlt : j < s.groups.length := by have := (List.getElem?_eq_some_iff.mp hj).1; have := ht.len; omega
    obtain ⟨r'', hr'', e⟩ := ht.only j s.groups[j] (List.getElem?_eq_getElem hlt)
    rw [hj] at hr''; cases hr''
    rw [e]; exact (h.loc _ (List.getElem_mem hlt)).of_cg rfl
  · have e : ∀ l : List (Grp κ β), l.countP (·.holdsRef) = (l.map (·.holdsRef)).countP id := fun l => by rw [List.countP_map]; rfl
    rw [ht.prim, ht.disp, ht.cnt, e, hh, ← e]; exact h.rc

theorem wf_settle {t : St κ β} (hd : t.rcdDisposed = false)
    (h : WF cfg { t with rcdDisposed := t.count == 0 && t.primary, srcStopped := (t.count == 0 && t.primary) || t.srcStopped }) :
    WF cfg (settle t) := by
  unfold settle; split
  next hz => rw [hz] at h; exact h.tear (tear_gdDispose { t with rcdDisposed := true })
  next hz => rw [Bool.eq_false_iff.mpr hz] at h; exact ⟨h.shape, h.uniq, h.loc, hd ▸ h.rc, fun _ => hd, h.out_prim⟩

/-- held before + taken = held after + given back -/
theorem holders_set {l : List (Grp κ β)} {g : Nat} {r : Grp κ β} (hg : l[g]? = some r) (r' : Grp κ β) {a b : Nat}
    (h : r.holdsRef.toNat + a = r'.holdsRef.toNat + b) : l.countP (·.holdsRef) + a = (l.set g r').countP (·.holdsRef) + b := by
  have hk : (l.set g r').countP (·.holdsRef) + r.holdsRef.toNat = l.countP (·.holdsRef) + r'.holdsRef.toNat :=
    List.countP_set_add (·.holdsRef) hg r'
  omega

/-- `n0`: the count, with a reference that `subscribe` took beforehand in it; `w'`: the `writers` map the new record determines -/
theorem wf_act {s : St κ β} (h : WF cfg s) {g : Nat} {r : Grp κ β} (hg : s.groups[g]? = some r) (F : Grp κ β → Grp κ β) (L B)
    (w' : List (κ × Nat)) (n0 : Nat) (hs : w' = liveW (s.groups.set g (F r)) 0) (hu : w'.Pairwise (fun a b => cfg.keyEq a.1 b.1 = false))
    (hok : GOK (F r)) (hrc : RC s.primary s.rcdDisposed n0 ((s.groups.set g (F r)).countP (·.holdsRef) + (B r).toNat)) :
    WF cfg (act { s with writers := w', count := n0 } g F L B) := by
  rw [act_some (s := { s with writers := w', count := n0 }) hg]
  simp only [emits, modGrp, List.modify_eq_set_of_getElem? hg]
  cases hB : B r with
  | false =>
    rw [hB] at hrc
    exact h.set hs hu hok hrc fun x => ⟨x, h.src_live x⟩
  | true =>
    rw [hB] at hrc
    obtain ⟨hdis, hrel⟩ := hrc.release
    unfold relIf
    rw [if_pos rfl, rcdRelease_eq, if_neg (by simp [hdis])]
    exact wf_settle hdis (h.set hs hu hok hrel fun x =>
      ⟨(Bool.or_eq_false_iff.mp x).2, (Bool.or_eq_false_iff.mp x).1⟩)

theorem wf_act_same {s : St κ β} (h : WF cfg s) (g : Nat) (F : Grp κ β → Grp κ β) (L B)
    (hF : ∀ r, s.groups[g]? = some r → GOK r → (F r).key = r.key ∧ (F r).expired = r.expired ∧ GOK (F r) ∧
      r.holdsRef.toNat = (F r).holdsRef.toNat + (B r).toNat) :
    WF cfg (act s g F L B) := by
  cases hg : s.groups[g]? with
  | none => unfold act; rw [hg]; exact h
  | some r =>
    obtain ⟨hk, he, hok, hb⟩ := hF r hg (h.gok hg)
    exact wf_act h hg F L B s.writers s.count (h.shape.trans (liveW_set hg (F r) 0 hk he).symm) h.uniq hok
      (holders_set hg (F r) (a := 0) hb ▸ h.rc)

theorem wf_modGrp {s : St κ β} (h : WF cfg s) (g : Nat) (f : Grp κ β → Grp κ β)
    (hf : ∀ r, GOK r → (f r).key = r.key ∧ (f r).expired = r.expired ∧ (f r).holdsRef = r.holdsRef ∧ GOK (f r)) : WF cfg (modGrp s g f) := by
  unfold modGrp
  cases hg : s.groups[g]? with
  | none => rw [List.modify_eq_of_none _ _ _ hg]; exact h
  | some r =>
    obtain ⟨hk, he, hh, hok⟩ := hf r (h.gok hg)
    rw [List.modify_eq_set_of_getElem? hg]
    exact h.set (h.shape.trans (liveW_set hg _ 0 hk he).symm) h.uniq hok
      (h.rc.congr rfl (holders_set hg (f r) (a := 0) (b := 0) (by rw [hh])).symm)
      fun x => ⟨x, h.src_live x⟩

theorem wf_addGroup {s : St κ β} (h : WF cfg s) (k : κ) (hf : s.writers.find? (fun p => cfg.keyEq p.1 k) = none) : WF cfg (addGroup s k) := by
  unfold addGroup
  refine ⟨?_, ?_, ?_, ?_, h.src_live, h.out_prim⟩
  · simp only [liveW_append, Bool.false_eq_true, if_false, Nat.zero_add]; rw [← h.shape]
  · rw [List.pairwise_append]
    refine ⟨h.uniq, by simp, fun a ha b hb => ?_⟩
    simp only [List.mem_singleton] at hb; subst hb
    simpa using List.find?_eq_none.mp hf a ha
  · intro x hx; rcases List.mem_append.mp hx with hx | hx
    · exact h.loc x hx
    · simp only [List.mem_singleton] at hx; subst hx; exact { act_open := nofun, ref_act := nofun, es := nofun }
  · simpa [List.countP_append] using h.rc

theorem wf_subEnd {s : St κ β} (h : WF cfg s) (g : Nat) : WF cfg (subEnd s g) :=
  subEnd_eq s g ▸ wf_act_same h g endR (fun _ => []) (·.holdsRef) fun r _ hok => ⟨rfl, rfl, { act_open := nofun, ref_act := nofun, es := hok.es }, by simp [endR]⟩

theorem termR_spec (n : Notif β) {r : Grp κ β} (h1 : r.sub = .active → r.stopped = false) (h2 : r.holdsRef = true → r.sub = .active) :
    (termR n r).key = r.key ∧ (termR n r).expired = r.expired ∧ GOK (termR n r) ∧
      r.holdsRef.toNat = (termR n r).holdsRef.toNat + (termB r).toNat := by
  unfold termR termB
  by_cases hs : r.stopped = true
  · simp only [if_pos hs]; exact ⟨trivial, trivial, { act_open := h1, ref_act := h2, es := fun _ => hs }, by simp [hs]⟩
  · by_cases ha : r.sub = .active
    · simp only [hs, ha, if_true]; exact ⟨rfl, rfl, { act_open := nofun, ref_act := nofun, es := fun _ => rfl }, by simp⟩
    · simp only [hs, ha, if_false]
      exact ⟨rfl, rfl, { act_open := fun x => absurd x ha, ref_act := h2, es := fun _ => rfl }, by simp⟩

theorem wf_writerTerm {s : St κ β} (h : WF cfg s) (g : Nat) (n : Notif β) : WF cfg (writerTerm s g n) :=
  writerTerm_eq s g n ▸ wf_act_same h g (termR n) (sendL g n) termB fun _ _ hok => termR_spec n hok.act_open hok.ref_act

theorem wf_termAll {s : St κ β} (h : WF cfg s) (n : Notif β) : WF cfg (termAll s n) :=
  List.foldl_pres (P := WF cfg) _ (fun _ g h => wf_writerTerm h g n) _ h

theorem wf_writerNext {s : St κ β} (h : WF cfg s) (g : Nat) (v : β) : WF cfg (writerNext s g v) := by
  rw [writerNext_eq]
  refine wf_act_same h g (pushR v) (sendL g (.next v)) (fun _ => false) fun r _ hok => ?_
  unfold pushR; split
  · exact ⟨rfl, rfl, hok, rfl⟩
  · split <;> exact ⟨rfl, rfl, hok.of_cg rfl, rfl⟩

theorem wf_subscribeGroup {s : St κ β} (h : WF cfg s) (g : Nat) : WF cfg (subscribeGroup s g) := by
  rw [subscribeGroup_eq]
  cases hg : s.groups[g]? with
  | none => exact h
  | some r =>
    simp only
    split
    · exact h
    next h1 =>
      have hok := h.gok hg
      have hsub : r.sub = .none := by simp only [not_or, ne_eq, Decidable.not_not] at h1; exact h1.1
      have href : r.holdsRef = false := by
        cases hh : r.holdsRef with
        | false => rfl
        | true => have := hok.ref_act hh; rw [hsub] at this; cases this
      refine wf_act h hg (subR (!s.rcdDisposed)) _ _ s.writers _ ?_ h.uniq ?_ ?_
      · exact h.shape.trans (liveW_set hg _ 0 (by unfold subR; split <;> rfl) (by unfold subR; split <;> rfl)).symm
      · unfold subR; split
        · exact { act_open := nofun, ref_act := nofun, es := hok.es }
        next hst => exact { act_open := fun _ => by simpa using hst, ref_act := fun _ => rfl, es := hok.es }
      · -- the reference the getter took is held by the new subscriber, or goes back at once from a stopped writer
        have hb : r.holdsRef.toNat + (!s.rcdDisposed).toNat =
            (subR (!s.rcdDisposed) r).holdsRef.toNat + (r.stopped && !s.rcdDisposed).toNat := by
          unfold subR; cases r.stopped <;> simp [href]
        refine holders_set hg _ hb ▸ h.rc.acquire.congr ?_ ?_ <;> cases s.rcdDisposed <;> rfl

theorem wf_expire (hrefl : ∀ k, cfg.keyEq k k = true) {s : St κ β} (h : WF cfg s) {g : Nat} {r : Grp κ β} (hg : s.groups[g]? = some r)
    (hf : (s.writers.find? (fun p => cfg.keyEq p.1 r.key)).isSome = true) (he : r.expired = false) : WF cfg (closeDur (expire cfg s g) g) := by
  have hok := h.gok hg
  have sp := termR_spec .completed (r := setExp r) hok.act_open hok.ref_act
  have hw : WF cfg (act (modGrp { s with writers := s.writers.eraseP (fun p => cfg.keyEq p.1 r.key) } g setExp) g (termR .completed)
      (sendL g .completed) termB) := by
    rw [act_modGrp]
    exact wf_act h hg (termR .completed ∘ setExp) _ (termB ∘ setExp) _ s.count
      (by rw [h.shape]; exact (liveW_expire hrefl s.groups g 0 r _ hg he (sp.2.1.trans rfl) (h.shape ▸ h.uniq)).symm)
      (h.uniq.sublist List.eraseP_sublist) sp.2.2.1 (holders_set hg _ (a := 0) sp.2.2.2 ▸ h.rc)
  rw [expire_found cfg hg hf]
  simp only; split
  · exact hw.tear (tear_closeDur _ g)
  · exact (hw.tear (tear_closeDur _ g)).tear (tear_closeDur _ g)

theorem wf_disposeOuter {s : St κ β} (h : WF cfg s) (o : List (Eff κ β)) : WF cfg (rcdDispose { s with outStopped := true, out := o }) := by
  rw [rcdDispose_eq]
  split
  next hdp => exact h.reflag h.rc h.src_live fun _ => (Bool.or_eq_true_iff.mp hdp).elim h.rc.disp_prim id
  next hdp =>
    have hd : s.rcdDisposed = false := (Bool.or_eq_false_iff.mp (Bool.eq_false_iff.mpr hdp)).1
    exact wf_settle hd (h.reflag ((Bool.and_true _).symm ▸ h.rc.dispose) (fun x => (Bool.or_eq_false_iff.mp x).1) fun _ => rfl)

theorem wf_outerTerm {s : St κ β} (h : WF cfg s) (n) : WF cfg (outerTerm s n) := by
  unfold outerTerm; split
  · exact h
  · exact wf_disposeOuter h _

/-- a group that is not in `writers` has expired, so a terminal loop over `writers` reaches every open writer -/
theorem WF.stopped_of_not_writer {s : St κ β} (h : WF cfg s) {j : Nat} {r : Grp κ β} (hr : s.groups[j]? = some r)
    (hj : j ∉ s.writers.map (·.2)) : r.stopped = true := by
  refine (h.gok hr).es ((Bool.not_eq_false _).mp fun hx => hj ?_)
  rw [h.shape]
  exact List.mem_map.mpr ⟨_, (mem_liveW_iff s.groups 0 _).mpr ⟨j, r, hr, hx, rfl⟩, Nat.zero_add j⟩

theorem WF.termAll_get {s : St κ β} (h : WF cfg s) (n : Notif β) (j : Nat) :
    ((termAll s n).groups[j]?).map nodur = (s.groups[j]?).map fun r => termR n (nodur r) := by
  refine (foldl_writerTerm_get (s.writers.map (·.2)) s n j).trans ?_
  cases hr : s.groups[j]? with
  | none => rfl
  | some r =>
    simp only [Option.map_some]; split
    · rfl
    next hm =>
      have hst : (nodur r).stopped = true := h.stopped_of_not_writer (r := r) hr hm
      exact congrArg some (if_pos hst).symm

theorem termAll_all_stopped {s : St κ β} (h : WF cfg s) (n : Notif β) : ∀ r ∈ (termAll s n).groups, r.stopped = true := by
  intro r' hr'
  obtain ⟨j, hj⟩ := List.getElem?_of_mem hr'
  have hget := h.termAll_get n j
  rw [hj] at hget
  cases hr : s.groups[j]? with
  | none => rw [hr] at hget; cases hget
  | some r => rw [hr] at hget; exact (congrArg Grp.stopped (Option.some.inj hget)).trans (termR_stopped n _)

theorem termOuter_over {s : St κ β} (h : WF cfg s) (n : Notif β) (n') :
    (termOuter s n n').srcStopped = true ∧ (termOuter s n n').rcdDisposed = true ∧ (termOuter s n n').outStopped = true := by
  have hw := wf_outerTerm (wf_termAll h n) n'
  have hst : ∀ r ∈ (termOuter s n n').groups, r.stopped = true := fun r hr => by
    have hm : r.stopped ∈ (termAll s n).groups.map (·.stopped) :=
      outerTerm_map (termAll s n) n' (·.stopped) (fun _ _ => rfl) ▸ List.mem_map_of_mem hr
    obtain ⟨r0, hr0, e⟩ := List.mem_map.mp hm
    exact e ▸ termAll_all_stopped h n r0 hr0
  -- a holder is an active subscriber of an open writer, but every writer is stopped now
  have h0 : (termOuter s n n').groups.countP (·.holdsRef) = 0 := by
    rw [List.countP_eq_zero]
    intro r hr hh
    have := (hw.loc r hr).act_open ((hw.loc r hr).ref_act hh)
    rw [hst r hr] at this; cases this
  have ho : (termOuter s n n').outStopped = true := (fr_outerTerm _ n').outS
  have hd := hw.rc.released (hw.out_prim ho) h0
  exact ⟨(Bool.not_eq_false _).mp fun hs => (by rw [hw.src_live hs] at hd; cases hd), hd, ho⟩

theorem DE_outerTerm (s : St κ β) (n) : DE s (outerTerm s n) :=
  (DE_of_groups_eq rfl : DE s { s with outStopped := true }).trans (fr_outerTerm s n).de

theorem DE_errorAll (s : St κ β) (e : Err) : DE s (errorAll s e) :=
  ((DE_of_groups_eq rfl : DE s { s with failed := true }).trans (fr_termAll _ _).de).trans (DE_outerTerm _ _)

def DL (s : St κ β) : Prop := ∀ (j : Nat) (r : Grp κ β), s.groups[j]? = some r → r.dur = DurSt.live → r.expired = false

theorem DL_of_DE {s s' : St κ β} (h : DL s) (hde : DE s s') : DL s' := by
  intro j r' hr' hl
  obtain ⟨r, hr, hd, he⟩ := hde j r' hr'
  rw [he]; exact h j r hr (hd hl)

/-- not a clause of `WF`: it fails between the terminal loop of an error-all and its outer terminal, which stops the source observer -/
def LO (s : St κ β) : Prop := s.srcStopped = false → ∀ r ∈ s.groups, r.stopped = true → r.expired = true

theorem lo_iff (s : St κ β) : LO s ↔ (s.srcStopped = false → ∀ t ∈ trk s, t.stopped = true → t.expired = true) := by
  simp only [LO, trk, List.forall_mem_map]; rfl

/-- `DL` is not a clause of `WF`: it fails inside `durFire`, between `expire()` and the `sad.dispose()` after it -/
structure Inv (cfg : Cfg α κ β) (s : St κ β) : Prop where
  wf : WF cfg s
  dl : DL s
  lo : LO s

theorem Inv.open_of_live {cfg : Cfg α κ β} {s : St κ β} (h : Inv cfg s) (hs : s.srcStopped = false) {j : Nat} {r : Grp κ β}
    (hr : s.groups[j]? = some r) (he : r.expired = false) : r.stopped = false :=
  Bool.eq_false_iff.mpr fun hst => by rw [h.lo hs r (List.mem_of_getElem? hr) hst] at he; cases he

theorem inv_of_trk_same {s s' : St κ β} (h : Inv cfg s) (hw : WF cfg s') (ht : trk s' = trk s)
    (hde : DE s s') (hm : s.srcStopped = true → s'.srcStopped = true) : Inv cfg s' := by
  refine ⟨hw, DL_of_DE h.dl hde, ?_⟩
  · rw [lo_iff, ht]; intro hs
    apply (lo_iff s).mp h.lo
    cases h' : s.srcStopped with
    | false => rfl
    | true => rw [hm h'] at hs; cases hs

theorem inv_of_fr {s s' : St κ β} (h : Inv cfg s) (hf : Fr s s') (hw : WF cfg s') (ht : trk s' = trk s) : Inv cfg s' :=
  inv_of_trk_same h hw ht hf.de hf.src

theorem inv_modGrp_same {s : St κ β} (h : Inv cfg s) (g : Nat) (f : Grp κ β → Grp κ β)
    (hc : ∀ r, (f r).key = r.key ∧ (f r).stopped = r.stopped ∧ (f r).expired = r.expired ∧ (f r).sub = r.sub ∧ (f r).holdsRef = r.holdsRef)
    (ht : ∀ r, tg (f r) = tg r) (hd : ∀ r, (f r).dur = .live → r.dur = .live) : Inv cfg (modGrp s g f) :=
  have hw := wf_modGrp h.wf g f fun r hok => by
    obtain ⟨hk, hst, hex, hsub, hh⟩ := hc r
    have hg : GOK (f r) :=
      { act_open := (by rw [hsub, hst]; exact hok.act_open), ref_act := (by rw [hsub, hh]; exact hok.ref_act), es := (by rw [hex, hst]; exact hok.es) }
    exact ⟨hk, hex, hh, hg⟩
  inv_of_trk_same h hw (trk_modGrp_same s g f ht) (DE_modGrp s g f fun r => ⟨hd r, (hc r).2.2.1⟩) (fun hs => hs)

theorem inv_emit {s : St κ β} (h : Inv cfg s) (e) : Inv cfg (emit s e) :=
  inv_of_trk_same h (h.wf.reflag h.wf.rc h.wf.src_live h.wf.out_prim) rfl (DE_emit s e) (fun hs => hs)

theorem inv_closeDur {s : St κ β} (h : Inv cfg s) (g : Nat) : Inv cfg (closeDur s g) :=
  inv_of_fr h (fr_closeDur s g) (h.wf.tear (tear_closeDur s g)) (trk_closeDur s g)

theorem inv_closeSrc {s : St κ β} (h : Inv cfg s) : Inv cfg (closeSrc s) :=
  inv_of_trk_same h (h.wf.tear (tear_closeSrc s)) (trk_closeSrc s)
    (DE_of_groups_eq (by unfold closeSrc; split <;> rfl)) fun hs => (tear_closeSrc s).src.trans hs

theorem inv_subscribeGroup {s : St κ β} (h : Inv cfg s) (g : Nat) : Inv cfg (subscribeGroup s g) :=
  inv_of_fr h (fr_subscribeGroup s g) (wf_subscribeGroup h.wf g) (trk_subscribeGroup s g)

theorem subscribeLate_cases (s : St κ β) (g : Nat) :
    subscribeLate s g = s ∨ subscribeLate s g = modGrp (subscribeGroup s g) g (fun r => { r with subLate := true }) := by
  unfold subscribeLate; split
  · split
    · right; rfl
    · left; rfl
  · left; rfl

theorem fr_subscribeLate (s : St κ β) (g : Nat) : Fr s (subscribeLate s g) := by
  rcases subscribeLate_cases s g with e | e <;> rw [e]
  · exact Fr.refl _
  · exact (fr_subscribeGroup s g).trans (fr_modGrp _ g _ fun _ => ⟨id, rfl⟩)

theorem inv_subscribeLate {s : St κ β} (h : Inv cfg s) (g : Nat) : Inv cfg (subscribeLate s g) := by
  rcases subscribeLate_cases s g with e | e <;> rw [e]
  · exact h
  · exact inv_modGrp_same (inv_subscribeGroup h g) g (fun r => { r with subLate := true }) (fun _ => ⟨rfl, rfl, rfl, rfl, rfl⟩) (fun _ => rfl) fun _ => id

theorem trk_subscribeLate (s : St κ β) (g : Nat) : trk (subscribeLate s g) = trk s := by
  rcases subscribeLate_cases s g with e | e <;> rw [e]
  rw [trk_modGrp_same, trk_subscribeGroup]; intro _; rfl

theorem inv_subEnd {s : St κ β} (h : Inv cfg s) (g : Nat) : Inv cfg (subEnd s g) :=
  inv_of_fr h (fr_subEnd s g) (wf_subEnd h.wf g) (trk_subEnd s g)

theorem inv_disposeOuter {s : St κ β} (h : Inv cfg s) : Inv cfg (rcdDispose { s with outStopped := true }) :=
  have hf := fr_rcdDispose { s with outStopped := true } rfl
  inv_of_trk_same h (wf_disposeOuter h.wf s.out) (trk_rcdDispose _) hf.de hf.src

theorem inv_writerNext {s : St κ β} (h : Inv cfg s) (g : Nat) (v : β) : Inv cfg (writerNext s g v) := by
  refine ⟨wf_writerNext h.wf g v, DL_of_DE h.dl (fr_writerNext s g v).de, ?_⟩
  rw [lo_iff, trk_writerNext]; intro hs
  have hs0 : s.srcStopped = false := Bool.eq_false_iff.mpr fun h' => by rw [(fr_writerNext s g v).src h'] at hs; cases hs
  exact List.all_modify ((lo_iff s).mp h.lo hs0) (fun t ht => by rw [pushT_stopped, pushT_expired]; exact ht)

theorem inv_termOuter {s : St κ β} (hw : WF cfg s) (hdl : DL s) (n : Notif β) (n') : Inv cfg (termOuter s n n') :=
  ⟨wf_outerTerm (wf_termAll hw n) n', DL_of_DE hdl ((fr_termAll s n).de.trans (DE_outerTerm _ _)),
    fun hs => by rw [(termOuter_over hw n n').1] at hs; cases hs⟩

theorem WF.failed {s : St κ β} (hw : WF cfg s) : WF cfg { s with failed := true } :=
  hw.reflag hw.rc hw.src_live hw.out_prim

theorem inv_durFire_expire (hrefl : ∀ k, cfg.keyEq k k = true) {s : St κ β} (h : Inv cfg s) (g : Nat)
    (hne : ∀ r, s.groups[g]? = some r → r.expired = false) : Inv cfg (closeDur (expire cfg s g) g) := by
  rcases expire_cases cfg s g with e | e | ⟨r, hg, hf⟩
  · rw [e]; exact inv_closeDur h g
  · rw [e]; exact inv_closeDur (inv_emit h _) g
  · refine ⟨wf_expire hrefl h.wf hg hf (hne r hg), ?_, ?_⟩
    · intro j r'' hr'' hl
      obtain ⟨hjg, r', hr', hl', he'⟩ := closeDur_live hr'' hl
      obtain ⟨r1, hr1, hd1, he1⟩ := (fr_expire_found cfg hg hf).de j r' hr'
      obtain ⟨r0, hr0, rfl⟩ := modGrp_getElem? hr1
      rw [if_neg (Ne.symm hjg)] at hd1 he1
      rw [he', he1]; exact h.dl j r0 hr0 (hd1 hl')
    · rw [lo_iff, trk_closeDur, trk_expire_found cfg s g r hg hf]; intro hs
      have hs0 : s.srcStopped = false := Bool.eq_false_iff.mpr fun h' => by
        rw [(fr_closeDur _ g).src ((fr_expire_found cfg hg hf).src h')] at hs; cases hs
      exact List.all_modify ((lo_iff s).mp h.lo hs0) (fun t _ _ => by unfold expT; rw [termT_expired])

/-- the state after `observer.on_next(group)`: group #g announced and, if the outer subscriber does so inside its
`on_next`, subscribed -/
def handed (cfg : Cfg α κ β) (s : St κ β) (g : Nat) (k : κ) : St κ β :=
  if s.outStopped then s
  else
    let s := emit (modGrp s g fun r => { r with announced := true }) (.outer (.next (g, k)))
    if cfg.imm g then subscribeGroup s g else s

theorem announce_eq (cfg : Cfg α κ β) (s : St κ β) (g : Nat) (k : κ) :
    announce cfg s g k =
      match cfg.dsync g with
      | some n => durFire cfg (handed cfg s g k) g n
      | none =>
        let t := emit (modGrp (handed cfg s g k) g fun r => { r with dur := .live }) (.subDur g)
        if t.rcdDisposed then closeDur t g else t := rfl

theorem fr_handed (cfg : Cfg α κ β) (s : St κ β) (g : Nat) (k : κ) : Fr s (handed cfg s g k) := by
  unfold handed; split
  · exact Fr.refl s
  · have h1 : Fr s (emit (modGrp s g fun r => { r with announced := true }) (.outer (.next (g, k)))) := by
      refine Fr.trans ?_ (fr_emit _ _ rfl); exact fr_modGrp s g _ fun _ => ⟨id, rfl⟩
    simp only; split
    · exact h1.trans (fr_subscribeGroup _ g)
    · exact h1

theorem trk_handed (cfg : Cfg α κ β) (s : St κ β) (g : Nat) (k : κ) : trk (handed cfg s g k) = trk s := by
  have t1 : trk (emit (modGrp s g fun r => { r with announced := true }) (.outer (.next (g, k)))) = trk s := by
    rw [trk_emit, trk_modGrp_same]; intro _; rfl
  unfold handed; split
  · rfl
  · simp only; split
    · rw [trk_subscribeGroup, t1]
    · exact t1

theorem trk_announce_nosync (cfg : Cfg α κ β) (s : St κ β) (g : Nat) (k : κ) (hd : cfg.dsync g = none) :
    trk (announce cfg s g k) = trk s := by
  rw [announce_eq]
  simp only [hd]
  have ha := trk_handed cfg s g k
  generalize handed cfg s g k = s2 at ha
  have t3 : trk (emit (modGrp s2 g fun r => { r with dur := .live }) (.subDur g)) = trk s2 := by
    rw [trk_emit, trk_modGrp_same]; intro _; rfl
  split
  · rw [trk_closeDur, t3, ha]
  · rw [t3, ha]

theorem inv_handed {s : St κ β} (h : Inv cfg s) (g : Nat) (k : κ) : Inv cfg (handed cfg s g k) := by
  have h1 : Inv cfg (emit (modGrp s g fun r => { r with announced := true }) (.outer (.next (g, k)))) :=
    inv_emit (inv_modGrp_same h g (fun r => { r with announced := true }) (fun _ => ⟨rfl, rfl, rfl, rfl, rfl⟩) (fun _ => rfl) fun _ => id) _
  unfold handed; split
  · exact h
  · simp only; split
    · exact inv_subscribeGroup h1 g
    · exact h1

theorem inv_addGroup {s : St κ β} (h : Inv cfg s) (k : κ)
    (hf : s.writers.find? (fun p => cfg.keyEq p.1 k) = none) : Inv cfg (addGroup s k) := by
  refine ⟨wf_addGroup h.wf k hf, ?_, ?_⟩
  · intro j r hr hl
    rcases addGroup_getElem? hr with h' | rfl
    · exact h.dl j r h' hl
    · rfl
  · intro hs r hr
    rcases List.mem_append.mp hr with h' | h'
    · exact h.lo hs r h'
    · simp only [List.mem_singleton] at h'; subst h'; nofun

theorem addGroup_fresh (s : St κ β) (k : κ) : ∀ r, (addGroup s k).groups[s.groups.length]? = some r → r.expired = false := by
  intro r hr; simp [addGroup] at hr; subst hr; rfl

theorem inv_srcStop {s : St κ β} (h : Inv cfg s) : Inv cfg { s with srcStopped := true, srcDone := true } :=
  ⟨h.wf.reflag h.wf.rc nofun h.wf.out_prim, h.dl, nofun⟩

theorem inv_init (cfg : Cfg α κ β) : Inv cfg (init : St κ β) := by
  refine ⟨⟨rfl, List.Pairwise.nil, ?_, RC.init, ?_, ?_⟩, ?_, ?_⟩ <;> simp [init, DL, LO]

end WinGrp
