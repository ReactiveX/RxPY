import RxProofs.Lemmas.SubjRuns
/-!
# A closed form for Subject histories whose callbacks unsubscribe (themselves or others)

`AbsSt` keeps only what the property talks about — who is subscribed (in order), who has been detached,
what everybody has seen — and `absCall` is the property text as a direct recursive definition: a broadcast
walks the members *as they were when the call was made*, hands the notification to those not detached by
then, and each callback's unsubscriptions take effect immediately (so an observer unsubscribed by an
earlier observer's callback during the same delivery is skipped).  No AutoDetachObserver, no
SingleAssignmentDisposable, no InnerSubscription, no agenda, no fuel.
The machine computes exactly this, with any fuel that does not run out, and some fuel suffices.
-/

namespace Subj
variable {α : Type}

structure AbsSt (α : Type) where
  members : List Id := []
  detached : Id → Bool := fun _ => false
  seen : Id → Bool := fun _ => false
  handle : Id → Bool := fun _ => false          -- its `subscribe` has returned: the user holds the handle
  cnt : Id → Nat := fun _ => 0
  log : Id → List (Notif α) := fun _ => []
  term : Option (Notif α) := none
  disp : Bool := false

/-- the user disposes j's subscription (possible only once `subscribe` has returned the handle) -/
def absUnsub (a : AbsSt α) (j : Id) : AbsSt α :=
  if a.handle j then { a with detached := upd a.detached j true, members := a.members.erase j } else a

/-- the observers a callback unsubscribes -/
def targets (cfg : Cfg) (i : Id) (k : Nat) : List Id :=
  (cfg.react i k).filterMap fun a => match a with | .unsub j => some j | _ => none

/-- hand `n` to observer `i` (unless it has been detached); its callback's unsubscriptions follow at once -/
def absGive (cfg : Cfg) (a : AbsSt α) (i : Id) (n : Notif α) : AbsSt α :=
  if a.detached i then a
  else
    (targets cfg i (a.cnt i)).foldl absUnsub
      { a with log := upd a.log i (a.log i ++ [n]), cnt := upd a.cnt i (a.cnt i + 1),
               detached := if n.isTerminal then upd a.detached i true else a.detached }

/-- the delivery loop over the snapshot -/
def absBcast (cfg : Cfg) (n : Notif α) : List Id → AbsSt α → AbsSt α
  | [], a => a
  | i :: is, a => absBcast cfg n is (absGive cfg a i n)

def absCall (cfg : Cfg) (a : AbsSt α) : Call α → AbsSt α
  | .sub j =>
    if a.seen j then a
    else
      let a := { a with seen := upd a.seen j true }
      let a :=
        if a.disp then absGive cfg a j (.error disposedExn)
        else
          match a.term with
          | some t => absGive cfg a j t
          | none => { a with members := a.members ++ [j] }
      { a with handle := upd a.handle j true }
  | .unsub j => absUnsub a j
  | .next v => if a.disp || a.term.isSome then a else absBcast cfg (.next v) a.members a
  | .error e =>
    if a.disp || a.term.isSome then a
    else absBcast cfg (.error e) a.members { a with term := some (.error e), members := [] }
  | .completed =>
    if a.disp || a.term.isSome then a
    else absBcast cfg .completed a.members { a with term := some .completed, members := [] }
  | .dispose => { a with disp := true, members := [] }

def absRun (cfg : Cfg) : AbsSt α → List (Call α) → AbsSt α
  | a, [] => a
  | a, c :: cs => absRun cfg (absCall cfg a c) cs

/-- Callbacks only unsubscribe; every observer has an `on_error` handler; plain Subject. -/
structure UnsubCfg (cfg : Cfg) : Prop where
  kind : cfg.kind = .subject
  err : ∀ i, cfg.hasErr i = true
  react : ∀ i k, ∀ a ∈ cfg.react i k, ∃ j, a = Action.unsub j

theorem reactions_eq_targets {cfg : Cfg} (hc : UnsubCfg cfg) (st : St α) (i : Id) :
    reactions cfg st i = (targets cfg i (st.cbs i)).map (fun j => Task.act (some i) (.unsub j)) := by
  unfold reactions targets
  have h := hc.react i (st.cbs i)
  generalize cfg.react i (st.cbs i) = l at h
  induction l with
  | nil => rfl
  | cons a l ih =>
    obtain ⟨j, rfl⟩ := h a (by simp)
    simp only [List.map_cons, List.filterMap_cons]
    rw [ih (fun b hb => h b (by simp [hb]))]

/-- what the abstract state sees of a machine state -/
def proj (st : St α) (t : Option (Notif α)) : AbsSt α :=
  { members := st.observers, detached := st.adoStopped, seen := st.seen, handle := st.handle, cnt := st.cbs,
    log := st.log, term := t, disp := st.disposed }

/-- The subject's own state, which a delivery loop leaves alone. -/
structure Own (st st' : St α) : Prop where
  stopped : st'.stopped = st.stopped
  disposed : st'.disposed = st.disposed
  exception : st'.exception = st.exception

theorem Own.refl (st : St α) : Own st st := ⟨rfl, rfl, rfl⟩

theorem Own.trans {a b c : St α} (h1 : Own a b) (h2 : Own b c) : Own a c :=
  ⟨h2.stopped.trans h1.stopped, h2.disposed.trans h1.disposed, h2.exception.trans h1.exception⟩

theorem doUnsub_proj {st : St α} (hI : SInv st) (j : Id) (t : Option (Notif α)) :
    proj (doUnsub st j) t = absUnsub (proj st t) j ∧ Own st (doUnsub st j) := by
  by_cases hh : st.handle j = true
  · rw [hI.doUnsub_eq j hh]
    exact ⟨by simp [proj, absUnsub, hh], rfl, rfl, rfl⟩
  · have hh' : st.handle j = false := by simpa using hh
    rw [doUnsub_none hh']
    exact ⟨by simp [proj, absUnsub, hh'], Own.refl st⟩

/-- the finally-dispose of a terminal callback changes nothing the abstract state sees (the subject has
terminated: its observer list is empty) -/
theorem sadDispose_proj {st : St α} (hI : SInv st) (hs : st.stopped = true) (i : Id) (t : Option (Notif α)) :
    proj (sadDispose st i) t = proj st t ∧ Own st (sadDispose st i) := by
  rw [sadDispose_of_not_mem (by simp [hI.stopEmpty hs])]
  split <;> exact ⟨rfl, rfl, rfl, rfl⟩

/-- Run to completion, the agenda prefix `pre` does `f` to what the abstract state sees of `st` and leaves the subject's
own state alone. -/
def Does (cfg : Cfg) (tm : Option (Notif α)) (st : St α) (pre : List (Task α)) (f : AbsSt α → AbsSt α) : Prop :=
  ∃ st', RunsTo cfg st pre st' ∧ proj st' tm = f (proj st tm) ∧ Own st st'

namespace Does
variable {cfg : Cfg} {tm : Option (Notif α)} {st : St α}

theorem nil (st : St α) : Does cfg tm st [] id := ⟨st, RunsTo.nil, rfl, Own.refl st⟩

theorem seq {a b : List (Task α)} {f g : AbsSt α → AbsSt α} (h1 : Does cfg tm st a f)
    (h2 : ∀ st', RunsTo cfg st a st' → Does cfg tm st' b g) : Does cfg tm st (a ++ b) (g ∘ f) := by
  obtain ⟨st1, r1, p1, o1⟩ := h1
  obtain ⟨st2, r2, p2, o2⟩ := h2 st1 r1
  exact ⟨st2, r1.append r2, by rw [p2, p1]; rfl, o1.trans o2⟩

theorem step {st1 : St α} {t : Task α} {new : List (Task α)} {f g : AbsSt α → AbsSt α}
    (hstep : step1 cfg st t = (st1, new, false)) (h : Does cfg tm st1 new f)
    (hp : f (proj st1 tm) = g (proj st tm) ∧ Own st st1) : Does cfg tm st [t] g := by
  obtain ⟨st', r, p, o⟩ := h
  exact ⟨st', r.step hstep, p.trans hp.1, hp.2.trans o⟩

end Does

theorem runs_unsubs {cfg : Cfg} {v : Option α} (who : Option Id) (tm : Option (Notif α)) :
    ∀ (js : List Id) (st : St α) (rest : List (Task α)),
      Reachable cfg v st (js.map (fun j => Task.act who (.unsub j)) ++ rest) →
      Does cfg tm st (js.map fun j => Task.act who (.unsub j)) (fun a => js.foldl absUnsub a) := by
  intro js
  induction js with
  | nil => intro st rest _; exact Does.nil st
  | cons j js ih =>
    intro st rest hr
    have h1 : Does cfg tm st [Task.act who (.unsub j)] (fun a => absUnsub a j) :=
      Does.step (st1 := doUnsub st j) rfl (Does.nil _) (doUnsub_proj (reachable_inv hr).1 j tm)
    exact h1.seq fun st' r => ih st' rest (r.reachable hr)

theorem runs_give {cfg : Cfg} {v : Option α} (hc : UnsubCfg cfg) (tm : Option (Notif α))
    (st : St α) (i : Id) (n : Notif α) (rest : List (Task α))
    (hr : Reachable cfg v st (Task.deliver i n :: rest)) :
    Does cfg tm st [Task.deliver i n] (fun a => absGive cfg a i n) := by
  by_cases hs : st.adoStopped i = true
  · have hstep : step1 cfg st (Task.deliver i n) = (st, [], false) := deliver_stopped cfg n hs
    exact Does.step hstep (Does.nil _) ⟨by simp [absGive, proj, hs], Own.refl st⟩
  · have hs' : st.adoStopped i = false := by simpa using hs
    obtain ⟨st1, hst, hp1, ho1⟩ : ∃ st1, step1 cfg st (Task.deliver i n) =
        (st1, (targets cfg i (st.cbs i)).map (fun j => Task.act (some i) (.unsub j)) ++ (if n.isTerminal then [Task.sadDispose i] else []), false) ∧
        proj st1 tm = { proj st tm with log := upd st.log i (st.log i ++ [n]), cnt := upd st.cbs i (st.cbs i + 1),
                                        detached := if n.isTerminal then upd st.adoStopped i true else st.adoStopped } ∧
        Own st st1 := by
      by_cases hterm : n.isTerminal = true
      · have hu : userSees cfg i n = true := by cases n <;> first | rfl | exact hc.err i
        exact ⟨callback { st with adoStopped := upd st.adoStopped i true } i n,
          by rw [step1_deliver, deliver_term cfg hs' hterm hu, reactions_eq_targets hc, if_pos hterm],
          by simp [proj, callback, hterm], ⟨rfl, rfl, rfl⟩⟩
      · obtain ⟨x, rfl⟩ : ∃ x, n = .next x := by cases n <;> simp [Notif.isTerminal] at hterm ⊢
        exact ⟨callback st i (.next x),
          by rw [step1_deliver, deliver_next cfg x hs', reactions_eq_targets hc]; simp [Notif.isTerminal],
          by simp [proj, callback, Notif.isTerminal], ⟨rfl, rfl, rfl⟩⟩
    have hr1 := reach_step hr hst
    rw [List.append_assoc] at hr1
    refine Does.step hst ((runs_unsubs (some i) tm _ st1 _ hr1).seq (g := id) fun st2 r2 => ?_) ?_
    · -- terminal: the callback's `finally: self.dispose()`
      have hr2 := r2.reachable hr1
      by_cases hterm : n.isTerminal = true
      · rw [if_pos hterm] at hr2 ⊢
        have hok := (reachable_inv hr2).2 (Task.sadDispose i) (List.mem_cons_self ..)
        exact Does.step (st1 := sadDispose st2 i) rfl (Does.nil _) (sadDispose_proj (reachable_inv hr2).1 hok.2 i tm)
      · rw [if_neg hterm]; exact Does.nil st2
    · refine ⟨?_, ho1⟩
      rw [Function.comp_apply, id, hp1]
      simp [absGive, proj, hs']

theorem runs_bcast {cfg : Cfg} {v : Option α} (hc : UnsubCfg cfg) (tm : Option (Notif α)) (n : Notif α) :
    ∀ (l : List Id) (st : St α) (rest : List (Task α)),
      Reachable cfg v st (l.map (Task.deliver · n) ++ rest) → Does cfg tm st (l.map (Task.deliver · n)) (absBcast cfg n l) := by
  intro l
  induction l with
  | nil => intro st rest _; exact Does.nil st
  | cons i is ih => intro st rest hr; exact (runs_give hc tm st i n _ hr).seq fun st' r => ih st' rest (r.reachable hr)

/-- The machine state (between calls) and the abstract state agree. -/
structure Rel (st : St α) (a : AbsSt α) : Prop where
  stop : st.stopped = (a.disp || a.term.isSome)
  term : a.disp = false → ∀ t, a.term = some t → termOf st = t
  noexc : st.stopped = false → st.exception = none
  p : proj st a.term = a

namespace Rel
variable {st : St α} {a : AbsSt α}

theorem disp (h : Rel st a) : a.disp = st.disposed := by rw [← h.p]; rfl
theorem members (h : Rel st a) : a.members = st.observers := by rw [← h.p]; rfl
theorem seen (h : Rel st a) : a.seen = st.seen := by rw [← h.p]; rfl
theorem log (h : Rel st a) : a.log = st.log := by rw [← h.p]; rfl

theorem unread (h : Rel st a) (x : Option Err) : Rel { st with raisedNow := x } a := { h with }

theorem emitTerm (h : Rel st a) {n : Notif α} (x : Option Err) (tr : List (Ev α))
    (hx : termOf { st with exception := x } = n) :
    Rel { st with stopped := true, observers := [], exception := x, tr := tr } { a with term := some n, members := [] } :=
  ⟨by simp, fun _ t ht => hx.trans (Option.some.inj ht), nofun, by rw [← h.p]; simp [proj]⟩

theorem live (h : Rel st a) (hdt : (a.disp || a.term.isSome) = false) : st.disposed = false ∧ st.stopped = false :=
  ⟨by rw [← h.disp]; exact (Bool.or_eq_false_iff.mp hdt).1, h.stop.trans hdt⟩

end Rel

theorem proj_disp (st : St α) (t : Option (Notif α)) : (proj st t).disp = st.disposed := rfl
theorem proj_term (st : St α) (t : Option (Notif α)) : (proj st t).term = t := rfl

def absHandle (a : AbsSt α) (j : Id) : AbsSt α := { a with handle := upd a.handle j true }

/-- What a new subscriber is handed at once: `DisposedException`, or the terminal the subject has accepted. -/
def AbsSt.late (a : AbsSt α) : Option (Notif α) := if a.disp then some (.error disposedExn) else a.term

theorem AbsSt.late_disposed {a : AbsSt α} (h : a.disp = true) : a.late = some (.error disposedExn) := if_pos h

theorem AbsSt.late_undisposed {a : AbsSt α} (h : a.disp = false) : a.late = a.term := if_neg (by simp [h])

theorem absCall_sub (cfg : Cfg) {a : AbsSt α} {j : Id} (hj : a.seen j = false) :
    absCall cfg a (.sub j) = absHandle (match a.late with
      | some n => absGive cfg { a with seen := upd a.seen j true } j n
      | none => { a with seen := upd a.seen j true, members := a.members ++ [j] }) j := by
  unfold AbsSt.late
  cases hd : a.disp <;> cases ht : a.term <;> simp [absCall, absHandle, hj, hd, ht]

theorem runs_finish {cfg : Cfg} (st : St α) (j : Id) (h : Option Held) (hns : h = some .inner → st.sadDisposed j = false)
    (tm : Option (Notif α)) : Does cfg tm st [Task.finish j h] (fun a => absHandle a j) := by
  have : ¬(h = some .inner ∧ st.sadDisposed j = true ∧ st.disposed = false) := fun ⟨h1, h2, _⟩ => by
    rw [hns h1] at h2; cases h2
  refine Does.step (st1 := finish st j h) rfl (Does.nil _) ?_
  rw [finish_eq]
  exact ⟨by simp [proj, absHandle, this], ⟨rfl, rfl, rfl⟩⟩

theorem Rel.does {cfg : Cfg} {s0 s1 : St α} {a a' : AbsSt α} {pre : List (Task α)} {f : AbsSt α → AbsSt α}
    (h : Rel s0 a) (ho : Own s0 s1) (hd : Does cfg a.term s1 pre f) (hp : f (proj s1 a.term) = a') :
    ∃ st', RunsTo cfg s1 pre st' ∧ Rel st' a' := by
  obtain ⟨st', r, p, o⟩ := hd
  have ho := ho.trans o
  have hd := h.disp
  obtain rfl := p.trans hp
  exact ⟨st', r, by rw [ho.stopped, h.stop, hd, ← ho.disposed]; rfl,
    fun hd' t ht' => by unfold termOf; rw [ho.exception]; exact h.term (by rw [hd, ← ho.disposed]; exact hd') t ht',
    fun hs' => by rw [ho.stopped] at hs'; rw [ho.exception]; exact h.noexc hs', rfl⟩

theorem Rel.call {cfg : Cfg} {s s0 s1 : St α} {a a' : AbsSt α} {t : Task α} {new : List (Task α)}
    {f : AbsSt α → AbsSt α} (h : Rel s a) (hstep : step1 cfg s0 t = (s1, new, false)) (ho : Own s s1)
    (hd : Does cfg a.term s1 new f) (hp : f (proj s1 a.term) = a') : ∃ st', RunsTo cfg s0 [t] st' ∧ Rel st' a' := by
  obtain ⟨st', r, h'⟩ := h.does ho hd hp
  exact ⟨st', r.step hstep, h'⟩

theorem task_rel {cfg : Cfg} {v : Option α} (hc : UnsubCfg cfg) {s0 : St α} {a : AbsSt α} (c : Call α)
    (hr0 : Reachable cfg v s0 [c.toTask]) (h : Rel s0 a) :
    ∃ st', RunsTo cfg s0 [c.toTask] st' ∧ Rel st' (absCall cfg a c) := by
  have hI0 := (reachable_inv hr0).1
  have hR := h
  obtain ⟨hstop, hterm, hnoexc, hp⟩ := h
  have hdisp := hR.disp
  have hmem := hR.members
  have hseen := hR.seen
  have hrej : ∀ (n : Notif α), (a.disp || a.term.isSome) = true → ∃ st', RunsTo cfg s0 [Task.emit n] st' ∧ Rel st' a := by
    intro n hdt
    obtain ⟨x, e⟩ := emit_refused cfg (hstop.trans hdt) n
    exact ⟨_, RunsTo.nil.step (step1_emit e), hR.unread x⟩
  have hacc : ∀ (n : Notif α), n.isTerminal = true → Reachable cfg v s0 [Task.emit n] →
      ∃ st', RunsTo cfg s0 [Task.emit n] st' ∧
        Rel st' (if a.disp || a.term.isSome then a else absBcast cfg n a.members { a with term := some n, members := [] }) := by
    intro n hn hr
    by_cases hdt : (a.disp || a.term.isSome) = true
    · rw [if_pos hdt]; exact hrej n hdt
    rw [if_neg hdt]
    have hdt : (a.disp || a.term.isSome) = false := by simpa using hdt
    obtain ⟨hd', hs'⟩ := hR.live hdt
    -- after the emission itself the machine agrees with the closed form whose members are dropped and whose terminal is `n`
    obtain ⟨st1, hstep, hR1⟩ : ∃ st1, step1 cfg s0 (.emit n) = (st1, s0.observers.map (Task.deliver · n), false) ∧
        Rel st1 { a with term := some n, members := [] } := by
      cases n with
      | next x => simp [Notif.isTerminal] at hn
      | error e => exact ⟨_, step1_emit (emit_error cfg hd' hs' e), hR.emitTerm (some e) _ rfl⟩
      | completed =>
        exact ⟨_, step1_emit ((emit_completed cfg hd' hs').trans (by rw [if_neg (by simp [hc.kind])])),
          hR.emitTerm s0.exception _ (by simp [termOf, hnoexc hs'])⟩
    rw [hmem]
    exact hR1.call hstep (Own.refl st1) (runs_bcast hc (some n) n s0.observers st1 [] (reach_step hr hstep))
      (congrArg (absBcast cfg n s0.observers) hR1.p)
  cases c with
  | unsub j =>
    exact hR.does (Own.refl s0) (runs_unsubs (cfg := cfg) (v := v) none a.term [j] s0 [] hr0) (by rw [hp]; rfl)
  | dispose =>
    have hstep : step1 cfg s0 (.act none .dispose) = (subjDispose s0, [], false) := rfl
    refine ⟨subjDispose s0, RunsTo.nil.step hstep, ?_⟩
    simp only [absCall]
    refine ⟨?_, ?_, ?_, ?_⟩
    · simp [subjDispose]
    · intro hd; simp at hd
    · intro hs; simp [subjDispose] at hs
    · rw [← hp]; simp [proj, subjDispose]
  | next x =>
    simp only [Call.toTask] at hr0 ⊢
    by_cases hdt : (a.disp || a.term.isSome) = true
    · have : absCall cfg a (.next x) = a := by simp [absCall, hdt]
      rw [this]; exact hrej (.next x) hdt
    · have hdt' : (a.disp || a.term.isSome) = false := by simpa using hdt
      obtain ⟨hd', hs'⟩ := hR.live hdt'
      have hstep : step1 cfg s0 (.emit (.next x)) =
          ({ s0 with tr := .emit (.next x) :: s0.tr }, s0.observers.map (Task.deliver · (.next x)), false) :=
        step1_emit ((emit_next cfg hd' hs' x).trans (by rw [hc.kind]))
      have habs : absCall cfg a (.next x) = absBcast cfg (.next x) s0.observers a := by simp [absCall, hdt', hmem]
      exact hR.call hstep ⟨rfl, rfl, rfl⟩ (runs_bcast hc a.term (.next x) s0.observers _ [] (reach_step hr0 hstep))
        (by rw [habs]; exact congrArg _ hp)
  | error e => exact hacc _ rfl hr0
  | completed => exact hacc _ rfl hr0
  | sub j =>
    simp only [Call.toTask] at hr0 ⊢
    have hja : s0.seen j = false → a.seen j = false := fun h => by rw [hseen]; exact h
    rcases doSub_guards cfg s0 j with hsn | ⟨hsn, hd | ⟨hd, hs | ⟨hs, hu | ⟨e, _, he⟩⟩⟩⟩
    · have hstep : step1 cfg s0 (.act none (.sub j)) = (s0, [], false) := step1_sub (doSub_seen cfg none hsn)
      have : absCall cfg a (.sub j) = a := by simp [absCall, hseen, hsn]
      rw [this]
      exact ⟨s0, RunsTo.nil.step hstep, hR⟩
    · -- `DisposedException` goes to `j`'s handler, whose reactions run before `subscribe` returns
      have hda : a.disp = true := by rw [hdisp]; exact hd
      have hstep : step1 cfg s0 (.act none (.sub j)) =
          (callback { s0 with seen := upd s0.seen j true, adoStopped := upd s0.adoStopped j true } j (.error disposedExn),
           (targets cfg j (s0.cbs j)).map (fun k => Task.act (some j) (.unsub k)) ++ [Task.finish j none], false) := by
        rw [← reactions_eq_targets hc]
        exact step1_sub ((doSub_disposed cfg none hsn hd).trans (if_pos (hc.err j)))
      have hr1 := reach_step hr0 hstep
      rw [List.append_nil] at hr1
      have habs : absCall cfg a (.sub j) =
          absHandle (absGive cfg { a with seen := upd a.seen j true } j (.error disposedExn)) j := by
        rw [absCall_sub cfg (hja hsn), AbsSt.late_disposed hda]
      exact hR.call hstep ⟨rfl, rfl, rfl⟩
        ((runs_unsubs (some j) a.term (targets cfg j (s0.cbs j)) _ _ hr1).seq fun st2 _ => runs_finish st2 j none nofun a.term)
        (by rw [habs]
            exact congrArg (absHandle · j)
              (by rw [← hp]; simp [absGive, proj, callback, hI0.fresh_ado hsn, Notif.isTerminal]))
    · have hda : a.disp = false := by rw [hdisp]; exact hd
      have htn : a.term = none := by
        rw [hstop, hda] at hs
        cases hx : a.term with
        | none => rfl
        | some _ => rw [hx] at hs; simp at hs
      have hstep : step1 cfg s0 (.act none (.sub j)) =
          ({ s0 with seen := upd s0.seen j true, observers := s0.observers ++ [j], tr := .sub j :: s0.tr },
           [Task.finish j (some .inner)], false) := by
        refine step1_sub ((doSub_live cfg none hsn hd hs).trans ?_)
        rw [if_neg (by simp [hc.kind])]; rfl
      have habs : absCall cfg a (.sub j) =
          absHandle { a with seen := upd a.seen j true, members := a.members ++ [j] } j := by
        rw [absCall_sub cfg (hja hsn), AbsSt.late_undisposed hda, htn]
      obtain ⟨_, _, f3, _⟩ := hI0.fresh j hsn
      exact hR.call (f := fun a => absHandle a j) hstep ⟨rfl, rfl, rfl⟩
        (runs_finish _ j (some .inner) (by exact fun _ => f3) a.term)
        (by rw [habs]; show absHandle (proj _ a.term) j = _; congr 1; rw [← hp]; simp [proj])
    · have hda : a.disp = false := by rw [hdisp]; exact hd
      have hts : a.term.isSome = true := by rw [hstop, hda] at hs; simpa using hs
      obtain ⟨t, ht⟩ := Option.isSome_iff_exists.mp hts
      have hstep : step1 cfg s0 (.act none (.sub j)) =
          ({ s0 with seen := upd s0.seen j true }, [Task.deliver j t, Task.finish j (some .noop)], false) := by
        refine step1_sub ((doSub_late cfg none hsn hd hs hu).trans ?_)
        rw [if_neg (by simp [hc.kind]), hterm hda t ht]; rfl
      have hr1 := reach_step hr0 hstep
      have habs : absCall cfg a (.sub j) = absHandle (absGive cfg { a with seen := upd a.seen j true } j t) j := by
        rw [absCall_sub cfg (hja hsn), AbsSt.late_undisposed hda, ht]
      exact hR.call hstep ⟨rfl, rfl, rfl⟩
        ((runs_give hc a.term _ j t _ hr1).seq (b := [Task.finish j (some .noop)]) fun st2 _ =>
          runs_finish st2 j (some .noop) nofun a.term)
        (by rw [habs]
            exact congrArg (fun x => absHandle (absGive cfg x j t) j) (by rw [← hp]; simp [proj]))
    · rw [hc.err j] at he; cases he

theorem init_rel {cfg : Cfg} (hc : UnsubCfg cfg) : Rel (init cfg (none : Option α)) ({} : AbsSt α) := by
  have : init cfg (none : Option α) = {} := by unfold init; rw [hc.kind]
  rw [this]
  exact ⟨rfl, fun _ t ht => (nomatch ht), fun _ => rfl, rfl⟩

/-- What the invariant of the machine says about the abstract state. -/
structure AbsOK (a : AbsSt α) : Prop where
  nodup : a.members.Nodup
  seen : ∀ k ∈ a.members, a.seen k = true
  unseen : ∀ k, a.seen k = false → a.detached k = false

theorem Rel.absOK {cfg : Cfg} {v : Option α} {st : St α} {a : AbsSt α} (hr : Reachable cfg v st []) (h : Rel st a) :
    AbsOK a := by
  have hI := (reachable_inv hr).1
  rw [← h.p]
  exact ⟨hI.nodup, hI.obsSeen, fun k hk => hI.fresh_ado hk⟩

/-! ### whole histories: whenever the run did not run out of fuel (`oof = false`, which is
what the correspondence check requires of every compared case) -/

theorem call_runs {cfg : Cfg} {v : Option α} (hc : UnsubCfg cfg) (c : Call α) {st : St α} {a : AbsSt α}
    (hr : Reachable cfg v st []) (h : Rel st a) :
    ∃ st', RunsTo cfg { st with raisedNow := none } [c.toTask] st' ∧ Rel st' (absCall cfg a c) ∧ Reachable cfg v st' [] := by
  obtain ⟨st', r1, r2⟩ := task_rel hc c (Reach.call c hr) (h.unread none)
  exact ⟨st', r1, r2, r1.reachable (rest := []) (Reach.call c hr)⟩

theorem call_rel {cfg : Cfg} {v : Option α} (hc : UnsubCfg cfg) (fuel : Nat) (c : Call α) {st : St α} {a : AbsSt α}
    (hr : Reachable cfg v st []) (h : Rel st a) (hoof : (call cfg fuel st c).oof = false) :
    Rel (call cfg fuel st c) (absCall cfg a c) ∧ Reachable cfg v (call cfg fuel st c) [] := by
  obtain ⟨st', r1, r2, r3⟩ := call_runs hc c hr h
  obtain ⟨N, hN⟩ := call_of_runsTo r1
  rcases Nat.lt_or_ge fuel N with hf | hf
  · rw [(hN fuel).2 hf] at hoof; cases hoof
  · rw [(hN fuel).1 hf]; exact ⟨r2, r3⟩

theorem run_rel_oof {cfg : Cfg} {v : Option α} (hc : UnsubCfg cfg) (fuel : Nat) (calls : List (Call α)) :
    ∀ (st : St α) (a : AbsSt α), Reachable cfg v st [] → Rel st a → (run cfg fuel st calls).1.oof = false →
      Rel (run cfg fuel st calls).1 (absRun cfg a calls) := by
  induction calls with
  | nil => intro st a _ h _; exact h
  | cons c cs ih =>
    intro st a hr h hoof
    have hrun : (run cfg fuel st (c :: cs)).1 = (run cfg fuel (call cfg fuel st c) cs).1 := rfl
    rw [hrun] at hoof ⊢
    have hc1 : (call cfg fuel st c).oof = false := by
      cases ho : (call cfg fuel st c).oof with
      | false => rfl
      | true => rw [run_oof cfg fuel cs _ ho] at hoof; cases hoof
    obtain ⟨hR, hr'⟩ := call_rel hc fuel c hr h hc1
    exact ih _ _ hr' hR hoof

theorem run_unsub_closed_form' {cfg : Cfg} (hc : UnsubCfg cfg) (calls : List (Call α)) (fuel : Nat)
    (hoof : (run cfg fuel (init cfg none) calls).1.oof = false) :
    (∀ i, (run cfg fuel (init cfg none) calls).1.log i = (absRun cfg ({} : AbsSt α) calls).log i) ∧
    (run cfg fuel (init cfg none) calls).1.observers = (absRun cfg ({} : AbsSt α) calls).members ∧
    (∀ i, (run cfg fuel (init cfg none) calls).1.adoStopped i = (absRun cfg ({} : AbsSt α) calls).detached i) := by
  have hp := (run_rel_oof (v := none) hc fuel calls (init cfg none) {} Reach.init (init_rel hc) hoof).p
  refine ⟨fun i => ?_, ?_, fun i => ?_⟩
  · exact congrFun (congrArg AbsSt.log hp) i
  · exact congrArg AbsSt.members hp
  · exact congrFun (congrArg AbsSt.detached hp) i

theorem run_unsub_total {cfg : Cfg} (hc : UnsubCfg cfg) (calls : List (Call α)) :
    ∃ N, ∀ fuel, N ≤ fuel → (run cfg fuel (init cfg (none : Option α)) calls).1.oof = false := by
  have key : ∀ (calls : List (Call α)) (st : St α) (a : AbsSt α), Reachable cfg (none : Option α) st [] → Rel st a →
      st.oof = false → ∃ N, ∀ fuel, N ≤ fuel → (run cfg fuel st calls).1.oof = false := by
    intro calls
    induction calls with
    | nil => intro st a _ _ h; exact ⟨0, fun _ _ => h⟩
    | cons c cs ih =>
      intro st a hr h ho
      obtain ⟨st', r1, r2, r3⟩ := call_runs hc c hr h
      have ho' : st'.oof = false := by
        have := runsTo_oof r1
        rw [this]; exact ho
      obtain ⟨N1, h1⟩ := call_of_runsTo r1
      obtain ⟨N2, h2⟩ := ih st' (absCall cfg a c) r3 r2 ho'
      refine ⟨max N1 N2, fun fuel hf => ?_⟩
      show (run cfg fuel (call cfg fuel st c) cs).1.oof = false
      rw [(h1 fuel).1 (by omega)]
      exact h2 fuel (by omega)
  have hi : (init cfg (none : Option α)).oof = false := by unfold init; rw [hc.kind]
  exact key calls _ _ Reach.init (init_rel hc) hi

/-- **Closed form with unsubscribing callbacks.**  Every observer's final log, the subject's final
observer list and who has been detached are what `absRun` — the property text as a recursive function —
computes. -/
theorem run_unsub_closed_form {cfg : Cfg} (hc : UnsubCfg cfg) (calls : List (Call α)) :
    ∃ N, ∀ fuel, N ≤ fuel →
      (∀ i, (run cfg fuel (init cfg none) calls).1.log i = (absRun cfg ({} : AbsSt α) calls).log i) ∧
      (run cfg fuel (init cfg none) calls).1.observers = (absRun cfg ({} : AbsSt α) calls).members ∧
      (∀ i, (run cfg fuel (init cfg none) calls).1.adoStopped i = (absRun cfg ({} : AbsSt α) calls).detached i) := by
  obtain ⟨N, h⟩ := run_unsub_total hc calls
  exact ⟨N, fun fuel hf => run_unsub_closed_form' hc calls fuel (h fuel hf)⟩

end Subj
