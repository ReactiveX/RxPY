import RxProofs.Lemmas.SubjTrim
import RxProofs.Lemmas.SubjReplayClosed
/-!
# Invariants of the ReplaySubject machine (`RxModel/SubjReplay.lean`)

Each record update of `SubjReplayOps` hands on the clauses of `RInv` it does not touch and proves the others.
-/

namespace SubjReplay
open Subj (Call upd disposedExn)
variable {α : Type}

structure RInv (cfg : Cfg α) (st : St α) : Prop where
  sorted : Sorted st.allVals
  bounded : ∀ x ∈ st.allVals, x.1 ≤ st.lastNow
  lastNow_le : st.lastNow ≤ st.clock
  retained : st.disposed = false → IsRetained cfg st.lastNow st.allVals st.queue
  fifo : ∀ i, st.faulted i = false → st.fed i ++ st.soQueue i = st.enq i
  nodup : st.observers.Nodup
  obsSeen : ∀ i ∈ st.observers, st.seen i = true
  fresh : ∀ i, st.seen i = false → st.soQueue i = [] ∧ st.enq i = [] ∧ st.fed i = [] ∧ st.soStopped i = false ∧
      st.log i = [] ∧ st.adoStopped i = false ∧ st.handle i = false ∧ st.faulted i = false ∧ st.held i = false
  live : st.stopped = false → ∀ i ∈ st.observers, st.soStopped i = false
  excStop : st.exception ≠ none → st.stopped = true
  dispStop : st.disposed = true → st.stopped = true ∧ st.observers = []
  agSeen : ∀ j, Task.handle j ∈ st.agenda → st.seen j = true
  crashFault : ∀ i, st.faulted i = true → st.crashed ≠ none

section
variable {cfg : Cfg α} {st : St α}

theorem RInv.other (h : RInv cfg st) {cbs : Id → Nat} {sadDisposed acquired serDisposed : Id → Bool}
    {serCur : Id → Option Nat} {spin nextId curCall : Nat} {pending : List (Item α)} {raised : List (Nat × Err)}
    {xlog : List (Id × Err)} {evs : List (EvR α)} :
    RInv cfg { st with cbs := cbs, sadDisposed := sadDisposed, acquired := acquired, serDisposed := serDisposed,
                       serCur := serCur, spin := spin, nextId := nextId, pending := pending, curCall := curCall,
                       raised := raised, xlog := xlog, evs := evs } :=
  { h with }

theorem RInv.agenda (h : RInv cfg st) {ag : List (Task α)} (hag : ∀ j, Task.handle j ∈ ag → st.seen j = true) :
    RInv cfg { st with agenda := ag } :=
  { h with agSeen := hag }

theorem RInv.clock (h : RInv cfg st) {c : Nat} (hc : st.clock ≤ c) : RInv cfg { st with clock := c } :=
  { h with lastNow_le := Nat.le_trans h.lastNow_le hc }

structure Fresh (st : St α) (i : Id) : Prop where
  soQueue : st.soQueue i = []
  enq : st.enq i = []
  fed : st.fed i = []
  soStopped : st.soStopped i = false
  log : st.log i = []
  adoStopped : st.adoStopped i = false
  handle : st.handle i = false
  faulted : st.faulted i = false
  held : st.held i = false

theorem RInv.freshAt (h : RInv cfg st) {i : Id} (hi : st.seen i = false) : Fresh st i :=
  have ⟨a, b, c, d, e, f, g, x, y⟩ := h.fresh i hi
  ⟨a, b, c, d, e, f, g, x, y⟩

theorem trim_queue_eq {cfg : Cfg α} {st : St α} (h : RInv cfg st) (hd : st.disposed = false) :
    trim cfg st.clock st.queue = trim cfg st.clock st.allVals :=
  (trim_of_retained h.sorted (h.retained hd) h.lastNow_le).unique (trim_isRetained cfg st.clock st.allVals h.sorted)

theorem RInv.seen_of (h : RInv cfg st) {i : Id} (hn : ¬Fresh st i) : st.seen i = true :=
  Decidable.byContradiction fun hs => hn (h.freshAt (by simpa using hs))

theorem RInv.seen_of_queue (h : RInv cfg st) {i : Id} {n : Notif α} {rest : List (Notif α)}
    (hq : st.soQueue i = n :: rest) : st.seen i = true :=
  h.seen_of fun hf => by rw [hf.soQueue] at hq; cases hq

theorem RInv.seen_of_handle (h : RInv cfg st) {i : Id} (hh : st.handle i = true) : st.seen i = true :=
  h.seen_of fun hf => by rw [hf.handle] at hh; cases hh

theorem ne_of_unseen (h : st.seen i = true) {k : Id} (hk : st.seen k = false) : k ≠ i :=
  fun e => by rw [e, h] at hk; cases hk

/-- The guard of `soPush` is idle for the observers of a live subject. -/
theorem RInv.ite_live (h : RInv cfg st) (hs : st.stopped = false) {γ : Type} (k : Id) (a b : γ) :
    (if k ∈ st.observers ∧ st.soStopped k = false then a else b) = if k ∈ st.observers then a else b := by
  by_cases hk : k ∈ st.observers
  · rw [if_pos ⟨hk, h.live hs k hk⟩, if_pos hk]
  · rw [if_neg (fun h => hk h.1), if_neg hk]

theorem pushed_inv (l : List Id) (n : Notif α) (h : RInv cfg st) (hl : ∀ i ∈ l, st.seen i = true)
    (hn : n.isTerminal = true → ∀ i ∈ l, i ∈ st.observers → st.stopped = true) : RInv cfg (pushed st l n) := by
  have unseen : ∀ k, st.seen k = false → k ∉ l := fun k hk hm => by rw [hl k hm] at hk; cases hk
  refine { h with fifo := fun k hk => ?_, fresh := fun k hk => ?_, live := fun hs k hk => ?_ }
  · show st.fed k ++ (if k ∈ l ∧ st.soStopped k = false then st.soQueue k ++ [n] else st.soQueue k) =
      if k ∈ l ∧ st.soStopped k = false then st.enq k ++ [n] else st.enq k
    split
    · rw [← List.append_assoc, h.fifo k hk]
    · exact h.fifo k hk
  · have hf := h.freshAt hk
    have hkl : ¬(k ∈ l ∧ st.soStopped k = false) := fun hc => unseen k hk hc.1
    have hkl' : ¬(k ∈ l ∧ n.isTerminal = true) := fun hc => unseen k hk hc.1
    exact ⟨(if_neg hkl).trans hf.soQueue, (if_neg hkl).trans hf.enq, hf.fed, (if_neg hkl').trans hf.soStopped, hf.log,
      hf.adoStopped, hf.handle, hf.faulted, hf.held⟩
  · show (if k ∈ l ∧ n.isTerminal = true then true else st.soStopped k) = false
    have hs : st.stopped = false := hs
    rw [if_neg (fun hc => by rw [hn hc.2 k hc.1 hk] at hs; cases hs)]
    exact h.live hs k hk

theorem pushedTo_inv (j : Id) (ns : List (Notif α)) (h : RInv cfg st) (hj : st.seen j = true)
    (hn : ns.any Notif.isTerminal = true → j ∈ st.observers → st.stopped = true) : RInv cfg (pushedTo st j ns) := by
  refine { h with fifo := fun k hk => ?_, fresh := fun k hk => ?_, live := fun hs k hk => ?_ }
  · show st.fed k ++ upd st.soQueue j (st.soQueue j ++ ns) k = upd st.enq j (st.enq j ++ ns) k
    by_cases e : k = j
    · rw [e, upd_self, upd_self, ← List.append_assoc, h.fifo j (e ▸ hk)]
    · rw [upd_ne _ _ e, upd_ne _ _ e, h.fifo k hk]
  · simpa only [pushedTo, upd_ne _ _ (ne_of_unseen hj hk)] using h.fresh k hk
  · show upd st.soStopped j (ns.any Notif.isTerminal) k = false
    by_cases e : k = j
    · rw [e, upd_self]
      cases ha : ns.any Notif.isTerminal with
      | false => rfl
      | true => have hs : st.stopped = false := hs; rw [hn ha (e ▸ hk)] at hs; cases hs
    · rw [upd_ne _ _ e]; exact h.live hs k hk

/-- The invariant holds of `st`, which has the `seen`, `stopped`, `observers` of `st0`.  Nothing below needs it. -/
structure Keeps (cfg : Cfg α) (st0 st : St α) : Prop where
  inv : RInv cfg st
  seen : st.seen = st0.seen
  stopped : st.stopped = st0.stopped
  observers : st.observers = st0.observers

theorem Keeps.trans {cfg : Cfg α} {a b c : St α} (h1 : Keeps cfg a b) (h2 : Keeps cfg b c) : Keeps cfg a c :=
  ⟨h2.inv, h2.seen.trans h1.seen, h2.stopped.trans h1.stopped, h2.observers.trans h1.observers⟩

/-- `RemovableDisposable.dispose`: the observer is stopped *and* leaves the list, so the live observers stay
unstopped. -/
theorem removableDispose_inv (i : Id) (h : RInv cfg st) (hi : st.seen i = true) :
    RInv cfg (removableDispose st i) := by
  have ho : (if st.disposed = false then st.observers.erase i else st.observers) = st.observers.erase i := by
    split
    · rfl
    · rw [(h.dispStop (by simpa using ‹¬st.disposed = false›)).2]; rfl
  rw [removableDispose_closed st i, ho]
  refine RInv.other (st := { st with soStopped := upd st.soStopped i true, observers := st.observers.erase i })
    { h with nodup := h.nodup.erase i, obsSeen := fun k hk => h.obsSeen k (List.mem_of_mem_erase hk), fresh := ?_, live := ?_,
             dispStop := ?_ }
  · intro k hk
    simpa only [upd_ne _ _ (ne_of_unseen hi hk)] using h.fresh k hk
  · intro hs k hk
    have := (List.Nodup.mem_erase_iff h.nodup).mp hk
    exact (upd_ne _ _ this.1).trans (h.live hs k this.2)
  · intro hd
    have := h.dispStop hd
    exact ⟨this.1, by show st.observers.erase i = []; rw [this.2]; rfl⟩

theorem sadOff_inv (i : Id) (h : RInv cfg st) : RInv cfg (sadOff st i) := by
  refine RInv.other (st := { st with held := upd st.held i false }) { h with fresh := fun k hk => ?_ }
  have hf := h.freshAt hk
  refine ⟨hf.soQueue, hf.enq, hf.fed, hf.soStopped, hf.log, hf.adoStopped, hf.handle, hf.faulted, ?_⟩
  show upd st.held i false k = false
  by_cases e : k = i
  · rw [e, upd_self]
  · rw [upd_ne _ _ e]; exact hf.held

theorem sadDispose_inv (i : Id) (h : RInv cfg st) : RInv cfg (sadDispose st i) := by
  rw [sadDispose_eq]
  split
  · exact h
  · split
    · rename_i hh
      exact removableDispose_inv i (sadOff_inv i h) (h.seen_of fun hf => by rw [hf.held] at hh; cases hh)
    · exact sadOff_inv i h

theorem callback_inv (i : Id) (n : Notif α) (h : RInv cfg st) (hi : st.seen i = true) : RInv cfg (callback st i n) :=
  RInv.other (st := { st with log := upd st.log i (st.log i ++ [(st.clock, n)]) })
    { h with fresh := fun k hk => by simpa only [upd_ne _ _ (ne_of_unseen hi hk)] using h.fresh k hk }

theorem adoStop_inv (i : Id) (h : RInv cfg st) (hi : st.seen i = true) : RInv cfg (adoStop st i) :=
  { h with fresh := fun k hk => by simpa only [adoStop, upd_ne _ _ (ne_of_unseen hi hk)] using h.fresh k hk }

theorem logUnsub_inv (j : Id) (h : RInv cfg st) (hj : st.seen j = true) : RInv cfg (logUnsub st j) :=
  (adoStop_inv j h hj).other

theorem setHandle_inv (j : Id) (h : RInv cfg st) (hj : st.seen j = true) : RInv cfg (setHandle st j) :=
  { h with fresh := fun k hk => by simpa only [setHandle, upd_ne _ _ (ne_of_unseen hj hk)] using h.fresh k hk }

theorem subFinish_inv (j : Id) (h : RInv cfg st) (hj : st.seen j = true) : RInv cfg (subFinish st j) :=
  { h with fresh := fun k hk => by simpa only [subFinish, upd_ne _ _ (ne_of_unseen hj hk)] using h.fresh k hk }

theorem raiseTo_inv (who : Option Id) (e : Err) (h : RInv cfg st) : RInv cfg (raiseTo who e st) := by
  cases who <;> exact h.other

theorem doUnsub_inv (j : Id) (h : RInv cfg st) : RInv cfg (doUnsub st j) := by
  rw [doUnsub_eq]
  split
  · rename_i hh
    exact sadDispose_inv j (logUnsub_inv j h (h.seen_of_handle hh))
  · exact h

theorem subjDispose_inv (h : RInv cfg st) : RInv cfg (subjDispose st) :=
  { h with retained := fun hd => (by cases hd), nodup := List.nodup_nil, obsSeen := fun _ hk => (by cases hk),
           live := fun hs => (by cases hs), excStop := fun hx => absurd rfl hx, dispStop := fun _ => ⟨rfl, rfl⟩ }

theorem subStart_inv (j : Id) (h : RInv cfg st) (hd : st.disposed = false) (hj : st.seen j = true)
    (hjn : j ∉ st.observers) (hso : st.soStopped j = false) : RInv cfg (subStart cfg st j) := by
  refine { h with bounded := fun x hx => Nat.le_trans (h.bounded x hx) h.lastNow_le, lastNow_le := Nat.le_refl _,
                  retained := fun _ => trim_of_retained h.sorted (h.retained hd) h.lastNow_le, nodup := ?_, obsSeen := ?_, live := ?_,
                  dispStop := fun hd' => (by rw [show st.disposed = true from hd'] at hd; cases hd) }
  · exact List.nodup_append.mpr ⟨h.nodup, List.pairwise_singleton _ j, fun a ha b hb => by
      rw [List.mem_singleton.mp hb]; exact fun e => hjn (e ▸ ha)⟩
  · intro k hk
    rcases List.mem_append.mp hk with hk | hk
    · exact h.obsSeen k hk
    · rw [List.mem_singleton.mp hk]; exact hj
  · intro hs k hk
    rcases List.mem_append.mp hk with hk | hk
    · exact h.live hs k hk
    · rw [List.mem_singleton.mp hk]; exact hso

theorem terminalOf_stopped (h : RInv cfg st) {n : Notif α} (hn : n ∈ terminalOf st) : st.stopped = true := by
  unfold terminalOf at hn
  split at hn
  next e he => exact h.excStop (by rw [he]; exact Option.some_ne_none e)
  next =>
    split at hn
    next hs => exact hs
    next => cases hn

theorem subscribeCore_inv (cfg : Cfg α) (j : Id) (h : RInv cfg st) (hseen : st.seen j = true)
    (hjn : j ∉ st.observers) (hso : st.soStopped j = false) (hdisp : st.disposed = false) :
    RInv cfg (subscribeCore cfg st j) := by
  rw [subscribeCore_closed cfg st j hso]
  refine (subFinish_inv j (pushedTo_inv j _ (subStart_inv (cfg := cfg) j h hdisp hseen hjn hso) hseen fun ha _ => ?_) hseen).other
  -- a replayed value is no terminal; the terminal is replayed by a stopped subject only
  obtain ⟨n, hn, ht⟩ := List.any_eq_true.mp ha
  rcases List.mem_append.mp hn with hn | hn
  · obtain ⟨_, _, rfl⟩ := List.mem_map.mp hn; cases ht
  · exact terminalOf_stopped (st := st) h hn

theorem subscribeCore_seen (cfg : Cfg α) (st : St α) (j : Id) : (subscribeCore cfg st j).seen = st.seen :=
  (congrArg St.seen (subscribeCore_writes cfg st j) :)

theorem markSub_inv (j : Id) (h : RInv cfg st) : RInv cfg (markSub st j) := by
  have mono : ∀ k, st.seen k = true → upd st.seen j true k = true := fun k hk => by
    by_cases e : k = j
    · rw [e, upd_self]
    · rw [upd_ne _ _ e]; exact hk
  have anti : ∀ k, upd st.seen j true k = false → st.seen k = false := fun k hk => by
    cases hs : st.seen k with
    | false => rfl
    | true => rw [mono k hs] at hk; cases hk
  exact RInv.other (st := { st with seen := upd st.seen j true })
    { h with obsSeen := fun k hk => mono k (h.obsSeen k hk), fresh := fun k hk => h.fresh k (anti k hk),
             agSeen := fun k hk => mono k (h.agSeen k hk) }

theorem failMark_inv (j : Id) (h : RInv cfg st) (hj : st.seen j = true) (hq : st.soQueue j = []) :
    RInv cfg (failMark st j) := by
  refine { h with fifo := ?_, fresh := ?_ }
  · intro k hk
    show upd st.fed j [.error disposedExn] k ++ st.soQueue k = upd st.enq j [.error disposedExn] k
    by_cases e : k = j
    · rw [e, upd_self, upd_self, hq, List.append_nil]
    · rw [upd_ne _ _ e, upd_ne _ _ e]; exact h.fifo k hk
  · intro k hk
    simpa only [failMark, upd_ne _ _ (ne_of_unseen hj hk)] using h.fresh k hk

theorem doSub_inv (cfg : Cfg α) (who : Option Id) (j : Id) (h : RInv cfg st) : RInv cfg (doSub cfg st who j).1 := by
  have hm := markSub_inv j h
  have hjm : (markSub st j).seen j = true := upd_self ..
  refine doSub_cases (P := fun r => RInv cfg r.1) cfg st who j (fun _ => h) (fun hj _ => ?_) (fun hj _ => ?_) fun hj hd => ?_
  · exact callback_inv j _ (failMark_inv j hm hjm (h.freshAt hj).soQueue) hjm
  · exact raiseTo_inv who _ (failMark_inv j hm hjm (h.freshAt hj).soQueue)
  · exact subscribeCore_inv cfg j hm hjm (fun hm' => by rw [h.obsSeen j hm'] at hj; cases hj) (h.freshAt hj).soStopped hd

theorem doSub_seen (cfg : Cfg α) (st : St α) (who : Option Id) (j : Id) : (doSub cfg st who j).1.seen j = true := by
  refine doSub_cases (P := fun r => r.1.seen j = true) cfg st who j id (fun _ _ => upd_self ..) (fun _ _ => ?_) fun _ _ => ?_
  · cases who <;> exact upd_self ..
  · rw [subscribeCore_seen]; exact upd_self ..

theorem doSub_tasks (cfg : Cfg α) (st : St α) (who : Option Id) (j : Id) :
    ∀ t ∈ (doSub cfg st who j).2, (∃ a, t = .act (some j) a) ∨ t = .handle j :=
  doSub_cases (P := fun r => ∀ t ∈ r.2, (∃ a, t = .act (some j) a) ∨ t = .handle j) cfg st who j (fun _ => nofun)
    (fun _ _ _ ht => (List.mem_append.mp ht).imp mem_reactions List.mem_singleton.mp) (fun _ _ => nofun) fun _ _ => nofun

theorem doSub_handle (cfg : Cfg α) (st : St α) (who : Option Id) (j k : Id)
    (h : Task.handle k ∈ (doSub cfg st who j).2) : (doSub cfg st who j).1.seen k = true := by
  rcases doSub_tasks cfg st who j _ h with ⟨_, e⟩ | e
  · cases e
  · cases e; exact doSub_seen cfg st who j

theorem popped_inv (i : Id) (n : Notif α) (rest : List (Notif α)) (h : RInv cfg st) (hq : st.soQueue i = n :: rest) :
    RInv cfg (popped st i n rest) := by
  have hi := h.seen_of_queue hq
  refine { h with fifo := ?_, fresh := ?_ }
  · intro k hk
    show upd st.fed i (st.fed i ++ [n]) k ++ upd st.soQueue i rest k = st.enq k
    by_cases e : k = i
    · rw [e, upd_self, upd_self, List.append_assoc, List.singleton_append, ← hq, h.fifo i (e ▸ hk)]
    · rw [upd_ne _ _ e, upd_ne _ _ e, h.fifo k hk]
  · intro k hk
    simpa only [popped, upd_ne _ _ (ne_of_unseen hi hk)] using h.fresh k hk

theorem adoDeliver_inv (cfg : Cfg α) (i : Id) (n : Notif α) (h : RInv cfg st) (hi : st.seen i = true) :
    RInv cfg (adoDeliver cfg st i n).1 := by
  have h2 := adoStop_inv i h hi
  refine adoDeliver_cases (P := fun r => RInv cfg r.1) cfg st i n (fun _ => h) (fun _ => ?_) fun _ _ _ => sadDispose_inv i h2
  split
  · exact callback_inv i n h2 hi
  · exact callback_inv i n h hi

theorem adoDeliver_tasks (cfg : Cfg α) (st : St α) (i : Id) (n : Notif α) :
    ∀ t ∈ (adoDeliver cfg st i n).2.1, t ∈ reactions cfg st i ∨ t = .sadDispose i := by
  refine adoDeliver_cases (P := fun r => ∀ t ∈ r.2.1, t ∈ reactions cfg st i ∨ t = .sadDispose i) cfg st i n (fun _ => nofun)
    (fun _ t ht => (List.mem_append.mp ht).imp id fun ht => ?_) fun _ _ _ => nofun
  split at ht
  · exact List.mem_singleton.mp ht
  · cases ht

theorem soRun_inv (cfg : Cfg α) (i : Id) (h : RInv cfg st) : RInv cfg (soRun cfg st i) := by
  refine soRun_cases (P := RInv cfg) cfg st i (fun hq => ?_) fun n rest hq => ?_
  · exact h.other
  · have hi : (popped st i n rest).seen i = true := h.seen_of_queue hq
    have h3 := adoDeliver_inv cfg i n (popped_inv i n rest h hq) hi
    have fs : (adoDeliver cfg (popped st i n rest) i n).1.seen = (popped st i n rest).seen :=
      (congrArg St.seen (adoDeliver_writes cfg (popped st i n rest) i n) :)
    have fr := adoDeliver_tasks cfg (popped st i n rest) i n
    generalize adoDeliver cfg (popped st i n rest) i n = r at h3 fs fr
    refine finishRun_cases (P := RInv cfg) i r (fun e => ?_) ?_
    · have hi3 : r.1.seen i = true := fs ▸ hi
      refine { h3 with fifo := ?_, fresh := ?_, crashFault := fun _ _ => Option.some_ne_none e }
      · intro k hk
        have e : k ≠ i := fun e => by rw [e] at hk; exact absurd (hk.symm.trans (upd_self ..)) (by decide)
        show r.1.fed k ++ upd r.1.soQueue i [] k = r.1.enq k
        rw [upd_ne _ _ e]; exact h3.fifo k ((upd_ne _ _ e).symm.trans hk)
      · intro k hk
        simpa only [upd_ne _ _ (ne_of_unseen hi3 hk)] using h3.fresh k hk
    · refine h3.agenda fun j hj => ?_
      rcases List.mem_append.mp hj with hj | hj
      · rcases fr _ hj with hj | hj
        · exact (mem_reactions hj).elim fun _ e => nomatch e
        · cases hj
      · cases List.mem_singleton.mp hj

theorem acceptCore_inv (cfg : Cfg α) (n : Notif α) (h : RInv cfg st) (hd : st.disposed = false) :
    RInv cfg (acceptCore cfg st n) := by
  have hb : ∀ x ∈ st.allVals, x.1 ≤ st.clock := fun x hx => Nat.le_trans (h.bounded x hx) h.lastNow_le
  cases n with
  | next v =>
    have hs : Sorted (st.allVals ++ [(st.clock, v)]) := h.sorted.append_one hb
    refine { h with sorted := hs, bounded := fun x hx => ?_, lastNow_le := Nat.le_refl _,
                    retained := fun _ => trim_append_of_retained (st.clock, v) hs (h.retained hd) h.lastNow_le }
    rcases List.mem_append.mp hx with hx | hx
    · exact hb x hx
    · rw [List.mem_singleton.mp hx]; exact Nat.le_refl _
  | error e | completed =>
    exact { h with bounded := hb, lastNow_le := Nat.le_refl _, retained := fun _ => trim_of_retained h.sorted (h.retained hd) h.lastNow_le,
                   nodup := List.nodup_nil, obsSeen := fun _ hk => (by cases hk), live := fun hs => (by cases hs),
                   excStop := fun _ => rfl, dispStop := fun _ => ⟨rfl, rfl⟩ }

theorem accept_inv (cfg : Cfg α) (n : Notif α) (h : RInv cfg st) (hd : st.disposed = false) :
    RInv cfg (accept cfg st n) := by
  rw [accept_closed cfg st n h.nodup]
  exact (pushed_inv st.observers n (acceptCore_inv cfg n h hd) h.obsSeen fun ht _ _ _ => (congrArg (· || st.stopped) ht :)).other

theorem emit_inv (cfg : Cfg α) (who : Option Id) (n : Notif α) (h : RInv cfg st) : RInv cfg (emit cfg st who n) :=
  emit_cases (P := RInv cfg) cfg st who n (fun _ => raiseTo_inv who _ h) (fun _ _ => h) fun hd _ => accept_inv cfg n h hd

theorem RInv.pop {t : Task α} {ts : List (Task α)} (h : RInv cfg st) (ha : st.agenda = t :: ts) : RInv cfg (withAgenda st ts) :=
  h.agenda fun j hj => h.agSeen j (ha ▸ List.mem_cons_of_mem _ hj)

theorem RInv.dequeue (h : RInv cfg st) (rest : List (Item α)) (due : Nat) : RInv cfg (advance (withPending st rest) due) := by
  rw [(advance_clock (withPending st rest) due).2]
  exact (h.clock (advance_clock (withPending st rest) due).1).other

theorem Step.inv {st' : St α} (s : Step cfg st st') (h : RInv cfg st) : RInv cfg st' := by
  cases s with
  | stay => exact h
  | @emit who n ts ha =>
    refine emit_inv cfg who n ?_
    cases who <;> exact (h.pop ha).other
  | @sub who j ts ha =>
    have hd := doSub_inv cfg who j (h.pop ha)
    exact hd.agenda fun k hk => (List.mem_append.mp hk).elim (doSub_handle cfg _ who j k) (hd.agSeen k)
  | unsub ha => exact doUnsub_inv _ (h.pop ha)
  | dispose ha => exact subjDispose_inv (h.pop ha)
  | detach ha => exact sadDispose_inv _ (h.pop ha)
  | resched ha => exact (h.pop ha).other
  | handle ha => exact setHandle_inv _ (h.pop ha) (h.agSeen _ (ha ▸ List.mem_cons_self ..))
  | skip => exact h.dequeue _ _
  | callEmit => exact emit_inv cfg none _ (h.dequeue _ _).other
  | callAsk => exact (h.dequeue _ _).other.agenda (by simp)
  | run => exact soRun_inv cfg _ (h.dequeue _ _)

theorem init_inv (cfg : Cfg α) {s0 : St α} (w : SchedWrites {} s0) : RInv cfg s0 := by
  rw [w]
  refine RInv.other (st := {})
    ⟨List.Pairwise.nil, nofun, Nat.le_refl _, fun _ => ⟨List.suffix_refl _, Good.nil cfg 0, fun _ hr _ => hr⟩,
     fun _ _ => rfl, List.nodup_nil, nofun, fun _ _ => ⟨rfl, rfl, rfl, rfl, rfl, rfl, rfl, rfl, rfl⟩, fun _ => nofun,
     fun hx => absurd rfl hx, nofun, nofun, nofun⟩

end

end SubjReplay
