/-! Facts above a single loop iteration that mention no model. -/

namespace Vts

/-- The epilogue of `start` (`self.stop()`) and `advance_to` (`self.stop(); self._clock = dt`), as the proofs see it
through `start_eq`/`advanceTo_eq`: `g` runs only when the loop ended normally; the outcome is the loop's own. -/
def closeRun {S O : Type} [DecidableEq O] (ok : O) (g : S → S) (r : S × O) : S × O :=
  (if r.2 = ok then g r.1 else r.1, r.2)

theorem closeRun_of_ok {S O : Type} [DecidableEq O] {ok : O} (g : S → S) {r : S × O} (h : r.2 = ok) :
    closeRun ok g r = (g r.1, ok) := by
  rw [closeRun, if_pos h, h]

theorem closeRun_of_ne {S O : Type} [DecidableEq O] {ok : O} (g : S → S) {r : S × O} (h : r.2 ≠ ok) :
    closeRun ok g r = r := by
  rw [closeRun, if_neg h]

theorem closeRun_ok {S O : Type} [DecidableEq O] {ok : O} {g : S → S} {r : S × O} {s' : S}
    (h : closeRun ok g r = (s', ok)) : r = (r.1, ok) ∧ s' = g r.1 := by
  have hr : r.2 = ok := congrArg Prod.snd h
  rw [closeRun_of_ok g hr] at h
  exact ⟨Prod.ext rfl hr, (congrArg Prod.fst h).symm⟩

theorem closeRun_inv {S O : Type} [DecidableEq O] {ok : O} {P : S → Prop} {g : S → S} {r : S × O}
    (hg : P r.1 → P (g r.1)) (h : P r.1) : P (closeRun ok g r).1 := by
  by_cases ho : r.2 = ok
  · rw [closeRun_of_ok g ho]; exact hg h
  · rw [closeRun_of_ne g ho]; exact h

theorem fuel_enough {S R : Type} (L : Nat → S → R) (μ : S → Nat)
    (hstep : ∀ n m s, (∀ s', μ s' < μ s → L n s' = L m s') → L (n + 1) s = L (m + 1) s) :
    ∀ (n m : Nat) (s : S), μ s < n → μ s < m → L n s = L m s := by
  intro n
  induction n with
  | zero => intro m s h; omega
  | succ n ih =>
    intro m s hn hm
    cases m with
    | zero => omega
    | succ m => exact hstep n m s fun s' h => ih m s' (by omega) (by omega)

theorem foldl_count {σ β : Type} (f : σ → β → σ) (μ : σ → Nat) (h : ∀ s b, μ (f s b) = μ s + 1) (l : List β) (s : σ) :
    μ (l.foldl f s) = μ s + l.length := by
  induction l generalizing s with
  | nil => rfl
  | cons b l ih => rw [List.foldl_cons, ih, h, List.length_cons]; omega

end Vts
