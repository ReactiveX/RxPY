import RxProofs.Lemmas.WinGrpStep
/-!
# The vocabulary of the C19 statements about one step
-/
namespace WinGrp
variable {α κ β : Type}

/-- a live group for key k in state s: created, same key (Python `==`), not expired -/
def LiveFor (cfg : Cfg α κ β) (s : St κ β) (k : κ) (j : Nat) : Prop :=
  ∃ r, s.groups[j]? = some r ∧ cfg.keyEq r.key k = true ∧ r.expired = false

theorem mem_writers_iff {cfg : Cfg α κ β} {s : St κ β} (h : WF cfg s) (p : κ × Nat) :
    p ∈ s.writers ↔ ∃ r, s.groups[p.2]? = some r ∧ r.expired = false ∧ p.1 = r.key := by
  rw [h.shape, mem_liveW_iff]
  constructor
  · rintro ⟨j, r, hj, he, rfl⟩; exact ⟨r, by simpa using hj, he, rfl⟩
  · rintro ⟨r, hr, he, hk⟩; exact ⟨p.2, r, hr, he, by rw [Prod.ext_iff]; simp [hk]⟩

theorem find_none_iff {cfg : Cfg α κ β} {s : St κ β} (h : WF cfg s) (k : κ) :
    s.writers.find? (fun p => cfg.keyEq p.1 k) = none ↔ ¬ ∃ j, LiveFor cfg s k j := by
  rw [List.find?_eq_none]
  constructor
  · rintro hn ⟨j, r, hr, hk, he⟩
    have := hn (r.key, j) ((mem_writers_iff h _).mpr ⟨r, hr, he, rfl⟩)
    simp [hk] at this
  · intro hn p hp hk
    obtain ⟨r, hr, he, hpk⟩ := (mem_writers_iff h p).mp hp
    exact hn ⟨p.2, r, hr, by rw [← hpk]; simpa using hk, he⟩

theorem find_some_live {cfg : Cfg α κ β} {s : St κ β} (h : WF cfg s) (k : κ) (p : κ × Nat)
    (hf : s.writers.find? (fun p => cfg.keyEq p.1 k) = some p) : LiveFor cfg s k p.2 := by
  have hm := List.mem_of_find?_eq_some hf
  have hk := List.find?_some hf
  obtain ⟨r, hr, he, hpk⟩ := (mem_writers_iff h p).mp hm
  exact ⟨r, hr, by rw [← hpk]; simpa using hk, he⟩

theorem live_unique {cfg : Cfg α κ β} (hsymm : ∀ a b, cfg.keyEq a b = true → cfg.keyEq b a = true)
    (htrans : ∀ a b c, cfg.keyEq a b = true → cfg.keyEq b c = true → cfg.keyEq a c = true)
    {s : St κ β} (h : WF cfg s) (k : κ) (i j : Nat) (hi : LiveFor cfg s k i) (hj : LiveFor cfg s k j) : i = j := by
  obtain ⟨ri, hri, hki, hei⟩ := hi
  obtain ⟨rj, hrj, hkj, hej⟩ := hj
  have hmi : (ri.key, i) ∈ s.writers := (mem_writers_iff h _).mpr ⟨ri, hri, hei, rfl⟩
  have hmj : (rj.key, j) ∈ s.writers := (mem_writers_iff h _).mpr ⟨rj, hrj, hej, rfl⟩
  have hu := h.uniq
  have hij : cfg.keyEq ri.key rj.key = true := htrans _ _ _ hki (hsymm _ _ hkj)
  have hji : cfg.keyEq rj.key ri.key = true := hsymm _ _ hij
  rcases List.pairwise_mem hu hmi hmj with e | e | e
  · injection e
  · simp only at e; rw [hij] at e; cases e
  · simp only at e; rw [hji] at e; cases e

theorem announce_mem (cfg : Cfg α κ β) (s : St κ β) (g : Nat) (k : κ) (ho : s.outStopped = false) :
    Eff.outer (.next (g, k)) ∈ (announce cfg s g k).out := by
  rw [announce_eq]
  have h1 : Eff.outer (.next (g, k)) ∈ (handed cfg s g k).out := by
    unfold handed
    simp only [ho, Bool.false_eq_true, if_false]
    split
    · exact (fr_subscribeGroup _ g).grow.mem (by simp)
    · simp
  generalize handed cfg s g k = s2 at h1
  split
  · exact (OutExt_durFire cfg s2 g _).mem h1
  · simp only; split
    · exact (fr_closeDur _ g).grow.mem (by simp [h1])
    · simp [h1]

/-- the writer log of group j (`[]` if the group does not exist) -/
def wlogOf (s : St κ β) (j : Nat) : List (Notif β) := ((s.groups[j]?).map (·.wlog)).getD []

theorem wlogOf_trk (s : St κ β) (j : Nat) : wlogOf s j = (((trk s)[j]?).map (·.wlog)).getD [] := by
  simp only [wlogOf, trk_getElem?, Option.map_map]; rfl

theorem wlogOf_modify_ne {s s' : St κ β} {g j : Nat} {f : TG κ β → TG κ β} (ht : trk s' = (trk s).modify g f) (hj : j ≠ g) :
    wlogOf s' j = wlogOf s j := by
  rw [wlogOf_trk, wlogOf_trk, ht, List.getElem?_modify]
  cases (trk s)[j]? <;> simp [Ne.symm hj]

theorem liveFor_trk (cfg : Cfg α κ β) (s : St κ β) (k : κ) (j : Nat) :
    LiveFor cfg s k j ↔ ∃ t, (trk s)[j]? = some t ∧ cfg.keyEq t.key k = true ∧ t.expired = false := by
  simp only [LiveFor, trk_getElem?]
  constructor
  · rintro ⟨r, hr, hk, he⟩; exact ⟨tg r, by simp [hr], hk, he⟩
  · rintro ⟨t, ht, hk, he⟩
    cases hg : s.groups[j]? with
    | none => simp [hg] at ht
    | some r => simp only [hg, Option.map_some, Option.some.injEq] at ht; subst ht; exact ⟨r, rfl, hk, he⟩

theorem step_src_next (cfg : Cfg α κ β) (s : St κ β) (x : α) (hs : s.srcStopped = false) :
    step cfg s (.src (.next x)) = srcNext cfg s x := by simp [step, hs]

/-- `n` goes to the writers, `no` to the outer subscriber; `d`, `f`: what the caller sets `srcDone`, `failed` to (source error: both;
completion: `srcDone`) -/
theorem srcTerminal_trk (cfg : Cfg α κ β) (s : St κ β) (hw : WF cfg s) (n : Notif β) (no : Notif (Nat × κ)) (d f : Bool) :
    let s' := closeSrc (termOuter { s with srcStopped := true, srcDone := d, failed := f } n no)
    trk s' = (trk s).map (termT n) ∧
    (s.outStopped = false → ∃ pre post, s'.out = pre ++ Eff.outer no :: post ∧ ∀ e ∈ post, Eff.isUnsub e = true) := by
  intro s'
  constructor
  · have hw' : WF cfg { s with srcStopped := true, srcDone := d, failed := f } := hw.reflag hw.rc nofun hw.out_prim
    show trk (closeSrc _) = _
    rw [trk_closeSrc, trk_outerTerm]
    apply List.ext_getElem?
    intro j
    have e := congrArg (Option.map tg) (hw'.termAll_get n j)
    rw [Option.map_map, Option.map_map] at e
    rw [trk_getElem?, List.getElem?_map, trk_getElem?, Option.map_map]
    exact e.trans (congrArg (fun F => Option.map F s.groups[j]?) (funext fun r => tg_termR n (nodur r)))
  · intro ho
    have hto : (termAll { s with srcStopped := true, srcDone := d, failed := f } n).outStopped = false := by rw [(fr_termAll _ n).outS]; exact ho
    obtain ⟨l1, e1, u1⟩ := (td_rcdDispose (emit { termAll { s with srcStopped := true, srcDone := d, failed := f } n with outStopped := true } (.outer no))).unsub
    obtain ⟨l2, e2, u2⟩ := (tear_closeSrc (termOuter { s with srcStopped := true, srcDone := d, failed := f } n no)).unsub
    refine ⟨(termAll { s with srcStopped := true, srcDone := d, failed := f } n).out, l1 ++ l2, ?_, ?_⟩
    · show (closeSrc _).out = _
      rw [e2]
      have : (termOuter { s with srcStopped := true, srcDone := d, failed := f } n no).out =
          (termAll { s with srcStopped := true, srcDone := d, failed := f } n).out ++ [Eff.outer no] ++ l1 := by
        unfold termOuter outerTerm; rw [if_neg (by simp [hto])]; rw [e1]; rfl
      rw [this]; simp
    · intro e he
      rcases List.mem_append.mp he with h | h
      · exact u1 e h
      · exact u2 e h

end WinGrp
