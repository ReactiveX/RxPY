import RxProofs.Lemmas.AggRaise
import RxModel.AggSeqEq
import RxModel.AggC09
/-!
# The catalogue for C09, operator by operator

Every operator gets `X_noEsc`; those the library pipes something into also get `X_stage` (a raise upstream passes through them).
-/

namespace Agg

theorem atEnd_term {β} {t : Ending} {l : List (Notif β)} (ht : t ≠ .open) (hl : ¬ noTerm l) : ¬ noTerm (atEnd t l) := by
  cases t with
  | «open» => exact absurd rfl ht
  | done => exact hl
  | err e => nofun

theorem valueOrDefault_term {β} (v d : Option β) : ¬ noTerm (valueOrDefault v d) := by
  cases v <;> cases d <;> nofun

theorem mapO_noEsc {α β} (f : α → Except Err β) : (mapO f).NoEsc :=
  Op.NoEsc.of_handlers (fun s x => by simp only [mapO]; cases f x <;> rfl) (fun _ _ => rfl) (fun _ => rfl)
theorem mapO_calls_of_raise {α β} (f : α → Except Err β) (s) (x : α) (e : Err) (h : f x = .error e) :
    ((mapO f).handle s (.next x)).calls = [.error e] := by simp [Op.handle, mapO, h]
theorem mapO_stage {α β} (f : α → Except Err β) : (mapO f).Stage :=
  ⟨mapO_noEsc f, .of_handlers (fun _ _ => nofun) (fun _ => nofun), Op.errThrough_of_fwd _ (fun _ _ => rfl)⟩

theorem filterO_noEsc {α} (p : α → Except Err Bool) : (filterO p).NoEsc :=
  Op.NoEsc.of_handlers (fun s x => by simp only [filterO]; cases p x with | error e => rfl | ok b => cases b <;> rfl)
    (fun _ _ => rfl) (fun _ => rfl)
theorem filterO_calls_of_raise {α} (p : α → Except Err Bool) (s) (x : α) (e : Err) (h : p x = .error e) :
    ((filterO p).handle s (.next x)).calls = [.error e] := by simp [Op.handle, filterO, h]
theorem filterO_termProp {α} (p : α → Except Err Bool) : (filterO p).TermProp :=
  .of_handlers (fun _ _ => nofun) (fun _ => nofun)

theorem scanO_noEsc {α β} (f : β → α → Except Err β) (seed : Option β) (inj : α → β) : (scanO f seed inj).NoEsc :=
  Op.NoEsc.of_handlers (fun s x => by simp only [scanO]; cases scanProj f seed inj s x <;> rfl) (fun _ _ => rfl) (fun _ => rfl)
theorem scanO_calls_of_raise {α β} (f : β → α → Except Err β) (seed : Option β) (inj : α → β) (s) (x : α) (e : Err)
    (h : scanProj f seed inj s x = .error e) : ((scanO f seed inj).handle s (.next x)).calls = [.error e] := by
  simp [Op.handle, scanO, h]
theorem scanO_stage {α β} (f : β → α → Except Err β) (seed : Option β) (inj : α → β) : (scanO f seed inj).Stage :=
  ⟨scanO_noEsc f seed inj, .of_handlers (fun _ _ => nofun) (fun _ => nofun), Op.errThrough_of_fwd _ (fun _ _ => rfl)⟩

theorem lastOrDefaultO_noEsc {α} (d : Option α) : (lastOrDefaultO d).NoEsc :=
  Op.NoEsc.of_handlers (fun _ _ => rfl) (fun _ _ => rfl)
    (fun s => by simp only [lastOrDefaultO]; split; rfl; split <;> rfl)
theorem lastOrDefaultO_stage {α} (d : Option α) : (lastOrDefaultO d).Stage :=
  ⟨lastOrDefaultO_noEsc d, fun lag raw h => by rw [lastOrDefaultO_out]; exact atEnd_term h (valueOrDefault_term _ _),
    Op.errThrough_of_fwd _ (fun _ _ => rfl)⟩

theorem firstOrDefaultO_noEsc {α} (d : Option α) : (firstOrDefaultO d).NoEsc :=
  Op.NoEsc.of_handlers (fun (s : Bool) _ => by cases s <;> rfl) (fun (s : Bool) _ => by cases s <;> rfl)
    (fun (s : Bool) => by cases s <;> cases d <;> rfl)
/-- a live (not yet decided) `first` forwards the source's error; once decided it ignores it -/
theorem firstOrDefaultO_fwd_live {α} (d : Option α) (e : Err) : ((firstOrDefaultO d).onError false e).calls = [.error e] := rfl
/-- `err` is read off what the subscriber sees: the handler forwards only while undecided -/
theorem firstOrDefaultO_stage {α} (d : Option α) : (firstOrDefaultO d).Stage where
  noEsc := firstOrDefaultO_noEsc d
  term lag raw h := by
    rw [firstOrDefaultO_out]
    cases elems raw with
    | nil => exact atEnd_term h (valueOrDefault_term _ _)
    | cons x xs => nofun
  err lag ws e post hlive := by
    rw [firstOrDefaultO_out] at hlive ⊢
    rw [firstOrDefaultO_out]
    cases ws with
    | nil => simp [firstRef]
    | cons w ws => simp [firstRef] at hlive

theorem singleOrDefaultO_noEsc {α} (d : Option α) : (singleOrDefaultO d).NoEsc :=
  Op.NoEsc.of_handlers (fun s x => by simp only [singleOrDefaultO]; split <;> rfl) (fun _ _ => rfl)
    (fun s => by simp only [singleOrDefaultO]; split; rfl; split <;> rfl)
theorem singleOrDefaultO_stage {α} (d : Option α) : (singleOrDefaultO d).Stage where
  noEsc := singleOrDefaultO_noEsc d
  term lag raw h := by
    rw [singleOrDefaultO_out]
    match elems raw with
    | [] => exact atEnd_term h (valueOrDefault_term _ _)
    | [x] => exact atEnd_term h nofun
    | x :: y :: xs => nofun
  err := Op.errThrough_of_fwd _ (fun _ _ => rfl)

theorem someOp_noEsc {α} : (someOp : Op α Bool).NoEsc :=
  Op.NoEsc.of_handlers (fun (s : Bool) _ => by cases s <;> rfl) (fun (s : Bool) _ => by cases s <;> rfl)
    (fun (s : Bool) => by cases s <;> rfl)
theorem someOp_stage {α} : (someOp : Op α Bool).Stage where
  noEsc := someOp_noEsc
  term lag raw h := by
    rw [someOp_out]
    cases elems raw with
    | nil => exact atEnd_term h nofun
    | cons x xs => nofun
  err lag ws e post hlive := by
    rw [someOp_out] at hlive ⊢
    rw [someOp_out]
    cases ws with
    | nil => simp [someRef]
    | cons w ws => simp [someRef] at hlive

theorem reduceO_stage {α β} (f : β → α → Except Err β) (seed : Option β) (inj : α → β) : (reduceO f seed inj).Stage := by
  cases seed <;> exact (scanO_stage f _ inj).comp (lastOrDefaultO_stage _)

theorem foldO_noEsc {α σ β} (step : σ → α → Except Err σ) (init : σ) (val : σ → β) (fin : σ → σ) :
    (foldO step init val fin).NoEsc :=
  Op.NoEsc.of_handlers (fun s x => by
      show (match step s x with | .error e => emit s [.error e] | .ok s' => emit s' []).esc = none
      cases step s x <;> rfl)
    (fun _ _ => rfl) (fun _ => rfl)
theorem extremaByO_noEsc {α κ} (key : α → Except Err κ) (cmp : κ → κ → Except Err Int) : (extremaByO key cmp).NoEsc := by
  rw [extremaByO_eq_foldO]; exact foldO_noEsc _ _ _ _
theorem extremaByO_calls_of_key {α κ} (key : α → Except Err κ) (cmp : κ → κ → Except Err Int) (s) (x : α) (e : Err)
    (h : key x = .error e) : ((extremaByO key cmp).handle s (.next x)).calls = [.error e] := by
  simp [Op.handle, extremaByO, extremaStep, h]
theorem extremaByO_calls_of_comparer {α κ} (key : α → Except Err κ) (cmp : κ → κ → Except Err Int) (items : List α) (lk : κ)
    (x : α) (k : κ) (e : Err) (h1 : key x = .ok k) (h2 : cmp k lk = .error e) :
    ((extremaByO key cmp).handle (some lk, items) (.next x)).calls = [.error e] := by
  simp [Op.handle, extremaByO, extremaStep, h1, h2]
theorem toSetHO_noEsc {α} (h : α → Bool) (eq : α → α → Bool) : (toSetHO h eq).NoEsc := by
  rw [toSetHO_eq_foldO]; exact foldO_noEsc _ _ _ _
theorem toDictHO_noEsc {α κ ν} (h : κ → Bool) (eq : κ → κ → Bool) (key : α → Except Err κ) (elem : α → Except Err ν) :
    (toDictHO h eq key elem).NoEsc := by
  rw [toDictHO_eq_foldO]; exact foldO_noEsc _ _ _ _
theorem toListO_noEsc {α} : (toListO : Op α (List α)).NoEsc :=
  Op.NoEsc.of_handlers (fun _ _ => rfl) (fun _ _ => rfl) (fun _ => rfl)
theorem toSetO_noEsc {α} (eq : α → α → Bool) : (toSetO eq).NoEsc :=
  Op.NoEsc.of_handlers (fun _ _ => rfl) (fun _ _ => rfl) (fun _ => rfl)
theorem toDictO_noEsc {α κ ν} (eq : κ → κ → Bool) (key : α → Except Err κ) (elem : α → Except Err ν) : (toDictO eq key elem).NoEsc := by
  rw [toDictO_eq_foldO]; exact foldO_noEsc _ _ _ _
theorem toDictO_calls_of_key {α κ ν} (eq : κ → κ → Bool) (key : α → Except Err κ) (elem : α → Except Err ν) (s) (x : α) (e : Err)
    (h : key x = .error e) : ((toDictO eq key elem).handle s (.next x)).calls = [.error e] := by
  simp [Op.handle, toDictO, dictStep, h]
theorem toDictO_calls_of_elem {α κ ν} (eq : κ → κ → Bool) (key : α → Except Err κ) (elem : α → Except Err ν) (s) (x : α) (k : κ)
    (e : Err) (h1 : key x = .ok k) (h2 : elem x = .error e) : ((toDictO eq key elem).handle s (.next x)).calls = [.error e] := by
  simp [Op.handle, toDictO, dictStep, h1, h2]
theorem takeWhileO_noEsc {α} (p : α → Except Err Bool) (incl : Bool) : (takeWhileO p incl).NoEsc :=
  Op.NoEsc.of_handlers (fun s x => by
      simp only [takeWhileO]; split
      · rfl
      · cases p x with
        | error e => rfl
        | ok b => cases b <;> rfl)
    (fun _ _ => rfl) (fun _ => rfl)
theorem takeWhileO_calls_of_raise {α} (p : α → Except Err Bool) (incl : Bool) (x : α) (e : Err) (h : p x = .error e) :
    ((takeWhileO p incl).handle true (.next x)).calls = [.error e] := by simp [Op.handle, takeWhileO, h]
theorem distinctO_noEsc {α κ} (key : α → Except Err κ) (cmp : κ → κ → Except Err Bool) : (distinctO key cmp).NoEsc :=
  Op.NoEsc.of_handlers (fun s x => by
      simp only [distinctO]
      cases key x with
      | error e => rfl
      | ok k =>
        simp only
        cases memCmp cmp s k with
        | error e => rfl
        | ok b => cases b <;> rfl)
    (fun _ _ => rfl) (fun _ => rfl)
theorem distinctO_calls_of_key {α κ} (key : α → Except Err κ) (cmp : κ → κ → Except Err Bool) (s) (x : α) (e : Err)
    (h : key x = .error e) : ((distinctO key cmp).handle s (.next x)).calls = [.error e] := by simp [Op.handle, distinctO, h]
theorem distinctO_calls_of_comparer {α κ} (key : α → Except Err κ) (cmp : κ → κ → Except Err Bool) (s) (x : α) (k : κ) (e : Err)
    (h1 : key x = .ok k) (h2 : memCmp cmp s k = .error e) : ((distinctO key cmp).handle s (.next x)).calls = [.error e] := by
  simp [Op.handle, distinctO, h1, h2]
theorem findO_noEsc {α} (p : α → Int → Except Err Bool) (yi : Bool) : (findO p yi).NoEsc :=
  Op.NoEsc.of_handlers (fun s x => by
      simp only [findO]
      cases p x s with
      | error e => rfl
      | ok b => cases b <;> rfl)
    (fun _ _ => rfl) (fun _ => rfl)
theorem findO_calls_of_raise {α} (p : α → Int → Except Err Bool) (yi : Bool) (i : Int) (x : α) (e : Err) (h : p x i = .error e) :
    ((findO p yi).handle i (.next x)).calls = [.error e] := by simp [Op.handle, findO, h]

/-- every branch of every handler ends in `emit` / `emitD` -/
theorem seqHandle_noEsc {α} (cmp : α → α → Except Err Bool) (s : SeqSt α) (sd : Side) (n : Notif α) :
    (seqHandle cmp s sd n).esc = none := by
  obtain ⟨dl, dr, ql, qr, dec⟩ := s
  cases dec with
  | true => rfl
  | false =>
    have pop : ∀ (s' : SeqSt α) (v x : α), (match cmp v x with
        | .error e => emit s' [.error e]
        | .ok eq => if !eq then emitD s' false else emit s' []).esc = none := by
      intro s' v x
      cases cmp v x with
      | error e => rfl
      | ok b => cases b <;> rfl
    cases sd <;> cases n
    case L.next x => cases qr with | nil => cases dr <;> rfl | cons v qr => exact pop _ v x
    case R.next x => cases ql with | nil => cases dl <;> rfl | cons v ql => exact pop _ v x
    case L.completed => cases ql <;> cases qr <;> cases dr <;> rfl
    case R.completed => cases ql <;> cases qr <;> cases dl <;> rfl
    all_goals rfl


theorem seqEscapes_nil {α} (cmp : α → α → Except Err Bool) (lag : Bool) (tr : List (Side × Notif α)) :
    seqEscapes cmp lag tr = [] := by
  unfold seqEscapes
  generalize ({} : SeqRun α) = st
  induction tr generalizing st with
  | nil => rfl
  | cons ev tr ih =>
    simp only [seqSteps, List.filterMap_cons]
    have : (seqStep cmp lag st ev).esc = none := by
      unfold seqStep; split
      · rfl
      · exact seqHandle_noEsc _ _ _ _
    rw [this]; exact ih _

theorem mapC_ok_no_terminal {α β} (f : α → Except Err β) (ys : List α) (hok : ∀ y ∈ ys, ∃ v, f y = .ok v) :
    noTerm (mapC f ys .open).notifs := by
  induction ys with
  | nil => rfl
  | cons y ys ih =>
    obtain ⟨v, hv⟩ := hok y List.mem_cons_self
    unfold mapC; rw [hv]
    exact ih (fun z hz => hok z (List.mem_cons_of_mem _ hz))

theorem foldlM_raise {α β} (f : β → α → Except Err β) (ys : List α) (sd a : β) (x : α) (rest : List α) (e : Err)
    (hys : ys.foldlM f sd = .ok a) (hx : f a x = .error e) : (ys ++ x :: rest).foldlM f sd = .error e := by
  rw [List.foldlM_append, hys]
  simp [List.foldlM_cons, hx, bind, Except.bind]

end Agg
