import RxProofs.Lemmas.WinFinWrap
/-!
# What the log of a run looks like

`Facts`: what the release machine knows of the log, closed under the ways in which the machine extends a log.  Which of the
two triggers released is not recorded: the machine's invariant knows it from `D`.
-/
namespace WinFin

/-- what `subscribe` may log before it subscribes to the source: `Inert` but for `on_subscribe` -/
structure NoMark {α} (X : List (Eff α)) : Prop where
  ne : X.all (fun x => !x.isEmit) = true
  res : resCount X = 0
  fin : actCount .fin X = 0
  dsp : actCount .dispose X = 0
  cb : X.filter Eff.isCb = []

structure Around {α} (c : Cfg) (n : Notif α) (r : Bool) (A B : List (Eff α)) : Prop where
  a : OnlyCbs A
  b : OnlyCbs B
  cb : A.filter Eff.isCb ++ .emit n r :: B.filter Eff.isCb = expect c (.emit n r)

structure Marks {α} (nr nf nd : Nat) (R : List (Eff α)) : Prop where
  ne : R.all (fun x => !x.isEmit) = true
  res : resCount R = nr
  fin : actCount .fin R = nf
  dsp : actCount .dispose R = nd
  cb : R.filter Eff.isCb = []
  sub : actCount .subscribe R = 0

abbrev Inert {α} (X : List (Eff α)) : Prop := Marks 0 0 0 X

inductive Ph where
  | live
  /-- a terminal delivered while `R` does not exist yet; `w`: the finally-action has run -/
  | term (w : Bool)
  | done

theorem NoMark.nil {α} : NoMark ([] : List (Eff α)) := ⟨rfl, rfl, rfl, rfl, rfl⟩

theorem noMark_opPre {α} (c : Cfg) : NoMark (c.opPre : List (Eff α)) := by
  cases hop : c.oper <;> simp only [Cfg.opPre, hop] <;> first | exact ⟨rfl, rfl, rfl, rfl, rfl⟩ | (split <;> exact ⟨rfl, rfl, rfl, rfl, rfl⟩)

theorem inert_nil {α} : Inert ([] : List (Eff α)) := ⟨rfl, rfl, rfl, rfl, rfl, rfl⟩

theorem inert_srcIf {α} (b : Bool) : Inert (srcIf b : List (Eff α)) := by
  cases b <;> exact ⟨rfl, rfl, rfl, rfl, rfl, rfl⟩

theorem inert_escape {α} (e : Err) : Inert ([.escape e] : List (Eff α)) := ⟨rfl, rfl, rfl, rfl, rfl, rfl⟩

theorem marks_fin {α} (r : Bool) : Marks (α := α) 0 1 0 [.act .fin none r] := ⟨rfl, rfl, rfl, rfl, rfl, rfl⟩

theorem marks_dispose {α} : Marks (α := α) 0 0 1 [.act .dispose none false] := ⟨rfl, rfl, rfl, rfl, rfl, rfl⟩

theorem Marks.srcIf_left {α} {nr nf nd : Nat} {R : List (Eff α)} (h : Marks nr nf nd R) (b : Bool) :
    Marks nr nf nd (srcIf b ++ R) :=
  ⟨by simp [h.ne], by simp [h.res], by simp [h.fin], by simp [h.dsp], by simp [(inert_srcIf b).cb, h.cb], by simp [h.sub]⟩

theorem Marks.srcIf_right {α} {nr nf nd : Nat} {R : List (Eff α)} (h : Marks nr nf nd R) (b : Bool) :
    Marks nr nf nd (R ++ srcIf b) :=
  ⟨by simp [h.ne], by simp [h.res], by simp [h.fin], by simp [h.dsp], by simp [(inert_srcIf b).cb, h.cb], by simp [h.sub]⟩

theorem around_wrap {α} (c : Cfg) (n : Notif α) (r : Bool) : Around c n r (pre c n) (if r then [] else post c n) := by
  exact ⟨onlyCbs_pre c n, onlyCbs_post c n r, by rw [(onlyCbs_pre c n).cb, (onlyCbs_post c n r).cb, expect_emit]⟩

/-- of `n` markers that only `R.dispose()` logs, how many are in the log -/
def Ph.res (n : Nat) : Ph → Nat
  | .done => n
  | _ => 0

/-- the same for the finally-actions, which a terminal handler may have run before `R` exists -/
def Ph.fin (nf : Nat) : Ph → Nat
  | .done => nf
  | .term w => if w then nf else 0
  | .live => 0

/-- the markers an operator's `R.dispose()` logs: resource disposals, finally-actions, on-dispose actions -/
structure Cnt where
  nr : Nat
  nf : Nat
  nd : Nat

/-- what holds of the log of a run in phase `p`; `l0`: what `subscribe` logs before it subscribes to the source
(`on_subscribe` runs only there).  Generated from `l0` by `Facts.start … Facts.dispose`. -/
structure Facts {α} (c : Cfg) (m : Cnt) (l0 : List (Eff α)) (p : Ph) (l : List (Eff α)) : Prop where
  cb : cbShape c l
  pre : ∃ l1, l = l0 ++ l1 ∧ actCount .subscribe l1 = 0
  res : resCount l = p.res m.nr
  fin : actCount .fin l = p.fin m.nf
  dsp : actCount .dispose l = p.res m.nd
  ordf : noEmitAfterAct .fin l = true
  ordd : noEmitAfterAct .dispose l = true
  live : p = .live → hasTerm l = false
  trm : ∀ w, p = .term w → hasTerm l = true

theorem filter_isEmit_of_ne {α} {X : List (Eff α)} (h : X.all (fun x => !x.isEmit) = true) : X.filter Eff.isEmit = [] :=
  List.filter_eq_nil_iff.2 fun x hx => by simpa using List.all_eq_true.1 h x hx

section
variable {α : Type} {c : Cfg} {m : Cnt} {l0 l : List (Eff α)} {p : Ph}

theorem Facts.inert {X : List (Eff α)} (h : Facts c m l0 p l) (hX : Inert X) : Facts c m l0 p (l ++ X) where
  cb := by have := h.cb; simp_all [cbShape, hX.cb, filter_isEmit_of_ne hX.ne]
  pre := by obtain ⟨l1, rfl, hm⟩ := h.pre; exact ⟨l1 ++ X, by simp, by simp [hm, hX.sub]⟩
  res := by simp [h.res, hX.res]
  fin := by simp [h.fin, hX.fin]
  dsp := by simp [h.dsp, hX.dsp]
  ordf := by rw [noEmitAfterAct_append_noEmit _ _ _ hX.ne]; exact h.ordf
  ordd := by rw [noEmitAfterAct_append_noEmit _ _ _ hX.ne]; exact h.ordd
  live := fun hp => by simp [h.live hp, hasTerm_of_noEmit X hX.ne]
  trm := fun w hp => by simp [h.trm w hp]

/-- `R`: the markers that the handler's `D.dispose()` logs -/
theorem Facts.deliver {a b d : Nat} {p' : Ph} {A B R : List (Eff α)} {n : Notif α} {r : Bool}
    (h : Facts c m l0 .live l) (hA : Around c n r A B) (hR : Marks a b d R)
    (hres : a = p'.res m.nr) (hfin : b = p'.fin m.nf) (hdsp : d = p'.res m.nd)
    (hl : p' = .live → n.isTerminal = false) (ht : ∀ w, p' = .term w → n.isTerminal = true) :
    Facts c m l0 p' (l ++ A ++ .emit n r :: R ++ B) := by
  have tail : (R ++ B).all (fun x => !x.isEmit) = true := by simp [hR.ne, hA.b.ne]
  -- no marker before the delivery, no delivery after it
  have ord : ∀ k, actCount k l = 0 → actCount k A = 0 → noEmitAfterAct k (l ++ A ++ .emit n r :: R ++ B) = true := by
    intro k hm hA
    have : l ++ A ++ .emit n r :: R ++ B = (l ++ A ++ [.emit n r]) ++ (R ++ B) := by simp
    rw [this, noEmitAfterAct_append_noEmit _ _ _ tail]
    exact noEmitAfterAct_of_count_zero _ _ (by simp [hm, hA])
  exact {
    cb := by
      -- the filters go through `++`; `A B R` hold no delivery, `R` no callback; the new delivery adds `expect` (`hA.cb`)
      have := h.cb
      simp_all [cbShape, List.filter_cons, Eff.isCb, filter_isEmit_of_ne hA.a.ne, filter_isEmit_of_ne hA.b.ne,
        filter_isEmit_of_ne hR.ne, hR.cb, ← hA.cb]
    pre := by
      obtain ⟨l1, rfl, hm⟩ := h.pre
      exact ⟨l1 ++ A ++ .emit n r :: R ++ B, by simp, by simp [hm, hA.a.sub, hA.b.sub, hR.sub]⟩
    res := by simp [h.res, Ph.res, hA.a.res, hA.b.res, hR.res, hres]
    fin := by simp [h.fin, Ph.fin, hA.a.fin, hA.b.fin, hR.fin, hfin]
    dsp := by simp [h.dsp, Ph.res, hA.a.dsp, hA.b.dsp, hR.dsp, hdsp]
    ordf := ord _ (by simp [h.fin, Ph.fin]) hA.a.fin
    ordd := ord _ (by simp [h.dsp, Ph.res]) hA.a.dsp
    live := fun hp => by
      simp [h.live rfl, hl hp, hasTerm_of_noEmit A hA.a.ne, hasTerm_of_noEmit B hA.b.ne, hasTerm_of_noEmit R hR.ne]
    trm := fun w hp => by simp [ht w hp] }

theorem Facts.marks {f : Nat} {R : List (Eff α)}
    (h : Facts c m l0 p l) (hR : Marks m.nr f m.nd R) (hres : p.res m.nr = 0) (hfin : p.fin m.nf + f = m.nf)
    (hdsp : p.res m.nd = 0) : Facts c m l0 .done (l ++ R) where
  cb := by have := h.cb; simp_all [cbShape, hR.cb, filter_isEmit_of_ne hR.ne]
  pre := by obtain ⟨l1, rfl, hm⟩ := h.pre; exact ⟨l1 ++ R, by simp, by simp [hm, hR.sub]⟩
  res := by rw [resCount_append, h.res, hR.res, hres]; simp [Ph.res]
  fin := by rw [actCount_append, h.fin, hR.fin, hfin]; rfl
  dsp := by rw [actCount_append, h.dsp, hR.dsp, hdsp]; simp [Ph.res]
  ordf := by rw [noEmitAfterAct_append_noEmit _ _ _ hR.ne]; exact h.ordf
  ordd := by rw [noEmitAfterAct_append_noEmit _ _ _ hR.ne]; exact h.ordd
  live := fun hp => by cases hp
  trm := fun w hp => by cases hp

theorem Facts.start (h0 : NoMark l0) : Facts c m l0 .live l0 :=
  ⟨by simp [cbShape, h0.cb, filter_isEmit_of_ne h0.ne], ⟨[], by simp, rfl⟩, h0.res, h0.fin, h0.dsp,
    noEmitAfterAct_of_count_zero _ _ h0.fin, noEmitAfterAct_of_count_zero _ _ h0.dsp,
    fun _ => hasTerm_of_noEmit l0 h0.ne, fun _ h => by cases h⟩

theorem Facts.next {v : α} {r : Bool} {A B : List (Eff α)} (h : Facts c m l0 .live l)
    (hA : Around c (.next v) r A B) : Facts c m l0 .live (l ++ A ++ .emit (.next v) r :: B) := by
  simpa using h.deliver (p' := .live) hA inert_nil rfl rfl rfl (fun _ => rfl) (fun _ h => by cases h)

/-- `F`: the finally-action run by the handler itself -/
theorem Facts.term {t : Notif α} {r : Bool} {A B F : List (Eff α)} (w : Bool) (h : Facts c m l0 .live l)
    (ht : t.isTerminal = true) (hA : Around c t r A B) (hF : Marks 0 (if w then m.nf else 0) 0 F) :
    Facts c m l0 (.term w) (l ++ A ++ .emit t r :: F ++ B) :=
  h.deliver hA hF rfl rfl rfl (fun h => by cases h) (fun _ _ => ht)

theorem Facts.release {w : Bool} {R : List (Eff α)} (h : Facts c m l0 (.term w) l)
    (hR : Marks m.nr (if w then 0 else m.nf) m.nd R) : Facts c m l0 .done (l ++ R) :=
  h.marks hR rfl (by cases w <;> simp [Ph.fin]) rfl

theorem Facts.handed {t : Notif α} {r : Bool} {A B R : List (Eff α)} (h : Facts c m l0 .live l)
    (hA : Around c t r A B) (hR : Marks m.nr m.nf m.nd R) :
    Facts c m l0 .done (l ++ A ++ .emit t r :: R ++ B) :=
  h.deliver hA hR rfl rfl rfl (fun h => by cases h) (fun _ h => by cases h)

theorem Facts.dispose {R : List (Eff α)} (h : Facts c m l0 .live l) (hR : Marks m.nr m.nf m.nd R) :
    Facts c m l0 .done (l ++ R) :=
  h.marks hR rfl (by simp [Ph.fin]) rfl

end

end WinFin
