import RxModel.PureMarbles
/-! Helper lemmas for C38 (marble diagrams): the documented reading `specGo`.  Its errors (`checkAll` over the flattened
marbles) and its messages (`emit` of `allMarbles`) are independent, so its properties are facts about those two. -/
namespace Pure.Marbles

theorem exc_eta {ε α} (x : Except ε α) :
    (match x with | .error e => Except.error e | .ok v => Except.ok v) = x := by
  cases x <;> rfl

theorem checkAll_single {α} (cfg : Cfg α) (st : Bool) (cs : List Char) :
    checkAll cfg st [cs] = checkStopped cfg st cs := by
  simp only [checkAll]
  cases checkStopped cfg st cs <;> rfl

def emitThen {α} (cfg : Cfg α) (st : Bool) (items : List (List Char)) (t : Int)
    (k : Bool → Except PErr (List (Msg α))) : Except PErr (List (Msg α)) :=
  match checkAll cfg st items with
  | .error e => .error e
  | .ok st' =>
    match k st' with
    | .error e => .error e
    | .ok ms => .ok ((items.filter (fun e => !e.isEmpty)).map (mapElement cfg t) ++ ms)

theorem emitThen_nil {α} (cfg : Cfg α) (st : Bool) (t : Int) (k : Bool → Except PErr (List (Msg α))) :
    emitThen cfg st [] t k = k st := by
  simp only [emitThen, checkAll, List.filter_nil, List.map_nil, List.nil_append]
  cases k st <;> rfl

theorem emitThen_single {α} (cfg : Cfg α) (st : Bool) (c : Char) (m : List Char) (t : Int)
    (k : Bool → Except PErr (List (Msg α))) :
    emitThen cfg st [c :: m] t k =
      match checkStopped cfg st (c :: m) with
      | .error e => .error e
      | .ok st' =>
        match k st' with
        | .error e => .error e
        | .ok ms => .ok (mapElement cfg t (c :: m) :: ms) := by
  simp only [emitThen, checkAll_single]
  cases checkStopped cfg st (c :: m) <;> rfl

theorem specGo_cons {α} (cfg : Cfg α) (t : Tok) (ts : List Tok) (p : Nat) (st : Bool) :
    specGo cfg (t :: ts) p st =
      if t = .comma then .error .comma
      else emitThen cfg st (marblesOf t) (time cfg p) (specGo cfg ts (p + width t)) := rfl

theorem frame_eq_length (toks : List Tok) (h : noStray toks = true) : frame toks = (render toks).length := by
  induction toks with
  | nil => rfl
  | cons t ts ih =>
    simp only [noStray, List.all_cons, Bool.and_eq_true, decide_eq_true_eq] at h
    rw [frame, render, List.length_append, ih (by simpa [noStray] using h.2)]
    congr 1
    cases t <;> first | rfl | exact absurd rfl h.1.1 | exact absurd rfl h.1.2

theorem checkAll_append {α} (cfg : Cfg α) (st : Bool) (a b : List (List Char)) :
    checkAll cfg st (a ++ b) =
      match checkAll cfg st a with
      | .error e => .error e
      | .ok st' => checkAll cfg st' b := by
  induction a generalizing st with
  | nil => simp [checkAll]
  | cons x a ih =>
    simp only [List.cons_append, checkAll]
    cases checkStopped cfg st x with
    | error e => rfl
    | ok st' => exact ih st'

def emit {α} (cfg : Cfg α) (l : List (Nat × List Char)) : List (Msg α) :=
  (l.filter (fun pm => !pm.2.isEmpty)).map (fun pm => mapElement cfg (time cfg pm.1) pm.2)

theorem emit_append {α} (cfg : Cfg α) (a b : List (Nat × List Char)) :
    emit cfg (a ++ b) = emit cfg a ++ emit cfg b := by simp [emit]

theorem emit_map {α} (cfg : Cfg α) (p : Nat) (ms : List (List Char)) :
    emit cfg (ms.map (fun m => (p, m))) = (ms.filter (fun e => !e.isEmpty)).map (mapElement cfg (time cfg p)) := by
  induction ms with
  | nil => rfl
  | cons m r ih =>
    simp only [emit, List.map_cons, List.filter_cons] at ih ⊢
    split <;> simp_all

theorem allMarbles_append (a b : List Tok) (p : Nat) :
    allMarbles (a ++ b) p = allMarbles a p ++ allMarbles b (p + frame a) := by
  induction a generalizing p with
  | nil => rfl
  | cons t ts ih => simp only [List.cons_append, allMarbles, frame, ih, Nat.add_assoc, List.append_assoc]

/-- an `emitThen` in front of a continuation "checks over `B`, then `M` in front" is of that form -/
theorem emitThen_checks {α} (cfg : Cfg α) (st : Bool) (A B : List (List Char)) (t : Int) (M : List (Msg α))
    (k K : Bool → Except PErr (List (Msg α)))
    (hk : ∀ st', k st' = match checkAll cfg st' B with
      | .error e => .error e
      | .ok st'' => (K st'').map (M ++ ·)) :
    emitThen cfg st A t k =
      match checkAll cfg st (A ++ B) with
      | .error e => .error e
      | .ok st'' => (K st'').map (((A.filter (fun e => !e.isEmpty)).map (mapElement cfg t) ++ M) ++ ·) := by
  rw [emitThen, checkAll_append]
  cases checkAll cfg st A with
  | error e => rfl
  | ok st' =>
    simp only [hk]
    cases checkAll cfg st' B with
    | error e => rfl
    | ok st'' => cases h : K st'' <;> simp [Except.map, h, List.append_assoc]

theorem specGo_append {α} (cfg : Cfg α) (a rest : List Tok) (ha : noComma a = true) (p : Nat) (st : Bool) :
    specGo cfg (a ++ rest) p st =
      match checkAll cfg st ((allMarbles a p).map (·.2)) with
      | .error e => .error e
      | .ok st' => (specGo cfg rest (p + frame a) st').map (emit cfg (allMarbles a p) ++ ·) := by
  induction a generalizing p st with
  | nil =>
    simp only [List.nil_append, allMarbles, List.map_nil, checkAll, frame, Nat.add_zero, emit, List.filter_nil]
    cases specGo cfg rest p st <;> rfl
  | cons t ts ih =>
    simp only [noComma, List.all_cons, Bool.and_eq_true, decide_eq_true_eq] at ha
    have hsnd : (marblesOf t).map ((·.2) ∘ fun m => (p, m)) = marblesOf t := by simp [Function.comp_def]
    rw [List.cons_append, specGo_cons, if_neg ha.1, allMarbles, List.map_append, List.map_map, hsnd, emit_append, emit_map,
      frame, ← Nat.add_assoc]
    exact emitThen_checks cfg st _ _ _ _ _ _ (fun st' => ih (by simpa [noComma] using ha.2) _ st')

theorem specGo_noComma {α} (cfg : Cfg α) (toks : List Tok) (hc : noComma toks = true) (p : Nat) (st : Bool) :
    specGo cfg toks p st =
      match checkAll cfg st ((allMarbles toks p).map (·.2)) with
      | .error e => .error e
      | .ok _ => .ok (emit cfg (allMarbles toks p)) := by
  have := specGo_append cfg toks [] hc p st
  rw [List.append_nil] at this
  rw [this]
  cases checkAll cfg st _ <;> simp [specGo, Except.map]

theorem specGo_comma {α} (cfg : Cfg α) (a b : List Tok) (ha : noComma a = true) (p : Nat) (st : Bool) :
    specGo cfg (a ++ .comma :: b) p st =
      match checkAll cfg st ((allMarbles a p).map (·.2)) with
      | .error e => .error e
      | .ok _ => .error .comma := by
  rw [specGo_append cfg a _ ha]
  cases checkAll cfg st _ <;> rfl

theorem first_comma (toks : List Tok) :
    noComma toks = true ∨ ∃ a b, toks = a ++ .comma :: b ∧ noComma a = true := by
  induction toks with
  | nil => exact .inl rfl
  | cons t ts ih =>
    by_cases ht : t = .comma
    · exact .inr ⟨[], ts, by rw [ht]; rfl, rfl⟩
    · rcases ih with h | ⟨a, b, rfl, ha⟩
      · exact .inl (by simpa [noComma, ht] using h)
      · exact .inr ⟨t :: a, b, rfl, by simpa [noComma, ht] using ha⟩

theorem specGo_ok {α} {cfg : Cfg α} {toks : List Tok} {p : Nat} {st : Bool} {ms : List (Msg α)}
    (h : specGo cfg toks p st = .ok ms) : ms = emit cfg (allMarbles toks p) := by
  rcases first_comma toks with hc | ⟨a, b, rfl, ha⟩
  · rw [specGo_noComma cfg toks hc] at h
    split at h <;> cases h; rfl
  · rw [specGo_comma cfg a b ha] at h
    split at h <;> cases h

theorem checkStopped_noraise {α} (cfg : Cfg α) (h : cfg.raiseStopped = false) (st : Bool) (m : List Char) :
    checkStopped cfg st m = .ok st := by simp [checkStopped, h]

theorem checkAll_noraise {α} (cfg : Cfg α) (h : cfg.raiseStopped = false) (st : Bool) (ms : List (List Char)) :
    checkAll cfg st ms = .ok st := by
  induction ms with
  | nil => rfl
  | cons m r ih => simp [checkAll, checkStopped_noraise cfg h, ih]

theorem checkAll_true {α} (cfg : Cfg α) (h : cfg.raiseStopped = true) (ms : List (List Char)) (hne : ms ≠ []) :
    checkAll cfg true ms = .error .stopped := by
  cases ms with
  | nil => exact absurd rfl hne
  | cons m r => simp [checkAll, checkStopped, h]

theorem checkAll_after_term {α} (cfg : Cfg α) (h : cfg.raiseStopped = true) (a : List (List Char)) (b : List Char)
    (c : List (List Char)) (hb : isTerm b = true) (hc : c ≠ []) (st : Bool) :
    checkAll cfg st (a ++ b :: c) = .error .stopped := by
  induction a generalizing st with
  | nil =>
    cases st with
    | true => exact checkAll_true cfg h _ (by simp)
    | false =>
      have : (b == ['#'] || b == ['|']) = true := hb
      simp [checkAll, checkStopped, h, this, checkAll_true cfg h c hc]
  | cons x a ih =>
    cases st with
    | true => exact checkAll_true cfg h _ (by simp)
    | false => simp [checkAll, checkStopped, h, ih]

theorem checkAll_ok_of_no_term_before_last {α} (cfg : Cfg α) (ms : List (List Char))
    (h : ms.dropLast.all (fun m => !isTerm m) = true) :
    ∃ st', checkAll cfg false ms = .ok st' := by
  cases hrs : cfg.raiseStopped with
  | false => exact ⟨false, checkAll_noraise cfg hrs false ms⟩
  | true =>
    induction ms with
    | nil => exact ⟨false, rfl⟩
    | cons m r ih =>
      cases r with
      | nil => exact ⟨(m == ['#'] || m == ['|']), by simp [checkAll, checkStopped, hrs]⟩
      | cons m2 r2 =>
        simp only [List.dropLast_cons_cons, List.all_cons, Bool.and_eq_true, Bool.not_eq_true'] at h
        obtain ⟨st', hst⟩ := ih h.2
        have hm : (m == ['#'] || m == ['|']) = false := h.1
        refine ⟨st', ?_⟩
        rw [← hst]
        simp [checkAll, checkStopped, hrs, hm]

theorem specGo_noraise {α} (cfg : Cfg α) (h : cfg.raiseStopped = false) (toks : List Tok) (p : Nat) (st : Bool) :
    specGo cfg toks p st ≠ .error .stopped := by
  rcases first_comma toks with hc | ⟨a, b, rfl, ha⟩
  · rw [specGo_noComma cfg toks hc, checkAll_noraise cfg h]; exact fun h' => by cases h'
  · rw [specGo_comma cfg a b ha, checkAll_noraise cfg h]; exact fun h' => by cases h'

theorem mapElement_fst {α} (cfg : Cfg α) (t : Int) (m : List Char) : (mapElement cfg t m).1 = t := by
  simp only [mapElement]; split
  · rfl
  · split <;> rfl

theorem time_mono {α} (cfg : Cfg α) (h : 0 ≤ cfg.timespan) {f g : Nat} (hfg : f ≤ g) :
    time cfg f ≤ time cfg g := by
  simp only [time]
  have : (f : Int) * cfg.timespan ≤ (g : Int) * cfg.timespan :=
    Int.mul_le_mul_of_nonneg_right (by omega) h
  omega

theorem allMarbles_sorted (toks : List Tok) (p : Nat) :
    (∀ x ∈ allMarbles toks p, p ≤ x.1) ∧ (allMarbles toks p).Pairwise (fun a b => a.1 ≤ b.1) := by
  induction toks generalizing p with
  | nil => exact ⟨fun _ h => absurd h List.not_mem_nil, .nil⟩
  | cons t ts ih =>
    obtain ⟨i1, i2⟩ := ih (p + width t)
    have hp : ∀ x ∈ (marblesOf t).map (fun m => (p, m)), x.1 = p := fun x hx => by
      obtain ⟨_, _, rfl⟩ := List.mem_map.1 hx; rfl
    rw [allMarbles]
    refine ⟨fun x hx => ?_, List.pairwise_append.2 ⟨?_, i2, fun a ha b hb => ?_⟩⟩
    · rcases List.mem_append.1 hx with h | h
      · exact Nat.le_of_eq (hp x h).symm
      · exact Nat.le_trans (Nat.le_add_right _ _) (i1 x h)
    · exact List.pairwise_of_forall_mem_list fun a ha b hb => by rw [hp a ha, hp b hb]; exact Nat.le_refl _
    · rw [hp a ha]; exact Nat.le_trans (Nat.le_add_right _ _) (i1 b hb)

theorem specGo_sorted {α} (cfg : Cfg α) (h : 0 ≤ cfg.timespan) (toks : List Tok) (p : Nat) (st : Bool)
    (ms : List (Msg α)) (hs : specGo cfg toks p st = .ok ms) :
    (∀ m ∈ ms, time cfg p ≤ m.1) ∧ ms.Pairwise (fun a b => a.1 ≤ b.1) := by
  obtain ⟨i1, i2⟩ := allMarbles_sorted toks p
  rw [specGo_ok hs, emit]
  refine ⟨fun m hm => ?_, ?_⟩
  · obtain ⟨x, hx, rfl⟩ := List.mem_map.1 hm
    rw [mapElement_fst]; exact time_mono cfg h (i1 x (List.mem_filter.1 hx).1)
  · rw [List.pairwise_map]
    exact (i2.filter _).imp fun hab => by rw [mapElement_fst, mapElement_fst]; exact time_mono cfg h hab

/-- the same diagram read in a unit `k` times finer (e.g. `k = 4`: quarter seconds) -/
def scaleCfg {α} (k : Int) (cfg : Cfg α) : Cfg α :=
  { cfg with timespan := k * cfg.timespan, shift := k * cfg.shift }

def scaleMsgs {α} (k : Int) (ms : List (Msg α)) : List (Msg α) := ms.map (fun m => (k * m.1, m.2))

theorem time_scale {α} (k : Int) (cfg : Cfg α) (f : Nat) : time (scaleCfg k cfg) f = k * time cfg f := by
  simp only [time, scaleCfg, Int.mul_add, Int.mul_left_comm]

theorem mapElement_scale {α} (k : Int) (cfg : Cfg α) (t : Int) (m : List Char) :
    mapElement (scaleCfg k cfg) (k * t) m = (k * (mapElement cfg t m).1, (mapElement cfg t m).2) := by
  simp only [mapElement, scaleCfg]
  split
  · rfl
  · split <;> rfl

theorem checkStopped_scale {α} (k : Int) (cfg : Cfg α) (st : Bool) (m : List Char) :
    checkStopped (scaleCfg k cfg) st m = checkStopped cfg st m := rfl

theorem checkAll_scale {α} (k : Int) (cfg : Cfg α) (st : Bool) (ms : List (List Char)) :
    checkAll (scaleCfg k cfg) st ms = checkAll cfg st ms := by
  induction ms generalizing st with
  | nil => rfl
  | cons m r ih => simp only [checkAll, checkStopped_scale]; cases checkStopped cfg st m <;> simp [ih]

theorem emit_scale {α} (k : Int) (cfg : Cfg α) (l : List (Nat × List Char)) :
    emit (scaleCfg k cfg) l = scaleMsgs k (emit cfg l) := by
  simp only [emit, scaleMsgs, List.map_map]
  exact List.map_congr_left fun pm _ => by rw [Function.comp, time_scale, mapElement_scale]

theorem specGo_scale {α} (k : Int) (cfg : Cfg α) (toks : List Tok) (p : Nat) (st : Bool) :
    specGo (scaleCfg k cfg) toks p st = (specGo cfg toks p st).map (scaleMsgs k) := by
  rcases first_comma toks with hc | ⟨a, b, rfl, ha⟩
  · rw [specGo_noComma _ toks hc, specGo_noComma _ toks hc, checkAll_scale, emit_scale]
    cases checkAll cfg st _ <;> rfl
  · rw [specGo_comma _ a b ha, specGo_comma _ a b ha, checkAll_scale]
    cases checkAll cfg st _ <;> rfl

theorem isDigit_toNat (c : Char) (h : c.isDigit = true) : 48 ≤ c.toNat ∧ c.toNat ≤ 57 := by
  simp only [Char.isDigit, Bool.and_eq_true, decide_eq_true_eq, ge_iff_le, UInt32.le_iff_toNat_le] at h
  exact ⟨h.1, h.2⟩

theorem isDigit_ne {c d : Char} (h : c.isDigit = true) (hd : d.isDigit = false) : c ≠ d :=
  fun e => by rw [e, hd] at h; cases h

theorem usOK_digits (prev : Char) (hp : prev ≠ '_') (ds : List Char) (h : ∀ c ∈ ds, c.isDigit = true) :
    usOK prev ds = true := by
  induction ds generalizing prev with
  | nil => simp [usOK, hp]
  | cons c r ih =>
    have hc := h c (by simp)
    have hne : c ≠ '_' := isDigit_ne hc rfl
    simp [usOK, hne, hc, ih c hne (fun x hx => h x (by simp [hx]))]

theorem isDigit_not_ws (c : Char) (h : c.isDigit = true) : isPyWs c = false := by
  have hb := isDigit_toNat c h
  have hne : (c == ' ') = false := beq_false_of_ne (isDigit_ne h rfl)
  simp only [isPyWs, hne, Bool.false_or, Bool.or_eq_false_iff, Bool.and_eq_false_iff, decide_eq_false_iff_not]
  omega

theorem dropWhile_head_false {β} (p : β → Bool) (l : List β) (h : ∀ x, l.head? = some x → p x = false) :
    l.dropWhile p = l := by
  cases l with
  | nil => rfl
  | cons x r => simp [List.dropWhile, h x rfl]

theorem pyStrip_digits (ds : List Char) (h : ∀ c ∈ ds, c.isDigit = true) : pyStrip ds = ds := by
  have h1 : ds.dropWhile isPyWs = ds :=
    dropWhile_head_false _ _ (fun x hx => isDigit_not_ws x (h x (List.mem_of_mem_head? hx)))
  have h2 : ds.reverse.dropWhile isPyWs = ds.reverse :=
    dropWhile_head_false _ _ (fun x hx => isDigit_not_ws x (h x (by
      have := List.mem_of_mem_head? hx; simpa using this)))
  simp [pyStrip, h1, h2]

theorem stripSign_digit (c : Char) (r : List Char) (h : c.isDigit = true) : stripSign (c :: r) = (false, c :: r) := by
  rw [stripSign]
  · intro r' e; exact isDigit_ne h rfl (List.cons.inj e).1
  · intro r' e; exact isDigit_ne h rfl (List.cons.inj e).1

end Pure.Marbles
