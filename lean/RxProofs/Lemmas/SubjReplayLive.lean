import RxProofs.Lemmas.SubjReplayInv
/-!
# ReplaySubject: nothing stays queued — the single-threaded ScheduledObserver drains

`LInv`: a ScheduledObserver with a non-empty queue has faulted or is *acquired*; an acquired one has a
live `run` action in the scheduler's queue, or is in the middle of `run` (about to reschedule itself), or
its SerialDisposable has been disposed (it was unsubscribed / auto-detached: the pending first `run` was
cancelled).  Hence when `start()` returns normally every queue of an undisposed ScheduledObserver is empty.
-/

namespace SubjReplay
open Subj (Call upd)
variable {α : Type}
attribute [local simp] updE

def isRun (i : Id) (it : Item α) : Bool :=
  match it.kind with
  | .run k => k == i
  | _ => false

def runPending (p : List (Item α)) (i : Id) : Prop := ∃ it ∈ p, isRun i it = true ∧ it.cancelled = false

/-- `X1` / `X2`: observers temporarily exempt from the first / second clause (inside a subject method,
between the `append` and `ensure_active`; between dequeuing a `run` item and rescheduling).  `curIsOwnRun`, `idsBelowNext`: the id a
SerialDisposable holds names one of its owner's `run` items (ids are fresh), so `cancelItem` cannot kill another observer's run. -/
structure LInvX (X1 X2 : Id → Prop) (st : St α) : Prop where
  queuedOwned : ∀ i, ¬X1 i → st.soQueue i ≠ [] → st.faulted i = true ∨ st.acquired i = true
  ownedHasRun : ∀ i, ¬X2 i → st.acquired i = true →
    st.faulted i = true ∨ st.serDisposed i = true ∨ runPending st.pending i ∨ Task.resched i ∈ st.agenda
  curIsOwnRun : ∀ i id, st.serCur i = some id → id < st.nextId ∧ ∀ it ∈ st.pending, it.id = id → isRun i it = true
  idsBelowNext : ∀ it ∈ st.pending, it.id < st.nextId

abbrev LInv (st : St α) : Prop := LInvX (fun _ => False) (fun _ => False) st

theorem LInvX.weaken {X1 X2 Y1 Y2 : Id → Prop} {st : St α} (h : LInvX X1 X2 st) (h1 : ∀ i, X1 i → Y1 i)
    (h2 : ∀ i, X2 i → Y2 i) : LInvX Y1 Y2 st :=
  { h with queuedOwned := fun i hi => h.queuedOwned i (fun hx => hi (h1 i hx)),
           ownedHasRun := fun i hi => h.ownedHasRun i (fun hx => hi (h2 i hx)) }

theorem mem_pqInsert (it x : Item α) (p : List (Item α)) : x ∈ pqInsert it p ↔ x = it ∨ x ∈ p := by
  induction p with
  | nil => simp [pqInsert]
  | cons y ys ih =>
    simp only [pqInsert]
    split
    · simp
    · simp only [List.mem_cons, ih]
      constructor
      · rintro (h | h | h) <;> simp [h]
      · rintro (h | h | h) <;> simp [h]

theorem mem_cancelItem (id : Nat) (x : Item α) (p : List (Item α)) :
    x ∈ cancelItem id p ↔ ∃ y ∈ p, x = if y.id = id then { y with cancelled := true } else y := by
  simp [cancelItem, eq_comm]

theorem runPending_pqInsert_of (it : Item α) (p : List (Item α)) (i : Id) (h : runPending p i) :
    runPending (pqInsert it p) i := by
  obtain ⟨x, hx, h1, h2⟩ := h
  exact ⟨x, (mem_pqInsert _ _ _).mpr (Or.inr hx), h1, h2⟩

theorem runPending_pqInsert_new (p : List (Item α)) (i : Id) (due id : Nat) :
    runPending (pqInsert { due := due, id := id, kind := .run i } p) i :=
  ⟨_, (mem_pqInsert _ _ _).mpr (Or.inl rfl), by simp [isRun], rfl⟩

theorem runPending_cancel (id : Nat) (p : List (Item α)) (i : Id) (h : runPending p i)
    (hid : ∀ it ∈ p, it.id = id → isRun i it = false) : runPending (cancelItem id p) i := by
  obtain ⟨x, hx, h1, h2⟩ := h
  refine ⟨x, (mem_cancelItem _ _ _).mpr ⟨x, hx, ?_⟩, h1, h2⟩
  split
  · rename_i he
    have := hid x hx he
    rw [h1] at this
    exact absurd this (by simp)
  · rfl

theorem cancelItem_id_kind (id : Nat) (p : List (Item α)) (x : Item α) (hx : x ∈ cancelItem id p) :
    ∃ y ∈ p, x.id = y.id ∧ x.kind = y.kind := by
  obtain ⟨y, hy, rfl⟩ := (mem_cancelItem _ _ _).mp hx
  refine ⟨y, hy, ?_⟩
  split <;> simp

theorem isRun_eq_of_kind {x y : Item α} (h : x.kind = y.kind) (i : Id) : isRun i x = isRun i y := by
  simp [isRun, h]

theorem isRun_unique {x : Item α} {i k : Id} (h1 : isRun i x = true) (h2 : isRun k x = true) : i = k := by
  unfold isRun at h1 h2
  cases hk : x.kind with
  | call a b => simp [hk] at h1
  | run j =>
    simp only [hk, beq_iff_eq] at h1 h2
    rw [← h1, ← h2]

theorem LInvX.insert {X1 X2 : Id → Prop} {st : St α} (h : LInvX X1 X2 st) (it : Item α) (hid : it.id = st.nextId) :
    (∀ i id, st.serCur i = some id → id < st.nextId + 1 ∧ ∀ x ∈ pqInsert it st.pending, x.id = id → isRun i x = true) ∧
    ∀ x ∈ pqInsert it st.pending, x.id < st.nextId + 1 := by
  refine ⟨fun i id hs => ⟨Nat.lt_succ_of_lt (h.curIsOwnRun i id hs).1, fun x hx hxid => ?_⟩, fun x hx => ?_⟩
  · rcases (mem_pqInsert _ _ _).mp hx with rfl | hx
    · exact absurd (hxid.symm.trans hid) (Nat.ne_of_lt (h.curIsOwnRun i id hs).1)
    · exact (h.curIsOwnRun i id hs).2 x hx hxid
  · rcases (mem_pqInsert _ _ _).mp hx with rfl | hx
    · rw [hid]; exact Nat.lt_succ_self _
    · exact Nat.lt_succ_of_lt (h.idsBelowNext x hx)

theorem scheduleRun_linv {X1 X2 : Id → Prop} {st : St α} (i : Id) (h : LInvX X1 X2 st) :
    LInvX X1 (fun k => X2 k ∧ k ≠ i) (scheduleRun st i).1 := by
  unfold scheduleRun
  refine ⟨h.queuedOwned, fun k hk hacq => ?_, (h.insert _ rfl).1, (h.insert _ rfl).2⟩
  by_cases hki : k = i
  · subst hki
    exact Or.inr (Or.inr (Or.inl (runPending_pqInsert_new _ _ _ _)))
  · have hx : ¬X2 k := fun hx => hk ⟨hx, hki⟩
    exact (h.ownedHasRun k hx hacq).imp id (Or.imp id (Or.imp (runPending_pqInsert_of _ _ _) id))

theorem soPush_linv {X1 X2 : Id → Prop} {st : St α} (i : Id) (n : Notif α) (h : LInvX X1 X2 st) :
    LInvX (fun k => X1 k ∨ k = i) X2 (soPush st i n) := by
  unfold soPush
  split
  · exact { h with queuedOwned := fun k hk => h.queuedOwned k (fun hx => hk (Or.inl hx)) }
  · refine { h with queuedOwned := fun k hk hq => ?_ }
    have hki : k ≠ i := fun e => hk (Or.inr e)
    exact h.queuedOwned k (fun hx => hk (Or.inl hx)) (by simpa [hki] using hq)

theorem LInvX.other {X1 X2 : Id → Prop} {st : St α} (h : LInvX X1 X2 st) {stopped disposed : Bool} {observers : List Id}
    {exception : Option Err} {queue allVals : List (Nat × α)} {seen handle adoStopped sadDisposed held soStopped : Id → Bool}
    {cbs : Id → Nat} {log : Id → List (Nat × Notif α)} {clock spin curCall lastNow : Nat} {raised : List (Nat × Err)}
    {xlog : List (Id × Err)} {enq fed : Id → List (Notif α)} {evs : List (EvR α)} :
    LInvX X1 X2 { st with stopped := stopped, disposed := disposed, observers := observers, exception := exception,
                          queue := queue, seen := seen, handle := handle, cbs := cbs, log := log, adoStopped := adoStopped,
                          sadDisposed := sadDisposed, held := held, soStopped := soStopped, clock := clock, spin := spin,
                          curCall := curCall, raised := raised, xlog := xlog, enq := enq, fed := fed, allVals := allVals,
                          lastNow := lastNow, evs := evs } :=
  { h with }

theorem LInvX.agenda {X1 X2 : Id → Prop} {st : St α} (h : LInvX X1 X2 st) {ag : List (Task α)}
    (hag : ∀ i, Task.resched i ∈ st.agenda → Task.resched i ∈ ag) : LInvX X1 X2 { st with agenda := ag } :=
  { h with ownedHasRun := fun i hi ha => (h.ownedHasRun i hi ha).imp id (Or.imp id (Or.imp id (hag i))) }

theorem LInvX.cancel {X1 X2 : Id → Prop} {st : St α} (h : LInvX X1 X2 st) (i : Id) (cid : Nat)
    (hc : ∀ it ∈ st.pending, it.id = cid → isRun i it = true) :
    LInvX X1 (fun k => X2 k ∨ k = i) { st with pending := cancelItem cid st.pending } := by
  refine ⟨h.queuedOwned, fun k hk hacq => ?_, fun k id hs => ?_, fun it hit => ?_⟩
  · have hki : k ≠ i := fun e => hk (Or.inr e)
    refine (h.ownedHasRun k (fun hx => hk (Or.inl hx)) hacq).imp id
      (Or.imp id (Or.imp (fun hr => runPending_cancel _ _ _ hr ?_) id))
    intro it hit hid
    cases hr : isRun k it with
    | false => rfl
    | true => exact absurd (isRun_unique hr (hc it hit hid)) hki
  · have := h.curIsOwnRun k id hs
    refine ⟨this.1, fun it hit hid => ?_⟩
    obtain ⟨y, hy, e1, e2⟩ := cancelItem_id_kind _ _ _ hit
    rw [isRun_eq_of_kind e2]
    exact this.2 y hy (e1 ▸ hid)
  · obtain ⟨y, hy, e1, _⟩ := cancelItem_id_kind _ _ _ hit
    rw [e1]; exact h.idsBelowNext y hy

theorem LInvX.serialOff {X1 X2 : Id → Prop} {st : St α} (i : Id) (h : LInvX X1 (fun k => X2 k ∨ k = i) st)
    {ss : Id → Bool} :
    LInvX X1 X2 { st with soStopped := ss, serDisposed := upd st.serDisposed i true, serCur := upd st.serCur i none } := by
  refine { h with ownedHasRun := fun k hk hacq => ?_, curIsOwnRun := fun k id hs => ?_ }
  · by_cases hki : k = i
    · subst hki; exact Or.inr (Or.inl (by simp))
    · exact (h.ownedHasRun k (fun hx => hx.elim hk hki) hacq).imp id (Or.imp (fun h => by simpa [hki] using h) id)
  · by_cases hki : k = i
    · subst hki; simp at hs
    · exact h.curIsOwnRun k id (by simpa [hki] using hs)

theorem soDispose_linv {X1 X2 : Id → Prop} {st : St α} (i : Id) (h : LInvX X1 X2 st) : LInvX X1 X2 (soDispose st i) := by
  rw [soDispose_eq]
  split
  · exact h.other
  · unfold serialOff
    split
    · rename_i old hold
      exact (h.cancel i old (h.curIsOwnRun i old hold).2).serialOff i
    · exact (h.weaken (fun _ h => h) (fun _ h => Or.inl h)).serialOff i

theorem removableDispose_linv {X1 X2 : Id → Prop} {st : St α} (i : Id) (h : LInvX X1 X2 st) :
    LInvX X1 X2 (removableDispose st i) := by
  rw [removableDispose_eq]
  split
  · exact (soDispose_linv i h).other
  · exact soDispose_linv i h

theorem sadDispose_linv {X1 X2 : Id → Prop} {st : St α} (i : Id) (h : LInvX X1 X2 st) :
    LInvX X1 X2 (sadDispose st i) := by
  rw [sadDispose_eq]
  split
  · exact h
  · split
    · exact removableDispose_linv i (h.other)
    · exact h.other

theorem serialAssign_linv {X1 X2 : Id → Prop} {st : St α} (i : Id) (id : Nat) (h : LInvX X1 X2 st)
    (hid : id < st.nextId) (hnew : ∀ it ∈ st.pending, it.id = id → isRun i it = true)
    (hpend : ∃ it ∈ st.pending, it.id = id ∧ isRun i it = true ∧ it.cancelled = false)
    (hold : ∀ old, st.serCur i = some old → old ≠ id) : LInvX X1 X2 (serialAssign st i id) := by
  -- after a cancellation only `i` needs a new reason
  have back : ∀ {s : St α}, LInvX X1 (fun k => X2 k ∨ k = i) s →
      (s.faulted i = true ∨ s.serDisposed i = true ∨ runPending s.pending i ∨ Task.resched i ∈ s.agenda) →
      LInvX X1 X2 s := fun c hi =>
    ⟨c.queuedOwned, fun k hk hacq => if e : k = i then e ▸ hi else c.ownedHasRun k (fun hx => hx.elim hk e) hacq, c.curIsOwnRun,
     c.idsBelowNext⟩
  unfold serialAssign
  split
  · rename_i hsd
    exact back (h.cancel i id hnew) (Or.inr (Or.inl hsd))
  · have h' : LInvX X1 X2 { st with serCur := upd st.serCur i (some id) } := by
      refine { h with curIsOwnRun := fun k id' hs => ?_ }
      by_cases e : k = i
      · subst e
        simp only [updE, if_true, Option.some.injEq] at hs
        exact hs ▸ ⟨hid, hnew⟩
      · exact h.curIsOwnRun k id' (by simpa [e] using hs)
    split
    · rename_i old ho
      obtain ⟨it, hit, e1, e2, e3⟩ := hpend
      refine back (h'.cancel i old (h.curIsOwnRun i old ho).2) (Or.inr (Or.inr (Or.inl ⟨it, ?_, e2, e3⟩)))
      exact (mem_cancelItem _ _ _).mpr ⟨it, hit, by rw [if_neg (fun e => hold old ho (e.symm.trans e1))]⟩
    · exact h'

theorem ensureActive_linv {X1 X2 : Id → Prop} {st : St α} (i : Id) (h : LInvX X1 X2 st) :
    LInvX (fun k => X1 k ∧ k ≠ i) X2 (ensureActive st i) := by
  have others : ∀ k, ¬(X1 k ∧ k ≠ i) → k ≠ i → st.soQueue k ≠ [] → st.faulted k = true ∨ st.acquired k = true :=
    fun k hk hki => h.queuedOwned k (fun hx => hk ⟨hx, hki⟩)
  rw [ensureActive_eq]
  split
  · split
    · rename_i hacq
      refine { h with queuedOwned := fun k hk hq => ?_ }
      by_cases hki : k = i
      · exact Or.inr (hki ▸ hacq)
      · exact others k hk hki hq
    · have h1 : LInvX (fun k => X1 k ∧ k ≠ i) (fun k => X2 k ∨ k = i) (acquire st i) := by
        refine { h with queuedOwned := fun k hk hq => ?_, ownedHasRun := fun k hk hacq' => ?_ }
        · by_cases hki : k = i
          · subst hki; exact Or.inr (by simp [acquire])
          · exact (others k hk hki hq).imp id (fun h' => by simpa [acquire, hki] using h')
        · have hki : k ≠ i := fun e => hk (Or.inr e)
          exact h.ownedHasRun k (fun hx => hk (Or.inl hx)) (by simpa [acquire, hki] using hacq')
      have h2 := (scheduleRun_linv i h1).weaken (fun _ h => h) (fun k hk => hk.1.resolve_right hk.2)
      refine serialAssign_linv i st.nextId h2 (Nat.lt_succ_self _) (fun it hit hid => ?_)
        ⟨_, (mem_pqInsert _ _ _).mpr (Or.inl rfl), rfl, by simp [isRun], rfl⟩
        (fun old ho => Nat.ne_of_lt (h.curIsOwnRun i old ho).1)
      rcases (mem_pqInsert _ _ _).mp hit with rfl | hit
      · simp [isRun]
      · exact absurd hid (Nat.ne_of_lt (h.idsBelowNext it hit))
  · rename_i hc
    refine { h with queuedOwned := fun k hk hq => ?_ }
    by_cases hki : k = i
    · subst hki
      simp only [Bool.and_eq_true, Bool.not_eq_true', List.isEmpty_eq_false_iff, not_and] at hc
      cases hf : st.faulted k with
      | true => exact Or.inl rfl
      | false => exact absurd hq (hc hf)
    · exact others k hk hki hq

theorem pushList_linv {X1 X2 : Id → Prop} (j : Id) (ns : List (Notif α)) (st : St α) (h : LInvX X1 X2 st) :
    LInvX (fun k => X1 k ∨ k = j) X2 (pushList st j ns) := by
  induction ns generalizing st X1 with
  | nil => exact h.weaken (fun _ h => Or.inl h) (fun _ h => h)
  | cons n ns ih =>
    simp only [pushList]
    exact (ih _ (soPush_linv j n h)).weaken (fun k hk => by rcases hk with (hk | hk) | hk <;> simp [hk]) (fun _ h => h)

theorem pushAll_linv {X1 X2 : Id → Prop} (n : Notif α) (l : List Id) (st : St α) (h : LInvX X1 X2 st) :
    LInvX (fun k => X1 k ∨ k ∈ l) X2 (pushAll n l st) := by
  induction l generalizing st X1 with
  | nil => exact h.weaken (fun _ h => Or.inl h) (fun _ h => h)
  | cons i is ih =>
    simp only [pushAll]
    exact (ih _ (soPush_linv i n h)).weaken (fun k hk => by rcases hk with (hk | hk) | hk <;> simp [hk]) (fun _ h => h)

theorem ensureAll_linv {X1 X2 : Id → Prop} (l : List Id) (st : St α) (h : LInvX X1 X2 st) :
    LInvX (fun k => X1 k ∧ k ∉ l) X2 (ensureAll l st) := by
  induction l generalizing st X1 with
  | nil => exact h.weaken (fun _ h => ⟨h, by simp⟩) (fun _ h => h)
  | cons i is ih =>
    simp only [ensureAll]
    exact (ih _ (ensureActive_linv i h)).weaken
      (fun k hk => ⟨hk.1.1, by simp only [List.mem_cons, not_or]; exact ⟨hk.1.2, hk.2⟩⟩) (fun _ h => h)

theorem pushEnsureAll_linv {X2 : Id → Prop} (n : Notif α) (l : List Id) (st : St α) (h : LInvX (fun _ => False) X2 st) :
    LInvX (fun _ => False) X2 (pushEnsureAll n l st) := by
  induction l generalizing st with
  | nil => exact h
  | cons i is ih =>
    simp only [pushEnsureAll]
    refine ih _ ((ensureActive_linv i (soPush_linv i n h)).weaken ?_ (fun _ h => h))
    intro k hk
    rcases hk with ⟨hk | hk, hne⟩
    · exact hk
    · exact absurd hk hne

theorem emit_linv (cfg : Cfg α) {X2 : Id → Prop} {st : St α} (who : Option Id) (n : Notif α)
    (h : LInvX (fun _ => False) X2 st) : LInvX (fun _ => False) X2 (emit cfg st who n) := by
  refine emit_cases (P := LInvX _ X2) cfg st who n (fun _ => ?_) (fun _ _ => h) fun _ _ => ?_
  · cases who <;> exact h.other
  · have h0 : LInvX (fun _ => False) X2 (acceptCore cfg st n) := h.other
    unfold accept
    split
    · exact pushEnsureAll_linv _ st.observers _ h0
    · exact (ensureAll_linv st.observers _ (pushAll_linv n st.observers _ h0)).weaken
        (fun k hk => hk.1.resolve_right hk.2) (fun _ h => h)

theorem subscribeCore_linv (cfg : Cfg α) {X2 : Id → Prop} {st : St α} (j : Id) (h : LInvX (fun _ => False) X2 st) :
    LInvX (fun _ => False) X2 (subscribeCore cfg st j) := by
  rw [subscribeCore_eq]
  have h0 : LInvX (fun _ => False) X2 (subStart cfg st j) := h.other
  have h1 := (pushList_linv j ((subStart cfg st j).queue.map fun (it : Nat × α) => Notif.next it.2) _ h0).weaken
    (Y1 := fun k => k = j) (fun k hk => hk.resolve_left id) (fun _ h => h)
  have h2 := (pushList_linv j (terminalOf st) _ h1).weaken (Y1 := fun k => k = j) (fun k hk => hk.elim id id) (fun _ h => h)
  exact ((ensureActive_linv j h2).weaken (fun k hk => absurd hk.1 hk.2) (fun _ h => h)).other

theorem doSub_linv (cfg : Cfg α) {X2 : Id → Prop} {st : St α} (who : Option Id) (j : Id) (h : LInvX (fun _ => False) X2 st) :
    LInvX (fun _ => False) X2 (doSub cfg st who j).1 := by
  refine doSub_cases (P := fun r => LInvX (fun _ => False) X2 r.1) cfg st who j (fun _ => h) (fun _ _ => h.other) (fun _ _ => ?_)
    fun _ _ => subscribeCore_linv cfg j h.other
  cases who <;> exact h.other

theorem doUnsub_linv {X1 X2 : Id → Prop} {st : St α} (j : Id) (h : LInvX X1 X2 st) : LInvX X1 X2 (doUnsub st j) := by
  rw [doUnsub_eq]
  split
  · exact sadDispose_linv j (h.other)
  · exact h

theorem adoDeliver_linv (cfg : Cfg α) {X1 X2 : Id → Prop} {st : St α} (i : Id) (n : Notif α) (h : LInvX X1 X2 st) :
    LInvX X1 X2 (adoDeliver cfg st i n).1 := by
  have h2 : LInvX X1 X2 (adoStop st i) := h.other
  refine adoDeliver_cases (P := fun r => LInvX X1 X2 r.1) cfg st i n (fun _ => h) (fun _ => ?_) fun _ _ _ => sadDispose_linv i h2
  split
  · exact h2.other
  · exact h.other

/-- `so_i.run`, entered with observer `i` exempt from the second clause (its `run` item was just dequeued). -/
theorem soRun_linv (cfg : Cfg α) {st : St α} (i : Id) (h : LInvX (fun _ => False) (fun k => k = i) st)
    (hag : st.agenda = []) : LInv (soRun cfg st i) := by
  refine soRun_cases (P := LInv) cfg st i (fun hq => ?_) fun n rest hq => ?_
  · refine { h with queuedOwned := fun k _ hqk => ?_, ownedHasRun := fun k _ hacq => ?_ }
    · by_cases hki : k = i
      · exact absurd (hki ▸ hq) hqk
      · exact (h.queuedOwned k id hqk).imp id fun h' => (upd_ne _ _ hki).trans h'
    · have hacq : upd st.acquired i false k = true := hacq
      by_cases hki : k = i
      · rw [hki, upd_self] at hacq; cases hacq
      · exact h.ownedHasRun k hki ((upd_ne _ _ hki).symm.trans hacq)
  · have h1 : LInvX (fun _ => False) (fun k => k = i) (popped st i n rest) := by
      refine { h with queuedOwned := fun k _ hqk => ?_ }
      by_cases hki : k = i
      · exact hki ▸ h.queuedOwned i id (by rw [hq]; exact List.cons_ne_nil _ _)
      · exact h.queuedOwned k id fun e => hqk ((upd_ne _ _ hki).trans e)
    have h2 := adoDeliver_linv cfg i n h1
    have hag2 : (adoDeliver cfg (popped st i n rest) i n).1.agenda = [] :=
      (congrArg St.agenda (adoDeliver_writes cfg (popped st i n rest) i n) :).trans hag
    generalize adoDeliver cfg (popped st i n rest) i n = r at h2 hag2
    refine finishRun_cases (P := LInv) i r (fun e => ?_) ?_
    · refine { h2 with queuedOwned := fun k _ hqk => ?_, ownedHasRun := fun k _ hacq => ?_ }
      · by_cases hki : k = i
        · exact Or.inl (hki ▸ upd_self ..)
        · exact (h2.queuedOwned k id fun e => hqk ((upd_ne _ _ hki).trans e)).imp (fun h' => (upd_ne _ _ hki).trans h') id
      · by_cases hki : k = i
        · exact Or.inl (hki ▸ upd_self ..)
        · exact (h2.ownedHasRun k hki hacq).imp (fun h' => (upd_ne _ _ hki).trans h') id
    · -- `run` reschedules itself: the `resched i` on the agenda is `i`'s reason
      refine { h2 with ownedHasRun := fun k _ hacq => ?_ }
      by_cases hki : k = i
      · exact Or.inr (Or.inr (Or.inr (hki ▸ List.mem_append_right _ (List.mem_singleton_self _))))
      · exact (h2.ownedHasRun k hki hacq).imp id (Or.imp id (Or.imp id fun h' => by rw [hag2] at h'; cases h'))

/-- After the dequeue of `it`: every clause but the second one for the owner of `it`, if `it` is a live `run` item. -/
theorem LInv.dequeue {st : St α} (h : LInv st) {it : Item α} {rest : List (Item α)} (X2 : Id → Prop) (hp : st.pending = it :: rest)
    (hX : ∀ k, ¬X2 k → isRun k it = false ∨ it.cancelled = true) :
    LInvX (fun _ => False) X2 (advance (withPending st rest) it.due) ∧ (advance (withPending st rest) it.due).agenda = st.agenda := by
  rw [(advance_clock (withPending st rest) it.due).2]
  have hrest : ∀ x ∈ rest, x ∈ st.pending := fun x hx => by rw [hp]; exact List.mem_cons_of_mem _ hx
  refine ⟨⟨h.queuedOwned, fun k hk hacq => (h.ownedHasRun k id hacq).imp id (Or.imp id (Or.imp (fun hr => ?_) id)),
    fun k id hs => ⟨(h.curIsOwnRun k id hs).1, fun x hx => (h.curIsOwnRun k id hs).2 x (hrest x hx)⟩,
    fun x hx => h.idsBelowNext x (hrest x hx)⟩, rfl⟩
  obtain ⟨x, hx, h1, h2⟩ := hr
  rw [hp] at hx
  rcases List.mem_cons.mp hx with rfl | hx
  · rcases hX k hk with hk | hk
    · rw [hk] at h1; cases h1
    · rw [hk] at h2; cases h2
  · exact ⟨x, hx, h1, h2⟩

theorem LInv.pop {st : St α} (h : LInv st) {t : Task α} {ts : List (Task α)} (ha : st.agenda = t :: ts) (hne : ∀ k, t ≠ .resched k) :
    LInv (withAgenda st ts) :=
  h.agenda fun k h' => by rw [ha] at h'; exact (List.mem_cons.mp h').resolve_left fun e => hne k e.symm

theorem Step.linv {cfg : Cfg α} {st st' : St α} (s : Step cfg st st') (h : LInv st) : LInv st' := by
  cases s with
  | stay => exact h
  | @emit who n ts ha =>
    refine emit_linv cfg who n ?_
    cases who <;> exact (h.pop ha nofun).other
  | sub ha => exact (doSub_linv cfg _ _ (h.pop ha nofun)).agenda fun _ h => List.mem_append_right _ h
  | unsub ha => exact doUnsub_linv _ (h.pop ha nofun)
  | dispose ha => exact (h.pop ha nofun).other
  | detach ha => exact sadDispose_linv _ (h.pop ha nofun)
  | handle ha => exact (h.pop ha nofun).other
  | @resched i ts ha =>
    -- the `resched i` taken off was `i`'s reason: `i` is exempt until its `run` is scheduled again
    have h0 : LInvX (fun _ => False) (fun k => k = i) (withAgenda st ts) := by
      refine { h with ownedHasRun := fun k hk hacq => ?_ }
      refine (h.ownedHasRun k id hacq).imp id (Or.imp id (Or.imp id fun h' => ?_))
      rw [ha] at h'
      exact (List.mem_cons.mp h').resolve_left fun e => hk (Task.resched.inj e)
    exact (scheduleRun_linv i h0).weaken (fun _ h => h) (fun k hk => absurd hk.1 hk.2)
  | skip ha hp hx => exact (h.dequeue _ hp fun _ _ => Or.inr hx).1
  | callEmit ha hp hx hk hn =>
    exact emit_linv cfg none _ (h.dequeue (fun _ => False) hp fun k _ => Or.inl (by simp [isRun, hk])).1.other
  | callAsk ha hp hx hk hn =>
    have d := h.dequeue (fun _ => False) hp fun k _ => Or.inl (by simp [isRun, hk])
    exact d.1.other.agenda fun i hi => by rw [show _ = st.agenda from d.2, ha] at hi; cases hi
  | @run it rest i ha hp hx hk =>
    have d := h.dequeue (fun k => k = i) hp fun k hki => Or.inl (by simpa [isRun, hk] using fun e => hki e.symm)
    exact soRun_linv cfg i d.1 (d.2.trans ha)

theorem schedule_go_linv (cs : List (Nat × Call α)) (k : Nat) (st : St α) (h : LInv st)
    (hc : ∀ i, st.acquired i = false) : LInv (schedule.go cs k st) := by
  induction cs generalizing k st with
  | nil => exact h
  | cons c cs ih =>
    obtain ⟨t, c⟩ := c
    simp only [schedule.go]
    refine ih _ _ ?_ hc
    have hi := h.insert { due := t, id := st.nextId, kind := .call k c } rfl
    exact ⟨h.queuedOwned, fun i _ hacq => (by rw [hc i] at hacq; cases hacq), hi.1, hi.2⟩

theorem init_linv (calls : List (Nat × Call α)) : LInv (schedule calls) :=
  schedule_go_linv calls 0 {}
    ⟨fun _ _ h => absurd rfl h, fun _ _ h => by simp at h, fun _ _ h => by simp at h, fun _ h => by simp at h⟩ fun _ => rfl

/-- A disposed ScheduledObserver (`serDisposed i`: unsubscribed, or detached after the delivery of a terminal) is excused by clause
`ownedHasRun` whatever is still queued, so nothing is said about it. -/
theorem quiescent_drained {cfg : Cfg α} {st : St α} (hI : RInv cfg st) (hL : LInv st)
    (hidle : st.agenda = [] ∧ st.pending = []) (hc : st.crashed = none) (i : Id) (hd : st.serDisposed i = false) :
    st.soQueue i = [] ∧ st.fed i = st.enq i := by
  have hf : st.faulted i = false := by
    cases hfi : st.faulted i with
    | false => rfl
    | true => exact absurd hc (hI.crashFault i hfi)
  have hq : st.soQueue i = [] := by
    cases hq : st.soQueue i with
    | nil => rfl
    | cons n rest =>
      exfalso
      rcases hL.queuedOwned i id (by rw [hq]; simp) with h' | h'
      · rw [hf] at h'; exact absurd h' (by simp)
      · rcases hL.ownedHasRun i id h' with h'' | h'' | h'' | h''
        · rw [hf] at h''; exact absurd h'' (by simp)
        · rw [hd] at h''; exact absurd h'' (by simp)
        · obtain ⟨x, hx, _⟩ := h''
          rw [hidle.2] at hx; exact absurd hx (by simp)
        · rw [hidle.1] at h''; exact absurd h'' (by simp)
  refine ⟨hq, ?_⟩
  have := hI.fifo i hf
  rw [hq] at this
  simpa using this

end SubjReplay
