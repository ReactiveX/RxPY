import RxProofs.Lemmas.WinOps
/-!
# Sliding windows: the shape both closed forms (`Cnt.CInv`, `Tim.TInv`) give the bookkeeping
-/
namespace Win
variable {α : Type}

theorem range'_concat {a b : Nat} (h : b ≤ a) : List.range' b (a - b) ++ [a] = List.range' b (a + 1 - b) := by
  have : a + 1 - b = (a - b) + 1 := by omega
  rw [this, List.range'_1_concat]; congr 2; omega

theorem range'_pop {a b : Nat} (h : b < a) : List.range' b (a - b) = b :: List.range' (b + 1) (a - (b + 1)) := by
  have : a - b = (a - (b + 1)) + 1 := by omega
  rw [this, List.range'_succ]

namespace Base

/-- windows `0..a-1` exist, window `k` holds `c k`, windows `0..b-1` are completed and the others open. -/
structure Sliding (bs : Base α) (a b : Nat) (c : Nat → List α) : Prop where
  len : bs.wins.length = a
  pushed : ∀ k, k < a → bs.pushedOf k = c k
  ended : ∀ k, k < a → bs.endedOf k = if k < b then some none else none

namespace Sliding
variable {bs : Base α} {a b : Nat} {c : Nat → List α}

theorem congr {c' : Nat → List α} (h : Sliding bs a b c) (hc : ∀ k, k < a → c k = c' k) : Sliding bs a b c' :=
  ⟨h.len, fun k hk => (h.pushed k hk).trans (hc k hk), h.ended⟩

theorem first (t0 : Nat) (hc : c 0 = []) : Sliding (Base.first (α := α) t0) 1 0 c :=
  ⟨rfl, fun k hk => by obtain rfl : k = 0 := by omega
                       rw [hc]; rfl,
   fun k hk => by obtain rfl : k = 0 := by omega
                  rfl⟩

theorem push (h : Sliding bs a b c) (x : α) :
    Sliding ((List.range' b (a - b)).foldl (fun bs id => bs.winNext id x) bs) a b (fun k => if b ≤ k then c k ++ [x] else c k) := by
  refine ⟨by rw [length_foldl_winNext]; exact h.len, fun k hk => ?_, fun k hk => by rw [endedOf_foldl_winNext]; exact h.ended k hk⟩
  rw [pushedOf_foldl_winNext _ List.nodup_range', h.len, h.ended k hk, h.pushed k hk]
  by_cases hkb : k < b
  · rw [if_neg (by rintro ⟨_, _, h3⟩; simp [hkb] at h3), if_neg (by omega)]
  · rw [if_pos ⟨List.mem_range'_1.mpr ⟨by omega, by omega⟩, hk, by simp [hkb]⟩, if_pos (by omega)]

theorem open_ (h : Sliding bs a b c) (hb : b ≤ a) (hc : c a = []) : Sliding (bs.newWin.1.outerNext bs.wins.length) (a + 1) b c := by
  refine ⟨by rw [length_open, h.len], fun k hk => ?_, fun k hk => ?_⟩
  · rw [pushedOf_open]
    by_cases hka : k < a
    · exact h.pushed k hka
    · obtain rfl : k = a := by omega
      rw [pushedOf_nil_of_ge (by rw [h.len]; omega), hc]
  · rw [endedOf_open]
    by_cases hka : k < a
    · exact h.ended k hka
    · obtain rfl : k = a := by omega
      rw [endedOf_none_of_ge (by rw [h.len]; omega), if_neg (by omega)]

theorem pop (h : Sliding bs a b c) (hb : b < a) : Sliding (bs.winEnd b none) a (b + 1) c := by
  refine ⟨by simp [h.len], fun k hk => by rw [pushedOf_winEnd]; exact h.pushed k hk, fun k hk => ?_⟩
  rw [endedOf_winEnd, h.ended k hk, h.len]
  by_cases hkb : k = b
  · subst hkb; simp; omega
  · by_cases hlt : k < b
    · have : k < b + 1 := by omega
      simp [hlt, this]
    · have : ¬ k < b + 1 := by omega
      have hne : ¬ b = k := fun e => hkb e.symm
      simp [hlt, this, hne]

end Sliding
end Base
end Win
