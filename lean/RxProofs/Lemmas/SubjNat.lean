import RxProofs.Lemmas.SubjInv
/-!
# Naturality in the value type (C08 for subjects): no value is special

The machine never inspects a value.  Renaming all values with any `g : α → β` (injective or not) in the
initial value, the history and hence the state commutes with every step: observer logs, the ghost
trace and the current value are renamed, everything else (who is subscribed, what is raised, …) is
identical.  In particular `None`, `0`, `False`, `''` behave like any other element.
-/

namespace Subj
variable {α β : Type}

def Ev.map (g : α → β) : Ev α → Ev β
  | .sub i => .sub i
  | .unsub i => .unsub i
  | .emit n => .emit (n.map g)
  | .recv i n => .recv i (n.map g)
  | .disp => .disp

def Task.map (g : α → β) : Task α → Task β
  | .emit n => .emit (n.map g)
  | .act w a => .act w a
  | .deliver i n => .deliver i (n.map g)
  | .finish j h => .finish j h
  | .sadDispose i => .sadDispose i

def Call.map (g : α → β) : Call α → Call β
  | .sub i => .sub i
  | .unsub i => .unsub i
  | .next v => .next (g v)
  | .error e => .error e
  | .completed => .completed
  | .dispose => .dispose

def St.map (g : α → β) (st : St α) : St β :=
  { stopped := st.stopped, disposed := st.disposed, observers := st.observers, exception := st.exception,
    value := st.value.map g, hasValue := st.hasValue, seen := st.seen, adoStopped := st.adoStopped,
    sadDisposed := st.sadDisposed, cur := st.cur, handle := st.handle, cbs := st.cbs,
    log := fun i => (st.log i).map (Notif.map g), raisedNow := st.raisedNow, xlog := st.xlog,
    tr := st.tr.map (Ev.map g), oof := st.oof }

theorem callback_map (g : α → β) (st : St α) (i : Id) (n : Notif α) :
    callback (st.map g) i (n.map g) = (callback st i n).map g := by
  simp only [callback, St.map, St.mk.injEq, List.map_cons, Ev.map, true_and, and_true]
  funext k
  simp only [upd]
  split <;> simp

theorem reactions_map (cfg : Cfg) (g : α → β) (st : St α) (i : Id) :
    reactions cfg (st.map g) i = (reactions cfg st i).map (Task.map g) := by
  simp [reactions, St.map, Task.map, Function.comp_def]

theorem sadDispose_map (g : α → β) (st : St α) (i : Id) : sadDispose (st.map g) i = (sadDispose st i).map g := by
  rw [sadDispose_eq, sadDispose_eq]
  show (if st.sadDisposed i = true then _ else _) = _
  split <;> rfl

theorem subjDispose_map (g : α → β) (st : St α) : subjDispose (st.map g) = (subjDispose st).map g := by
  simp [subjDispose, St.map, Ev.map]

theorem raiseTo_map (g : α → β) (who : Option Id) (e : Err) (st : St α) :
    raiseTo who e (st.map g) = (raiseTo who e st).map g := by
  cases who <;> simp [raiseTo, St.map]

theorem doUnsub_map (g : α → β) (st : St α) (j : Id) : doUnsub (st.map g) j = (doUnsub st j).map g := by
  cases hh : st.handle j with
  | false => rw [doUnsub_none hh, doUnsub_none (st := st.map g) hh]
  | true =>
    rw [doUnsub_handle hh, doUnsub_handle (st := st.map g) hh]
    exact sadDispose_map g { st with tr := .unsub j :: st.tr, adoStopped := upd st.adoStopped j true } j

theorem finish_map (g : α → β) (st : St α) (j : Id) (h : Option Held) : finish (st.map g) j h = (finish st j h).map g := by
  rw [finish_eq, finish_eq]; rfl

@[simp] theorem map_seen (g : α → β) (st : St α) : (st.map g).seen = st.seen := rfl
@[simp] theorem map_disposed (g : α → β) (st : St α) : (st.map g).disposed = st.disposed := rfl
@[simp] theorem map_stopped (g : α → β) (st : St α) : (st.map g).stopped = st.stopped := rfl
@[simp] theorem map_exception (g : α → β) (st : St α) : (st.map g).exception = st.exception := rfl
@[simp] theorem map_adoStopped (g : α → β) (st : St α) : (st.map g).adoStopped = st.adoStopped := rfl
@[simp] theorem map_sadDisposed (g : α → β) (st : St α) : (st.map g).sadDisposed = st.sadDisposed := rfl
@[simp] theorem map_observers (g : α → β) (st : St α) : (st.map g).observers = st.observers := rfl
@[simp] theorem map_hasValue (g : α → β) (st : St α) : (st.map g).hasValue = st.hasValue := rfl
@[simp] theorem map_value (g : α → β) (st : St α) : (st.map g).value = st.value.map g := rfl
@[simp] theorem map_tr (g : α → β) (st : St α) : (st.map g).tr = st.tr.map (Ev.map g) := rfl

theorem reactions_snoc_map (cfg : Cfg) (g : α → β) (st : St α) (i : Id) (t : Task α) :
    reactions cfg (st.map g) i ++ [t.map g] = (reactions cfg st i ++ [t]).map (Task.map g) := by
  rw [List.map_append, reactions_map]; rfl

theorem termOf_map (g : α → β) (st : St α) : termOf (st.map g) = (termOf st).map g := by
  unfold termOf
  show (match st.exception with | some e => _ | none => _) = _
  cases st.exception <;> rfl

theorem userSees_map (cfg : Cfg) (g : α → β) (i : Id) (n : Notif α) : userSees cfg i (n.map g) = userSees cfg i n := by
  cases n <;> rfl

/-! Renaming changes no guard: both sides rewrite with the equation of the same guard. -/

theorem doSub_map (cfg : Cfg) (g : α → β) (st : St α) (who : Option Id) (j : Id) :
    doSub cfg (st.map g) who j = Prod.map (St.map g) (List.map (Task.map g)) (doSub cfg st who j) := by
  rcases doSub_guards cfg st j with hj | ⟨hj, hd | ⟨hd, hs | ⟨hs, hu | ⟨e, hx, he⟩⟩⟩⟩
  · rw [doSub_seen cfg who hj, doSub_seen cfg who (st := st.map g) hj]; rfl
  · rw [doSub_disposed cfg who hj hd, doSub_disposed cfg who (st := st.map g) hj hd, apply_ite (Prod.map _ _)]
    congr 1
    · exact Prod.ext
        (callback_map g { st with seen := upd st.seen j true, adoStopped := upd st.adoStopped j true } j (.error disposedExn))
        (reactions_snoc_map cfg g st j (.finish j none))
    · exact Prod.ext (by cases who <;> rfl) rfl
  · rw [doSub_live cfg who hj hd hs, doSub_live cfg who (st := st.map g) hj hd hs]
    refine Prod.ext rfl ?_
    show (if cfg.kind = .behavior then ((st.value.map g).map fun v => Task.deliver j (.next v)).toList else []) ++ _ = _
    cases st.value <;> split <;> rfl
  · rw [doSub_late cfg who hj hd hs hu,
      doSub_late cfg who (st := st.map g) hj hd hs (by rw [termOf_map, userSees_map]; exact hu)]
    refine Prod.ext rfl ?_
    show (if cfg.kind = .async ∧ st.exception = none ∧ st.hasValue = true
      then ((st.value.map g).map fun v => Task.deliver j (.next v)).toList else []) ++
        [Task.deliver j (termOf (st.map g)), _] = _
    rw [termOf_map]
    cases st.value <;> split <;> rfl
  · rw [doSub_late_raise cfg who hj hd hs hx he, doSub_late_raise cfg who (st := st.map g) hj hd hs hx he]
    exact Prod.ext (by cases who <;> rfl) rfl

theorem deliver_map (cfg : Cfg) (g : α → β) (st : St α) (i : Id) (n : Notif α) :
    deliver cfg (st.map g) i (n.map g) =
      Prod.map (St.map g) (Prod.map (List.map (Task.map g)) id) (deliver cfg st i n) := by
  cases hs : st.adoStopped i with
  | true => rw [deliver_stopped cfg n hs, deliver_stopped cfg (st := st.map g) (n.map g) hs]; rfl
  | false =>
  have term : ∀ m : Notif α, m.isTerminal = true → userSees cfg i m = true →
      deliver cfg (st.map g) i (m.map g) =
        Prod.map (St.map g) (Prod.map (List.map (Task.map g)) id) (deliver cfg st i m) := fun m hm hu => by
    rw [deliver_term cfg hs hm hu,
      deliver_term cfg (st := st.map g) hs (by cases m <;> first | rfl | cases hm) (by rw [userSees_map]; exact hu)]
    exact Prod.ext (callback_map g { st with adoStopped := upd st.adoStopped i true } i m)
      (Prod.ext (reactions_snoc_map cfg g st i (.sadDispose i)) rfl)
  cases n with
  | next x =>
    rw [deliver_next cfg x hs]
    exact (deliver_next cfg (st := st.map g) (g x) hs).trans
      (Prod.ext (callback_map g st i (.next x)) (Prod.ext (reactions_map cfg g st i) rfl))
  | completed => exact term .completed rfl rfl
  | error e =>
    cases he : cfg.hasErr i with
    | true => exact term (.error e) rfl he
    | false =>
      rw [deliver_raise cfg e hs he]
      refine (deliver_raise cfg (st := st.map g) e hs he).trans (Prod.ext ?_ rfl)
      show ({ sadDispose (St.map g { st with adoStopped := upd st.adoStopped i true, tr := .recv i (.error e) :: st.tr }) i with
        raisedNow := some e } : St β) = _
      rw [sadDispose_map]; rfl

theorem emit_map (cfg : Cfg) (g : α → β) (st : St α) (n : Notif α) :
    emit cfg (st.map g) (n.map g) = Prod.map (St.map g) (List.map (Task.map g)) (emit cfg st n) := by
  have loop : ∀ (l : List Id) (m : Notif α),
      l.map (Task.deliver · (m.map g)) = (l.map (Task.deliver · m)).map (Task.map g) := fun l m => by
    rw [List.map_map]; rfl
  cases hd : st.disposed with
  | true => rw [emit_disposed cfg hd, emit_disposed cfg (st := st.map g) hd]; rfl
  | false =>
  cases hs : st.stopped with
  | true => rw [emit_stopped cfg hd hs, emit_stopped cfg (st := st.map g) hd hs]; rfl
  | false =>
  cases n with
  | next x =>
    rw [emit_next cfg hd hs]
    refine (emit_next cfg (st := st.map g) hd hs (g x)).trans ?_
    cases cfg.kind with
    | subject | behavior => exact Prod.ext rfl (loop _ (.next x))
    | async => rfl
  | error e =>
    rw [emit_error cfg hd hs]
    exact (emit_error cfg (st := st.map g) hd hs e).trans (Prod.ext rfl (loop _ (.error e)))
  | completed =>
    rw [emit_completed cfg hd hs]
    refine (emit_completed cfg (st := st.map g) hd hs).trans (Prod.ext rfl ?_)
    show (match (if cfg.kind = .async ∧ st.hasValue = true then st.value.map g else none) with
        | some v => _ | none => _) =
      List.map (Task.map g) (match (if cfg.kind = .async ∧ st.hasValue = true then st.value else none) with
        | some v => _ | none => _)
    by_cases h : cfg.kind = .async ∧ st.hasValue = true
    · rw [if_pos h, if_pos h]
      cases st.value with
      | none => exact loop _ .completed
      | some v => simp [List.map_flatMap, Task.map, Notif.map]
    · rw [if_neg h, if_neg h]; exact loop _ .completed

theorem step1_map (cfg : Cfg) (g : α → β) (st : St α) (t : Task α) :
    step1 cfg (st.map g) (t.map g) =
      ((step1 cfg st t).1.map g, (step1 cfg st t).2.1.map (Task.map g), (step1 cfg st t).2.2) := by
  cases t with
  | emit n => simp [step1, Task.map, emit_map, Prod.map]
  | act who a =>
    cases a with
    | sub j => simp [step1, Task.map, doSub_map, Prod.map]
    | unsub j => simp [step1, Task.map, doUnsub_map]
    | dispose => simp [step1, Task.map, subjDispose_map]
  | deliver i n => exact deliver_map cfg g st i n
  | finish j h => simp [step1, Task.map, finish_map]
  | sadDispose i => simp [step1, Task.map, sadDispose_map]

theorem exec_map (cfg : Cfg) (g : α → β) (f : Nat) (st : St α) (ag : List (Task α)) :
    exec cfg f (st.map g) (ag.map (Task.map g)) = (exec cfg f st ag).map g := by
  induction f generalizing st ag with
  | zero =>
    cases ag with
    | nil => simp [exec]
    | cons t ts => simp [exec, St.map]
  | succ f ih =>
    cases ag with
    | nil => simp [exec]
    | cons t ts =>
      simp only [List.map_cons, exec, step1_map]
      rw [← ih]
      congr 1
      unfold nextAgenda
      dsimp only
      split <;> simp

theorem run_map (cfg : Cfg) (g : α → β) (f : Nat) (st : St α) (cs : List (Call α)) :
    run cfg f (st.map g) (cs.map (Call.map g)) = ((run cfg f st cs).1.map g, (run cfg f st cs).2) := by
  induction cs generalizing st with
  | nil => simp [run]
  | cons c cs ih =>
    have hc : call cfg f (st.map g) (c.map g) = (call cfg f st c).map g := by
      have : (Call.map g c).toTask = (c.toTask).map g := by cases c <;> rfl
      unfold call
      rw [this]
      exact exec_map cfg g f { st with raisedNow := none } [c.toTask]
    simp only [List.map_cons, run, hc, ih]
    simp [St.map]

theorem init_map (cfg : Cfg) (g : α → β) (v : Option α) : init cfg (v.map g) = (init cfg v).map g := by
  unfold init
  split <;> simp [St.map]

theorem run_natural_log (cfg : Cfg) (g : α → β) (f : Nat) (v : Option α) (cs : List (Call α)) (i : Id) :
    (run cfg f (init cfg (v.map g)) (cs.map (Call.map g))).1.log i =
      ((run cfg f (init cfg v) cs).1.log i).map (Notif.map g) ∧
    (run cfg f (init cfg (v.map g)) (cs.map (Call.map g))).2 = (run cfg f (init cfg v) cs).2 ∧
    (run cfg f (init cfg (v.map g)) (cs.map (Call.map g))).1.xlog = (run cfg f (init cfg v) cs).1.xlog ∧
    (run cfg f (init cfg (v.map g)) (cs.map (Call.map g))).1.observers = (run cfg f (init cfg v) cs).1.observers := by
  rw [init_map, run_map]
  exact ⟨rfl, rfl, rfl, rfl⟩

end Subj
