import RxProofs.Lemmas.WinGrpAct
import RxProofs.Lemmas.WinGrpSrcNext
/-!
# The tracked part of the `group_by_until` machine

`trk s`: of every group its key, writer state, `expired` and writer log.  Every operation below the handlers acts on it by `pushT`, `termT`,
`expT` at one index, or not at all.
-/
namespace WinGrp
variable {α κ β : Type}

structure TG (κ β : Type) where
  key : κ
  stopped : Bool
  expired : Bool
  wlog : List (Notif β)

def tg (r : Grp κ β) : TG κ β := ⟨r.key, r.stopped, r.expired, r.wlog⟩
def trk (s : St κ β) : List (TG κ β) := s.groups.map tg

theorem trk_modGrp (s : St κ β) (g : Nat) (f : Grp κ β → Grp κ β) (f' : TG κ β → TG κ β)
    (h : ∀ r, tg (f r) = f' (tg r)) : trk (modGrp s g f) = (trk s).modify g f' := by
  simp [trk, modGrp, List.map_modify_comm tg f f' _ _ h]

theorem trk_modGrp_same (s : St κ β) (g : Nat) (f : Grp κ β → Grp κ β)
    (h : ∀ r, tg (f r) = tg r) : trk (modGrp s g f) = trk s := by
  simp [trk, modGrp, List.map_modify_same tg f _ _ h]

@[simp] theorem trk_emit (s : St κ β) (e) : trk (emit s e) = trk s := rfl

theorem trk_addGroup (s : St κ β) (k : κ) : trk (addGroup s k) = trk s ++ [⟨k, false, false, []⟩] := by simp [trk, addGroup, tg]

theorem length_trk (s : St κ β) : (trk s).length = s.groups.length := by simp [trk]

theorem trk_getElem? (s : St κ β) (g : Nat) : (trk s)[g]? = (s.groups[g]?).map tg := by simp [trk]

theorem Td.trk {s s' : St κ β} (h : Td s s') : trk s' = trk s := h.map tg fun _ _ => rfl

theorem trk_closeDur (s : St κ β) (g : Nat) : trk (closeDur s g) = trk s := (tear_closeDur s g).trk
theorem trk_closeSrc (s : St κ β) : trk (closeSrc s) = trk s := (tear_closeSrc s).trk
theorem trk_rcdDispose (s : St κ β) : trk (rcdDispose s) = trk s := (td_rcdDispose s).trk

theorem trk_act (s : St κ β) (g : Nat) {F L B} {F' : TG κ β → TG κ β} (hF : ∀ r : Grp κ β, tg (F r) = F' (tg r)) :
    trk (act s g F L B) = (trk s).modify g F' := act_map s g F L B tg (fun _ _ => rfl) F' hF

theorem trk_subEnd (s : St κ β) (g : Nat) : trk (subEnd s g) = trk s := by
  rw [subEnd_eq]; exact (trk_act s g (F := endR) (F' := id) fun _ => rfl).trans (List.modify_id _ _)

def pushT (n : Notif β) (t : TG κ β) : TG κ β := if t.stopped then t else { t with wlog := t.wlog ++ [n] }
def termT (n : Notif β) (t : TG κ β) : TG κ β := if t.stopped then t else { t with stopped := true, wlog := t.wlog ++ [n] }

theorem tg_pushR (v : β) (r : Grp κ β) : tg (pushR v r) = pushT (.next v) (tg r) := by
  by_cases hs : r.stopped <;> by_cases ha : r.sub = .active <;> simp [pushR, pushT, tg, hs, ha]

theorem tg_termR (n : Notif β) (r : Grp κ β) : tg (termR n r) = termT n (tg r) := by
  by_cases hs : r.stopped <;> by_cases ha : r.sub = .active <;> simp [termR, termT, tg, hs, ha]

theorem trk_writerNext (s : St κ β) (g : Nat) (v : β) :
    trk (writerNext s g v) = (trk s).modify g (pushT (.next v)) := by
  rw [writerNext_eq]; exact trk_act s g (tg_pushR v)

theorem trk_writerTerm (s : St κ β) (g : Nat) (n : Notif β) :
    trk (writerTerm s g n) = (trk s).modify g (termT n) := by
  rw [writerTerm_eq]; exact trk_act s g (tg_termR n)

theorem trk_termAll (s : St κ β) (n : Notif β) :
    trk (termAll s n) = (s.writers.map (·.2)).foldl (fun t g => t.modify g (termT n)) (trk s) := by
  have h := foldl_act_map (s.writers.map (·.2)) s (termR n) (sendL · n) termB tg (fun _ _ => rfl) (termT n) (tg_termR n)
  simp only [← writerTerm_eq] at h; exact h

theorem trk_outerTerm (s : St κ β) (n) : trk (outerTerm s n) = trk s := outerTerm_map s n tg fun _ _ => rfl

theorem trk_errorAll (s : St κ β) (e : Err) :
    trk (errorAll s e) = (s.writers.map (·.2)).foldl (fun t g => t.modify g (termT (.error e))) (trk s) := by
  unfold errorAll; rw [trk_outerTerm, trk_termAll]; rfl

theorem trk_subscribeGroup (s : St κ β) (g : Nat) : trk (subscribeGroup s g) = trk s := by
  rw [subscribeGroup_eq]; split
  · split
    · rfl
    · refine (trk_act _ g (F' := id) fun r => ?_).trans (List.modify_id _ _)
      unfold subR; split <;> rfl
  · rfl

theorem termT_stopped (n : Notif β) (t : TG κ β) : (termT n t).stopped = true := by
  unfold termT; by_cases h : t.stopped <;> simp [h]
theorem termT_expired (n : Notif β) (t : TG κ β) : (termT n t).expired = t.expired := by
  unfold termT; by_cases h : t.stopped <;> simp [h]
theorem termT_key (n : Notif β) (t : TG κ β) : (termT n t).key = t.key := by
  unfold termT; by_cases h : t.stopped <;> simp [h]
theorem termT_wlog (n : Notif β) (t : TG κ β) : (termT n t).wlog = if t.stopped then t.wlog else t.wlog ++ [n] := by
  unfold termT; by_cases h : t.stopped <;> simp [h]
theorem pushT_stopped (n : Notif β) (t : TG κ β) : (pushT n t).stopped = t.stopped := by
  unfold pushT; by_cases h : t.stopped <;> simp [h]
theorem pushT_expired (n : Notif β) (t : TG κ β) : (pushT n t).expired = t.expired := by
  unfold pushT; by_cases h : t.stopped <;> simp [h]
theorem pushT_wlog (n : Notif β) (t : TG κ β) : (pushT n t).wlog = if t.stopped then t.wlog else t.wlog ++ [n] := by
  unfold pushT; by_cases h : t.stopped <;> simp [h]
theorem pushT_key (n : Notif β) (t : TG κ β) : (pushT n t).key = t.key := by
  unfold pushT; by_cases h : t.stopped <;> simp [h]

def expT (t : TG κ β) : TG κ β := termT .completed { t with expired := true }

theorem expT_key (t : TG κ β) : (expT t).key = t.key := by unfold expT; rw [termT_key]

theorem trk_expire_found (cfg : Cfg α κ β) (s : St κ β) (g : Nat) (r : Grp κ β) (hg : s.groups[g]? = some r)
    (hf : (s.writers.find? (fun p => cfg.keyEq p.1 r.key)).isSome = true) :
    trk (expire cfg s g) = (trk s).modify g expT := by
  rw [expire_found cfg hg hf]
  have e : trk (act (modGrp { s with writers := s.writers.eraseP (fun p => cfg.keyEq p.1 r.key) } g setExp) g
      (termR .completed) (sendL g .completed) termB) = (trk s).modify g expT := by
    rw [trk_act _ g (tg_termR .completed), trk_modGrp _ _ _ (fun t => { t with expired := true }) (fun _ => rfl),
      List.modify_modify_eq]; rfl
  simp only; split
  · exact e
  · rw [trk_closeDur]; exact e

theorem trk_expire (cfg : Cfg α κ β) (s : St κ β) (g : Nat) :
    trk (expire cfg s g) = trk s ∨ trk (expire cfg s g) = (trk s).modify g expT := by
  rcases expire_cases cfg s g with e | e | ⟨r, hg, hf⟩
  · left; rw [e]
  · left; rw [e]; rfl
  · exact Or.inr (trk_expire_found cfg s g r hg hf)

end WinGrp
