import RxProofs.Lemmas.Thr2Step
/-!
# Lemmas for C43 — guarded finality (programs with atomic steps outside the lock)

`HQT` and `EMT` are properties of the program text (they quantify over all states at every continuation), so they
are preserved by every step of the interleaving semantics without any bookkeeping of thread shapes, whatever
the program mixes: locked blocks, atomic steps outside the lock, unlocked calls.
-/

namespace Thr2

variable {σ α : Type}

inductive HQ (Q : σ → Prop) : Prog σ α → Prop
  | done : HQ Q .done
  | step {u o n} : (∀ s, Q s → o s = none ∧ Q (u s)) → (∀ s, HQ Q (n s)) → HQ Q (.step u o n)

inductive HQT (Q : σ → Prop) : TProg σ α → Prop
  | halt : HQT Q .halt
  | free {u n} : (∀ s, Q s → Q (u s)) → (∀ s, HQT Q (n s)) → HQT Q (.free u n)
  | crit {b k} : HQ Q b → HQT Q k → HQT Q (.crit b k)
  | ucall {o k} : (∀ s, Q s → o s = none) → HQT Q k → HQT Q (.ucall o k)

inductive EM (Q : σ → Prop) (c : Notif α) : Prog σ α → Prop
  | done : EM Q c .done
  | step {u o n} : (∀ s, o s = some c → Q (u s)) → (∀ s, EM Q c (n s)) → EM Q c (.step u o n)

inductive EMT (Q : σ → Prop) (c : Notif α) : TProg σ α → Prop
  | halt : EMT Q c .halt
  | free {u n} : (∀ s, EMT Q c (n s)) → EMT Q c (.free u n)
  | crit {b k} : EM Q c b → EMT Q c k → EMT Q c (.crit b k)
  | ucall {o k} : (∀ s, o s = some c → Q s) → EMT Q c k → EMT Q c (.ucall o k)

structure Shape (Q : σ → Prop) (c : Notif α) (p : TProg σ α) : Prop where
  noUCall : NoUCall p
  hqt : HQT Q p
  emt : EMT Q c p

theorem Shape.halt {Q : σ → Prop} {c : Notif α} : Shape Q c (.halt : TProg σ α) := ⟨.halt, .halt, .halt⟩

theorem Shape.crit {Q : σ → Prop} {c : Notif α} {b : Prog σ α} {k : TProg σ α} (hq : HQ Q b) (he : EM Q c b)
    (h : Shape Q c k) : Shape Q c (.crit b k) :=
  ⟨.crit h.noUCall, .crit hq h.hqt, .crit he h.emt⟩

theorem Shape.free {Q : σ → Prop} {c : Notif α} {u : σ → σ} {n : σ → TProg σ α} (hu : ∀ s, Q s → Q (u s))
    (h : ∀ s, Shape Q c (n s)) : Shape Q c (.free u n) :=
  ⟨.free fun s => (h s).noUCall, .free hu fun s => (h s).hqt, .free fun s => (h s).emt⟩

def GTS (Q : σ → Prop) (c : Notif α) : TS σ α → Prop
  | .run p => HQT Q p ∧ EMT Q c p
  | .crit b k => (HQ Q b ∧ EM Q c b) ∧ (HQT Q k ∧ EMT Q c k)
  | _ => True

theorem Move.guarded {Q : σ → Prop} {c : Notif α} {st st' : σ} {x : Option (Notif α)} {r r' : TS σ α}
    (hm : Move st r st' x r') (hg : GTS Q c r) :
    GTS Q c r' ∧ (Q st → Q st' ∧ x = none) ∧ (x = some c → Q st') := by
  cases hm with
  | stay => exact ⟨hg, fun h => ⟨h, rfl⟩, nofun⟩
  | free =>
    obtain ⟨hq, he⟩ := hg
    cases hq with | free hq1 hq2 =>
    cases he with | free he1 =>
    exact ⟨⟨hq2 _, he1 _⟩, fun h => ⟨hq1 _ h, rfl⟩, nofun⟩
  | acquire =>
    obtain ⟨hq, he⟩ := hg
    cases hq with | crit hq1 hq2 =>
    cases he with | crit he1 he2 =>
    exact ⟨⟨⟨hq1, he1⟩, hq2, he2⟩, fun h => ⟨h, rfl⟩, nofun⟩
  | ucall =>
    obtain ⟨hq, he⟩ := hg
    cases hq with | ucall hq1 hq2 =>
    cases he with | ucall he1 he2 =>
    exact ⟨⟨hq2, he2⟩, fun h => ⟨h, hq1 _ h⟩, fun hx => he1 _ hx⟩
  | release => exact ⟨hg.2, fun h => ⟨h, rfl⟩, nofun⟩
  | body =>
    obtain ⟨⟨hq, he⟩, hk⟩ := hg
    cases hq with | step hq1 hq2 =>
    cases he with | step he1 he2 =>
    exact ⟨⟨⟨hq2 _, he2 _⟩, hk⟩, fun h => ⟨(hq1 _ h).2, (hq1 _ h).1⟩, fun hx => he1 _ hx⟩

/-- `c` occurs at most once in `l`, as its last element -/
def Final (c : Notif α) (l : List (Notif α)) : Prop := ∀ pre post, l = pre ++ c :: post → post = []

theorem final_snoc (c x : Notif α) (l : List (Notif α)) (hc : c ∉ l) : Final c (l ++ [x]) := by
  intro pre post h
  induction l generalizing pre with
  | nil =>
    cases pre with
    | nil => simp at h; exact h.2
    | cons a pre => simp at h
  | cons a l ih =>
    cases pre with
    | nil =>
      simp only [List.cons_append, List.nil_append, List.cons.injEq] at h
      exact absurd (h.1 ▸ List.mem_cons_self) hc
    | cons b pre =>
      simp only [List.cons_append, List.cons.injEq] at h
      exact ih (fun hm => hc (List.mem_cons_of_mem _ hm)) pre h.2

structure FInv (Q : σ → Prop) (c : Notif α) (S : Sys σ α) : Prop where
  guarded : ∀ j, GTS Q c (S.thr j).resume
  inQ : c ∈ S.calls → Q S.st
  final : Final c S.calls

theorem init_FInv (Q : σ → Prop) (c : Notif α) (s0 : σ) (progs : Nat → TProg σ α)
    (h1 : ∀ i, HQT Q (progs i)) (h2 : ∀ i, EMT Q c (progs i)) : FInv Q c (init s0 progs) := by
  refine ⟨fun j => ⟨h1 j, h2 j⟩, fun h => by simp [init] at h, ?_⟩
  intro pre post h
  simp [init] at h

theorem step_FInv (Q : σ → Prop) (c : Notif α) (S S' : Sys σ α) (i : Nat) (hI : FInv Q c S)
    (hs : step S i = some S') : FInv Q c S' := by
  obtain ⟨t', x, ht, hc, hm, _⟩ := step_Move hs
  obtain ⟨hg, hq, hx⟩ := hm.guarded (hI.guarded i)
  suffices h : (c ∈ S'.calls → Q S'.st) ∧ Final c S'.calls from
    ⟨ht ▸ forall_upd (P := fun t => GTS Q c (TS.resume t)) hI.guarded i hg, h.1, h.2⟩
  rw [hc]
  constructor
  · intro hm
    rcases List.mem_append.1 hm with h | h
    · exact (hq (hI.inQ h)).1
    · exact hx (Option.mem_toList.1 h)
  · cases hxe : x with
    | none => simpa using hI.final
    | some y =>
      -- a call is made only while `c` has not been called
      exact final_snoc c y _ fun h => by have := (hq (hI.inQ h)).2; rw [hxe] at this; cases this

end Thr2
