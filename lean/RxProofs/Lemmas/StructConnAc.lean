import RxProofs.Lemmas.StructConn
/-!
# auto_connect invariants over the Connectable model (C24)

As written in `ConnectableObservable.auto_connect`: `count` is the number of subscribers currently
present, `is_connected` is reset by every unsubscribe, the connection is never disposed.
-/

namespace Conn
namespace World
variable {α : Type}

structure AcInv (n : Nat) (w : World α) : Prop where
  conn : ConnInv w
  wrap : w.wrap = .autoConnect n
  cnt : w.count = (w.live.length : Int)
  ic : w.isConnected = true → w.hasSub = true
  lt : w.hasSub = false → w.count < (n : Int)

theorem acInv_stable (n : Nat) : Stable (AcInv (α := α) n) where
  write _ _ _ h := ⟨h.conn, h.wrap, h.cnt, h.ic, h.lt⟩
  popCold sid h := ⟨connInv_stable.popCold sid h.conn, h.wrap, h.cnt, h.ic, h.lt⟩
  closeSrc t sid h :=
    ⟨connInv_stable.closeSrc t sid h.conn, by simp [h.wrap], by simp [h.cnt], by simpa using h.ic, by simpa using h.lt⟩
  disposeSub {w} t i h :=
    disposeSub_ind w t i h (fun hw _ => nomatch h.wrap.symm.trans hw)
      (fun _ _ hi => by
        obtain ⟨hlen, hpos⟩ := List.length_erase_mem w.live i hi
        have hcnt := h.cnt
        refine ⟨h.conn, h.wrap, ?_, fun hh => Bool.noConfusion hh, fun hh => ?_⟩
        · show w.count - 1 = ((w.live.erase i).length : Int); omega
        · have := h.lt hh
          show w.count - 1 < (n : Int); omega)
      (fun hw _ => nomatch h.wrap.symm.trans hw)

theorem acInv_hasSub_stable (n : Nat) (b : Bool) : Stable (fun w : World α => AcInv n w ∧ w.hasSub = b) :=
  (acInv_stable n).hasSub (fun _ h e => nomatch h.wrap.symm.trans e) b

theorem ac_opSub {n : Nat} {w : World α} (h : AcInv n w) (t i : Nat) :
    AcInv n (w.opSub t i) ∧ (w.hasSub = true → (w.opSub t i).hasSub = true) ∧
    (w.hasSub = false → ((w.opSub t i).hasSub = true ↔ w.count + 1 = (n : Int))) := by
  rw [opSub_ac h.wrap t i]
  have hcnt := h.cnt
  have conn1 : ConnInv (w.joined t i (w.count + 1)) := h.conn
  -- not connected means `isConnected` is off, so only the count decides
  have hic : w.hasSub = false → w.isConnected = false := fun hns => by
    cases hx : w.isConnected with
    | false => rfl
    | true => have := h.ic hx; rw [hns] at this; cases this
  -- the deferred dispose moves neither the invariant nor `hasSub`: argue about the world before it
  have settled : ∀ {w2 : World α}, AcInv n w2 → AcInv n (w.settle t i w2) ∧ (w.settle t i w2).hasSub = w2.hasSub :=
    fun k => (acInv_hasSub_stable n _).settle w t i ⟨k, rfl⟩
  split
  · rename_i hsh
    have hsh' : w.count + 1 = (n : Int) ∧ w.isConnected = false := by simpa using hsh
    have k : AcInv n { ((w.joined t i (w.count + 1)).connect t) with isConnected := true } := by
      refine ⟨connect_inv conn1 t, ?_, ?_, ?_, ?_⟩
      · simp [h.wrap]
      · simp; omega
      · intro _; simp
      · intro hh; simp at hh
    refine ⟨(settled k).1, fun _ => ?_, fun _ => ?_⟩ <;> rw [(settled k).2]
    · simp
    · simp [hsh'.1]
  · rename_i hsh
    have hne : w.hasSub = false → ¬ (w.count + 1 = (n : Int)) := fun hns he => hsh (by simp [he, hic hns])
    have k : AcInv n (w.joined t i (w.count + 1)) := by
      refine ⟨conn1, ?_, ?_, ?_, ?_⟩
      · simp [h.wrap]
      · simp; omega
      · intro hh; exact h.ic (by simpa using hh)
      · intro hh
        have hns : w.hasSub = false := by simpa using hh
        have hlt := h.lt hns
        have := hne hns
        show w.count + 1 < (n : Int); omega
    refine ⟨(settled k).1, fun hs => ?_, fun hns => ?_⟩ <;> rw [(settled k).2]
    · exact hs
    · exact ⟨fun hh => by rw [joined_hasSub, hns] at hh; exact Bool.noConfusion hh, fun he => absurd he (hne hns)⟩

theorem ac_runOps {n : Nat} (ops : List (Nat × Op)) {w : World α} (hs : List (Option Nat)) (h : AcInv n w)
    (hso : subOnly ops = true) : AcInv n (w.runOps hs ops).1 :=
  (acInv_stable n).subOnly (fun t i k => (ac_opSub k t i).1) hso hs h

theorem ac_runOps_hasSub {n : Nat} (ops : List (Nat × Op)) {w : World α} (hs : List (Option Nat)) (h : AcInv n w)
    (hc : w.hasSub = true) (hso : subOnly ops = true) : (w.runOps hs ops).1.hasSub = true :=
  ((acInv_hasSub_stable n true).subOnly (fun t i ⟨k, hk⟩ =>
    have ⟨kinv, kstays, _⟩ := ac_opSub k t i
    ⟨kinv, kstays hk⟩) hso hs ⟨h, hc⟩).2

theorem Fresh.ac {n : Nat} {w : World α} (h : Fresh w) (hw : w.wrap = .autoConnect n) (hn : 0 < n) : AcInv n w := by
  have ⟨_, _, _, _, hcnt, hlive, hic, _⟩ := h
  refine ⟨h.inv, hw, ?_, ?_, ?_⟩
  · rw [hcnt, hlive]; rfl
  · intro hh; rw [hic] at hh; cases hh
  · intro _; rw [hcnt]; omega

end World
end Conn
