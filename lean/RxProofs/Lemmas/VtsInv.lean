import RxProofs.Lemmas.Vts
/-! The invariants of a virtual-time run, each with its `IterInv` instance (and, for scripts, its `RunInv` bundle).
Each stands in the namespace of the property whose statements name it. -/

namespace C28
open Vts

theorem wf_cancel {s : St} (h : s.queue.WF) (id : Nat) : (s.cancel id).queue.WF := by
  obtain ⟨h1, h2⟩ := h
  refine ⟨?_, ?_⟩
  · simp only [St.cancel, List.pairwise_map, cancelEntry_snd]; exact h1
  · intro e he
    obtain ⟨e0, he0, rfl⟩ := mem_cancel.1 he
    rw [cancelEntry_snd]; exact h2 e0 he0

theorem wfInv (cfg : Cfg) (tgt : Option Int) (φ : Step → Prop) :
    IterInv cfg tgt φ (fun s => s.queue.WF) (fun _ s => s.queue.WF) where
  skip := by intro s x q' sp hP _ _ hd _ _; exact PQ.wf_dequeue Item.due hP hd
  begin := by intro s x q' sp hP _ _ hd _ _; exact PQ.wf_dequeue Item.due hP hd
  enq := by intro x s via m t cid child _ _ h; exact PQ.wf_enqueue h _
  cancel := by intro x s id h; exact wf_cancel h id
  link := by intro x s l h; exact h
  stop := by intro x s _ h; exact h
  sleep := by intro x s t _ _ h; exact h
  handled := by intro x s e _ _ h; exact h
  finish := by intro x s sp h; exact h

theorem wfRun (cfg : Cfg) : RunInv cfg anyStep (fun _ => True) (fun s => s.queue.WF) where
  iter tgt := ⟨_, wfInv cfg tgt anyStep⟩
  flag _ _ _ h := h
  body _ _ _ _ b _ := all_any b
  enq _ _ _ _ _ _ _ h := PQ.wf_enqueue h _
  cancel _ id h := wf_cancel h id
  clock := .inl fun _ _ h => h

/-- `x` is the item a stable min-queue must hand out: least due time, and first-enqueued among the
pending items of that due time (`pre`/`post` = pending items enqueued before/after `x`). -/
def StableMin (x : Item) (q : PQ Item) : Prop :=
  ∃ pre post c, q.items = pre ++ (x, c) :: post ∧
    (∀ y ∈ pre, x.due < y.1.due) ∧ (∀ y ∈ post, x.due ≤ y.1.due)

theorem stableMin_of_dequeue {q q' : PQ Item} {x : Item} (hwf : q.WF) (h : q.dequeue? Item.due = some (x, q')) :
    StableMin x q :=
  let ⟨pre, post, c, h1, _, h3, h4, _⟩ := PQ.dequeue_split Item.due hwf h
  ⟨pre, post, c, h1, h3, h4⟩

def ClockInv (c0 : Int) (s : St) : Prop :=
  c0 ≤ s.clock ∧ s.log.Pairwise (fun a b => a.at_ ≤ b.at_) ∧ ∀ r ∈ s.log, r.at_ ≤ s.clock

theorem clockGeInv (cfg : Cfg) (hb : 0 ≤ cfg.bump) (tgt : Option Int) (φ : Step → Prop) (c : Int) :
    IterInv cfg tgt φ (fun s => c ≤ s.clock) (fun _ s => c ≤ s.clock) where
  skip := by intro s x q' sp h _ _ _ _ _; have := tickClock_ge cfg hb tgt s x; simp only; omega
  begin := by intro s x q' sp h _ _ _ _ _; have := tickClock_ge cfg hb tgt s x; simp only; omega
  enq := by intro x s via m t cid child _ _ h; exact h
  cancel := by intro x s id h; exact h
  link := by intro x s l h; exact h
  stop := by intro x s _ h; exact h
  sleep := by intro x s t _ ht h; simp only; omega
  handled := by intro x s e _ _ h; exact h
  finish := by intro x s sp h; exact h

theorem logClockInv (cfg : Cfg) (hb : 0 ≤ cfg.bump) (tgt : Option Int) (φ : Step → Prop) :
    IterInv cfg tgt φ (fun s => s.log.Pairwise (fun a b => a.at_ ≤ b.at_) ∧ ∀ r ∈ s.log, r.at_ ≤ s.clock)
      (fun _ s => s.log.Pairwise (fun a b => a.at_ ≤ b.at_) ∧ ∀ r ∈ s.log, r.at_ ≤ s.clock) where
  skip := by
    intro s x q' sp ⟨h2, h3⟩ _ _ _ _ _
    have := tickClock_ge cfg hb tgt s x
    exact ⟨h2, fun r hr => by have := h3 r hr; simp only; omega⟩
  begin := by
    intro s x q' sp ⟨h2, h3⟩ _ _ _ _ _
    have := tickClock_ge cfg hb tgt s x
    refine ⟨?_, ?_⟩
    · simp only [List.pairwise_append]
      refine ⟨h2, by simp, ?_⟩
      intro a ha b hb'
      simp at hb'; subst hb'
      have := h3 a ha; simp only; omega
    · intro r hr
      simp only [List.mem_append, List.mem_singleton] at hr
      rcases hr with hr | rfl
      · have := h3 r hr; simp only; omega
      · simp
  enq := by intro x s via m t cid child _ _ h; exact h
  cancel := by intro x s id h; exact h
  link := by intro x s l h; exact h
  stop := by intro x s _ h; exact h
  sleep := by
    intro x s t _ ht ⟨h2, h3⟩
    exact ⟨h2, fun r hr => by have := h3 r hr; simp only; omega⟩
  handled := by intro x s e _ _ h; exact h
  finish := by intro x s sp h; exact h

theorem clockInv_iter (cfg : Cfg) (hb : 0 ≤ cfg.bump) (tgt : Option Int) (φ : Step → Prop) (c0 : Int) :
    IterInv cfg tgt φ (ClockInv c0) (fun _ => ClockInv c0) :=
  (clockGeInv cfg hb tgt φ c0).and (logClockInv cfg hb tgt φ)

theorem dueLogInv (cfg : Cfg) (T : Int) (φ : Step → Prop) (L : List Ran) :
    IterInv cfg (some T) φ (fun s => ∀ r ∈ s.log, r ∈ L ∨ r.due ≤ T) (fun _ s => ∀ r ∈ s.log, r ∈ L ∨ r.due ≤ T) where
  skip := by intro s x q' sp h _ _ _ _ _; exact h
  begin := by
    intro s x q' sp h _ _ _ hpt _ r hr
    simp only [List.mem_append, List.mem_singleton] at hr
    rcases hr with hr | rfl
    · exact h r hr
    · right; simpa [pastTarget] using hpt
  enq := by intro x s via m t cid child _ _ h; exact h
  cancel := by intro x s id h; exact h
  link := by intro x s l h; exact h
  stop := by intro x s _ h; exact h
  sleep := by intro x s t _ _ h; exact h
  handled := by intro x s e _ _ h; exact h
  finish := by intro x s sp h; exact h

theorem clockRun (cfg : Cfg) (hb : 0 ≤ cfg.bump) (c0 : Int) :
    RunInv cfg noSleep (Op.All noSleep) (ClockInv c0) where
  iter tgt := ⟨_, clockInv_iter cfg hb tgt noSleep c0⟩
  flag _ _ _ h := h
  body _ _ _ _ _ h := h.2
  enq _ _ _ _ _ _ _ h := h
  cancel _ _ h := h
  clock := .inr ⟨fun s c hc ⟨h1, h2, h3⟩ => ⟨by simp only; omega, h2, fun r hr => by have := h3 r hr; simp only; omega⟩,
    fun _ h => h⟩

def notSched (i : Nat) : Step → Prop
  | .sched _ _ _ cid => cid ≠ i
  | _ => True

def CancInv (i : Nat) (log0 : List Ran) (s : St) : Prop :=
  PQ.AllSel (·.id = i) (·.cancelled = true) s.queue.items ∧ (∀ r ∈ s.log, r.id = i → r ∈ log0)

theorem cancInv_cancel_pres {i : Nat} {log0 : List Ran} {s : St} (h : CancInv i log0 s) (id : Nat) :
    CancInv i log0 (s.cancel id) :=
  ⟨PQ.allSel_map (cancelEntry id) (fun e he => cancelEntry_id id e ▸ he)
    (fun e he => by rw [cancelEntry_cancelled, he, Bool.or_true]) h.1, h.2⟩

theorem cancInv_iter (cfg : Cfg) (tgt : Option Int) (i : Nat) (log0 : List Ran) :
    IterInv cfg tgt (notSched i) (CancInv i log0) (fun _ => CancInv i log0) where
  skip := by
    intro s x q' sp ⟨h1, h2⟩ _ _ hd _ _
    exact ⟨(PQ.allSel_dequeue h1 hd).1, h2⟩
  begin := by
    intro s x q' sp ⟨h1, h2⟩ _ _ hd _ hc
    obtain ⟨hq', hx⟩ := PQ.allSel_dequeue h1 hd
    refine ⟨hq', ?_⟩
    intro r hr hri
    simp only [List.mem_append, List.mem_singleton] at hr
    rcases hr with hr | rfl
    · exact h2 r hr hri
    · have := hx hri; rw [hc] at this; cases this
  enq := by
    intro x s via m t cid child hφ _ ⟨h1, h2⟩
    exact ⟨PQ.allSel_enqueue h1 _ (fun hei => absurd hei hφ), h2⟩
  cancel := by intro x s id h; exact cancInv_cancel_pres h id
  link := by intro x s l h; exact h
  stop := by intro x s _ h; exact h
  sleep := by intro x s t _ _ h; exact h
  handled := by intro x s e _ _ h; exact h
  finish := by intro x s sp h; exact h

theorem cancInv_cancel (s : St) (i : Nat) : CancInv i s.log (s.cancel i) := by
  refine ⟨fun e he hei => ?_, fun r hr _ => hr⟩
  obtain ⟨e0, he0, rfl⟩ := mem_cancel.1 he
  rw [cancelEntry_id] at hei
  rw [cancelEntry_cancelled, hei, decide_eq_true rfl, Bool.true_or]

theorem cancRun (cfg : Cfg) (i : Nat) (log0 : List Ran) :
    RunInv cfg (notSched i) (Op.AllT (fun id _ _ => id ≠ i) (notSched i)) (CancInv i log0) where
  iter tgt := ⟨_, cancInv_iter cfg tgt i log0⟩
  flag _ _ _ h := h
  body _ _ _ _ _ h := h.2
  enq _ _ _ _ _ _ hok h := ⟨PQ.allSel_enqueue h.1 _ (fun hei => absurd hei hok.1), h.2⟩
  cancel _ id h := cancInv_cancel_pres h id
  clock := .inl fun _ _ h => h

/-- strict lexicographic order on `(due, scheduling number)` -/
def keyLt (a b : Int × Nat) : Prop := a.1 < b.1 ∨ (a.1 = b.1 ∧ a.2 < b.2)

/-- no action schedules before the clock: only `schedule` and `schedule_relative(t ≥ 0)` inside actions -/
def nonPast : Step → Prop
  | .sched _ m t _ => m = .imm ∨ (m = .rel ∧ 0 ≤ t)
  | _ => True

/-- the executed log is strictly sorted by `(due, scheduling number)`, everything executed precedes
everything pending, and executed due times are not ahead of the clock -/
def SortInv (s : St) : Prop :=
  s.queue.WF ∧
  s.log.Pairwise (fun a b => keyLt (a.due, a.seq) (b.due, b.seq)) ∧
  (∀ r ∈ s.log, ∀ e ∈ s.queue.items, keyLt (r.due, r.seq) (e.1.due, e.1.seq)) ∧
  (∀ r ∈ s.log, r.due ≤ s.clock ∧ r.seq < s.nsched) ∧
  s.queue.items.Pairwise (fun a b => a.1.seq < b.1.seq) ∧ (∀ e ∈ s.queue.items, e.1.seq < s.nsched)

namespace SortInv
variable {s : St} (h : SortInv s)
include h
theorem logSorted : s.log.Pairwise (fun a b => keyLt (a.due, a.seq) (b.due, b.seq)) := h.2.1
theorem logBound : ∀ r ∈ s.log, r.due ≤ s.clock ∧ r.seq < s.nsched := h.2.2.2.1
theorem queueBound : ∀ e ∈ s.queue.items, e.1.seq < s.nsched := h.2.2.2.2.2
end SortInv

/-- what `SortInv s` gives about the item `x` the queue hands out and the queue `q'` that is left -/
structure SortInv.Dequeued (s : St) (x : Item) (q' : PQ Item) : Prop where
  wf : q'.WF
  logBefore : ∀ r ∈ s.log, keyLt (r.due, r.seq) (x.due, x.seq)
  beforeQueue : ∀ e ∈ q'.items, keyLt (x.due, x.seq) (e.1.due, e.1.seq)
  logBeforeQueue : ∀ r ∈ s.log, ∀ e ∈ q'.items, keyLt (r.due, r.seq) (e.1.due, e.1.seq)
  queueSeq : q'.items.Pairwise (fun a b => a.1.seq < b.1.seq)
  queueBound : ∀ e ∈ q'.items, e.1.seq < s.nsched
  seqBound : x.seq < s.nsched

theorem sortInv_dequeue {s : St} {x : Item} {q' : PQ Item} (h : SortInv s)
    (hd : s.queue.dequeue? Item.due = some (x, q')) : SortInv.Dequeued s x q' := by
  obtain ⟨hwf, _, hlq, _, h4, hqb⟩ := h
  obtain ⟨pre, post, c, hl, hr, hpre, hpost, _⟩ := PQ.dequeue_split Item.due hwf hd
  have hmem : ∀ e ∈ q'.items, e ∈ s.queue.items := (PQ.dequeue_mem hd).2
  have hx : (x, c) ∈ s.queue.items := by rw [hl]; simp
  rw [hl] at h4
  have h4' := List.pairwise_append.1 h4
  refine ⟨PQ.wf_dequeue Item.due hwf hd, fun r hr' => hlq r hr' _ hx, ?_,
    fun r hr' e he => hlq r hr' e (hmem e he), ?_, fun e he => hqb e (hmem e he), hqb _ hx⟩
  · intro e he
    rw [hr] at he
    rcases List.mem_append.1 he with he | he
    · left; exact hpre e he
    · have hle := hpost e he
      have hseq : x.seq < e.1.seq := (List.pairwise_cons.1 h4'.2.1).1 e he
      simp only [keyLt]; omega
  · rw [hr]
    refine List.pairwise_append.2 ⟨h4'.1, (List.pairwise_cons.1 h4'.2.1).2, ?_⟩
    intro a ha b hb'
    exact h4'.2.2 a ha b (by simp [hb'])

theorem sortInv_enqueue {s : St} (h : SortInv s) (id : Nat) (due : Int) (b : Act) (w : Bool)
    (hdue : ∀ r ∈ s.log, r.due ≤ due) : SortInv (s.enqueue id due b w) := by
  obtain ⟨hwf, h1, h2, h3, h4, h5⟩ := h
  refine ⟨PQ.wf_enqueue hwf _, by simpa [St.enqueue] using h1, ?_, ?_, ?_, ?_⟩
  · intro r hr e he
    simp only [St.enqueue, PQ.enqueue, List.mem_append, List.mem_singleton] at he hr
    rcases he with he | rfl
    · exact h2 r hr e he
    · have := h3 r hr
      have := hdue r hr
      simp only [keyLt]; omega
  · intro r hr
    have := h3 r (by simpa [St.enqueue] using hr)
    simp only [St.enqueue]; omega
  · simp only [St.enqueue, PQ.enqueue, List.pairwise_append]
    refine ⟨h4, by simp, ?_⟩
    intro a ha b hb'
    simp at hb'; subst hb'
    exact h5 a ha
  · intro e he
    simp only [St.enqueue, PQ.enqueue, List.mem_append, List.mem_singleton] at he
    rcases he with he | rfl
    · have := h5 e he; simp only [St.enqueue]; omega
    · simp [St.enqueue]

theorem sortInv_iter (cfg : Cfg) (hb : 0 ≤ cfg.bump) (tgt : Option Int) :
    IterInv cfg tgt nonPast SortInv (fun _ => SortInv) where
  skip := by
    intro s x q' sp h _ _ hd _ _
    have d := sortInv_dequeue h hd
    have htc := tickClock_ge cfg hb tgt s x
    exact ⟨d.wf, h.logSorted, d.logBeforeQueue,
      fun r hr => ⟨by have := (h.logBound r hr).1; simp only; omega, (h.logBound r hr).2⟩, d.queueSeq, d.queueBound⟩
  begin := by
    intro s x q' sp h _ _ hd _ _
    have d := sortInv_dequeue h hd
    have htc := tickClock_ge cfg hb tgt s x
    refine ⟨d.wf, ?_, ?_, ?_, d.queueSeq, d.queueBound⟩
    · simp only [List.pairwise_append]
      refine ⟨h.logSorted, by simp, ?_⟩
      intro a ha b hb'
      simp at hb'; subst hb'
      exact d.logBefore a ha
    · intro r hr e he
      simp only [List.mem_append, List.mem_singleton] at hr
      rcases hr with hr | rfl
      · exact d.logBeforeQueue r hr e he
      · exact d.beforeQueue e he
    · intro r hr
      simp only [List.mem_append, List.mem_singleton] at hr
      rcases hr with hr | rfl
      · exact ⟨by have := (h.logBound r hr).1; simp only; omega, (h.logBound r hr).2⟩
      · exact ⟨htc.2, d.seqBound⟩
  enq := by
    intro x s via m t cid child hφ _ h
    have hdue : s.clock ≤ dueOf s.clock m t := by
      simp only [nonPast] at hφ
      rcases hφ with rfl | ⟨rfl, ht⟩ <;> simp only [dueOf] <;> omega
    exact sortInv_enqueue h _ _ _ _ (fun r hr => by have := (h.logBound r hr).1; omega)
  cancel := by
    intro x s id ⟨hwf, h1, h2, h3, h4, h5⟩
    refine ⟨wf_cancel hwf id, by simpa [St.cancel] using h1, ?_, by simpa [St.cancel] using h3, ?_, ?_⟩
    · intro r hr e he
      obtain ⟨e0, he0, rfl⟩ := mem_cancel.1 he
      rw [cancelEntry_due, cancelEntry_seq]
      exact h2 r hr e0 he0
    · simp only [St.cancel, List.pairwise_map, cancelEntry_seq]; exact h4
    · intro e he
      obtain ⟨e0, he0, rfl⟩ := mem_cancel.1 he
      rw [cancelEntry_seq]; exact h5 e0 he0
  link := by intro x s l h; exact h
  stop := by intro x s _ h; exact h
  sleep := by
    intro x s t _ ht ⟨hwf, h1, h2, h3, h4, h5⟩
    exact ⟨hwf, h1, h2, fun r hr => ⟨by have := (h3 r hr).1; simp only; omega, (h3 r hr).2⟩, h4, h5⟩
  handled := by intro x s e _ _ h; exact h
  finish := by intro x s sp h; exact h

/-- any top-level scheduling calls on a scheduler that has not run anything yet establish `SortInv` -/
theorem sortInv_fresh (c0 : Int) (l : List (Nat × Int × Act × Bool)) :
    SortInv (l.foldl (fun s p => s.enqueue p.1 p.2.1 p.2.2.1 p.2.2.2) { clock := c0 }) :=
  -- nothing has run, so every new item is "not due before anything executed"
  (List.foldl_pres (P := fun s => SortInv s ∧ s.log = []) _
    (fun s p h => ⟨sortInv_enqueue h.1 _ _ _ _ (by rw [h.2]; simp), h.2⟩) l
    ⟨⟨PQ.wf_empty, by simp, by simp, by simp, by simp, by simp⟩, rfl⟩).1

end C28

namespace C29
open Vts

/-- bookkeeping: every item ever enqueued is pending, was executed, or was dequeued cancelled and skipped -/
def CountInv (s : St) : Prop := s.log.length + s.skipped.length + s.queue.items.length = s.nsched

theorem countInv_enqueue {s : St} (h : CountInv s) (id : Nat) (due : Int) (b : Act) (w : Bool) :
    CountInv (s.enqueue id due b w) := by
  simp only [CountInv, St.enqueue, PQ.enqueue, List.length_append, List.length_singleton] at h ⊢; omega

theorem countInv_iter (cfg : Cfg) (tgt : Option Int) (φ : Step → Prop) :
    IterInv cfg tgt φ CountInv (fun _ => CountInv) where
  skip := by
    intro s x q' sp h _ _ hd _ _
    have := PQ.dequeue_length hd
    simp only [CountInv, List.length_append, List.length_singleton] at h ⊢; omega
  begin := by
    intro s x q' sp h _ _ hd _ _
    have := PQ.dequeue_length hd
    simp only [CountInv, List.length_append, List.length_singleton] at h ⊢; omega
  enq := by intro x s via m t cid child _ _ h; exact countInv_enqueue h _ _ _ _
  cancel := by intro x s id h; simpa [CountInv, St.cancel] using h
  link := by intro x s l h; exact h
  stop := by intro x s _ h; exact h
  sleep := by intro x s t _ _ h; exact h
  handled := by intro x s e _ _ h; exact h
  finish := by intro x s sp h; exact h

theorem countRun (cfg : Cfg) : RunInv cfg anyStep (fun _ => True) CountInv where
  iter tgt := ⟨_, countInv_iter cfg tgt anyStep⟩
  flag _ _ _ h := h
  body _ _ _ _ b _ := all_any b
  enq _ _ _ _ _ _ _ h := countInv_enqueue h _ _ _ _
  cancel _ _ h := by simpa [CountInv, St.cancel] using h
  clock := .inl fun _ _ h => h

theorem nschedInv (cfg : Cfg) (tgt : Option Int) (φ : Step → Prop) (n : Nat) :
    IterInv cfg tgt φ (fun s => n ≤ s.nsched) (fun _ s => n ≤ s.nsched) where
  skip := by intro s x q' sp h _ _ _ _ _; exact h
  begin := by intro s x q' sp h _ _ _ _ _; exact h
  enq := by intro x s via m t cid child _ _ h; simp only [St.enqueue]; omega
  cancel := by intro x s id h; exact h
  link := by intro x s l h; exact h
  stop := by intro x s _ h; exact h
  sleep := by intro x s t _ _ h; exact h
  handled := by intro x s e _ _ h; exact h
  finish := by intro x s sp h; exact h

end C29
