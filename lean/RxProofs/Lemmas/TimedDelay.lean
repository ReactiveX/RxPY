import RxModel.TimedShift
import RxProofs.Lemmas.TimedBase
import RxProofs.Lemmas.Basics
/-! delay_subscription and delay: the run from any queue; delay under the invariant of `observable_delay_timespan` (`DInv`). -/

namespace Timed

theorem conform_eq {α} (msgs : TL α) :
    conform msgs = (nexts msgs).map emitEl ++ (firstTerminal msgs).toList := by
  induction msgs with
  | nil => rfl
  | cons a r ih =>
    obtain ⟨t, n⟩ := a
    cases n <;> simp [conform, nexts, firstTerminal, emitEl, ih]

/-- the run from an arbitrary list of waiting elements, in declarative form -/
def dsG {α} (pend : List (Nat × α)) (msgs : TL α) : TL α :=
  match firstTerminal msgs with
  | some (te, .error e) => ((pend ++ nexts msgs).filter (fun x => decide (x.1 < te))).map emitEl ++ [(te, .error e)]
  | some (tc, .completed) => (pend ++ nexts msgs).map emitEl ++ [(tc, .completed)]
  | _ => (pend ++ nexts msgs).map emitEl

theorem ds_run_eq_G {α} (msgs : TL α) (pend : List (Nat × α)) (lo : Nat) (h : Mono lo msgs)
    (hs : SortedQ pend) (hp : ∀ e ∈ pend, e.1 ≤ lo) : dsRun pend msgs = dsG pend msgs := by
  induction msgs generalizing pend lo with
  | nil => simp [dsRun, dsG, firstTerminal, nexts]
  | cons a r ih =>
    obtain ⟨t, n⟩ := a
    have hsplit := List.takeWhile_append_dropWhile (p := fun e : Nat × α => decide (e.1 < t)) (l := pend)
    cases n with
    | next x =>
      have hdw : (pend.dropWhile (fun e => decide (e.1 < t))).Sublist pend := List.dropWhile_sublist _
      have hp0 : ∀ e ∈ pend.dropWhile (fun e => decide (e.1 < t)), e.1 ≤ lo := fun e he => hp e (hdw.subset he)
      rw [dsRun, ih _ t h.2 (sortedQ_snoc x (List.Pairwise.sublist hdw hs) hp0 h.1) (le_snoc x hp0 h.1)]
      simp only [dsG, firstTerminal, nexts]
      rcases firstTerminal_cases h.2 with hf | ⟨T, hT, hf⟩ | ⟨T, e, hT, hf⟩ <;> simp only [hf]
      · simp only [← List.map_append, List.append_assoc, List.singleton_append]
        rw [← List.append_assoc, hsplit]
      · simp only [List.append_assoc, List.singleton_append]
        rw [← List.append_assoc, ← List.map_append, ← List.append_assoc, hsplit]
      · have e1 : (pend.takeWhile (fun e => decide (e.1 < t))).filter (fun x => decide (x.1 < T))
            = pend.takeWhile (fun e => decide (e.1 < t)) := by
          rw [List.filter_eq_self]; intro e he
          have := List.mem_takeWhile_imp _ pend e he
          simp at this ⊢; omega
        conv => rhs; rw [← hsplit]
        simp only [List.filter_append, List.map_append, List.append_assoc, e1, List.singleton_append]
    | error e =>
      simp only [dsRun, dsG, firstTerminal, nexts, List.append_nil, takeWhile_eq_filter_of_sorted (lt_mono t) hs]
    | completed =>
      simp only [dsRun, dsG, firstTerminal, nexts, List.append_nil]
      rw [← List.append_assoc, ← List.map_append, hsplit]

/-- what holds between two handler invocations; the pending action is due at the head of the queue -/
structure DInv {α} (s : DelaySt α) (hi : Nat) : Prop where
  exc : s.exc = none
  running : s.running = false
  sorted : SortedQ s.queue
  bound : ∀ q ∈ s.queue, q.1 ≤ hi
  head : match s.queue with
    | [] => s.active = false ∧ s.timer = none
    | q :: _ => s.active = true ∧ s.timer = some q.1

theorem DInv.init {α} (hi : Nat) : DInv ({} : DelaySt α) hi :=
  ⟨rfl, rfl, List.Pairwise.nil, by simp, by simp⟩

theorem delayAction_nil {α} (s : DelaySt α) (due : Nat) (hexc : s.exc = none)
    (hr : s.queue.dropWhile (fun q => decide (q.1 ≤ due)) = []) :
    delayAction due s = ({ s with queue := [], active := false, timer := none },
      (s.queue.takeWhile (fun q => decide (q.1 ≤ due))).map (·.2)) := by
  unfold delayAction; simp [hexc, hr]

theorem delayAction_cons {α} (s : DelaySt α) (due : Nat) (hexc : s.exc = none) (r : Nat × Notif α) (rs : List (Nat × Notif α))
    (hr : s.queue.dropWhile (fun q => decide (q.1 ≤ due)) = r :: rs) :
    delayAction due s = ({ s with queue := r :: rs, timer := some (max r.1 due) },
      (s.queue.takeWhile (fun q => decide (q.1 ≤ due))).map (·.2)) := by
  unfold delayAction; simp [hexc, hr]

theorem action_spec {α} (s : DelaySt α) (hi due : Nat) (n : Notif α) (q' : List (Nat × Notif α))
    (hI : DInv s hi) (hq : s.queue = (due, n) :: q') :
    at_ due (delayAction due s).2 = s.queue.takeWhile (fun q => decide (q.1 ≤ due))
    ∧ (delayAction due s).1.queue = s.queue.dropWhile (fun q => decide (q.1 ≤ due))
    ∧ DInv (delayAction due s).1 hi := by
  have hsorted := hI.sorted
  have hpop : ∀ q ∈ s.queue.takeWhile (fun q => decide (q.1 ≤ due)), q.1 = due := by
    intro q hq'
    have h1 := List.mem_takeWhile_imp _ _ q hq'
    have h2 : q ∈ s.queue := (List.takeWhile_sublist _).subset hq'
    rw [hq] at h2 hsorted
    have h3 : due ≤ q.1 := by
      rcases List.mem_cons.1 h2 with rfl | h2
      · exact Nat.le_refl _
      · exact (List.pairwise_cons.1 hsorted).1 q h2
    simp at h1; omega
  have hdsub : (s.queue.dropWhile (fun q => decide (q.1 ≤ due))).Sublist s.queue := List.dropWhile_sublist _
  cases hr : s.queue.dropWhile (fun q => decide (q.1 ≤ due)) with
  | nil =>
    rw [delayAction_nil s due hI.exc hr]
    refine ⟨at_map_snd _ _ hpop, rfl, ?_⟩
    exact ⟨hI.exc, hI.running, List.Pairwise.nil, by simp, by simp⟩
  | cons r rs =>
    rw [delayAction_cons s due hI.exc r rs hr]
    refine ⟨at_map_snd _ _ hpop, rfl, ?_⟩
    have hr1 : due < r.1 := by
      have := List.head?_dropWhile_not (fun q : Nat × Notif α => decide (q.1 ≤ due)) s.queue
      rw [hr] at this
      simp at this; omega
    refine ⟨hI.exc, hI.running, ?_, ?_, ?_⟩
    · show SortedQ (r :: rs); rw [← hr]; exact List.Pairwise.sublist hdsub hsorted
    · intro q hq'; apply hI.bound; apply hdsub.subset; rw [hr]; exact hq'
    · have hact : s.active = true := by have := hI.head; rw [hq] at this; exact this.1
      show s.active = true ∧ some (max r.1 due) = some r.1
      exact ⟨hact, by rw [Nat.max_eq_left (Nat.le_of_lt hr1)]⟩

theorem loop_spec {α} (limit : Option Nat) (hi : Nat) : ∀ (fuel : Nat) (s : DelaySt α), DInv s hi → s.queue.length < fuel →
    (delayLoop fuel limit s).2 = s.queue.takeWhile (fun q => beforeLimit limit q.1)
    ∧ (delayLoop fuel limit s).1.queue = s.queue.dropWhile (fun q => beforeLimit limit q.1)
    ∧ DInv (delayLoop fuel limit s).1 hi := by
  intro fuel
  induction fuel with
  | zero => intro s _ hl; exact absurd hl (Nat.not_lt_zero _)
  | succ fuel ih =>
    intro s hI hl
    cases hq : s.queue with
    | nil =>
      have := hI.head; rw [hq] at this
      have e : delayLoop (fuel + 1) limit s = (s, []) := by simp [delayLoop, this.2]
      rw [e]
      exact ⟨by simp, by simp [hq], hI⟩
    | cons a q' =>
      obtain ⟨due, n⟩ := a
      have hh := hI.head; rw [hq] at hh
      have htimer : s.timer = some due := hh.2
      by_cases hb : beforeLimit limit due = true
      · obtain ⟨a1, a2, a3⟩ := action_spec s hi due n q' hI hq
        have hsplit := List.takeWhile_append_dropWhile (p := fun q : Nat × Notif α => decide (q.1 ≤ due)) (l := s.queue)
        have hlen : (delayAction due s).1.queue.length < fuel := by
          rw [a2, hq]
          have : (List.dropWhile (fun q : Nat × Notif α => decide (q.1 ≤ due)) ((due, n) :: q')) = q'.dropWhile (fun q => decide (q.1 ≤ due)) := by
            simp
          rw [this]
          have := (List.dropWhile_sublist (fun q : Nat × Notif α => decide (q.1 ≤ due)) (l := q')).length_le
          rw [hq] at hl; simp only [List.length_cons] at hl; omega
        obtain ⟨b1, b2, b3⟩ := ih (delayAction due s).1 a3 hlen
        have hall : ∀ x ∈ s.queue.takeWhile (fun q => decide (q.1 ≤ due)), beforeLimit limit x.1 = true := by
          intro x hx
          have h1 := List.mem_takeWhile_imp _ _ x hx
          cases limit with
          | none => rfl
          | some t => simp [beforeLimit] at hb h1 ⊢; omega
        simp only [delayLoop, htimer, hb, if_true]
        rw [a1, b1, b2, a2, ← hq]
        refine ⟨?_, ?_, b3⟩
        · conv => rhs; rw [← hsplit]
          rw [List.takeWhile_append_of_pos hall]
        · conv => rhs; rw [← hsplit]
          rw [List.dropWhile_append_of_pos hall]
      · simp only [Bool.not_eq_true] at hb
        have e : delayLoop (fuel + 1) limit s = (s, []) := by simp [delayLoop, htimer, hb]
        rw [e]
        exact ⟨by simp [hb], by simp [hq, hb], hI⟩

theorem advance_spec {α} (limit : Option Nat) (hi : Nat) (s : DelaySt α) (hI : DInv s hi) :
    (delayAdvance limit s).2 = s.queue.takeWhile (fun q => beforeLimit limit q.1)
    ∧ (delayAdvance limit s).1.queue = s.queue.dropWhile (fun q => beforeLimit limit q.1)
    ∧ DInv (delayAdvance limit s).1 hi :=
  loop_spec limit hi _ s hI (by omega)

theorem enqueue_inv {α} (d t hi : Nat) (s : DelaySt α) (n : Notif α) (hI : DInv s hi) (hhi : hi ≤ t + d) :
    (delayEnqueue d t s n).queue = s.queue ++ [(t + d, n)] ∧ DInv (delayEnqueue d t s n) (t + d) := by
  have hq : (delayEnqueue d t s n).queue = s.queue ++ [(t + d, n)] := by
    unfold delayEnqueue; cases s.active <;> simp [hI.exc]
  refine ⟨hq, ?_⟩
  have hexc : (delayEnqueue d t s n).exc = none := by
    unfold delayEnqueue; cases s.active <;> simp [hI.exc]
  have hrun : (delayEnqueue d t s n).running = false := by
    unfold delayEnqueue; cases s.active <;> simp [hI.exc, hI.running]
  refine ⟨hexc, hrun, ?_, ?_, ?_⟩
  · rw [hq]; exact sortedQ_snoc n hI.sorted hI.bound hhi
  · rw [hq]; exact le_snoc n hI.bound hhi
  · have hh := hI.head
    rw [hq]
    cases hs : s.queue with
    | nil =>
      rw [hs] at hh
      simp only [List.nil_append]
      unfold delayEnqueue; simp [hh.1, hI.exc]
    | cons a q' =>
      rw [hs] at hh
      simp only [List.cons_append]
      unfold delayEnqueue; simp [hh.1, hh.2]

/-- the raw output from a state with queue `q`, declaratively -/
def delayG {α} (d : Nat) (q : List (Nat × Notif α)) (msgs : TL α) : TL α :=
  match firstTerminal msgs with
  | none => q ++ (nexts msgs).map (shiftEl d)
  | some (tc, .completed) => q ++ (nexts msgs).map (shiftEl d) ++ [(tc + d, .completed)]
  | some (te, n) => (q ++ (nexts msgs).map (shiftEl d)).filter (fun x => decide (x.1 < te)) ++ [(te, n)]

theorem delay_raw_eq_G {α} (d : Nat) (msgs : TL α) (s : DelaySt α) (lo : Nat) (hI : DInv s (lo + d)) (h : Mono lo msgs) :
    delayRaw d s msgs = delayG d s.queue msgs := by
  induction msgs generalizing s lo with
  | nil =>
    obtain ⟨a1, _, _⟩ := advance_spec none (lo + d) s hI
    simp only [delayRaw, a1, delayG, firstTerminal, nexts, List.map_nil, List.append_nil, beforeLimit]
    exact takeWhile_true _
  | cons a r ih =>
    obtain ⟨t, n⟩ := a
    obtain ⟨a1, a2, a3⟩ := advance_spec (some t) (lo + d) s hI
    have hsplit := List.takeWhile_append_dropWhile (p := fun q : Nat × Notif α => beforeLimit (some t) q.1) (l := s.queue)
    have hlt : ∀ x ∈ s.queue.takeWhile (fun q => beforeLimit (some t) q.1), x.1 < t := by
      intro x hx; have := List.mem_takeWhile_imp _ _ x hx; simpa [beforeLimit] using this
    have hhi : lo + d ≤ t + d := Nat.add_le_add_right h.1 d
    cases n with
    | next v =>
      obtain ⟨e1, e2⟩ := enqueue_inv d t (lo + d) (delayAdvance (some t) s).1 (.next v) a3 hhi
      rw [delayRaw, ih _ t e2 h.2, a1, e1, a2]
      simp only [delayG, firstTerminal, nexts, List.map_cons, shiftEl]
      rcases firstTerminal_cases h.2 with hf | ⟨T, hT, hf⟩ | ⟨T, e, hT, hf⟩ <;> simp only [hf]
      · simp only [List.append_assoc, List.singleton_append]
        rw [← List.append_assoc, hsplit]
      · simp only [List.append_assoc, List.singleton_append]
        rw [← List.append_assoc, hsplit]
      · have efil : (s.queue.takeWhile (fun q => beforeLimit (some t) q.1)).filter (fun x => decide (x.1 < T))
            = s.queue.takeWhile (fun q => beforeLimit (some t) q.1) := by
          rw [List.filter_eq_self]; intro x hx; have := hlt x hx; simp; omega
        conv => rhs; rw [← hsplit]
        simp only [List.filter_append, List.append_assoc, efil, List.singleton_append]
    | completed =>
      obtain ⟨e1, e2⟩ := enqueue_inv d t (lo + d) (delayAdvance (some t) s).1 .completed a3 hhi
      obtain ⟨b1, _, _⟩ := advance_spec none (t + d) _ e2
      simp only [delayRaw, a1, b1, e1, a2, delayG, firstTerminal, nexts, List.map_nil, List.append_nil, beforeLimit]
      rw [takeWhile_true, ← List.append_assoc]
      congr 1
    | error e =>
      have hrun : (delayAdvance (some t) s).1.running = false := a3.running
      simp only [timeline_simp, delayRaw, a1, delayOnError, hrun, delayG, firstTerminal, nexts, List.map_nil, List.append_nil,
        Bool.not_false, if_true]
      congr 1
      have := takeWhile_eq_filter_of_sorted (lt_mono t) hI.sorted
      simpa [beforeLimit] using this

theorem conform_shift_append {α} (d : Nat) (l : List (Nat × α)) (rest : TL α) :
    conform (l.map (shiftEl d) ++ rest) = l.map (shiftEl d) ++ conform rest := by
  induction l with
  | nil => rfl
  | cons a l ih => simp [shiftEl, conform, ih]

theorem delay_run_eq_spec {α} (d lo : Nat) (msgs : TL α) (h : Mono lo msgs) : delayRun d msgs = delaySpec d msgs := by
  unfold delayRun
  rw [delay_raw_eq_G d msgs {} lo (DInv.init _) h]
  unfold delayG delaySpec
  rcases firstTerminal_cases h with hf | ⟨T, -, hf⟩ | ⟨T, e, -, hf⟩ <;> simp only [hf]
  · simpa [conform] using conform_shift_append d (nexts msgs) []
  · simp only [List.nil_append]
    rw [conform_shift_append]; rfl
  · simp only [List.nil_append]
    have : ((nexts msgs).map (shiftEl d)).filter (fun x => decide (x.1 < T))
        = ((nexts msgs).filter (fun e => decide (e.1 + d < T))).map (shiftEl d) := by
      rw [List.filter_map]; rfl
    rw [this, conform_shift_append]; rfl

end Timed
