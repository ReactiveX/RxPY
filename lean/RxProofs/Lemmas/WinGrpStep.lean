import RxProofs.Lemmas.WinGrpInv
/-!
# Every handler of the `group_by_until` machine, taken from a state satisfying the invariant

`Rel s s'`: how the flags may change, and `R1` (once the RefCountDisposable is disposed everything is released) is kept.  `Stp` is `Rel` and the
invariant again; each handler is a `Stp` from any state satisfying `Inv`, hence so is every run.  `TEv`: the same walk for the tracked
part, from any state.
-/
namespace WinGrp
variable {α κ β : Type}

def R1 (s : St κ β) : Prop := s.rcdDisposed = true → Released s

structure Rel (s s' : St κ β) : Prop where
  shut : s.srcOpen = false → s'.srcOpen = false
  disp : s.rcdDisposed = true → s'.rcdDisposed = true
  shut' : s'.srcOpen = false → s.srcOpen = false ∨ s'.rcdDisposed = true
  done : s'.srcDone = s.srcDone ∨ (s'.srcDone = true ∧ s'.srcOpen = false)
  fail : s'.failed = s.failed ∨ (s'.failed = true ∧ s'.rcdDisposed = true ∧ s'.outStopped = true)
  prim : s'.primary = true → s.primary = true ∨ s'.outStopped = true
  out : s.outStopped = true → s'.outStopped = true
  keep : R1 s → R1 s'

theorem Rel.refl (s : St κ β) : Rel s s := ⟨id, id, Or.inl, Or.inl rfl, Or.inl rfl, Or.inl, id, id⟩

theorem Rel.trans {a b c : St κ β} (h1 : Rel a b) (h2 : Rel b c) : Rel a c := by
  refine ⟨fun h => h2.shut (h1.shut h), fun h => h2.disp (h1.disp h), ?_, ?_, ?_, ?_, fun h => h2.out (h1.out h), fun h => h2.keep (h1.keep h)⟩
  · exact fun h => (h2.shut' h).elim (fun hb => (h1.shut' hb).imp_right h2.disp) Or.inr
  · rcases h2.done with e2 | e2
    · exact h1.done.elim (fun e1 => Or.inl (e2.trans e1)) fun ⟨d, o⟩ => Or.inr ⟨e2.trans d, h2.shut o⟩
    · exact Or.inr e2
  · rcases h2.fail with e2 | e2
    · exact h1.fail.elim (fun e1 => Or.inl (e2.trans e1)) fun ⟨f, d, o⟩ => Or.inr ⟨e2.trans f, h2.disp d, h2.out o⟩
    · exact Or.inr e2
  · exact fun h => (h2.prim h).elim (fun hb => (h1.prim hb).imp_right h2.out) Or.inr

theorem Fr.toRel {s s' : St κ β} (h : Fr s s') : Rel s s' :=
  ⟨h.shut, h.disp, h.shut', Or.inl h.done, Or.inl h.fail, h.prim, fun x => h.outS ▸ x,
   fun hr hd => (h.rel hd).elim (fun hd0 => (hr hd0).mono h.de.dm h.shut) id⟩

theorem Rel_of_eq {s s' : St κ β} (ho : s'.srcOpen = s.srcOpen) (hd : s'.rcdDisposed = s.rcdDisposed)
    (hdn : s'.srcDone = s.srcDone) (hf : s'.failed = s.failed) (hp : s'.primary = s.primary) (hos : s'.outStopped = s.outStopped)
    (hg : DM s s') : Rel s s' :=
  ⟨fun h => ho ▸ h, fun h => hd ▸ h, fun h => Or.inl (ho ▸ h), Or.inl hdn, Or.inl hf, fun h => Or.inl (hp ▸ h), fun h => hos ▸ h,
   fun hr h => (hr (hd ▸ h)).mono hg fun h' => ho ▸ h'⟩

theorem Rel_outStop (s : St κ β) : Rel s { s with outStopped := true } :=
  ⟨id, id, Or.inl, Or.inl rfl, Or.inl rfl, Or.inl, fun _ => rfl, id⟩

theorem Rel_termOuter (s : St κ β) (n : Notif β) (n') : Rel s (termOuter s n n') :=
  (fr_termAll s n).toRel.trans ((Rel_outStop _).trans (fr_outerTerm _ n').toRel)

theorem Rel_errorAll {cfg : Cfg α κ β} {s : St κ β} (hw : WF cfg s) (e : Err) : Rel s (errorAll s e) := by
  have hd := termOuter_over hw.failed (.error e) (.error e)
  have hr : Rel { s with failed := true } (errorAll s e) := Rel_termOuter _ _ _
  -- `id`: `{ s with failed := true }.failed` is `true` by reduction
  exact { hr with fail := Or.inr ⟨hr.fail.elim id (·.1), hd.2.1, hd.2.2⟩ }

theorem Rel_expire (cfg : Cfg α κ β) (s : St κ β) (g : Nat) : Rel s (expire cfg s g) := by
  rcases expire_cases cfg s g with e | e | ⟨r, hg, hf⟩
  · rw [e]; exact Rel.refl _
  · rw [e]; exact Rel_of_eq rfl rfl rfl rfl rfl rfl (DE_of_groups_eq rfl).dm
  · have h0 : Rel s (modGrp { s with writers := s.writers.eraseP (fun p => cfg.keyEq p.1 r.key) } g setExp) :=
      Rel_of_eq rfl rfl rfl rfl rfl rfl (DM_modGrp _ g _ fun _ => id)
    exact h0.trans (fr_expire_found cfg hg hf).toRel

theorem Rel_addGroup (s : St κ β) (k : κ) : Rel s (addGroup s k) := by
  refine Rel_of_eq rfl rfl rfl rfl rfl rfl fun j r hr hl => ?_
  rcases addGroup_getElem? hr with h' | rfl
  · exact ⟨r, h', hl⟩
  · cases hl

structure Stp (cfg : Cfg α κ β) (s s' : St κ β) : Prop extends Rel s s' where
  inv : Inv cfg s'

variable {cfg : Cfg α κ β}

theorem Stp.refl {s : St κ β} (h : Inv cfg s) : Stp cfg s s := ⟨Rel.refl s, h⟩

theorem Stp.trans {a b c : St κ β} (h1 : Stp cfg a b) (h2 : Inv cfg b → Stp cfg b c) : Stp cfg a c :=
  ⟨h1.toRel.trans (h2 h1.inv).toRel, (h2 h1.inv).inv⟩

theorem stp_errorAll {s : St κ β} (h : Inv cfg s) (e : Err) : Stp cfg s (errorAll s e) :=
  ⟨Rel_errorAll h.wf e, inv_termOuter (s := { s with failed := true }) h.wf.failed h.dl _ _⟩

theorem stp_pushElem {s : St κ β} (h : Inv cfg s) (g : Nat) (x : α) : Stp cfg s (pushElem cfg s g x) := by
  unfold pushElem; split
  · exact stp_errorAll h _
  · exact ⟨(fr_writerNext s g _).toRel, inv_writerNext h g _⟩

theorem stp_durFire (hrefl : ∀ k, cfg.keyEq k k = true) {s : St κ β} (h : Inv cfg s) (g : Nat)
    (hne : ∀ r, s.groups[g]? = some r → r.expired = false) (n : Notif Unit) : Stp cfg s (durFire cfg s g n) := by
  have he : Stp cfg s (closeDur (expire cfg s g) g) :=
    ⟨(Rel_expire cfg s g).trans (fr_closeDur _ _).toRel, inv_durFire_expire hrefl h g hne⟩
  cases n with
  | error e => exact (stp_errorAll h e).trans fun h1 => ⟨(fr_closeDur _ g).toRel, inv_closeDur h1 g⟩
  | next v => exact he
  | completed => exact he

/-- a `sad` added to an already disposed `group_disposable` is disposed at once -/
theorem stp_subscribeDur {s : St κ β} (h : Inv cfg s) (g : Nat) (hne : ∀ r, s.groups[g]? = some r → r.expired = false) :
    let t := emit (modGrp s g fun r => { r with dur := .live }) (.subDur g)
    Stp cfg s (if t.rcdDisposed then closeDur t g else t) := by
  intro t
  have hi : Inv cfg t := by
    refine inv_emit ⟨wf_modGrp h.wf g (fun r => { r with dur := .live }) fun r hok => ⟨rfl, rfl, rfl, hok.of_cg rfl⟩, ?_, ?_⟩ _
    · intro j r' hr' hl
      obtain ⟨r, hr, rfl⟩ := modGrp_getElem? (f := fun r => { r with dur := .live }) hr'
      split
      next hgj => exact hne r (hgj ▸ hr)
      next hgj => rw [if_neg hgj] at hl; exact h.dl j r hr hl
    · rw [lo_iff, trk_modGrp_same]; exact (lo_iff s).mp h.lo; intro _; rfl
  have hf : ∀ u, Fr t u → (R1 s → R1 u) → Rel s u := fun u hf h8 => { hf.toRel with keep := h8 }
  split
  next hd =>
    refine ⟨hf _ (fr_closeDur _ g) fun hr1 _ => ?_, inv_closeDur hi g⟩
    have hrel := hr1 hd
    refine ⟨(fr_closeDur _ g).shut hrel.1, fun j r hr hl => ?_⟩
    obtain ⟨hjg, r1, hr1', hl1, _⟩ := closeDur_live hr hl
    obtain ⟨r2, h2, rfl⟩ := modGrp_getElem? (f := fun r => { r with dur := .live }) hr1'
    rw [if_neg (Ne.symm hjg)] at hl1
    exact hrel.2 j _ h2 hl1
  next hd => exact ⟨hf _ (Fr.refl _) fun _ hd' => absurd hd' hd, hi⟩

theorem stp_announce (hrefl : ∀ k, cfg.keyEq k k = true) {s : St κ β} (h : Inv cfg s) (g : Nat) (k : κ)
    (hne : ∀ r, s.groups[g]? = some r → r.expired = false) : Stp cfg s (announce cfg s g k) := by
  rw [announce_eq]
  have h2 : Stp cfg s (handed cfg s g k) := ⟨(fr_handed cfg s g k).toRel, inv_handed h g k⟩
  have hne2 : ∀ r', (handed cfg s g k).groups[g]? = some r' → r'.expired = false := fun r' hr' => by
    obtain ⟨r, hr, _, he⟩ := (fr_handed cfg s g k).de g r' hr'; exact he.trans (hne r hr)
  generalize handed cfg s g k = s2 at h2 hne2
  refine h2.trans fun hi2 => ?_
  cases cfg.dsync g with
  | some n => exact stp_durFire hrefl hi2 g hne2 n
  | none => exact stp_subscribeDur hi2 g hne2

theorem stp_srcNext (hrefl : ∀ k, cfg.keyEq k k = true) {s : St κ β} (h : Inv cfg s) (x : α) :
    Stp cfg s (srcNext cfg s x) :=
  SrcNext.walk (T := fun a b => Inv cfg a → Stp cfg a b) (fun hab hbc ha => (hab ha).trans hbc)
    (fun _ e h => stp_errorAll h e) (fun _ g x h => stp_pushElem h g x) (fun s k hf h => ⟨Rel_addGroup s k, inv_addGroup h k hf⟩)
    (fun s k h => stp_announce hrefl h _ k (addGroup_fresh s k)) (srcNext_out cfg s x) h

/-- `hd`: the handler ends in an outer terminal that disposes the RefCountDisposable; the source subscription is closed last -/
theorem stp_srcTerminal {s u : St κ β} (h : Stp cfg { s with srcStopped := true, srcDone := true } u) (hd : u.rcdDisposed = true) :
    Stp cfg s (closeSrc u) := by
  have hr := h.toRel.trans (fr_closeSrc u hd).toRel
  -- `id`: `srcDone` of the start state is `true` by reduction
  exact ⟨{ hr with done := Or.inr ⟨hr.done.elim id (·.1), closeSrc_closed u⟩ }, inv_closeSrc h.inv⟩

theorem stp_step (hrefl : ∀ k, cfg.keyEq k k = true) {s : St κ β} (h : Inv cfg s) (e : Ev α) : Stp cfg s (step cfg s e) := by
  have h0 := inv_srcStop h
  have out := step_out cfg s e
  generalize step cfg s e = s' at out
  cases out with
  | skip => exact .refl h
  | next x _ => exact stp_srcNext hrefl h x
  | error e _ => exact stp_srcTerminal (stp_errorAll h0 e) (termOuter_over h0.wf.failed _ _).2.1
  | completed _ => exact stp_srcTerminal ⟨Rel_termOuter _ _ _, inv_termOuter h0.wf h0.dl _ _⟩ (termOuter_over h0.wf _ _).2.1
  | dur g n r hg hl => exact stp_durFire hrefl h g (fun r' hr' => by rw [hg] at hr'; cases hr'; exact h.dl g r hg hl) n
  | disposeOuter => exact ⟨(Rel_outStop s).trans (fr_rcdDispose _ rfl).toRel, inv_disposeOuter h⟩
  | subGroup g => exact ⟨(fr_subscribeLate s g).toRel, inv_subscribeLate h g⟩
  | disposeGroup g r _ _ => exact ⟨(fr_subEnd s g).toRel, inv_subEnd h g⟩

theorem stp_run (hrefl : ∀ k, cfg.keyEq k k = true) {s : St κ β} (h : Inv cfg s) (evs : List (Ev α)) :
    Stp cfg s (run cfg s evs) :=
  run_walk (T := fun a b => Inv cfg a → Stp cfg a b) (fun _ h => .refl h) (fun hab hbc ha => (hab ha).trans hbc)
    (fun _ e h => stp_step hrefl h e) s evs h

structure FlagInv (s : St κ β) : Prop where
  closed_why : s.srcOpen = false → s.srcDone = true ∨ s.rcdDisposed = true
  done_closed : s.srcDone = true → s.srcOpen = false
  failed_disposed : s.failed = true → s.rcdDisposed = true
  prim_out : s.primary = true → s.outStopped = true

theorem flagInv_of_rel {s s' : St κ β} (h : FlagInv s) (hr : Rel s s') : FlagInv s' := by
  refine ⟨fun ho => ?_, fun hd => ?_, fun hf => ?_, fun hp => ?_⟩
  · rcases hr.shut' ho with h1 | h1
    · exact (h.closed_why h1).imp (fun h2 => hr.done.elim (fun e => e.trans h2) (·.1)) hr.disp
    · exact Or.inr h1
  · exact hr.done.elim (fun e => hr.shut (h.done_closed (e ▸ hd))) (·.2)
  · exact hr.fail.elim (fun e => hr.disp (h.failed_disposed (e ▸ hf))) (·.2.1)
  · exact (hr.prim hp).elim (fun h1 => hr.out (h.prim_out h1)) id

structure Reached (cfg : Cfg α κ β) (s : St κ β) : Prop extends Inv cfg s where
  r1 : R1 s
  flags : FlagInv s

theorem reached (hrefl : ∀ k, cfg.keyEq k k = true) (evs : List (Ev α)) : Reached cfg (run cfg (init : St κ β) evs) :=
  have h := stp_run hrefl (inv_init cfg) (β := β) evs
  ⟨h.inv, h.keep fun h => by simp [init] at h, flagInv_of_rel (by refine ⟨?_, ?_, ?_, ?_⟩ <;> simp [init]) h.toRel⟩

theorem inv_reach (hrefl : ∀ k, cfg.keyEq k k = true) (evs : List (Ev α)) : Inv cfg (run cfg (init : St κ β) evs) :=
  (reached hrefl evs).toInv

def keys (s : St κ β) : List κ := (trk s).map (·.key)

theorem keys_addGroup (s : St κ β) (k : κ) : keys (addGroup s k) = keys s ++ [k] := by
  simp [keys, trk_addGroup]

theorem length_keys (s : St κ β) : (keys s).length = s.groups.length := by simp [keys, trk]

theorem keys_getElem? (s : St κ β) (j : Nat) : (keys s)[j]? = (s.groups[j]?).map (·.key) := by
  simp only [keys, trk, List.getElem?_map, Option.map_map]; rfl

/-- What a step does to the tracked part; the index counts the groups appended.  Which writer is reached, and whether it is still open, is
not recorded: `pushT`, `termT`, `expT` leave a stopped writer's log alone. -/
inductive TEv : Nat → List (TG κ β) → List (TG κ β) → Prop
  | refl (l) : TEv 0 l l
  | push (l g) (v : β) : TEv 0 l (l.modify g (pushT (.next v)))
  | term (l g) (n : Notif β) (hn : n.isTerminal = true) : TEv 0 l (l.modify g (termT n))
  | exp (l g) : TEv 0 l (l.modify g expT)
  | add (l) (k : κ) : TEv 1 l (l ++ [⟨k, false, false, []⟩])
  | trans {m n a b c} : TEv m a b → TEv n b c → TEv (m + n) a c

theorem TEv.map_key {n : Nat} {a b : List (TG κ β)} (h : TEv n a b) :
    ∃ ks : List κ, ks.length = n ∧ b.map (·.key) = a.map (·.key) ++ ks := by
  induction h with
  | refl l => exact ⟨[], rfl, by simp⟩
  | push l g v => exact ⟨[], rfl, by rw [List.map_modify_same _ _ _ _ (pushT_key _)]; simp⟩
  | term l g n hn => exact ⟨[], rfl, by rw [List.map_modify_same _ _ _ _ (termT_key _)]; simp⟩
  | exp l g => exact ⟨[], rfl, by rw [List.map_modify_same _ _ _ _ expT_key]; simp⟩
  | add l k => exact ⟨[k], rfl, by simp⟩
  | trans _ _ ih1 ih2 =>
    obtain ⟨k1, l1, e1⟩ := ih1; obtain ⟨k2, l2, e2⟩ := ih2
    exact ⟨k1 ++ k2, by simp [l1, l2], by rw [e2, e1, List.append_assoc]⟩

theorem TEv.keys_eq {s s' : St κ β} (h : TEv 0 (trk s) (trk s')) : keys s' = keys s := by
  obtain ⟨ks, hl, e⟩ := h.map_key
  unfold keys; rw [e, List.length_eq_zero_iff.mp hl, List.append_nil]

theorem TEv.len_eq {s s' : St κ β} (h : TEv 0 (trk s) (trk s')) : s'.groups.length = s.groups.length := by
  have := congrArg List.length h.keys_eq
  simpa [keys, trk] using this

theorem tev_foldl_term (n : Notif β) (hn : n.isTerminal = true) (idx : List Nat) (l : List (TG κ β)) :
    TEv 0 l (idx.foldl (fun t g => t.modify g (termT n)) l) := by
  induction idx generalizing l with
  | nil => exact TEv.refl _
  | cons i idx ih => exact TEv.trans (TEv.term l i n hn) (ih _)

theorem tev_errorAll (s : St κ β) (e : Err) : TEv 0 (trk s) (trk (errorAll s e)) := by
  rw [trk_errorAll]; exact tev_foldl_term _ rfl _ _

theorem tev_pushElem (cfg : Cfg α κ β) (s : St κ β) (g : Nat) (x : α) : TEv 0 (trk s) (trk (pushElem cfg s g x)) := by
  unfold pushElem; split
  · exact tev_errorAll _ _
  · rw [trk_writerNext]; exact TEv.push _ _ _

theorem tev_durFire (cfg : Cfg α κ β) (s : St κ β) (g : Nat) (n : Notif Unit) : TEv 0 (trk s) (trk (durFire cfg s g n)) := by
  have he : TEv 0 (trk s) (trk (closeDur (expire cfg s g) g)) := by
    rw [trk_closeDur]
    rcases trk_expire cfg s g with h | h <;> rw [h]
    · exact TEv.refl _
    · exact TEv.exp _ _
  cases n with
  | error e => simp only [durFire]; rw [trk_closeDur]; exact tev_errorAll s e
  | next v => exact he
  | completed => exact he

theorem tev_announce (cfg : Cfg α κ β) (s : St κ β) (g : Nat) (k : κ) : TEv 0 (trk s) (trk (announce cfg s g k)) := by
  cases hd : cfg.dsync g with
  | none => rw [trk_announce_nosync _ _ _ _ hd]; exact .refl _
  | some n => rw [announce_eq, hd, ← trk_handed cfg s g k]; exact tev_durFire _ _ _ _

theorem keys_errorAll (s : St κ β) (e : Err) : keys (errorAll s e) = keys s := (tev_errorAll s e).keys_eq
theorem keys_pushElem (cfg : Cfg α κ β) (s : St κ β) (g : Nat) (x : α) : keys (pushElem cfg s g x) = keys s :=
  (tev_pushElem cfg s g x).keys_eq
theorem keys_announce (cfg : Cfg α κ β) (s : St κ β) (g : Nat) (k : κ) : keys (announce cfg s g k) = keys s :=
  (tev_announce cfg s g k).keys_eq
theorem len_pushElem (cfg : Cfg α κ β) (s : St κ β) (g : Nat) (x : α) : (pushElem cfg s g x).groups.length = s.groups.length :=
  (tev_pushElem cfg s g x).len_eq
theorem len_announce (cfg : Cfg α κ β) (s : St κ β) (g : Nat) (k : κ) : (announce cfg s g k).groups.length = s.groups.length :=
  (tev_announce cfg s g k).len_eq

theorem tev_srcNext (cfg : Cfg α κ β) (s : St κ β) (x : α) : ∃ n, TEv n (trk s) (trk (srcNext cfg s x)) :=
  SrcNext.walk (T := fun a b => ∃ n, TEv n (trk a) (trk b)) (fun ⟨_, h1⟩ ⟨_, h2⟩ => ⟨_, h1.trans h2⟩)
    (fun _ _ => ⟨_, tev_errorAll _ _⟩) (fun _ _ _ => ⟨_, tev_pushElem _ _ _ _⟩) (fun s k _ => ⟨1, by rw [trk_addGroup]; exact TEv.add _ _⟩)
    (fun s k => ⟨_, tev_announce cfg (addGroup s k) _ k⟩) (srcNext_out cfg s x)

theorem tev_step (cfg : Cfg α κ β) (s : St κ β) (e : Ev α) : ∃ n, TEv n (trk s) (trk (step cfg s e)) := by
  have same : ∀ {s' : St κ β}, trk s' = trk s → ∃ n, TEv n (trk s) (trk s') := fun h => ⟨0, h ▸ TEv.refl _⟩
  have out := step_out cfg s e
  generalize step cfg s e = s' at out
  cases out with
  | skip => exact same rfl
  | next x _ => exact tev_srcNext _ _ _
  | error e _ => rw [trk_closeSrc]; exact ⟨_, tev_errorAll { s with srcStopped := true, srcDone := true } e⟩
  | completed _ => rw [trk_closeSrc, trk_outerTerm, trk_termAll]; exact ⟨_, tev_foldl_term _ rfl _ _⟩
  | dur g n r _ _ => exact ⟨_, tev_durFire _ _ _ _⟩
  | disposeOuter => exact same (trk_rcdDispose _)
  | subGroup g => exact same (trk_subscribeLate s g)
  | disposeGroup g r _ _ => exact same (trk_subEnd s g)

theorem tev_run (cfg : Cfg α κ β) (s : St κ β) (evs : List (Ev α)) : ∃ n, TEv n (trk s) (trk (run cfg s evs)) :=
  run_walk (T := fun a b => ∃ n, TEv n (trk a) (trk b)) (fun _ => ⟨_, TEv.refl _⟩) (fun ⟨_, h1⟩ ⟨_, h2⟩ => ⟨_, h1.trans h2⟩)
    (tev_step cfg) s evs

theorem tev_pointwise {P : TG κ β → Prop}
    (hpush : ∀ t (v : β), P t → P (pushT (.next v) t))
    (hterm : ∀ t (n : Notif β), n.isTerminal = true → P t → P (termT n t))
    (hexp : ∀ t, P t → P (expT t))
    (hadd : ∀ k, P ⟨k, false, false, []⟩)
    {n : Nat} {a b : List (TG κ β)} (h : TEv n a b) (ha : ∀ t ∈ a, P t) : ∀ t ∈ b, P t := by
  induction h with
  | refl l => exact ha
  | push l g v => exact List.all_modify ha (fun t ht => hpush t v ht)
  | term l g n hn => exact List.all_modify ha (fun t ht => hterm t n hn ht)
  | exp l g => exact List.all_modify ha (fun t ht => hexp t ht)
  | add l k =>
    intro t ht
    rcases List.mem_append.mp ht with h | h
    · exact ha t h
    · simp only [List.mem_singleton] at h; subst h; exact hadd k
  | trans _ _ ih1 ih2 => exact ih2 (ih1 ha)

theorem tev_rel {R : TG κ β → TG κ β → Prop} (hrefl : ∀ t, R t t) (htrans : ∀ a b c, R a b → R b c → R a c)
    (hpush : ∀ t (v : β), R t (pushT (.next v) t))
    (hterm : ∀ t (n : Notif β), n.isTerminal = true → R t (termT n t))
    (hexp : ∀ t, R t (expT t))
    {n : Nat} {a b : List (TG κ β)} (h : TEv n a b) :
    ∀ (j : Nat) (t : TG κ β), a[j]? = some t → ∃ t', b[j]? = some t' ∧ R t t' := by
  induction h with
  | refl l => intro j t ht; exact ⟨t, ht, hrefl t⟩
  | push l g v =>
    intro j t ht; rw [List.getElem?_modify, ht]
    by_cases h : g = j <;> simp [h, hpush, hrefl]
  | term l g n hn =>
    intro j t ht; rw [List.getElem?_modify, ht]
    by_cases h : g = j <;> simp [h, hterm _ _ hn, hrefl]
  | exp l g =>
    intro j t ht; rw [List.getElem?_modify, ht]
    by_cases h : g = j <;> simp [h, hexp, hrefl]
  | add l k =>
    intro j t ht
    have hj : j < l.length := by
      rcases Nat.lt_or_ge j l.length with h | h
      · exact h
      · rw [List.getElem?_eq_none h] at ht; cases ht
    exact ⟨t, by rw [List.getElem?_append_left hj]; exact ht, hrefl t⟩
  | trans _ _ ih1 ih2 =>
    intro j t ht
    obtain ⟨t1, h1, r1⟩ := ih1 j t ht
    obtain ⟨t2, h2, r2⟩ := ih2 j t1 h1
    exact ⟨t2, h2, htrans _ _ _ r1 r2⟩

end WinGrp
