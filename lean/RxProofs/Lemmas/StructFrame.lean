import RxModel.StructCaptures
import RxProofs.Lemmas.Basics
/-!
# The frame lemma behind C04 / C44

If the state shared by a family of instances is never written (`Framed`), what any one instance
emits under *any* interleaving of creations and actions of *all* instances is what it emits alone,
from the same shared state, under its own actions.
-/

namespace Struct.Frame

variable {G L A O : Type}

theorem lookup_update_same (m : List (Nat × L)) (i : Nat) (l : L) : lookup (update m i l) i = some l := by
  simp [update, lookup]

theorem lookup_update_other (m : List (Nat × L)) (i j : Nat) (l : L) (h : j ≠ i) :
    lookup (update m j l) i = lookup m i := by
  simp [update, lookup, h]

theorem outputsOf_append (i : Nat) (a b : List (Nat × O)) :
    outputsOf i (a ++ b) = outputsOf i a ++ outputsOf i b := by
  simp [outputsOf, List.filterMap_append]

theorem outputsOf_tag_same (i : Nat) (os : List O) : outputsOf i (os.map (fun o => (i, o))) = os := by
  refine (List.filterMap_tag_eq_map (i := i) (List.forall_mem_map.mpr fun _ _ => rfl)).trans ?_
  rw [List.map_map]; exact List.map_id'' (fun _ => rfl) os

theorem outputsOf_tag_other (i j : Nat) (h : j ≠ i) (os : List O) :
    outputsOf i (os.map (fun o => (j, o))) = [] :=
  List.filterMap_tag_eq_nil (List.forall_mem_map.mpr fun _ _ => h)

theorem frame_local (s : Sys G L A O) (h : Framed s) (i : Nat) :
    ∀ (acts : List (Act A)) (g : G) (m : List (Nat × L)),
      outputsOf i (runG s g m acts) = runI s g (lookup m i) (restrict i acts) := by
  intro acts
  induction acts with
  | nil => intro g m; simp [runG, restrict, runI, outputsOf]
  | cons act rest ih =>
    intro g m
    cases act with
    | create j =>
      simp only [runG, restrict]
      rw [outputsOf_append, h.1 g, ih]
      by_cases hj : j = i
      · subst hj
        simp only [if_true, lookup_update_same, outputsOf_tag_same]
        cases lookup m j <;> simp [runI]
      · simp only [hj, if_false, lookup_update_other m i j _ hj, outputsOf_tag_other i j hj, List.nil_append]
    | act j a =>
      simp only [runG, restrict]
      cases hl : lookup m j with
      | none =>
        simp only []
        rw [ih]
        by_cases hj : j = i
        · subst hj; simp [hl, runI]
        · simp [hj]
      | some l =>
        simp only []
        rw [outputsOf_append, h.2 g l a, ih]
        by_cases hj : j = i
        · subst hj
          simp only [if_true, lookup_update_same, hl, outputsOf_tag_same, runI]
        · simp only [hj, if_false, lookup_update_other m i j _ hj, outputsOf_tag_other i j hj,
            List.nil_append]

/-- one instance alone, fed actions only, is any function that unfolds like its `step` -/
theorem runI_some (s : Sys G L A O) (g : G) (r : L → List A → List O) (hnil : ∀ l, r l [] = [])
    (hcons : ∀ l a as, r l (a :: as) = (s.step g l a).2.2 ++ r (s.step g l a).2.1 as) :
    ∀ (evs : List A) (l : L), runI s g (some l) (evs.map some) = r l evs := by
  intro evs
  induction evs with
  | nil => intro l; exact (hnil l).symm
  | cons a rest ih => intro l; rw [hcons]; simp only [List.map_cons, runI]; rw [ih]

theorem lift_framed (s : Sys G L A O) (h : Framed s) : Framed s.lift := by
  refine ⟨fun g => rfl, fun g m a => ?_⟩
  cases a with
  | create i => exact h.1 g
  | act i a =>
    simp only [Sys.lift, stepG]
    split
    · rfl
    · exact h.2 g _ a

end Struct.Frame
