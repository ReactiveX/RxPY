import RxProofs.Lemmas.PureMarblesScan
/-! Helper lemmas for C38: scanning the rendering of a well-formed token list gives its reading, because the tokenizer
reads each rendered token back (hyphens apart). -/
namespace Pure.Marbles

theorem take_drop_while_stop {β} (p : β → Bool) (l r : List β) (hl : ∀ x ∈ l, p x = true)
    (hr : r = [] ∨ ∃ c r', r = c :: r' ∧ p c = false) :
    (l ++ r).takeWhile p = l ∧ (l ++ r).dropWhile p = r := by
  rw [List.takeWhile_append_of_pos hl, List.dropWhile_append_of_pos hl]
  rcases hr with h | ⟨c, r', h, hc⟩ <;> subst h <;> simp [*]

theorem findClose_body (body r : List Char) (h : ∀ c ∈ body, c ≠ ')' ∧ c ≠ '\n') :
    findClose (body ++ ')' :: r) = some body := by
  induction body with
  | nil => simp [findClose]
  | cons c b ih =>
    have hc := h c (by simp)
    have := ih (fun x hx => h x (by simp [hx]))
    simp [findClose, hc.1, hc.2, this]

theorem splitComma_nocomma (x : List Char) (h : ∀ c ∈ x, c ≠ ',') : splitComma x = [x] := by
  induction x with
  | nil => rfl
  | cons c x ih =>
    have := ih (fun y hy => h y (by simp [hy]))
    simp [splitComma, h c (by simp), this]

theorem splitComma_append (x rest : List Char) (h : ∀ c ∈ x, c ≠ ',') :
    splitComma (x ++ ',' :: rest) = x :: splitComma rest := by
  induction x with
  | nil => simp [splitComma]
  | cons c x ih =>
    have := ih (fun y hy => h y (by simp [hy]))
    simp [splitComma, h c (by simp), this]

theorem splitComma_join (items : List (List Char)) (hne : items ≠ [])
    (h : ∀ it ∈ items, ∀ c ∈ it, c ≠ ',') : splitComma (joinComma items) = items := by
  induction items with
  | nil => exact absurd rfl hne
  | cons x r ih =>
    cases r with
    | nil => simpa [joinComma] using splitComma_nocomma x (h x (by simp))
    | cons y r =>
      have := ih (by simp) (fun it hit => h it (by simp [hit]))
      simp only [joinComma]
      rw [splitComma_append _ _ (h x (by simp)), this]

theorem joinComma_chars (items : List (List Char)) (P : Char → Prop) (hc : P ',')
    (h : ∀ it ∈ items, ∀ c ∈ it, P c) : ∀ c ∈ joinComma items, P c := by
  induction items with
  | nil => simp [joinComma]
  | cons x r ih =>
    cases r with
    | nil => simpa [joinComma] using h x (by simp)
    | cons y r =>
      intro c hcm
      simp only [joinComma, List.mem_append, List.mem_cons] at hcm
      rcases hcm with h1 | h1 | h1
      · exact h x (by simp) c h1
      · subst h1; exact hc
      · exact ih (fun it hit => h it (by simp [hit])) c h1

theorem itemOK_iff (cs : List Char) :
    itemOK cs = true ↔ ∀ c ∈ cs, c ≠ ',' ∧ c ≠ ')' ∧ c ≠ '\n' ∧ c ≠ ' ' := by
  simp [itemOK, and_assoc]

theorem WF_head (t : Tok) (ts : List Tok) (h : WF (t :: ts) = true) : tokOK t = true := by
  cases ts with
  | nil => simpa [WF] using h
  | cons u r => simp only [WF, Bool.and_eq_true] at h; exact h.1.1.1

theorem WF_tail (t : Tok) (ts : List Tok) (h : WF (t :: ts) = true) : WF ts = true := by
  cases ts with
  | nil => rfl
  | cons u r => simp only [WF, Bool.and_eq_true] at h; exact h.2

theorem render_head_special {u : Tok} (ts : List Tok) (hok : tokOK u = true) (hu : isElemTok u = false) :
    ∃ c r', render (u :: ts) = c :: r' ∧ isSpecial c = true := by
  cases u with
  | ticks n =>
    obtain ⟨m, rfl⟩ : ∃ m, n = m + 1 := ⟨n - 1, by simp only [tokOK, decide_eq_true_eq] at hok; omega⟩
    exact ⟨'-', _, rfl, rfl⟩
  | elem cs => cases hu
  | _ => exact ⟨_, _, rfl, rfl⟩

/-- What must follow a rendered token for `lex` to read it back: a value marble's greedy run must stop, an unclosed `(`
be really unclosed.  Hyphens never qualify — adjacent `ticks` render to one run, read as one token
(`lex (render [ticks 1, ticks 1]) = [ticks 2]`) — `scan_ticks` serves them. -/
def Follows : Tok → List Char → Prop
  | .elem _, r => r = [] ∨ ∃ c r', r = c :: r' ∧ isSpecial c = true
  | .strayOpen, r => findClose r = none
  | .ticks _, _ => False
  | _, _ => True

theorem WF_follows (t : Tok) (ts : List Tok) (h : WF (t :: ts) = true) (hnt : ∀ n, t ≠ .ticks n) :
    Follows t (render ts) := by
  cases ts with
  | nil =>
    cases t with
    | ticks n => exact hnt n rfl
    | elem cs => exact .inl rfl
    | strayOpen => exact (rfl : findClose [] = none)
    | _ => trivial
  | cons u r =>
    simp only [WF, Bool.and_eq_true, Bool.not_eq_true', Bool.and_eq_false_iff] at h
    cases t with
    | ticks n => exact hnt n rfl
    | elem cs =>
      exact .inr (render_head_special r (WF_head u r h.2) (h.1.1.2.resolve_left (by simp [isElemTok])))
    | strayOpen => exact show findClose (render (u :: r)) = none by simpa using h.1.2
    | _ => trivial

theorem lex_render1 (t : Tok) (r : List Char) (hok : tokOK t = true) (hf : Follows t r) :
    lex (render1 t ++ r) = t :: lex r := by
  cases t with
  | ticks n => exact hf.elim
  | elem cs =>
    simp only [tokOK, Bool.and_eq_true, Bool.not_eq_true', List.all_eq_true] at hok
    cases cs with
    | nil => simp at hok
    | cons c cs =>
      have hall : ∀ x ∈ c :: cs, isSpecial x = false := fun x hx => by
        have := hok.2 x hx; simp at this; exact this.1
      have hc : c ≠ '(' ∧ c ≠ '-' ∧ c ≠ ',' ∧ c ≠ '#' ∧ c ≠ '|' ∧ c ≠ ')' := by
        have := hall c (by simp); simp [isSpecial] at this; simp [this]
      -- the greedy run stops exactly where the token ends: the rest is empty or starts with a special character
      have htd := take_drop_while_stop (fun x => !isSpecial x) cs r
        (fun x hx => by simp [hall x (by simp [hx])])
        (by rcases hf with h | ⟨c, r', h, hc⟩
            · exact Or.inl h
            · exact Or.inr ⟨c, r', h, by simp [hc]⟩)
      rw [render1, List.cons_append, lex]
      simp only [hc, if_false, htd.1, htd.2]
  | completed => rw [render1, List.cons_append, List.nil_append, lex]; simp (decide := true)
  | error => rw [render1, List.cons_append, List.nil_append, lex]; simp (decide := true)
  | group items =>
    simp only [tokOK, Bool.and_eq_true, Bool.not_eq_true', List.all_eq_true] at hok
    have hne : items ≠ [] := by intro h0; subst h0; simp at hok
    have hfc : findClose (joinComma items ++ ')' :: r) = some (joinComma items) :=
      findClose_body _ _ (joinComma_chars items (fun c => c ≠ ')' ∧ c ≠ '\n') (by decide)
        fun it hit c hc => let h := (itemOK_iff it).1 (hok.2 it hit) c hc; ⟨h.2.1, h.2.2.1⟩)
    have hsp : splitComma (joinComma items) = items :=
      splitComma_join items hne (fun it hit c hc => ((itemOK_iff it).1 (hok.2 it hit) c hc).1)
    have hd : List.drop ((joinComma items).length + 1) (joinComma items ++ ')' :: r) = r := by
      rw [List.drop_append]; simp
    rw [render1, List.cons_append, List.append_assoc, List.cons_append, List.nil_append, lex]
    simp only [if_true, hfc, hsp, hd]
  | comma => rw [render1, List.cons_append, List.nil_append, lex]; simp (decide := true)
  | strayClose => rw [render1, List.cons_append, List.nil_append, lex]; simp (decide := true)
  | strayOpen => rw [render1, List.cons_append, List.nil_append, lex]; simp [show findClose r = none from hf]

theorem scan_render {α} (cfg : Cfg α) (toks : List Tok) (h : WF toks = true) (p : Nat) (st : Bool) :
    scan cfg (render toks) p st = specGo cfg toks p st := by
  induction toks generalizing p st with
  | nil => rw [render, scan_nil, specGo]
  | cons t ts ih =>
    have hwf := WF_tail t ts h
    have ih' : ∀ q, specGo cfg (lex (render ts)) q = specGo cfg ts q := fun q =>
      funext fun st' => (scan_eq_specGo_lex cfg _ q st').symm.trans (ih hwf q st')
    rw [render, specGo_cons]
    by_cases hnt : ∃ n, t = .ticks n
    · obtain ⟨n, rfl⟩ := hnt
      simp only [render1, scan_ticks, ih hwf, reduceCtorEq, if_false, marblesOf, emitThen_nil, width, List.length_replicate]
    · rw [scan_eq_specGo_lex, lex_render1 t _ (WF_head t ts h) (WF_follows t ts h fun n e => hnt ⟨n, e⟩), specGo_cons, ih']

theorem render1_nospace (t : Tok) (h : tokOK t = true) : ∀ c ∈ render1 t, c ≠ ' ' := by
  cases t with
  | ticks n => intro c hc; simp [render1] at hc; rw [hc.2]; decide
  | elem cs =>
    simp only [tokOK, Bool.and_eq_true, List.all_eq_true] at h
    intro c hc; have := h.2 c hc; simp at this; exact this.2
  | group items =>
    simp only [tokOK, Bool.and_eq_true, List.all_eq_true] at h
    intro c hc
    simp only [render1, List.mem_cons, List.mem_append, List.mem_nil_iff, or_false] at hc
    rcases hc with rfl | hc | rfl
    · decide
    · exact joinComma_chars items (fun c => c ≠ ' ') (by decide)
        (fun it hit c hc => ((itemOK_iff it).1 (h.2 it hit) c hc).2.2.2) c hc
    · decide
  | _ => intro c hc; simp [render1] at hc; subst hc; decide

theorem render_nospace (toks : List Tok) (h : WF toks = true) :
    (render toks).filter (· != ' ') = render toks := by
  rw [List.filter_eq_self]
  intro c hc
  suffices c ≠ ' ' by simpa using this
  induction toks with
  | nil => simp [render] at hc
  | cons t ts ih =>
    simp only [render, List.mem_append] at hc
    rcases hc with hc | hc
    · exact render1_nospace t (WF_head t ts h) c hc
    · exact ih (WF_tail t ts h) hc

end Pure.Marbles
