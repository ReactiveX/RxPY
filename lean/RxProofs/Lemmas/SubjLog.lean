import RxProofs.Lemmas.SubjInv
/-!
# Logs, values and terminal state of the subject machine, read off the ghost trace
-/

namespace Subj
variable {α : Type}

/-- Notifications observer i's AutoDetachObserver passed on, oldest first. -/
def recvs (i : Id) : List (Ev α) → List (Notif α)
  | [] => []
  | .recv j n :: tr => if j = i then recvs i tr ++ [n] else recvs i tr
  | _ :: tr => recvs i tr

/-- The latest notification the subject accepted. -/
def lastEmit : List (Ev α) → Option (Notif α)
  | [] => none
  | .emit n :: _ => some n
  | _ :: tr => lastEmit tr

/-- The value of the latest `on_next` the subject accepted. -/
def lastNext : List (Ev α) → Option α
  | [] => none
  | .emit (.next v) :: _ => some v
  | _ :: tr => lastNext tr

/-- The terminal notification the subject accepted, if any. -/
def terminated (tr : List (Ev α)) : Option (Notif α) :=
  match lastEmit tr with
  | some (.error e) => some (.error e)
  | some .completed => some .completed
  | _ => none

theorem lastEmit_of_terminated {tr : List (Ev α)} {n : Notif α} (h : terminated tr = some n) : lastEmit tr = some n := by
  unfold terminated at h
  split at h <;> simp_all

/-- `v0` = initial value (BehaviorSubject). -/
structure VInv (cfg : Cfg) (v0 : Option α) (st : St α) : Prop where
  log : ∀ i, st.log i = (recvs i st.tr).filter (userSees cfg i)
  term : st.disposed = false →
    (st.stopped = true → terminated st.tr = some (termOf st)) ∧
      (st.stopped = false → terminated st.tr = none ∧ st.exception = none)
  beh : cfg.kind = .behavior → st.disposed = false → st.value = (lastNext st.tr <|> v0)
  asy : cfg.kind = .async → st.disposed = false → st.value = lastNext st.tr ∧ st.hasValue = (lastNext st.tr).isSome

namespace VInv
variable {cfg : Cfg} {v0 : Option α} {st : St α}

theorem quiet (hV : VInv cfg v0 st) (e : Ev α) (h1 : ∀ i, recvs i (e :: st.tr) = recvs i st.tr)
    (h2 : lastEmit (e :: st.tr) = lastEmit st.tr) (h3 : lastNext (e :: st.tr) = lastNext st.tr) :
    VInv cfg v0 { st with tr := e :: st.tr } :=
  { hV with
    log := fun i => by rw [h1]; exact hV.log i
    term := by simp only [terminated, h2]; exact hV.term
    beh := by rw [h3]; exact hV.beh
    asy := by rw [h3]; exact hV.asy }

theorem recv (hV : VInv cfg v0 st) (i : Id) (n : Notif α) (l : Id → List (Notif α))
    (hl : ∀ k, l k = if k = i ∧ userSees cfg i n = true then st.log k ++ [n] else st.log k) :
    VInv cfg v0 { st with tr := .recv i n :: st.tr, log := l } :=
  { hV with
    log := fun k => by
      show l k = _
      rw [hl k]
      by_cases e : k = i
      · subst e; cases hs : userSees cfg k n <;> simp [recvs, hs, hV.log k]
      · simp [recvs, e, Ne.symm e, hV.log k] }

theorem emitNext (hV : VInv cfg v0 st) (hs : st.stopped = false) (v : α) (x : Option α) (b : Bool)
    (hbeh : cfg.kind = .behavior → x = some v)
    (hasy : cfg.kind = .async → x = some v ∧ b = true) :
    VInv cfg v0 { st with tr := .emit (.next v) :: st.tr, value := x, hasValue := b } :=
  { hV with
    term := fun hd => ⟨fun h => by rw [hs] at h; exact absurd h (by simp), fun _ => ⟨rfl, ((hV.term hd).2 hs).2⟩⟩
    beh := fun hk _ => by simp [hbeh hk, lastNext]
    asy := fun hk _ => by simp [hasy hk, lastNext] }

end VInv

theorem sadDispose_vinv {cfg : Cfg} {v0 : Option α} {st : St α} (i : Id) (hV : VInv cfg v0 st) :
    VInv cfg v0 (sadDispose st i) := by
  obtain ⟨sd, c, obs, e⟩ := sadDispose_writes st i
  rw [e]; exact { hV with }

theorem Step.vinv {cfg : Cfg} {v0 : Option α} {st st' : St α} {t : Task α} {new : List (Task α)} {b : Bool}
    (h : Step cfg st t st' new b) (hV : VInv cfg v0 st) : VInv cfg v0 st' := by
  have shown : ∀ (i : Id) (n : Notif α) (a s : Id → Bool), userSees cfg i n = true →
      VInv cfg v0 (callback { st with seen := s, adoStopped := a } i n) := fun i n a s hs =>
    { hV.recv i n (upd st.log i (st.log i ++ [n])) fun k => by by_cases e : k = i <;> simp [e, hs] with }
  have hidden : ∀ (i : Id) (e : Err), cfg.hasErr i = false → VInv cfg v0 { st with tr := .recv i (.error e) :: st.tr } :=
    fun i e he => { hV.recv i (.error e) st.log fun k => by simp [userSees, he] with }
  cases h with
  | idle => exact hV
  | raise => exact { hV with }
  | next v x b _ hd hs hb ha => exact hV.emitNext hs v x b hb ha
  | error e => exact { hV with term := fun _ => ⟨fun _ => rfl, nofun⟩ }
  | completed new _ hd hs =>
    exact { hV with term := fun _ => ⟨fun _ => by simp [terminated, lastEmit, termOf, ((hV.term hd).2 hs).2], nofun⟩ }
  | subRefused who j hj hd he => exact shown j _ _ _ he
  | subRaise who j e sd hj he => cases who <;> exact { hidden j e he with }
  | subLive who j => exact { hV.quiet (.sub j) (fun _ => rfl) rfl rfl with }
  | subLate => exact { hV with }
  | unsub who j => exact sadDispose_vinv j { hV.quiet (.unsub j) (fun _ => rfl) rfl rfl with }
  | dispose => exact { hV with term := nofun, beh := fun _ => nofun, asy := fun _ => nofun }
  | deliverNext i v => exact shown i _ _ _ rfl
  | deliverTerm i n hs hn hu => exact shown i _ _ _ hu
  | deliverRaise i e he =>
    have h1 : VInv cfg v0 { st with adoStopped := upd st.adoStopped i true, tr := .recv i (.error e) :: st.tr } :=
      { hidden i e he with }
    exact { sadDispose_vinv i h1 with }
  | fin j h => rw [finish_eq]; exact { hV with }
  | sad i => exact sadDispose_vinv i hV

theorem reach_vinv {cfg : Cfg} {v0 : Option α} {s0 st : St α} {ag0 ag : List (Task α)} (h0 : VInv cfg v0 s0)
    (h : Reach cfg s0 ag0 st ag) : VInv cfg v0 st :=
  h.state h0 (fun _ _ _ ih => { ih with }) fun _ ih => (step1_step cfg _ _).vinv ih

/-- `v` is a legal constructor argument: a BehaviorSubject has an initial value, the others none. -/
def InitOK (cfg : Cfg) (v : Option α) : Prop :=
  match cfg.kind with
  | .behavior => v.isSome = true
  | _ => v = none

theorem init_vinv (cfg : Cfg) (v : Option α) : VInv cfg v (init cfg v) := by
  unfold init
  split <;> refine ⟨?_,?_,?_,?_⟩ <;> simp_all [recvs, terminated, lastEmit, lastNext]

theorem reachable_vinv {cfg : Cfg} {v : Option α} {st : St α} {ag : List (Task α)}
    (h : Reachable cfg v st ag) : VInv cfg v st :=
  reach_vinv (init_vinv cfg v) h

end Subj
