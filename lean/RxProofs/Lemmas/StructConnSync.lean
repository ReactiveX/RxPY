import RxModel.ConnSync
import RxProofs.Lemmas.Basics
/-!
# One source subscription per connection, also under re-entrancy (C24)

`SInv` is preserved by every task of the synchronous model, hence by every history with any
reactions (calls made from inside `on_next`, to any depth) and any fuel.  Only `connect`, `connectP3`,
`disposeHandle` and `closeSrc` write a field that `SInv` reads.
-/

namespace Conn.Sync

/-- at most one source subscription is open; an open one is the one being made by the `connect()`
in progress or the one owned by the live composite; nothing is open while not connected -/
structure SInv (w : SW) : Prop where
  len : w.srcOpen.length ≤ 1
  off : w.hasSub = false → w.srcOpen = [] ∧ w.liveHandle = none ∧ w.pending = none
  own : ∀ s ∈ w.srcOpen, w.pending = some s ∨ ∃ h, w.liveHandle = some (h, s)
  excl : ¬ (w.pending.isSome = true ∧ w.liveHandle.isSome = true)
  mx : w.maxOpen ≤ 1

/-- `SInv` reads five fields -/
theorem SInv.congr {w w' : SW} (h : SInv w) (h1 : w'.srcOpen = w.srcOpen) (h2 : w'.hasSub = w.hasSub)
    (h3 : w'.liveHandle = w.liveHandle) (h4 : w'.pending = w.pending) (h5 : w'.maxOpen = w.maxOpen) : SInv w' :=
  ⟨by rw [h1]; exact h.len, by rw [h1, h2, h3, h4]; exact h.off, by rw [h1, h3, h4]; exact h.own,
   by rw [h3, h4]; exact h.excl, by rw [h5]; exact h.mx⟩

theorem setSub_inv {w : SW} (h : SInv w) (i : Nat) (s : SubSt) : SInv (setSub w i s) :=
  h.congr rfl rfl rfl rfl rfl

theorem setView_inv {w : SW} (h : SInv w) (k : Nat) (v : View) : SInv (setView w k v) :=
  h.congr rfl rfl rfl rfl rfl

theorem enqueue_inv {w : SW} (h : SInv w) (n : Notif Nat) (i : Nat) : SInv (enqueue w n i) := by
  unfold enqueue
  cases getSub w i with
  | none => exact h
  | some s =>
    dsimp only
    cases s.soStopped with
    | true => exact h
    | false => exact setSub_inv h _ _

def Task.writesConn : Task → Bool
  | .connect | .connectP3 _ | .disposeHandle _ | .closeSrc _ => true
  | _ => false

theorem step_quiet {w : SW} (h : SInv w) (t : Task) (ht : t.writesConn = false) : SInv (step w t).1 := by
  cases t with
  | connect | connectP3 | disposeHandle | closeSrc => cases ht
  | call op =>
    cases op with
    | sub i view react =>
      have h0 : SInv (if w.tramp.isNone = true then { w with tramp := some [] } else w) := by
        split <;> exact h.congr rfl rfl rfl rfl rfl
      cases view with
      | none => exact setSub_inv h0 _ _
      | some k => exact setView_inv (setSub_inv h0 _ _) _ _
    | unsub j =>
      dsimp only [step]
      cases getSub w j with
      | none => exact h
      | some s => dsimp only; cases (s.held && s.live) <;> exact h
    | connect => exact h
    | disconnect k =>
      dsimp only [step]
      cases w.retHandles[k]? with
      | none => exact h
      | some o => cases o <;> exact h
    | push n => exact h
  | emit sid n =>
    dsimp only [step]
    cases w.srcOpen.contains sid with
    | false => exact h
    | true =>
      cases w.subj.isReplay with
      | true =>
        exact List.foldl_pres (P := SInv) _ (fun _ i h => enqueue_inv h n i) _ (h.congr rfl rfl rfl rfl rfl)
      | false => exact h.congr rfl rfl rfl rfl rfl
  | storeConn k => exact setView_inv h _ _
  | recordHandle => exact h.congr rfl rfl rfl rfl rfl
  | subjSub i =>
    dsimp only [step]
    cases w.subj.isReplay with
    | true =>
      exact List.foldl_pres (P := SInv) _ (fun _ n h => enqueue_inv h n i) _ (h.congr rfl rfl rfl rfl rfl)
    | false => exact h.congr rfl rfl rfl rfl rfl
  | ensureActive i =>
    dsimp only [step]
    cases getSub w i with
    | none => exact h
    | some s =>
      dsimp only
      cases (!s.q.isEmpty && !s.acquired) with
      | true => exact setSub_inv h _ _
      | false => exact h
  | schedule i => dsimp only [step]; cases w.tramp <;> exact h.congr rfl rfl rfl rfl rfl
  | trampDrain =>
    dsimp only [step]
    cases w.tramp with
    | none => exact h.congr rfl rfl rfl rfl rfl
    | some l => cases l <;> exact h.congr rfl rfl rfl rfl rfl
  | soRun i =>
    dsimp only [step]
    cases getSub w i with
    | none => exact h
    | some s => dsimp only; cases s.q <;> exact setSub_inv h _ _
  | deliver i n =>
    dsimp only [step]
    cases getSub w i with
    | none => exact h
    | some s =>
      dsimp only
      cases s.stopped with
      | true => exact h
      | false => cases n.isTerminal <;> (apply setSub_inv; exact h.congr rfl rfl rfl rfl rfl)
  | returned i =>
    dsimp only [step]
    cases getSub w i with
    | none => exact h
    | some s => exact setSub_inv h _ _
  | held i =>
    dsimp only [step]
    cases getSub w i with
    | none => exact h
    | some s => exact setSub_inv h _ _
  | disposeSub i =>
    dsimp only [step]
    cases getSub w i with
    | none => exact h
    | some s =>
      dsimp only
      cases s.live with
      | false => exact h
      | true =>
        cases s.view with
        | none => apply setSub_inv; exact h.congr rfl rfl rfl rfl rfl
        | some k => apply setView_inv; apply setSub_inv; exact h.congr rfl rfl rfl rfl rfl

theorem step_inv {w : SW} (h : SInv w) (t : Task) : SInv (step w t).1 := by
  cases t with
  | connect =>
    dsimp only [step]
    split
    · exact h
    · rename_i hs
      have hs' : w.hasSub = false := by simpa using hs
      obtain ⟨h1, h2, h3⟩ := h.off hs'
      refine ⟨by simp [h1], fun hc => by simp at hc, ?_, ?_, ?_⟩
      · intro s hsm
        simp [h1] at hsm
        left; simp [hsm]
      · simp [h2]
      · simp only [h1, List.length_nil, Nat.zero_add]
        exact Nat.max_le.mpr ⟨h.mx, Nat.le_refl 1⟩
  | connectP3 sid =>
    dsimp only [step]
    split
    · rename_i hp
      have hon : w.hasSub = true := by
        cases hs : w.hasSub with
        | true => rfl
        | false => have := (h.off hs).2.2; rw [this] at hp; cases hp
      refine ⟨h.len, (fun hc => by simp only at hc; rw [hon] at hc; cases hc), ?_, (by simp), h.mx⟩
      intro s hsm
      right
      rcases h.own s hsm with hq | ⟨hh, hq⟩
      · rw [hp] at hq
        exact ⟨w.nHandles, by simp at hq; simp [hq]⟩
      · exact absurd ⟨by rw [hp]; rfl, by rw [hq]; rfl⟩ h.excl
    · exact h
  | disposeHandle hd =>
    dsimp only [step]
    split
    · rename_i h' sid hl
      split
      · -- the live composite is disposed: its source subscription is the only one that can be open
        have hpn : w.pending = none := by
          cases hp : w.pending with
          | none => rfl
          | some p => exact absurd ⟨by rw [hp]; rfl, by rw [hl]; rfl⟩ h.excl
        have hall : ∀ x ∈ w.srcOpen, x = sid := by
          intro x hx
          rcases h.own x hx with hq | ⟨hh, hq⟩
          · rw [hpn] at hq; cases hq
          · rw [hl] at hq; simp at hq; exact hq.2.symm
        have he := List.erase_sub_singleton w.srcOpen sid h.len hall
        refine ⟨by simp [he], fun _ => ⟨he, rfl, hpn⟩, by simp [he], by simp, h.mx⟩
      · exact h
    · exact h
  | closeSrc sid =>
    dsimp only [step]
    refine ⟨?_, ?_, ?_, h.excl, h.mx⟩
    · exact Nat.le_trans (List.length_erase_le) h.len
    · intro hs
      obtain ⟨ho, hl, hp⟩ := h.off hs
      exact ⟨by simp [ho], hl, hp⟩
    · intro s hsm
      exact h.own s (List.mem_of_mem_erase hsm)
  | _ => exact step_quiet h _ rfl

theorem exec_inv : ∀ (fuel : Nat) (w : SW) (ts : List Task), SInv w → SInv (exec fuel w ts) := by
  intro fuel
  induction fuel with
  | zero => intro w ts h; exact h
  | succ k ih =>
    intro w ts h
    cases ts with
    | nil => exact h
    | cons t rest =>
      simp only [exec]
      exact ih _ _ (step_inv h t)

theorem run_inv (ops : List SOp) (fuel : Nat) (w : SW) (h : SInv w) : SInv (run w ops fuel) :=
  List.foldl_pres (P := SInv) _ (fun w _ h => exec_inv fuel w _ h) ops h

/-- a freshly built connectable over a synchronous source -/
def SFresh (w : SW) : Prop :=
  w.hasSub = false ∧ w.srcOpen = [] ∧ w.liveHandle = none ∧ w.pending = none ∧ w.maxOpen = 0

theorem SFresh.inv {w : SW} (h : SFresh w) : SInv w := by
  obtain ⟨_, ho, hl, hp, hm⟩ := h
  exact ⟨by simp [ho], fun _ => ⟨ho, hl, hp⟩, by simp [ho], by simp [hl], by simp [hm]⟩

end Conn.Sync
