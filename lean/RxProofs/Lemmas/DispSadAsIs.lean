import RxProofs.Lemmas.DispAssign
/-!
# SingleAssignmentDisposable as written, without the fix (DESIGN §6 #5)

The C26 theorems are about the fixed class (`Disp.sadStep`, `fixes/C26_sad_lock_and_none.patch`). Here: counter-examples,
evaluated on concrete histories / schedules of `Disp.sadAsIsStep` (the line-by-line model of the unfixed
`singleassignmentdisposable.py`), showing that property C26 is false of the unfixed class; `harness/props/C26.py` runs the same
histories and schedules on the real class.

Item 0 is *falsy* (an empty CompositeDisposable: `__len__() == 0`), items 1, 2 are ordinary.
-/
namespace Disp.SadAsIs

def falsy0 : Nat → Bool := fun i => i == 0

/-- **sad_falsy_leak.** History `dispose(); set(empty composite)`: the item assigned after the disposal is
never disposed (`if self.is_disposed and value:` is false for a falsy value) and is not held either. -/
theorem sad_falsy_leak :
    let s := (aInit [[.dispose, .set 0]]).run (sadAsIsStep falsy0) (List.replicate 4 0)
    aQuiet s ∧ s.sh.isDisposed = true ∧ s.sh.given 0 = 1 ∧ s.sh.cnt 0 = 0 ∧ s.sh.current = none := by decide +kernel

/-- **sad_falsy_second_assignment_accepted.** History `set(empty composite); set(1); dispose()`: the second
assignment is accepted (`if self.current:` is false for a falsy current) although the container is neither
disposed nor unassigned, and the first item is lost: never disposed, not even by `dispose()`. -/
theorem sad_falsy_second_assignment_accepted :
    let s := (aInit [[.set 0, .set 1, .dispose]]).run (sadAsIsStep falsy0) (List.replicate 8 0)
    aQuiet s ∧ s.sh.rej 1 = 0 ∧ s.sh.accepted = 2 ∧ s.sh.cnt 0 = 0 ∧ s.sh.dropped 0 = 1 ∧ s.sh.cnt 1 = 1 := by decide +kernel

/-- **sad_double_assign_race.** Two threads assign ordinary items; both pass the unlocked `if self.current:`
test before either takes the lock: both assignments are accepted, item 1 is overwritten and never disposed. -/
theorem sad_double_assign_race :
    let s := (aInit [[.set 1], [.set 2], [.dispose]]).run (sadAsIsStep falsy0) [0, 1, 0, 1, 0, 1, 2, 2]
    aQuiet s ∧ s.sh.accepted = 2 ∧ s.sh.rej 1 = 0 ∧ s.sh.rej 2 = 0 ∧ s.sh.cnt 1 = 0 ∧ s.sh.cnt 2 = 1 := by decide +kernel

/-- **sad_double_dispose_race.** Thread 0 assigns item 1 and is preempted after its lock block; thread 1
disposes the container (disposing item 1); thread 0 then re-reads `self.is_disposed` (now true) and disposes
item 1 a second time. -/
theorem sad_double_dispose_race :
    let s := (aInit [[.set 1], [.dispose]]).run (sadAsIsStep falsy0) [0, 0, 1, 1, 0, 0]
    aQuiet s ∧ s.sh.given 1 = 1 ∧ s.sh.cnt 1 = 2 := by decide +kernel

/-- the two sequential histories, on the fixed model, satisfy the property -/
example : let s := (aInit [[.dispose, .set 0]]).run sadStep (List.replicate 4 0)
    aQuiet s ∧ s.sh.cnt 0 = 1 := by decide +kernel
example : let s := (aInit [[.set 0, .set 1, .dispose]]).run sadStep (List.replicate 8 0)
    aQuiet s ∧ s.sh.rej 1 = 1 ∧ s.sh.cnt 0 = 1 ∧ s.sh.cnt 1 = 0 := by decide +kernel

end Disp.SadAsIs
