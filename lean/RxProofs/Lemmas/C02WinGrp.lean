import RxProofs.Lemmas.WinGrpStep
/-!
# C02/C03 support: the grouping machines release every source subscription

`R1`: once the RefCountDisposable is disposed (= `group_disposable` disposed) everything is released; kept along every run.  With the
reference-count invariant `WinGrp.Inv` this gives the theorems below.
-/
namespace WinGrp
variable {α κ β : Type}

theorem rcdDisposed_gdDispose (s : St κ β) : (gdDispose s).rcdDisposed = s.rcdDisposed := (tear_gdDispose s).disp

/-- **dispose_releases_all.**  For every event trace: in every reached state in which the outer subscription is
disposed (`is_primary_disposed`) and the reference count is 0, neither the source nor any duration observable
is subscribed — i.e. the sources are released as soon as the last group subscriber is gone. -/
theorem dispose_releases_all (cfg : Cfg α κ β) (hrefl : ∀ k, cfg.keyEq k k = true) (evs : List (Ev α)) :
    let s := run cfg (init : St κ β) evs
    s.primary = true → s.count = 0 → Released s := by
  intro s hp hc
  have h := reached hrefl (cfg := cfg) (β := β) evs
  apply h.r1
  cases hd : s.rcdDisposed with
  | true => rfl
  | false => exact absurd hc (Nat.ne_of_gt (h.wf.rc.pos hp hd))

/-- **terminal_releases_all.**  For every event trace: if the outer subscriber is stopped (it received the
terminal — error or completion — or its subscription was disposed) and no group subscriber holds a reference of
the RefCountDisposable any more (every group handed out has terminated or its subscriber has unsubscribed), then
neither the source nor any duration observable is still subscribed. -/
theorem terminal_releases_all (cfg : Cfg α κ β) (hrefl : ∀ k, cfg.keyEq k k = true) (evs : List (Ev α)) :
    let s := run cfg (init : St κ β) evs
    s.outStopped = true → (∀ r ∈ s.groups, r.holdsRef = false) → Released s := by
  intro s ho hnone
  have hw := (inv_reach hrefl (cfg := cfg) (β := β) evs).wf
  -- stopped outer observer: the primary is disposed; nobody holding: the count is 0
  exact dispose_releases_all cfg hrefl evs (hw.out_prim ho) (hw.rc.cnt.trans (List.countP_eq_zero.mpr fun r hr => by simp [hnone r hr]))

/-- **holder_blocks_release** (the converse, what the code does).  While some group subscriber still holds a
reference, the RefCountDisposable is not disposed, the count is positive, and disposing the outer subscription
releases nothing: the source subscription and every duration subscription stay exactly as they are (only
`is_primary_disposed` is set; the release happens when the last holder goes, by `dispose_releases_all`). -/
theorem holder_blocks_release (cfg : Cfg α κ β) (hrefl : ∀ k, cfg.keyEq k k = true) (evs : List (Ev α))
    (r : Grp κ β) :
    let s := run cfg (init : St κ β) evs
    let s' := step cfg s .disposeOuter
    r ∈ s.groups → r.holdsRef = true →
      s.rcdDisposed = false ∧ 0 < s.count ∧ s'.rcdDisposed = false ∧ s'.primary = true ∧
      s'.srcOpen = s.srcOpen ∧ s'.srcStopped = s.srcStopped ∧ s'.groups = s.groups := by
  intro s s' hr hh
  have hi := inv_reach hrefl (cfg := cfg) (β := β) evs
  have hw := hi.wf
  have hd : s.rcdDisposed = false := by
    cases hd : s.rcdDisposed with
    | false => rfl
    | true =>
      have := hw.nr hd r hr
      rw [hh] at this; cases this
  have hpos : 0 < s.count := by
    rw [hw.rc.cnt]; exact List.countP_pos_iff.mpr ⟨r, hr, hh⟩
  have hne : ¬ (s.count = 0) := by omega
  refine ⟨hd, hpos, ?_⟩
  have hs' : s' = rcdDispose { s with outStopped := true } := rfl
  rw [hs']
  unfold rcdDispose
  by_cases hp : s.primary <;> simp [hd, hp, hne]

def exCfg2 : Cfg Nat Nat Nat :=
  { keyEq := fun a b => a == b, keyMapper := fun x => .ok (x % 2), elemMapper := fun x => .ok x,
    subjMapper := fun _ => .ok (), durMapper := fun _ => .ok (), dsync := fun _ => none, imm := fun _ => true }

/-- outer disposed while two group subscribers hold references: nothing released; released once both are gone -/
example : (let s := run exCfg2 init [.src (.next 1), .src (.next 2), .disposeOuter]
    (s.primary, s.count, s.srcOpen, s.groups.map fun r => decide (r.dur = .live))) = (true, 2, true, [true, true]) := by decide
example : (let s := run exCfg2 init [.src (.next 1), .src (.next 2), .disposeOuter, .disposeGroup 0, .disposeGroup 1]
    (s.primary, s.count, s.srcOpen, s.groups.map fun r => decide (r.dur = .live))) = (true, 0, false, [false, false]) := by decide
/-- source completion: groups and outer terminate, everything released -/
example : (let s := run exCfg2 init [.src (.next 1), .src (.next 2), .src .completed]
    (s.outStopped, s.groups.map (·.holdsRef), s.srcOpen, s.groups.map fun r => decide (r.dur = .live))) =
    (true, [false, false], false, [false, false]) := by decide
end WinGrp
