import RxProofs.Lemmas.SubjReplayInv
/-!
# ReplaySubject: what is queued for a subscriber (`enq`), and what its AutoDetachObserver lets through to the user (`UInv`, `Ado`)
-/

namespace SubjReplay
open Subj (Call upd disposedExn)
variable {α : Type}

theorem emit_enq (cfg : Cfg α) {st : St α} (h : RInv cfg st) (who : Option Id) (n : Notif α) (hd : st.disposed = false)
    (hs : st.stopped = false) (k : Id) :
    (emit cfg st who n).enq k = if k ∈ st.observers then st.enq k ++ [n] else st.enq k := by
  rw [emit_eq, if_neg (by simp [hd]), if_neg (by simp [hs]), accept_closed cfg st n h.nodup]
  exact (pushed_enq _ _ n k).trans (h.ite_live hs k (st.enq k ++ [n]) (st.enq k))

theorem doSub_enq (cfg : Cfg α) {st : St α} (h : RInv cfg st) (who : Option Id) (j : Id)
    (hj : st.seen j = false) (hd : st.disposed = false) :
    (doSub cfg st who j).1.enq j =
      (trim cfg st.clock st.queue).map (fun it => Notif.next it.2) ++ terminalOf st ∧
    (doSub cfg st who j).1.observers = st.observers ++ [j] ∧
    (doSub cfg st who j).2 = [] := by
  have hf := h.freshAt hj
  rw [doSub_eq, if_neg (by simp [hj]), if_neg (by simp [markSub, hd])]
  refine ⟨?_, by rw [subscribeCore_closed cfg (markSub st j) j hf.soStopped]; rfl, rfl⟩
  rw [subscribeCore_enq cfg (markSub st j) j j hf.soStopped, if_pos rfl]
  show st.enq j ++ _ = _
  rw [hf.enq]; rfl

def notifs (l : List (Nat × Notif α)) : List (Notif α) := l.map (·.2)

structure UInv (st : St α) : Prop where
  all : ∀ i, st.adoStopped i = false → notifs (st.log i) = st.fed i
  pre : ∀ i, notifs (st.log i) <+: st.fed i

structure UFrame (st st' : St α) : Prop where
  log : st'.log = st.log
  fed : st'.fed = st.fed
  adoStopped : st'.adoStopped = st.adoStopped

theorem UFrame.trans {a b c : St α} (h1 : UFrame a b) (h2 : UFrame b c) : UFrame a c :=
  ⟨h2.log.trans h1.log, h2.fed.trans h1.fed, h2.adoStopped.trans h1.adoStopped⟩

theorem SubjWrites.uframe {st st' : St α} (w : SubjWrites st st') : UFrame st st' :=
  ⟨(congrArg St.log w :), (congrArg St.fed w :), (congrArg St.adoStopped w :)⟩

theorem DispWrites.uframe {st st' : St α} (w : DispWrites st st') : UFrame st st' :=
  ⟨(congrArg St.log w :), (congrArg St.fed w :), (congrArg St.adoStopped w :)⟩

/-- What a step can do to one AutoDetachObserver, seen as (what its user has seen, what it has been handed, whether it is
stopped).  `swallow`: an error it has no handler for, from its ScheduledObserver or as the refusal of its subscription. -/
inductive AdoStep : List (Nat × Notif α) × List (Notif α) × Bool → List (Nat × Notif α) × List (Notif α) × Bool → Prop
  | same (a) : AdoStep a a
  | stop (l f s) : AdoStep (l, f, s) (l, f, true)
  | deliver (l f t n s') : AdoStep (l, f, false) (l ++ [(t, n)], f ++ [n], s')
  | drop (l f n) : AdoStep (l, f, true) (l, f ++ [n], true)
  | swallow (l f n) : AdoStep (l, f, false) (l, f ++ [n], true)

def Ado (st st' : St α) : Prop :=
  ∀ i, AdoStep (st.log i, st.fed i, st.adoStopped i) (st'.log i, st'.fed i, st'.adoStopped i)

theorem UFrame.ado {st st' : St α} (f : UFrame st st') : Ado st st' := by
  intro i
  rw [f.log, f.fed, f.adoStopped]
  exact .same _

theorem Ado.then_uframe {a b c : St α} (h : Ado a b) (f : UFrame b c) : Ado a c := by
  intro i
  rw [f.log, f.fed, f.adoStopped]
  exact h i

theorem UFrame.then_ado {a b c : St α} (f : UFrame a b) (h : Ado b c) : Ado a c := by
  intro i
  rw [← f.log, ← f.fed, ← f.adoStopped]
  exact h i

theorem Ado.at {st st' : St α} (i : Id)
    (hi : AdoStep (st.log i, st.fed i, st.adoStopped i) (st'.log i, st'.fed i, st'.adoStopped i))
    (ho : ∀ k, k ≠ i → st'.log k = st.log k ∧ st'.fed k = st.fed k ∧ st'.adoStopped k = st.adoStopped k) : Ado st st' := by
  intro k
  by_cases e : k = i
  · rw [e]; exact hi
  · rw [(ho k e).1, (ho k e).2.1, (ho k e).2.2]; exact .same _

theorem UInv.step {st st' : St α} (h : UInv st) (s : Ado st st') : UInv st' := by
  have key : ∀ i, (st'.adoStopped i = false → notifs (st'.log i) = st'.fed i) ∧ notifs (st'.log i) <+: st'.fed i := by
    intro i
    have hs := s i
    have ha := h.all i
    have hp := h.pre i
    generalize st.log i = l, st.fed i = f, st.adoStopped i = b, st'.log i = l', st'.fed i = f', st'.adoStopped i = b' at hs ha hp ⊢
    cases hs with
    | same => exact ⟨ha, hp⟩
    | stop => exact ⟨nofun, hp⟩
    | deliver l f t n =>
      have : notifs (l ++ [(t, n)]) = f ++ [n] := by rw [← ha rfl]; simp [notifs]
      rw [this]; exact ⟨fun _ => rfl, List.prefix_refl _⟩
    | drop => exact ⟨nofun, hp.trans (List.prefix_append _ _)⟩
    | swallow => exact ⟨nofun, hp.trans (List.prefix_append _ _)⟩
  exact ⟨fun i => (key i).1, fun i => (key i).2⟩

/-- **replay_dispose_stops** (frame form): once an observer's AutoDetachObserver is stopped — it was
unsubscribed, or handed a terminal — nothing that can happen to it changes what its user has seen. -/
theorem Ado.quiet {st st' : St α} (s : Ado st st') (i : Id) (hs : st.adoStopped i = true) :
    st'.log i = st.log i ∧ st'.adoStopped i = true := by
  have hi := s i
  generalize st.log i = l, st.fed i = f, st.adoStopped i = b, st'.log i = l', st'.fed i = f', st'.adoStopped i = b' at hi hs ⊢
  cases hi with
  | same => exact ⟨rfl, hs⟩
  | stop => exact ⟨rfl, rfl⟩
  | deliver => cases hs
  | drop => exact ⟨rfl, rfl⟩
  | swallow => cases hs

theorem adoStop_ado (st : St α) (j : Id) : Ado st (adoStop st j) :=
  .at j (by show AdoStep _ (_, _, upd st.adoStopped j true j); rw [upd_self]; exact .stop ..) fun k hk => ⟨rfl, rfl, upd_ne _ _ hk⟩

theorem doSub_ado (cfg : Cfg α) {st : St α} (hI : RInv cfg st) (who : Option Id) (j : Id) : Ado st (doSub cfg st who j).1 := by
  refine doSub_cases (P := fun r => Ado st r.1) cfg st who j (fun _ => UFrame.ado ⟨rfl, rfl, rfl⟩) (fun hj _ => ?_) (fun hj _ => ?_)
    fun _ _ => UFrame.ado (UFrame.trans (b := markSub st j) ⟨rfl, rfl, rfl⟩ (subscribeCore_writes cfg _ j).uframe)
  -- a refused subscription: the exception is all the (fresh) observer is handed
  · refine .at j ?_ fun k hk => ⟨upd_ne _ _ hk, upd_ne _ _ hk, upd_ne _ _ hk⟩
    show AdoStep (st.log j, st.fed j, st.adoStopped j)
      (upd st.log j (st.log j ++ [(st.clock, .error disposedExn)]) j, upd st.fed j [.error disposedExn] j, upd st.adoStopped j true j)
    rw [upd_self, upd_self, upd_self, (hI.freshAt hj).fed, (hI.freshAt hj).adoStopped]
    exact .deliver _ [] ..
  · refine Ado.then_uframe (b := failMark (markSub st j) j) (.at j ?_ fun k hk => ⟨rfl, upd_ne _ _ hk, upd_ne _ _ hk⟩)
      (by cases who <;> exact ⟨rfl, rfl, rfl⟩)
    show AdoStep (st.log j, st.fed j, st.adoStopped j) (st.log j, upd st.fed j [.error disposedExn] j, upd st.adoStopped j true j)
    rw [upd_self, upd_self, (hI.freshAt hj).fed, (hI.freshAt hj).adoStopped]
    exact .swallow _ [] _

theorem doUnsub_ado (st : St α) (j : Id) : Ado st (doUnsub st j) := by
  rw [doUnsub_eq]
  split
  · exact (adoStop_ado st j).then_uframe (UFrame.trans (b := logUnsub st j) ⟨rfl, rfl, rfl⟩ (sadDispose_writes _ j).uframe)
  · exact UFrame.ado ⟨rfl, rfl, rfl⟩

theorem soRun_ado (cfg : Cfg α) (st : St α) (i : Id) : Ado st (soRun cfg st i) := by
  refine soRun_cases (P := Ado st) cfg st i (fun hq => ?_) fun n rest hq => ?_
  · exact UFrame.ado ⟨rfl, rfl, rfl⟩
  · have fin : ∀ r : St α × List (Task α) × Option Err, UFrame r.1 (finishRun i r) := fun r =>
      ⟨(congrArg St.log (finishRun_writes i r) :), (congrArg St.fed (finishRun_writes i r) :),
       (congrArg St.adoStopped (finishRun_writes i r) :)⟩
    have shown : st.adoStopped i = false → ∀ as : Id → Bool, (∀ k, k ≠ i → as k = st.adoStopped k) →
        Ado st (callback { popped st i n rest with adoStopped := as } i n) := fun hs as has => by
      refine .at i ?_ fun k hk => ⟨upd_ne _ _ hk, upd_ne _ _ hk, has k hk⟩
      show AdoStep (st.log i, st.fed i, st.adoStopped i)
        (upd st.log i (st.log i ++ [(st.clock, n)]) i, upd st.fed i (st.fed i ++ [n]) i, as i)
      rw [upd_self, upd_self, hs]; exact .deliver ..
    refine (adoDeliver_cases (P := fun r => Ado st r.1) cfg (popped st i n rest) i n (fun hs => ?_) (fun hs => ?_)
      fun e _ hs => ?_).then_uframe (fin _)
    · refine .at i ?_ fun k hk => ⟨rfl, upd_ne _ _ hk, rfl⟩
      show AdoStep (st.log i, st.fed i, st.adoStopped i) (st.log i, upd st.fed i (st.fed i ++ [n]) i, st.adoStopped i)
      rw [upd_self, show st.adoStopped i = true from hs]; exact .drop ..
    · split
      · exact shown hs _ fun k hk => upd_ne _ _ hk
      · exact shown hs _ fun _ _ => rfl
    · refine Ado.then_uframe (b := adoStop (popped st i n rest) i) (.at i ?_ fun k hk => ⟨rfl, upd_ne _ _ hk, upd_ne _ _ hk⟩)
        (sadDispose_writes _ i).uframe
      show AdoStep (st.log i, st.fed i, st.adoStopped i) (st.log i, upd st.fed i (st.fed i ++ [n]) i, upd st.adoStopped i true i)
      rw [upd_self, upd_self, show st.adoStopped i = false from hs]; exact .swallow ..

theorem UFrame.dequeue (st : St α) (rest : List (Item α)) (due : Nat) : UFrame st (advance (withPending st rest) due) := by
  rw [(advance_clock (withPending st rest) due).2]; exact ⟨rfl, rfl, rfl⟩

theorem Step.ado {cfg : Cfg α} {st st' : St α} (s : Step cfg st st') (hI : RInv cfg st) : Ado st st' := by
  have pop : ∀ ts, UFrame st (withAgenda st ts) := fun _ => ⟨rfl, rfl, rfl⟩
  cases s with
  | stay => exact UFrame.ado ⟨rfl, rfl, rfl⟩
  | @emit who n ts ha =>
    have hl : UFrame (withAgenda st ts) (logEmit (withAgenda st ts) who n) := by cases who <;> exact ⟨rfl, rfl, rfl⟩
    exact (((pop ts).trans hl).trans (emit_writes cfg _ who n).uframe).ado
  | @sub who j ts ha =>
    have hp : UFrame (doSub cfg (withAgenda st ts) who j).1 (pushAgenda (doSub cfg (withAgenda st ts) who j)) := ⟨rfl, rfl, rfl⟩
    exact (pop ts).then_ado ((doSub_ado cfg (hI.pop ha) who j).then_uframe hp)
  | @unsub who j ts ha => exact (pop ts).then_ado (doUnsub_ado _ j)
  | @dispose who ts ha =>
    have hd : UFrame (withAgenda st ts) (subjDispose (withAgenda st ts)) := ⟨rfl, rfl, rfl⟩
    exact ((pop ts).trans hd).ado
  | @detach i ts ha => exact ((pop ts).trans (sadDispose_writes _ i).uframe).ado
  | @resched i ts ha =>
    have hr : UFrame (withAgenda st ts) (scheduleRun (withAgenda st ts) i).1 := ⟨rfl, rfl, rfl⟩
    exact ((pop ts).trans hr).ado
  | @handle j ts ha =>
    have hh : UFrame (withAgenda st ts) (setHandle (withAgenda st ts) j) := ⟨rfl, rfl, rfl⟩
    exact ((pop ts).trans hh).ado
  | @skip it rest ha hp hx => exact (UFrame.dequeue st rest it.due).ado
  | @callEmit it rest k c n ha hp hx hk hn =>
    have hc : ∀ a : St α, UFrame a (startCall a k c) := fun _ => ⟨rfl, rfl, rfl⟩
    exact (((UFrame.dequeue st rest it.due).trans (hc _)).trans (emit_writes cfg _ none n).uframe).ado
  | @callAsk it rest k c ha hp hx hk hn =>
    have hc : ∀ a : St α, UFrame a (withAgenda (startCall a k c) [.act none (.base (asked c))]) := fun _ => ⟨rfl, rfl, rfl⟩
    exact ((UFrame.dequeue st rest it.due).trans (hc _)).ado
  | @run it rest i ha hp hx hk => exact (UFrame.dequeue st rest it.due).then_ado (soRun_ado cfg _ i)

theorem init_uinv {s0 : St α} (w : SchedWrites {} s0) : UInv s0 :=
  UInv.step (st := {}) ⟨fun _ _ => rfl, fun _ => List.prefix_refl _⟩ w.so.subj.uframe.ado

theorem soRun_enq (cfg : Cfg α) (st : St α) (i : Id) : (soRun cfg st i).enq = st.enq := by
  refine soRun_cases (P := fun s => s.enq = st.enq) cfg st i (fun _ => rfl) fun n rest _ => ?_
  exact (congrArg St.enq (finishRun_writes i _) :).trans (congrArg St.enq (adoDeliver_writes cfg (popped st i n rest) i n) :)

theorem doTask_enq (cfg : Cfg α) (st : St α) (t : Task α) (hsub : ∀ who j, t ≠ .act who (.base (.sub j)))
    (hemit : ∀ who n, t ≠ .act who (.emit n)) :
    (doTask cfg st t).enq = st.enq := by
  cases t with
  | act who a =>
    cases a with
    | emit n => exact absurd rfl (hemit who n)
    | base a =>
    cases a with
    | sub j => exact absurd rfl (hsub who j)
    | unsub j =>
      rw [doTask_unsub, doUnsub_eq]
      split
      · exact (congrArg St.enq (sadDispose_writes _ j) :)
      · rfl
    | dispose => rw [doTask_dispose]; rfl
  | sadDispose i => rw [doTask_sadDispose]; exact (congrArg St.enq (sadDispose_writes st i) :)
  | resched i => rw [doTask_resched]; rfl
  | handle j => rw [doTask_handle]; rfl

theorem doSub_enq_other (cfg : Cfg α) {st : St α} (h : RInv cfg st) (who : Option Id) (j k : Id) (hk : k ≠ j) :
    (doSub cfg st who j).1.enq k = st.enq k := by
  refine doSub_cases (P := fun r => r.1.enq k = st.enq k) cfg st who j (fun _ => rfl) (fun _ _ => upd_ne _ _ hk) (fun _ _ => ?_)
    fun hj _ => (subscribeCore_enq cfg (markSub st j) j k (h.freshAt hj).soStopped).trans (if_neg hk)
  cases who <;> exact upd_ne _ _ hk

end SubjReplay
