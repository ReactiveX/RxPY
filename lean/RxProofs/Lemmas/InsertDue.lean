/-!
# Stable insertion into a list sorted by due time

`insertDue due q n` puts `n` behind every element of `q` that is due no later: the `(due, seq)` order of a scheduler queue.
The models write this function out once per queue; each copy is shown equal to `insertDue` where its lemmas are needed
(`Pure.Sources.Sim.enqueue` is only ever evaluated on literal queues).
-/

namespace List
universe u
variable {β : Type u}

def insertDue (due : β → Int) : List β → β → List β
  | [], n => [n]
  | x :: xs, n => if due x ≤ due n then x :: insertDue due xs n else n :: x :: xs

variable (due : β → Int)

theorem insertDue_eq (q : List β) (n : β) :
    insertDue due q n = q.takeWhile (fun x => decide (due x ≤ due n)) ++ n :: q.dropWhile (fun x => decide (due x ≤ due n)) := by
  induction q with
  | nil => rfl
  | cons x xs ih =>
    simp only [insertDue]
    by_cases h : due x ≤ due n
    · simp [h, ih]
    · simp [h]

theorem length_insertDue (q : List β) (n : β) : (insertDue due q n).length = q.length + 1 := by
  induction q with
  | nil => rfl
  | cons x xs ih => simp only [insertDue]; split <;> simp [ih]

theorem mem_insertDue (q : List β) (n x : β) : x ∈ insertDue due q n ↔ x = n ∨ x ∈ q := by
  induction q with
  | nil => simp [insertDue]
  | cons y ys ih =>
    simp only [insertDue]
    split
    · simp only [List.mem_cons, ih]; exact or_left_comm
    · simp

theorem sorted_dropWhile_gt (q : List β) (d : Int) (hq : q.Pairwise (fun a b => due a ≤ due b)) :
    ∀ x ∈ q.dropWhile (fun x => decide (due x ≤ d)), d < due x := by
  induction q with
  | nil => simp
  | cons x xs ih =>
    simp only [List.pairwise_cons] at hq
    by_cases h : due x ≤ d
    · simp [h]; exact ih hq.2
    · simp [h]
      refine ⟨by omega, ?_⟩
      intro y hy; have := hq.1 y hy; omega

/-- inserting `n` into the middle of the last segment: pairwise facts for a relation `R`. -/
theorem pairwise_insertDue {γ} (R : γ → γ → Prop) (f : β → γ) (A : List γ) (q : List β) (n : β)
    (hq : q.Pairwise (fun a b => due a ≤ due b))
    (h : (A ++ q.map f).Pairwise R)
    (hA : ∀ a ∈ A, R a (f n))
    (hle : ∀ x ∈ q, due x ≤ due n → R (f x) (f n))
    (hgt : ∀ x ∈ q, due n < due x → R (f n) (f x)) :
    (A ++ (insertDue due q n).map f).Pairwise R := by
  rw [insertDue_eq]
  have hsplit := List.takeWhile_append_dropWhile (p := fun x => decide (due x ≤ due n)) (l := q)
  rw [← hsplit] at h
  simp only [List.map_append, List.map_cons, List.pairwise_append, List.pairwise_cons, List.mem_append, List.mem_cons,
    List.mem_map, forall_exists_index, and_imp] at h ⊢
  obtain ⟨hA0, ⟨hT, hD, hTD⟩, hAq⟩ := h
  have mT : ∀ x, x ∈ q.takeWhile (fun x => decide (due x ≤ due n)) → x ∈ q := fun x hx => (List.takeWhile_sublist _).subset hx
  have mD : ∀ x, x ∈ q.dropWhile (fun x => decide (due x ≤ due n)) → x ∈ q := fun x hx => (List.dropWhile_sublist _).subset hx
  refine ⟨hA0, ⟨hT, ⟨?_, hD⟩, ?_⟩, ?_⟩
  · intro b x hx hb; subst hb
    exact hgt x (mD x hx) (sorted_dropWhile_gt due q (due n) hq x hx)
  · intro a x hx ha b hb; subst ha
    rcases hb with rfl | ⟨y, hy, rfl⟩
    · exact hle x (mT x hx) (by simpa using all_eq_true.mp (all_takeWhile (l := q)) x hx)
    · exact hTD _ x hx rfl _ y hy rfl
  · intro a ha b hb
    rcases hb with ⟨y, hy, rfl⟩ | rfl | ⟨y, hy, rfl⟩
    · exact hAq a ha _ (Or.inl ⟨y, hy, rfl⟩)
    · exact hA a ha
    · exact hAq a ha _ (Or.inr ⟨y, hy, rfl⟩)

theorem insertDue_sorted (q : List β) (n : β) (hq : q.Pairwise (fun a b => due a ≤ due b)) :
    (insertDue due q n).Pairwise (fun a b => due a ≤ due b) := by
  have := pairwise_insertDue due (fun a b => due a ≤ due b) id [] q n hq (by simpa using hq) (by simp)
    (fun _ _ h => h) (fun _ _ h => by simp only [id]; omega)
  simpa using this

theorem insertDue_last (q : List β) (n : β) (h : ∀ x ∈ q, due x ≤ due n) : insertDue due q n = q ++ [n] := by
  induction q with
  | nil => rfl
  | cons x xs ih =>
    simp only [insertDue, h x mem_cons_self, if_true, ih fun y hy => h y (mem_cons_of_mem _ hy), cons_append]

theorem foldl_insertDue_sorted (q xs : List β) (h : (q ++ xs).Pairwise (fun a b => due a ≤ due b)) :
    xs.foldl (insertDue due) q = q ++ xs := by
  induction xs generalizing q with
  | nil => rw [foldl_nil, append_nil]
  | cons x r ih =>
    have hq : ∀ y ∈ q, due y ≤ due x := fun y hy => (pairwise_append.1 h).2.2 y hy x mem_cons_self
    rw [foldl_cons, insertDue_last due q x hq, ih _ (by rwa [append_assoc, singleton_append]), append_assoc,
      singleton_append]

end List
