import RxProofs.Lemmas.WinOps
import RxProofs.Lemmas.RefCount
/-!
# The release invariants of the bookkeeping: `Rel` and `SrcKept`.
-/
namespace Win
variable {α : Type}

/-- the RefCountDisposable counts exactly the attached window subscribers; the underlying
disposable (all source / boundary / closing subscriptions and timers) is disposed exactly when the primary was
disposed (outer terminal or dispose) and no subscriber is attached; after that nothing is live. -/
structure Rel (b : Base α) : Prop where
  cnt : b.rcDisposed = false → b.count = b.attachedCount
  disp_prim : b.rcDisposed = true → b.primary = true
  prim_iff : b.primary = b.outerStopped
  dead : b.rcDisposed = true → b.live = []
  zero : b.primary = true → b.rcDisposed = false → 0 < b.count
  hold : b.rcDisposed = true → b.attachedCount = 0

/-- while the underlying disposable is alive the bookkeeping clauses are `RC` (afterwards `Rel` does not track `count`) -/
theorem Rel.rc {b : Base α} (h : Rel b) (hd : b.rcDisposed = false) : RC b.primary false b.count b.attachedCount := by
  refine ⟨h.cnt hd, ?_⟩
  cases hp : b.primary with
  | false => exact (Bool.and_false _).symm
  | true => rw [Bool.and_true]; exact (Bool.eq_false_iff.mpr fun h0 => Nat.ne_of_gt (h.zero hp hd) (beq_iff_eq.mp h0)).symm

theorem Rel.of_rc {b : Base α} (h : RC b.primary b.rcDisposed b.count b.attachedCount) (hp : b.primary = b.outerStopped)
    (hl : b.rcDisposed = true → b.live = []) : Rel b :=
  ⟨fun _ => h.cnt, h.disp_prim, hp, hl, h.pos, h.no_holder⟩

theorem Rel.alive {b : Base α} (h : Rel b) (hos : b.outerStopped = false) : b.primary = false ∧ b.rcDisposed = false := by
  have hp : b.primary = false := by rw [h.prim_iff]; exact hos
  exact ⟨hp, Bool.eq_false_iff.mpr fun hd => by have := h.disp_prim hd; rw [hp] at this; cases this⟩

namespace Base

theorem Rel_of_fields {b b' : Base α} (hf : Unsubbed b b') (hl : b.rcDisposed = true → b'.live = []) (h : Rel b) : Rel b' := by
  refine ⟨?_, ?_, ?_, ?_, ?_, ?_⟩
  · intro h1; rw [hf.count, attachedCount, hf.wins]; exact h.cnt (hf.rcDisposed ▸ h1)
  · intro h1; rw [hf.primary]; exact h.disp_prim (hf.rcDisposed ▸ h1)
  · rw [hf.primary, hf.outerStopped]; exact h.prim_iff
  · intro h1; exact hl (hf.rcDisposed ▸ h1)
  · intro h1 h2; rw [hf.count]; exact h.zero (hf.primary ▸ h1) (hf.rcDisposed ▸ h2)
  · intro h1; rw [attachedCount, hf.wins]; exact h.hold (hf.rcDisposed ▸ h1)

theorem Rel_emit (b : Base α) (o) (h : Rel b) : Rel (b.emit o) :=
  Rel_of_fields (b := b) ⟨rfl, rfl, rfl, rfl, rfl⟩ h.dead h
theorem Rel_now (b : Base α) (t) (h : Rel b) : Rel ({ b with now := t } : Base α) :=
  Rel_of_fields (b := b) ⟨rfl, rfl, rfl, rfl, rfl⟩ h.dead h

theorem Rel_unsub (b : Base α) (k) (h : Rel b) : Rel (b.unsub k) := by
  refine Rel_of_fields (unsubbed_unsub b k) ?_ h
  intro hd
  have := h.dead hd
  unfold unsub; rw [this]; simp [this]

/-- subscribing is only done while the underlying disposable is alive … -/
theorem Rel_subscribe (b : Base α) (k) (hnd : b.rcDisposed = false) (h : Rel b) : Rel (b.subscribe k) :=
  Rel_of_fields (b := b) ⟨rfl, rfl, rfl, rfl, rfl⟩ (by intro hd; rw [hnd] at hd; cases hd) h

/-- … or the fresh subscription is disposed as soon as it is assigned. -/
theorem Rel_subscribe_unsub (b : Base α) (k) (hd : b.rcDisposed = true) (h : Rel b) : Rel ((b.subscribe k).unsub k) := by
  refine Rel_of_fields (b := b) (Unsubbed.trans (b' := b.subscribe k) ⟨rfl, rfl, rfl, rfl, rfl⟩ (unsubbed_unsub _ k)) ?_ h
  intro _
  have hl := h.dead hd
  simp [unsub, subscribe, emit, hl]

theorem Rel_settle (b : Base α) (hrc : RC b.primary b.rcDisposed b.count b.attachedCount) (hp : b.primary = b.outerStopped) :
    Rel b.settle := by
  have hf := unsubbed_settle b
  refine Rel.of_rc ?_ (by rw [hf.primary, hf.outerStopped]; exact hp) fun hd => ?_
  · rw [hf.primary, hf.rcDisposed, hf.count, attachedCount, hf.wins]; exact hrc
  · rw [hf.rcDisposed] at hd; rw [settle_disposed hd]; exact live_disposeUnderlying b

theorem Rel_outerStop (b : Base α) (l : List (Nat × Out α)) (h : Rel b) (hos : b.outerStopped = false) :
    Rel (rcDispose ({ b with outerStopped := true, log := l } : Base α)) := by
  obtain ⟨hp, hr⟩ := h.alive hos
  rw [rcDispose_alive (b := { b with outerStopped := true, log := l }) hr hp]
  exact Rel_settle _ (h.rc hr).dispose rfl

theorem Rel_outerEnd (b : Base α) (e) (h : Rel b) : Rel (b.outerEnd e) := by
  unfold outerEnd
  by_cases hos : b.outerStopped = true
  · simp [hos]; exact h
  · have hos' : b.outerStopped = false := by simpa using hos
    simp only [hos', Bool.false_eq_true, if_false, emit]
    exact Rel_outerStop b _ h hos'

theorem Rel_outerDispose (b : Base α) (h : Rel b) : Rel b.outerDispose := by
  unfold outerDispose
  by_cases hos : b.outerStopped = true
  · have hp : b.primary = true := by rw [h.prim_iff]; exact hos
    have : ({ b with outerStopped := true } : Base α) = b := by cases b; simp_all
    have hid : b.rcDispose = b := rcDispose_idle (Or.inr hp)
    rw [this, hid]; exact h
  · have hos' : b.outerStopped = false := by simpa using hos
    exact Rel_outerStop b b.log h hos'

/-- a subscriber of window `i` goes away (window terminal or explicit dispose): `attached := false`, then `release`. -/
theorem Rel_detach {b : Base α} {i : Nat} {w : W α} (w' : W α) (l : List (Nat × Out α)) (hw : b.wins[i]? = some w)
    (ha : w.attached = true) (ha' : w'.attached = false) (h : Rel b) : Rel (b.setWin i w' l).rcRelease := by
  have hcount : (b.setWin i w' l).attachedCount + 1 = b.attachedCount := by
    have := List.countP_set_add (·.attached) hw w'
    rw [ha, ha'] at this; exact this
  cases hd : b.rcDisposed with
  | true => have := h.hold hd; omega
  | false =>
    have hrc := (hcount ▸ h.rc hd : RC b.primary false b.count ((b.setWin i w' l).attachedCount + 1)).release.2
    rw [rcRelease_alive (b := b.setWin i w' l) hd]
    exact Rel_settle _ hrc h.prim_iff

theorem Rel_setWin {b : Base α} {i : Nat} {w : W α} (w' : W α) (l : List (Nat × Out α)) (hw : b.wins[i]? = some w)
    (ha : w'.attached = w.attached) (h : Rel b) : Rel (b.setWin i w' l) := by
  have hc : (b.setWin i w' l).attachedCount = b.attachedCount := by
    have := List.countP_set_add (·.attached) hw w'
    rw [ha] at this; show (b.wins.set i w').countP (·.attached) = b.wins.countP (·.attached); omega
  exact ⟨fun hd => by rw [hc]; exact h.cnt hd, h.disp_prim, h.prim_iff, h.dead, h.zero, fun hd => by rw [hc]; exact h.hold hd⟩

theorem Rel_winNext (b : Base α) (i : Nat) (x : α) (h : Rel b) : Rel (b.winNext i x) := by
  rcases winNext_cases b i x with ⟨-, he⟩ | ⟨w, ho, he⟩ <;> rw [he]
  · exact h
  · exact Rel_setWin _ _ ho.get rfl h

theorem Rel_winEnd (b : Base α) (i : Nat) (e : Option Err) (h : Rel b) : Rel (b.winEnd i e) := by
  rcases winEnd_cases b i e with ⟨-, he⟩ | ⟨w, ho, he⟩ <;> rw [he]
  · exact h
  · split
    · next ha => exact Rel_detach _ _ ho.get ha rfl h
    · next ha => exact Rel_setWin _ _ ho.get (by simpa using ha) h

theorem Rel_winDetach (b : Base α) (i : Nat) (h : Rel b) : Rel (b.winDetach i) := by
  rcases winDetach_cases b i with he | ⟨w, hw, ha, he⟩ <;> rw [he]
  · exact h
  · exact Rel_detach _ _ hw ha rfl h

theorem Rel_disposeEv (b : Base α) (w : Bool) (h : Rel b) : Rel (b.disposeEv w) := by
  unfold disposeEv; simp only []; split
  · exact List.foldl_pres _ Rel_winDetach _ (Rel_outerDispose b h)
  · exact Rel_outerDispose b h

/-- a fresh window handed to the outer observer: attached and counted (or, if the outer observer is stopped, neither). -/
theorem Rel_open (b : Base α) (h : Rel b) : Rel (b.newWin.1.outerNext b.wins.length) := by
  rcases open_cases b with ⟨-, he⟩ | ⟨hos, he⟩ <;> rw [he]
  · have hc : (b.wins ++ [({} : W α)]).countP (·.attached) = b.attachedCount := by simp [attachedCount, List.countP_append]
    exact ⟨fun hd => (h.cnt hd).trans hc.symm, h.disp_prim, h.prim_iff, h.dead, h.zero, fun hd => hc.trans (h.hold hd)⟩
  · obtain ⟨-, hr⟩ := h.alive hos
    have hc : (b.wins ++ [({ attached := true } : W α)]).countP (·.attached) = b.attachedCount + 1 := by
      simp [attachedCount, List.countP_append]
    simp only [hr, Bool.false_eq_true, if_false]
    refine Rel.of_rc (?_ : RC b.primary false (b.count + 1) ((b.wins ++ [({ attached := true } : W α)]).countP (·.attached))) h.prim_iff nofun
    rw [hc]; exact (h.rc hr).acquire

end Base

theorem Rel_empty (t0 : Nat) : Rel ({ now := t0 } : Base α) :=
  ⟨fun _ => rfl, fun h => by simp at h, rfl, fun h => by simp at h, fun h => by simp at h, fun h => by simp at h⟩

open Base in
theorem Rel.inv {keep closed : Prop} : Base.Inv keep closed (fun (b : Base α) _ => Rel b) where
  now t _ _ h := Base.Rel_now _ t h
  ops h hr := by
    induction h with
    | refl => exact hr
    | emit o _ _ ih => exact Rel_emit _ o ih
    | subscribe k hd _ ih => exact Rel_subscribe _ k hd ih
    | subscribeDead k hd _ ih => exact Rel_subscribe_unsub _ k hd ih
    | unsub k _ _ ih => exact Rel_unsub _ k ih
    | push i x _ _ ih => exact Rel_winNext _ i x ih
    | winEnd i e _ ih => exact Rel_winEnd _ i e ih
    | open_ _ ih => exact Rel_open _ ih
    | outerEnd e _ ih => exact Rel_outerEnd _ e ih
    | disposeEv w _ ih => exact Rel_disposeEv _ w ih
    | drop _ _ _ _ ih => exact ih

/-- outer observer stopped (terminal or dispose) and no window subscriber attached ⇒ the underlying
disposable was disposed and no subscription of the operator is live. -/
theorem released {b : Base α} (h : Rel b) (ho : b.outerStopped = true) (ha : b.attachedCount = 0) :
    b.rcDisposed = true ∧ b.live = [] := by
  have hp : b.primary = true := by rw [h.prim_iff]; exact ho
  cases hd : b.rcDisposed with
  | true => exact ⟨rfl, h.dead hd⟩
  | false => exact nomatch (h.rc hd).released hp ha

/-- as long as the underlying disposable is alive, the windowed source (id 0) is still subscribed. -/
def SrcKept (b : Base α) : Prop := b.rcDisposed = false → 0 ∈ b.live

namespace Base

theorem SK_same {b b' : Base α} (hr : b'.rcDisposed = b.rcDisposed) (hl : b'.live = b.live) (h : SrcKept b) : SrcKept b' := by
  intro hd; rw [hl]; exact h (hr ▸ hd)

theorem SK_subscribe (b : Base α) (k) (h : SrcKept b) : SrcKept (b.subscribe k) := by
  intro hd; have := h hd; simp [subscribe, emit, this]
theorem SK_unsub (b : Base α) (k : Nat) (hk : k ≠ 0) (h : SrcKept b) : SrcKept (b.unsub k) := by
  intro hd
  have h0 := h ((unsubbed_unsub b k).rcDisposed ▸ hd)
  unfold unsub; split
  · simp only [emit]; exact (List.mem_erase_of_ne (Ne.symm hk)).mpr h0
  · exact h0
theorem SK_dead (b : Base α) (hd : b.rcDisposed = true) : SrcKept b := by intro h; rw [hd] at h; cases h
theorem SK_settle (b : Base α) (h : SrcKept b) : SrcKept b.settle := by
  rcases settle_cases b with ⟨he, hd⟩ | he <;> rw [he]
  · exact SK_dead _ (by rw [(unsubbed_disposeUnderlying b).rcDisposed]; exact hd)
  · exact h
theorem SK_rcDispose (b : Base α) (h : SrcKept b) : SrcKept b.rcDispose := by
  rcases rcDispose_cases b with he | ⟨hr, -, he⟩ <;> rw [he]
  · exact h
  · exact SK_settle _ fun _ => h hr
theorem SK_rcRelease (b : Base α) (h : SrcKept b) : SrcKept b.rcRelease := by
  rcases rcRelease_cases b with he | ⟨hr, he⟩ <;> rw [he]
  · exact h
  · exact SK_settle _ fun _ => h hr
theorem SK_outerEnd (b : Base α) (e) (h : SrcKept b) : SrcKept (b.outerEnd e) := by
  unfold outerEnd; split; exact h
  exact SK_rcDispose _ (SK_same (b := b) rfl rfl h)
theorem SK_outerDispose (b : Base α) (h : SrcKept b) : SrcKept b.outerDispose := by
  unfold outerDispose; exact SK_rcDispose _ (SK_same (b := b) rfl rfl h)
theorem SK_winNext (b : Base α) (i x) (h : SrcKept b) : SrcKept (b.winNext i x) :=
  SK_same (ctl_rcDisposed (ctl_winNext b i x)) (ctl_live (ctl_winNext b i x)) h
theorem SK_winEnd (b : Base α) (i e) (h : SrcKept b) : SrcKept (b.winEnd i e) := by
  rcases winEnd_cases b i e with ⟨-, he⟩ | ⟨w, -, he⟩ <;> rw [he]
  · exact h
  · split
    · exact SK_rcRelease _ (SK_same (b := b) rfl rfl h)
    · exact SK_same (b := b) rfl rfl h
theorem SK_winDetach (b : Base α) (i) (h : SrcKept b) : SrcKept (b.winDetach i) := by
  rcases winDetach_cases b i with he | ⟨w, -, -, he⟩ <;> rw [he]
  · exact h
  · exact SK_rcRelease _ (SK_same (b := b) rfl rfl h)
theorem SK_disposeEv (b : Base α) (w) (h : SrcKept b) : SrcKept (b.disposeEv w) := by
  unfold disposeEv; simp only []; split
  · exact List.foldl_pres _ SK_winDetach _ (SK_outerDispose b h)
  · exact SK_outerDispose b h
theorem SK_open (b : Base α) (h : SrcKept b) : SrcKept (b.newWin.1.outerNext b.wins.length) :=
  SK_same (ctl_rcDisposed (ctl_open b)) (ctl_live (ctl_open b)) h

theorem SK_subscribe0 (b : Base α) : SrcKept (b.subscribe 0) := by
  intro _; simp [Base.subscribe, Base.emit]

theorem SK_first (t0 : Nat) : SrcKept (first (α := α) t0) := SK_subscribe0 _

end Base

open Base in
theorem SrcKept.inv {closed : Prop} : Base.Inv True closed (fun (b : Base α) _ => SrcKept b) where
  now _ _ _ h := Base.SK_same rfl rfl h
  ops h hs := by
    induction h with
    | refl => exact hs
    | emit o _ _ ih => exact SK_same rfl rfl ih
    | subscribe k _ _ ih => exact SK_subscribe _ k ih
    | subscribeDead k hd _ _ => exact SK_dead _ (by rw [(unsubbed_unsub _ k).rcDisposed]; exact hd)
    | unsub k hk0 _ ih => exact SK_unsub _ k (hk0 trivial) ih
    | push i x _ _ ih => exact SK_winNext _ i x ih
    | winEnd i e _ ih => exact SK_winEnd _ i e ih
    | open_ _ ih => exact SK_open _ ih
    | outerEnd e _ ih => exact SK_outerEnd _ e ih
    | disposeEv w _ ih => exact SK_disposeEv _ w ih
    | drop _ _ _ _ ih => exact ih

theorem release_iff_of_rel {b : Base α} (h : Rel b) :
    b.rcDisposed = true ↔ (b.outerStopped = true ∧ b.attachedCount = 0) :=
  ⟨fun hd => ⟨by rw [← h.prim_iff]; exact h.disp_prim hd, h.hold hd⟩, fun ⟨ho, ha⟩ => (released h ho ha).1⟩

theorem subscribed_iff_of_rel {b : Base α} (h : Rel b) (hk : SrcKept b) :
    0 ∈ b.live ↔ ¬ (b.outerStopped = true ∧ b.attachedCount = 0) := by
  constructor
  · intro h0 ⟨ho, ha⟩
    have := (released h ho ha).2; rw [this] at h0; cases h0
  · intro hn
    apply hk
    cases hd : b.rcDisposed with
    | false => rfl
    | true => exact absurd ((release_iff_of_rel h).mp hd) hn

end Win
