import RxModel.WinGrp
import RxProofs.Lemmas.Basics
/-!
# What the helper operations of the `group_by_until` machine leave alone

Everything below `errorAll` is a composition of `emit`, `modGrp` and updates of scalar fields.  `Fr` collects what all of these preserve;
`Td` and `Tear` say what a teardown does; the two methods of the RefCountDisposable are a flag update followed by `settle`.
-/
namespace WinGrp
variable {α κ β : Type}

def DE (s s' : St κ β) : Prop :=
  ∀ (j : Nat) (r' : Grp κ β), s'.groups[j]? = some r' →
    ∃ r : Grp κ β, s.groups[j]? = some r ∧ (r'.dur = DurSt.live → r.dur = DurSt.live) ∧ r'.expired = r.expired

theorem DE.refl (s : St κ β) : DE s s := fun _ r' h => ⟨r', h, id, rfl⟩
theorem DE.trans {s1 s2 s3 : St κ β} (h1 : DE s1 s2) (h2 : DE s2 s3) : DE s1 s3 := by
  intro j r3 h3
  obtain ⟨r2, hr2, hd2, he2⟩ := h2 j r3 h3
  obtain ⟨r1, hr1, hd1, he1⟩ := h1 j r2 hr2
  exact ⟨r1, hr1, fun h => hd1 (hd2 h), he2.trans he1⟩

theorem DE_of_groups_eq {s s' : St κ β} (h : s'.groups = s.groups) : DE s s' := by
  intro j r' hr'; rw [h] at hr'; exact ⟨r', hr', id, rfl⟩

theorem modGrp_getElem? {s : St κ β} {g j : Nat} {f : Grp κ β → Grp κ β} {r' : Grp κ β} (h : (modGrp s g f).groups[j]? = some r') :
    ∃ r, s.groups[j]? = some r ∧ r' = if g = j then f r else r := by
  simp only [modGrp, List.getElem?_modify] at h
  cases hj : s.groups[j]? with
  | none => simp [hj] at h
  | some r => rw [hj] at h; exact ⟨r, rfl, by by_cases e : g = j <;> simpa [e] using h.symm⟩

theorem DE_modGrp (s : St κ β) (g : Nat) (f : Grp κ β → Grp κ β)
    (hf : ∀ r, ((f r).dur = .live → r.dur = .live) ∧ (f r).expired = r.expired) : DE s (modGrp s g f) := by
  intro j r' hr'
  obtain ⟨r, hr, rfl⟩ := modGrp_getElem? hr'
  refine ⟨r, hr, ?_⟩
  split
  · exact hf r
  · exact ⟨id, rfl⟩

/-- the half of `DE` that survives the creation of a group -/
def DM (s s' : St κ β) : Prop :=
  ∀ (j : Nat) (r' : Grp κ β), s'.groups[j]? = some r' → r'.dur = DurSt.live → ∃ r : Grp κ β, s.groups[j]? = some r ∧ r.dur = DurSt.live

theorem DE.dm {s s' : St κ β} (h : DE s s') : DM s s' := fun j r' hr' hl => by
  obtain ⟨r, hr, hd, _⟩ := h j r' hr'; exact ⟨r, hr, hd hl⟩

theorem DM_modGrp (s : St κ β) (g : Nat) (f : Grp κ β → Grp κ β) (hf : ∀ r, (f r).dur = .live → r.dur = .live) :
    DM s (modGrp s g f) := by
  intro j r' hr' hl
  obtain ⟨r, hr, rfl⟩ := modGrp_getElem? hr'
  refine ⟨r, hr, ?_⟩
  split at hl
  · exact hf r hl
  · exact hl

theorem DE_emit (s : St κ β) (e) : DE s (emit s e) := DE_of_groups_eq rfl

def OutExt (s s' : St κ β) : Prop := ∃ l, s'.out = s.out ++ l
theorem OutExt.refl (s : St κ β) : OutExt s s := ⟨[], by simp⟩
theorem OutExt.trans {a b c : St κ β} (h1 : OutExt a b) (h2 : OutExt b c) : OutExt a c := by
  obtain ⟨l1, e1⟩ := h1; obtain ⟨l2, e2⟩ := h2; exact ⟨l1 ++ l2, by rw [e2, e1, List.append_assoc]⟩
theorem OutExt_of_eq {s s' : St κ β} (h : s'.out = s.out) : OutExt s s' := ⟨[], by simp [h]⟩
theorem OutExt_emit (s : St κ β) (e) : OutExt s (emit s e) := ⟨[e], rfl⟩
theorem OutExt.mem {s s' : St κ β} (h : OutExt s s') {e} (he : e ∈ s.out) : e ∈ s'.out := by
  obtain ⟨l, hl⟩ := h; rw [hl]; exact List.mem_append_left _ he

def isEsc : Eff κ β → Bool
  | .escaped _ => true
  | _ => false
/-- exceptions that escaped to the emitter so far -/
def escs (s : St κ β) : List (Eff κ β) := s.out.filter isEsc
/-- writer #i exists and is stopped (its `Subject.is_stopped`) -/
def stoppedAt (s : St κ β) (i : Nat) : Prop := ∃ r, s.groups[i]? = some r ∧ r.stopped = true

/-- neither the source subscription nor any duration subscription is live -/
def Released (s : St κ β) : Prop :=
  s.srcOpen = false ∧ ∀ (j : Nat) (r : Grp κ β), s.groups[j]? = some r → r.dur ≠ DurSt.live

theorem Released.mono {s s' : St κ β} (h : Released s) (hd : DM s s') (ho : s.srcOpen = false → s'.srcOpen = false) :
    Released s' :=
  ⟨ho h.1, fun j r' hr' hl => by obtain ⟨r, hr, hl'⟩ := hd j r' hr' hl; exact h.2 j r hr hl'⟩

/-- `shut'`, `rel`: the source subscription is closed only by disposing `group_disposable`, which releases everything;
`prim`: `is_primary_disposed` is only set once the outer observer is stopped. -/
structure Fr (s s' : St κ β) : Prop where
  outS : s'.outStopped = s.outStopped
  done : s'.srcDone = s.srcDone
  fail : s'.failed = s.failed
  esc : escs s' = escs s
  grow : OutExt s s'
  de : DE s s'
  shut : s.srcOpen = false → s'.srcOpen = false
  disp : s.rcdDisposed = true → s'.rcdDisposed = true
  shut' : s'.srcOpen = false → s.srcOpen = false ∨ s'.rcdDisposed = true
  prim : s'.primary = true → s.primary = true ∨ s'.outStopped = true
  rel : s'.rcdDisposed = true → s.rcdDisposed = true ∨ Released s'
  src : s.srcStopped = true → s'.srcStopped = true

theorem Fr.of_eq {s s' : St κ β} (hde : DE s s') (l : List (Eff κ β)) (ho : s'.out = s.out ++ l) (hl : l.filter isEsc = [])
    (hos : s'.outStopped = s.outStopped) (hdn : s'.srcDone = s.srcDone) (hf : s'.failed = s.failed) (hso : s'.srcOpen = s.srcOpen)
    (hd : s'.rcdDisposed = s.rcdDisposed) (hp : s'.primary = s.primary) (hss : s.srcStopped = true → s'.srcStopped = true) : Fr s s' :=
  ⟨hos, hdn, hf, by simp [escs, ho, List.filter_append, hl], ⟨l, ho⟩, hde, fun h => hso ▸ h, fun h => hd ▸ h, fun h => Or.inl (hso ▸ h),
    fun h => Or.inl (hp ▸ h), fun h => Or.inl (hd ▸ h), hss⟩

theorem Fr.refl (s : St κ β) : Fr s s := .of_eq (.refl s) [] (List.append_nil _).symm rfl rfl rfl rfl rfl rfl rfl id

theorem Fr.trans {a b c : St κ β} (h1 : Fr a b) (h2 : Fr b c) : Fr a c :=
  ⟨h2.outS.trans h1.outS, h2.done.trans h1.done, h2.fail.trans h1.fail, h2.esc.trans h1.esc,
   h1.grow.trans h2.grow, h1.de.trans h2.de,
   fun h => h2.shut (h1.shut h), fun h => h2.disp (h1.disp h),
   fun h => (h2.shut' h).elim (fun hb => (h1.shut' hb).imp_right h2.disp) Or.inr,
   fun h => (h2.prim h).elim (fun hb => (h1.prim hb).imp_right fun ho => h2.outS ▸ ho) Or.inr,
   fun h => (h2.rel h).elim (fun hb => (h1.rel hb).imp_right fun hr => hr.mono h2.de.dm h2.shut) Or.inr,
   fun h => h2.src (h1.src h)⟩

theorem fr_flags (s : St κ β) (ss : Bool) (n : Nat) (hs : s.srcStopped = true → ss = true) :
    Fr s { s with srcStopped := ss, count := n } :=
  .of_eq (DE_of_groups_eq rfl) [] (List.append_nil _).symm rfl rfl rfl rfl rfl rfl rfl hs

theorem fr_emit (s : St κ β) (e : Eff κ β) (h : isEsc e = false) : Fr s (emit s e) :=
  .of_eq (DE_emit s e) [e] rfl (by simp [h]) rfl rfl rfl rfl rfl rfl id

theorem fr_modGrp (s : St κ β) (g : Nat) (f : Grp κ β → Grp κ β)
    (hf : ∀ r, ((f r).dur = .live → r.dur = .live) ∧ (f r).expired = r.expired) : Fr s (modGrp s g f) :=
  .of_eq (DE_modGrp s g f hf) [] (List.append_nil _).symm rfl rfl rfl rfl rfl rfl rfl id

theorem fr_closeDur (s : St κ β) (g : Nat) : Fr s (closeDur s g) := by
  unfold closeDur
  split
  · split
    · refine Fr.trans ?_ (fr_emit _ _ rfl); exact fr_modGrp s g _ fun _ => ⟨fun h => DurSt.noConfusion h, rfl⟩
    · exact Fr.refl s
  · exact Fr.refl s

theorem fr_foldl_closeDur (l : List Nat) (s : St κ β) : Fr s (l.foldl closeDur s) :=
  List.foldl_pres (P := Fr s) closeDur (fun t g h => h.trans (fr_closeDur t g)) l (Fr.refl s)

theorem closeSrc_closed (s : St κ β) : (closeSrc s).srcOpen = false := by
  unfold closeSrc; split <;> simp_all [emit]

/-- `hd`: the source subscription is closed only inside `group_disposable.dispose()`, after `is_disposed = True` -/
theorem fr_closeSrc (s : St κ β) (hd : s.rcdDisposed = true) : Fr s (closeSrc s) := by
  unfold closeSrc; split
  · refine Fr.trans ?_ (fr_emit _ _ rfl)
    exact ⟨rfl, rfl, rfl, rfl, OutExt_of_eq rfl, DE_of_groups_eq rfl, fun _ => rfl, id,
      fun _ => Or.inr hd, Or.inl, Or.inl, id⟩
  · exact Fr.refl s

theorem fr_gdDispose (s : St κ β) (hd : s.rcdDisposed = true) : Fr s (gdDispose s) :=
  ((fr_flags s true s.count fun _ => rfl).trans (fr_closeSrc _ hd)).trans (fr_foldl_closeDur _ _)

theorem closeDur_not_live (s : St κ β) (g : Nat) (r : Grp κ β) (h : (closeDur s g).groups[g]? = some r) : r.dur ≠ .live := by
  unfold closeDur at h
  cases hg : s.groups[g]? with
  | none => simp [hg] at h
  | some r0 =>
    simp only [hg] at h
    by_cases hl : r0.dur = .live
    · simp only [hl, if_true, emit, modGrp, List.getElem?_modify, hg, Option.map_eq_map, Option.map_some,
        Option.some.injEq] at h
      subst h; simp
    · simp only [hl, if_false] at h; rw [hg] at h; cases h; exact hl

theorem closeDur_live {s : St κ β} {g j : Nat} {r : Grp κ β} (hr : (closeDur s g).groups[j]? = some r) (hl : r.dur = .live) :
    j ≠ g ∧ ∃ r0, s.groups[j]? = some r0 ∧ r0.dur = .live ∧ r.expired = r0.expired := by
  obtain ⟨r0, hr0, hd, he⟩ := (fr_closeDur s g).de j r hr
  exact ⟨fun e => closeDur_not_live s g r (e ▸ hr) hl, r0, hr0, hd hl, he⟩

theorem mem_liveDurs (l : List (Grp κ β)) (i j : Nat) (r : Grp κ β) (h : l[j]? = some r) (hl : r.dur = .live) :
    (i + j) ∈ liveDurs l i := by
  induction l generalizing i j with
  | nil => simp at h
  | cons a l ih =>
    cases j with
    | zero =>
      simp only [List.getElem?_cons_zero, Option.some.injEq] at h; subst h
      simp [liveDurs, hl]
    | succ j =>
      simp only [List.getElem?_cons_succ] at h
      have := ih (i + 1) j h
      have e : i + 1 + j = i + (j + 1) := by omega
      rw [e] at this
      unfold liveDurs; split <;> simp_all

theorem foldl_closeDur_closes (s : St κ β) (l : List Nat) (j : Nat) (hj : j ∈ l) (r : Grp κ β)
    (hr : (l.foldl closeDur s).groups[j]? = some r) : r.dur ≠ .live := by
  induction l generalizing s with
  | nil => cases hj
  | cons a l ih =>
    simp only [List.foldl] at hr
    by_cases hjl : j ∈ l
    · exact ih _ hjl hr
    · have hja : j = a := by rcases List.mem_cons.mp hj with h | h; exact h; exact absurd h hjl
      subst hja
      intro hl
      obtain ⟨r0, hr0, hl0, _⟩ := (fr_foldl_closeDur l (closeDur s j)).de j r hr
      exact closeDur_not_live s j r0 hr0 (hl0 hl)

theorem gdDispose_released (s : St κ β) : Released (gdDispose s) := by
  unfold gdDispose
  refine ⟨(fr_foldl_closeDur _ _).shut (closeSrc_closed _), ?_⟩
  intro j r hr hl
  obtain ⟨r0, hr0, hl0, _⟩ := (fr_foldl_closeDur _ _).de j r hr
  have hmem := mem_liveDurs _ 0 j r0 hr0 (hl0 hl)
  rw [Nat.zero_add] at hmem
  exact foldl_closeDur_closes _ _ j hmem r hr hl

/-- the common end of `release()` and `dispose()`: `if self.is_primary_disposed and self.count == 0: self.underlying_disposable.dispose()` -/
def settle (t : St κ β) : St κ β := if t.count == 0 && t.primary then gdDispose { t with rcdDisposed := true } else t

theorem rcdRelease_eq (s : St κ β) : rcdRelease s = if s.rcdDisposed then s else settle { s with count := s.count - 1 } := rfl

theorem rcdDispose_eq (s : St κ β) : rcdDispose s = if s.rcdDisposed || s.primary then s else settle { s with primary := true } := by
  unfold rcdDispose settle
  cases s.rcdDisposed <;> cases s.primary <;> simp

theorem fr_settle (t : St κ β) : Fr t (settle t) := by
  unfold settle; split
  · have h := fr_gdDispose { t with rcdDisposed := true } rfl
    exact ⟨h.outS, h.done, h.fail, h.esc, h.grow, h.de, h.shut, fun _ => h.disp rfl, h.shut', h.prim,
      fun _ => Or.inr (gdDispose_released _), h.src⟩
  · exact Fr.refl t

theorem fr_rcdRelease (s : St κ β) : Fr s (rcdRelease s) := by
  rw [rcdRelease_eq]; split
  · exact Fr.refl s
  · exact (fr_flags s s.srcStopped (s.count - 1) id).trans (fr_settle _)

/-- `dispose()` is only called once the outer observer is stopped -/
theorem fr_rcdDispose (s : St κ β) (ho : s.outStopped = true) : Fr s (rcdDispose s) := by
  rw [rcdDispose_eq]; split
  · exact Fr.refl s
  · refine Fr.trans ?_ (fr_settle _)
    exact ⟨rfl, rfl, rfl, rfl, OutExt_of_eq rfl, DE_of_groups_eq rfl, id, id, Or.inl, fun _ => Or.inr ho, Or.inl, id⟩

def Eff.isUnsub : Eff κ β → Bool
  | .unsubSrc => true
  | .unsubDur _ => true
  | _ => false

def OutU (s s' : St κ β) : Prop := ∃ l, s'.out = s.out ++ l ∧ ∀ e ∈ l, Eff.isUnsub e = true
theorem OutU.refl (s : St κ β) : OutU s s := ⟨[], by simp, by simp⟩
theorem OutU.trans {a b c : St κ β} (h1 : OutU a b) (h2 : OutU b c) : OutU a c := by
  obtain ⟨l1, e1, u1⟩ := h1; obtain ⟨l2, e2, u2⟩ := h2
  exact ⟨l1 ++ l2, by rw [e2, e1, List.append_assoc], fun e he => by
    rcases List.mem_append.mp he with h | h
    · exact u1 e h
    · exact u2 e h⟩
theorem OutU_of_out_eq {s s' : St κ β} (h : s'.out = s.out) : OutU s s' := ⟨[], by simp [h], by simp⟩
theorem OutU.out_eq {a b : St κ β} (h : OutU a b) {o : List (Eff κ β)} (ha : a.out = o) :
    ∃ l, b.out = o ++ l ∧ ∀ e ∈ l, Eff.isUnsub e = true := ha ▸ h

structure Td (s s' : St κ β) : Prop where
  unsub : OutU s s'
  only : ∀ (j : Nat) (r : Grp κ β), s.groups[j]? = some r → ∃ r' : Grp κ β, s'.groups[j]? = some r' ∧ r' = { r with dur := r'.dur }
  len : s'.groups.length = s.groups.length

theorem Td.refl (s : St κ β) : Td s s := ⟨.refl s, fun _ r h => ⟨r, h, rfl⟩, rfl⟩
theorem Td.trans {a b c : St κ β} (h1 : Td a b) (h2 : Td b c) : Td a c :=
  ⟨h1.unsub.trans h2.unsub, fun j r h => by
    obtain ⟨r1, hr1, e1⟩ := h1.only j r h
    obtain ⟨r2, hr2, e2⟩ := h2.only j r1 hr1
    exact ⟨r2, hr2, e2.trans (by rw [e1])⟩, h2.len.trans h1.len⟩

theorem td_same {s s' : St κ β} (hg : s'.groups = s.groups) (ho : s'.out = s.out) : Td s s' :=
  ⟨OutU_of_out_eq ho, fun _ r h => ⟨r, hg ▸ h, rfl⟩, by rw [hg]⟩

theorem td_emit (s : St κ β) (e : Eff κ β) (h : Eff.isUnsub e = true) : Td s (emit s e) :=
  ⟨⟨[e], rfl, by simpa using h⟩, fun _ r h => ⟨r, h, rfl⟩, rfl⟩

theorem td_close (s : St κ β) (g : Nat) : Td s (modGrp s g fun r => { r with dur := .closed }) :=
  ⟨OutU_of_out_eq rfl, fun j r h => by
    simp only [modGrp, List.getElem?_modify, h]; by_cases e : g = j <;> simp [e], by simp [modGrp]⟩

/-- `closeDur`, `closeSrc`, and `group_disposable.dispose()` once the source observer is marked stopped -/
structure Tear (s s' : St κ β) : Prop extends Td s s' where
  wr : s'.writers = s.writers
  prim : s'.primary = s.primary
  cnt : s'.count = s.count
  disp : s'.rcdDisposed = s.rcdDisposed
  src : s'.srcStopped = s.srcStopped
  outS : s'.outStopped = s.outStopped

theorem Tear.refl (s : St κ β) : Tear s s := ⟨Td.refl s, rfl, rfl, rfl, rfl, rfl, rfl⟩
theorem Tear.trans {a b c : St κ β} (h1 : Tear a b) (h2 : Tear b c) : Tear a c :=
  ⟨h1.toTd.trans h2.toTd, h2.wr.trans h1.wr, h2.prim.trans h1.prim, h2.cnt.trans h1.cnt, h2.disp.trans h1.disp, h2.src.trans h1.src,
    h2.outS.trans h1.outS⟩

theorem tear_closeDur (s : St κ β) (g : Nat) : Tear s (closeDur s g) := by
  unfold closeDur; split
  · split
    · exact ⟨(td_close s g).trans (td_emit _ _ rfl), rfl, rfl, rfl, rfl, rfl, rfl⟩
    · exact Tear.refl s
  · exact Tear.refl s

theorem tear_closeSrc (s : St κ β) : Tear s (closeSrc s) := by
  unfold closeSrc; split
  · exact ⟨(td_same rfl rfl : Td s { s with srcOpen := false }).trans (td_emit _ _ rfl), rfl, rfl, rfl, rfl, rfl, rfl⟩
  · exact Tear.refl s

theorem tear_gdDispose (s : St κ β) : Tear { s with srcStopped := true } (gdDispose s) :=
  (tear_closeSrc _).trans (List.foldl_pres (P := Tear (closeSrc { s with srcStopped := true })) closeDur
    (fun t g h => h.trans (tear_closeDur t g)) _ (Tear.refl _))

theorem td_settle (t : St κ β) : Td t (settle t) := by
  unfold settle; split
  · exact (td_same rfl rfl : Td t { t with rcdDisposed := true, srcStopped := true }).trans (tear_gdDispose { t with rcdDisposed := true }).toTd
  · exact Td.refl t

theorem td_rcdRelease (s : St κ β) : Td s (rcdRelease s) := by
  rw [rcdRelease_eq]; split
  · exact Td.refl s
  · exact (td_same rfl rfl : Td s { s with count := s.count - 1 }).trans (td_settle _)

theorem td_rcdDispose (s : St κ β) : Td s (rcdDispose s) := by
  rw [rcdDispose_eq]; split
  · exact Td.refl s
  · exact (td_same rfl rfl : Td s { s with primary := true }).trans (td_settle _)

end WinGrp
