import RxModel.ThrSO
import RxProofs.Lemmas.ThrList
/-!
# Invariant of the ScheduledObserver atomic-step model (used by RxProofs/C32.lean)

The walks over `prodStep`, `consStep`, `dispStep` go by `fun_cases`: `caseN` is the N-th branch in the order of the definition, and each case names the model's step label.
-/
namespace Thr.SO

variable {α : Type}

/-- consumer is inside `run` (between the scheduler starting it and its return / re-schedule). -/
def actC : CPc α → Nat
  | .idle => 0
  | _ => 1
/-- consumer is inside `run` and has not caught an exception. -/
def busyC : CPc α → Nat
  | .idle => 0
  | .faulting => 0
  | _ => 1
/-- consumer is inside the downstream observer's callback. -/
def delivC : CPc α → Nat
  | .delivering _ => 1
  | _ => 0
/-- item popped from the queue and not yet handed to the downstream observer. -/
def itemsC : CPc α → List α
  | .popped x => [x]
  | _ => []
/-- producer decided `is_owner` and has not yet called `scheduler.schedule(self.run)`. -/
def owingP (p : Prod α) : Nat :=
  match p.calls, p.pc with
  | _ :: _, .owing => 1
  | _, _ => 0
/-- producer appended its item and has not yet executed `ensure_active`'s locked block. -/
def appendedP (p : Prod α) : Nat :=
  match p.calls, p.pc with
  | _ :: _, .appended => 1
  | _, _ => 0

@[simp] theorem owingP_nil (pc : PPc) : owingP (⟨[], pc⟩ : Prod α) = 0 := by cases pc <;> rfl
@[simp] theorem owingP_cons (c : Call α) (r pc) : owingP ⟨c :: r, pc⟩ = if pc = .owing then 1 else 0 := by cases pc <;> rfl
@[simp] theorem appendedP_nil (pc : PPc) : appendedP (⟨[], pc⟩ : Prod α) = 0 := by cases pc <;> rfl
@[simp] theorem appendedP_cons (c : Call α) (r pc) : appendedP ⟨c :: r, pc⟩ = if pc = .appended then 1 else 0 := by cases pc <;> rfl

/-- after a delivery raised the token stays taken and nobody can use it -/
structure Dead (s : Sys α) : Prop where
  pend : s.pendingRuns = 0
  owing : sumBy owingP s.prods = 0
  busy : sumBy busyC s.cons = 0
  acq : s.isAcquired = true

structure SInv (s : Sys α) : Prop where
  /-- the ownership token `is_acquired` is held by exactly one of: a pending run, a running run, a
  producer about to schedule the run, the dead (faulted) observer — or nobody any more, once `dispose()` has cancelled
  the pending run (`lostToken`). -/
  tok : s.isAcquired.toNat = s.pendingRuns + sumBy actC s.cons + sumBy owingP s.prods + s.hasFaulted.toNat + s.lostToken.toNat
  wake : s.queue ≠ [] → s.hasFaulted = false → s.isAcquired = true ∨ 1 ≤ sumBy appendedP s.prods
  order : s.raisedG = false → s.delivered ++ s.cons.flatMap itemsC ++ s.queue = s.received
  pref : s.delivered <+: s.received
  dead : s.raisedG = true → Dead s
  /-- a consumer is between catching an exception and the locked fault block only after a delivery raised -/
  fr : s.raisedG = false → sumBy busyC s.cons = sumBy actC s.cons
  lt : s.lostToken = true → s.serialDisposed = true

theorem itemsC_of_act_zero (c : CPc α) (h : actC c = 0) : itemsC c = [] := by
  cases c <;> simp_all [actC, itemsC]

theorem busy_le_act (l : List (CPc α)) : sumBy busyC l ≤ sumBy actC l :=
  sumBy_le_sumBy busyC actC l fun x _ => by cases x <;> first | exact Nat.le_refl _ | exact Nat.zero_le _

theorem deliv_le_busy (l : List (CPc α)) : sumBy delivC l ≤ sumBy busyC l :=
  sumBy_le_sumBy delivC busyC l fun x _ => by cases x <;> first | exact Nat.le_refl _ | exact Nat.zero_le _

theorem init_inv (progs : List (List (Call α))) (nc nd : Nat) : SInv (init progs nc nd) := by
  have h1 : sumBy actC (List.replicate nc (CPc.idle : CPc α)) = 0 := sumBy_replicate _ _ _ rfl
  have h2 : sumBy owingP (progs.map fun cs => ({ calls := cs, pc := .ready } : Prod α)) = 0 :=
    sumBy_map_zero _ _ _ fun cs => by cases cs <;> rfl
  have h3 := flatMap_zero actC itemsC itemsC_of_act_zero _ h1
  have h4 : sumBy busyC (List.replicate nc (CPc.idle : CPc α)) = 0 := sumBy_replicate _ _ _ rfl
  constructor <;> simp [init, h1, h2, h3, h4]

theorem quietP (l : List (Call α)) {pc : PPc} (h1 : pc ≠ .owing) (h2 : pc ≠ .appended) :
    owingP (⟨l, pc⟩ : Prod α) = 0 ∧ appendedP (⟨l, pc⟩ : Prod α) = 0 := by
  cases l <;> simp [h1, h2]

/-- the effect of a producer step on what `SInv` reads, with the producer's own terms of the two sums over producers -/
inductive PEff (s : Sys α) (p : Prod α) (s' : Sys α) (p' : Prod α) : Prop where
  | move (b : Bool) (hd : Option Nat) (hs : s' = { s with isStopped := b, heldId := hd })
      (h0 : owingP p = 0 ∧ appendedP p = 0) (h1 : owingP p' = 0 ∧ appendedP p' = 0)
  | append (x : α) (hs : s' = { s with queue := s.queue ++ [x], received := s.received ++ [x] })
      (h0 : owingP p = 0 ∧ appendedP p = 0) (h1 : owingP p' = 0 ∧ appendedP p' = 1)
  /-- `ensure_active` finds nothing to do or somebody else owning the run -/
  | eaNo (hs : s' = s) (hwhy : s.isAcquired = true ∨ s.hasFaulted = true ∨ s.queue = [])
      (h0 : owingP p = 0 ∧ appendedP p = 1) (h1 : owingP p' = 0 ∧ appendedP p' = 0)
  | eaOwner (hacq : s.isAcquired = false) (hs : s' = { s with isAcquired := true })
      (h0 : owingP p = 0 ∧ appendedP p = 1) (h1 : owingP p' = 1 ∧ appendedP p' = 0)
  | sched (hs : s' = { s with pendingRuns := s.pendingRuns + 1, pendingId := s.nextRun, nextRun := s.nextRun + 1 })
      (h0 : owingP p = 1 ∧ appendedP p = 0) (h1 : owingP p' = 0 ∧ appendedP p' = 0)
  /-- the SerialDisposable was disposed before the run's disposable was stored: the pending run is cancelled -/
  | cancel (hp : 1 ≤ s.pendingRuns) (hsd : s.serialDisposed = true) (hs : s' = { s with pendingRuns := 0, lostToken := true })
      (h0 : owingP p = 0 ∧ appendedP p = 0) (h1 : owingP p' = 0 ∧ appendedP p' = 0)

theorem prodStep_eff (s : Sys α) (p : Prod α) : PEff s p (prodStep s p).1 (prodStep s p).2.1 := by
  rcases p with ⟨calls, pc⟩
  fun_cases prodStep s ⟨calls, pc⟩
  case case1 hc => -- noop
    cases hc; exact .move s.isStopped s.heldId rfl (by cases pc <;> exact ⟨rfl, rfl⟩) (by cases pc <;> exact ⟨rfl, rfl⟩)
  case case2 c rest hc hpc hstp => -- skip
    cases hc; cases hpc; exact .move s.isStopped s.heldId rfl ⟨rfl, rfl⟩ (quietP rest nofun nofun)
  case case3 c rest hc hpc hstp => -- check
    cases hc; cases hpc; rcases c with ⟨x, t⟩; cases t <;> exact .move s.isStopped s.heldId rfl ⟨rfl, rfl⟩ ⟨rfl, rfl⟩
  case case4 c rest hc hpc => -- mark
    cases hc; cases hpc; exact .move true s.heldId rfl ⟨rfl, rfl⟩ ⟨rfl, rfl⟩
  case case5 c rest hc hpc => -- append
    cases hc; cases hpc; exact .append c.item rfl ⟨rfl, rfl⟩ ⟨rfl, rfl⟩
  case case6 c rest hc hpc _ hacq => -- ea false: owned
    cases hc; cases hpc; exact .eaNo rfl (.inl hacq) ⟨rfl, rfl⟩ (quietP rest nofun nofun)
  case case7 c rest hc hpc _ hacq => -- ea true
    cases hc; cases hpc; exact .eaOwner (by simpa using hacq) rfl ⟨rfl, rfl⟩ ⟨rfl, rfl⟩
  case case8 c rest hc hpc hno => -- ea false: faulted or empty
    cases hc; cases hpc
    refine .eaNo rfl (.inr ?_) ⟨rfl, rfl⟩ (quietP rest nofun nofun)
    cases hf : s.hasFaulted
    · exact .inr (by simpa [hf] using hno)
    · exact .inl rfl
  case case9 c rest hc hpc => -- sched
    cases hc; cases hpc; exact .sched rfl ⟨rfl, rfl⟩ ⟨rfl, rfl⟩
  case case10 c rest hc rid hpc hsd => -- assign true
    cases hc; cases hpc; exact .move s.isStopped s.heldId rfl ⟨rfl, rfl⟩ ⟨rfl, rfl⟩
  case case11 c rest hc rid hpc hsd => -- assign false
    cases hc; cases hpc; exact .move s.isStopped (some rid) rfl ⟨rfl, rfl⟩ (quietP rest nofun nofun)
  case case12 c rest hc rid hpc hcan => -- cancelRun true
    cases hc; cases hpc; exact .cancel hcan.1 hcan.2.2 rfl ⟨rfl, rfl⟩ (quietP rest nofun nofun)
  case case13 c rest hc rid hpc hcan => -- cancelRun false
    cases hc; cases hpc; exact .move s.isStopped s.heldId rfl ⟨rfl, rfl⟩ (quietP rest nofun nofun)

theorem PEff.inv {s s' : Sys α} {p p' : Prod α} (e : PEff s p s' p') (i : Nat) (hp : s.prods[i]? = some p) (h : SInv s) :
    SInv { s' with prods := s.prods.set i p' } := by
  have hO := sumBy_set owingP s.prods i p p' hp
  have hA := sumBy_set appendedP s.prods i p p' hp
  obtain ⟨tok, wake, order, pref, dead, fr, lt⟩ := h
  have hacq : s.isAcquired.toNat ≤ 1 := Bool.toNat_le _
  cases e with
  | move b hd hs h0 h1 =>
    subst hs; rw [h0.1, h1.1] at hO; rw [h0.2, h1.2] at hA
    refine ⟨?_, ?_, order, pref, ?_, fr, lt⟩
    · dsimp only; omega
    · intro a b; exact (wake a b).imp id (fun w => by dsimp only; omega)
    · intro a; have d := dead a; exact ⟨d.pend, by have := d.owing; dsimp only; omega, d.busy, d.acq⟩
  | append x hs h0 h1 =>
    subst hs; rw [h0.1, h1.1] at hO; rw [h0.2, h1.2] at hA
    refine ⟨?_, ?_, ?_, ?_, ?_, fr, lt⟩
    · dsimp only; omega
    · intro a b; right; dsimp only; omega
    · intro a; have := order a; dsimp only at *; rw [← this]; simp
    · exact List.IsPrefix.trans pref (List.prefix_append _ _)
    · intro a; have d := dead a; exact ⟨d.pend, by have := d.owing; dsimp only; omega, d.busy, d.acq⟩
  | eaNo hs hwhy h0 h1 =>
    subst hs; rw [h0.1, h1.1] at hO; rw [h0.2, h1.2] at hA
    refine ⟨?_, ?_, order, pref, ?_, fr, lt⟩
    · dsimp only; omega
    · intro a b
      rcases hwhy with hw | hw | hw
      · exact .inl hw
      · rw [hw] at b; cases b
      · exact absurd hw a
    · intro a; have d := dead a; exact ⟨d.pend, by have := d.owing; dsimp only; omega, d.busy, d.acq⟩
  | eaOwner hq hs h0 h1 =>
    subst hs; rw [h0.1, h1.1] at hO; rw [h0.2, h1.2] at hA
    rw [hq] at tok
    refine ⟨?_, fun _ _ => .inl rfl, order, pref, ?_, fr, lt⟩
    · dsimp only; simp only [Bool.toNat_true, Bool.toNat_false] at tok ⊢; omega
    · intro a; have := (dead a).acq; rw [hq] at this; cases this
  | sched hs h0 h1 =>
    subst hs; rw [h0.1, h1.1] at hO; rw [h0.2, h1.2] at hA
    refine ⟨?_, ?_, order, pref, ?_, fr, lt⟩
    · dsimp only; omega
    · intro a b; exact (wake a b).imp id (fun w => by dsimp only; omega)
    · intro a; have := (dead a).owing; exfalso; omega
  | cancel hpr hsd hs h0 h1 =>
    subst hs; rw [h0.1, h1.1] at hO; rw [h0.2, h1.2] at hA
    refine ⟨?_, ?_, order, pref, ?_, fr, fun _ => hsd⟩
    · dsimp only
      cases hl : s.lostToken
      · simp [hl] at tok ⊢; omega
      · simp [hl] at tok; omega
    · intro a b; exact (wake a b).imp id (fun w => by dsimp only; omega)
    · intro a; have d := dead a; exact ⟨rfl, by have := d.owing; dsimp only; omega, d.busy, d.acq⟩

theorem busyC_of_act_zero (c : CPc α) (h : actC c = 0) : busyC c = 0 := by
  cases c <;> simp_all [actC, busyC]

/-- consumer `j`, at `pc`, holds the ownership token: `SInv` read for this one consumer, who alone contributes to the sums over consumers -/
structure InRun (s : Sys α) (j : Nat) (pc : CPc α) : Prop where
  acq : s.isAcquired = true
  pend : s.pendingRuns = 0
  owing : sumBy owingP s.prods = 0
  notFaulted : s.hasFaulted = false
  kept : s.lostToken = false
  order : s.raisedG = false → s.delivered ++ itemsC pc ++ s.queue = s.received
  dead : s.raisedG = true → busyC pc = 0
  fr : s.raisedG = false → busyC pc = actC pc
  set : ∀ pc', sumBy actC (s.cons.set j pc') = actC pc' ∧ sumBy busyC (s.cons.set j pc') = busyC pc' ∧
    (s.cons.set j pc').flatMap itemsC = itemsC pc'

theorem SInv.active {s : Sys α} (h : SInv s) {j : Nat} {pc : CPc α} (hp : s.cons[j]? = some pc) (ha : 1 ≤ actC pc) : InRun s j pc := by
  have hle := sumBy_le_mem actC s.cons j pc hp
  have hacq : s.isAcquired.toNat ≤ 1 := Bool.toNat_le _
  have tok := h.tok
  have hs : sumBy actC s.cons ≤ 1 := by omega
  have ha' := fun pc' => sumBy_unique actC actC (fun _ h => h) s.cons j pc pc' hp ha hs
  have hb := fun pc' => sumBy_unique actC busyC busyC_of_act_zero s.cons j pc pc' hp ha hs
  have hi := fun pc' => flatMap_unique actC itemsC itemsC_of_act_zero s.cons j pc pc' hp ha hs
  refine ⟨?_, by omega, by omega, ?_, ?_, fun a => (hi pc).1 ▸ h.order a, fun a => (hb pc).1 ▸ (h.dead a).busy,
    fun a => (hb pc).1 ▸ (ha' pc).1 ▸ h.fr a, fun pc' => ⟨(ha' pc').2, (hb pc').2, (hi pc').2⟩⟩
  · cases hx : s.isAcquired
    · rw [hx] at tok; simp only [Bool.toNat_false] at tok; omega
    · rfl
  · cases hx : s.hasFaulted
    · rfl
    · rw [hx] at tok; simp only [Bool.toNat_true] at tok; omega
  · cases hx : s.lostToken
    · rfl
    · rw [hx] at tok; simp only [Bool.toNat_true] at tok; omega

theorem InRun.inv {s s' : Sys α} {j : Nat} {pc pc' : CPc α} (r : InRun s j pc) (hc : s'.cons = s.cons.set j pc') (hp : s'.prods = s.prods)
    (hl : s'.lostToken = s.lostToken)
    (htok : s'.isAcquired.toNat = s'.pendingRuns + actC pc' + s'.hasFaulted.toNat)
    (hwake : s'.queue ≠ [] → s'.hasFaulted = false → s'.isAcquired = true)
    (hord : s'.raisedG = false → s'.delivered ++ itemsC pc' ++ s'.queue = s'.received ∧ busyC pc' = actC pc')
    (hpref : s'.delivered <+: s'.received)
    (hdead : s'.raisedG = true → s'.pendingRuns = 0 ∧ busyC pc' = 0 ∧ s'.isAcquired = true) : SInv s' := by
  obtain ⟨sA, sB, sI⟩ := r.set pc'
  exact ⟨by rw [hc, hp, sA, r.owing, hl, r.kept, htok]; simp, fun a b => .inl (hwake a b), fun a => by rw [hc, sI]; exact (hord a).1, hpref,
    fun a => ⟨(hdead a).1, by rw [hp, r.owing], by rw [hc, sB]; exact (hdead a).2.1, (hdead a).2.2⟩,
    fun a => by rw [hc, sA, sB]; exact (hord a).2, fun a => by rw [hl, r.kept] at a; cases a⟩

theorem cons_step_inv (raises : Nat → Bool) (s : Sys α) (j : Nat) (pc : CPc α) (hp : s.cons[j]? = some pc) (h : SInv s) :
    SInv ({ (consStep raises s pc).1 with cons := s.cons.set j (consStep raises s pc).2.1 }) := by
  have live : ∀ {pc : CPc α}, InRun s j pc → busyC pc = 1 → s.raisedG = false := fun r hb => by
    cases hr : s.raisedG
    · rfl
    · rw [r.dead hr] at hb; cases hb
  fun_cases consStep raises s pc
  case case1 hn => -- noop
    obtain ⟨hlt, he⟩ := List.getElem?_eq_some_iff.mp hp
    rw [← he, List.set_getElem_self hlt]
    exact h
  case case2 n hn => -- runBegin: the pending run hands its token over
    obtain ⟨tok, wake, order, pref, dead, fr, lt⟩ := h
    have h1 := sumBy_set actC s.cons j .idle .atLock hp
    have h2 := sumBy_set busyC s.cons j .idle .atLock hp
    simp only [actC, busyC] at h1 h2
    have h3 := flatMap_set_nil itemsC s.cons j .idle .atLock hp rfl rfl
    refine ⟨?_, wake, ?_, pref, ?_, ?_, lt⟩
    · dsimp only; omega
    · intro a; dsimp only; rw [h3]; exact order a
    · intro a; have := (dead a).pend; exfalso; omega
    · intro a; have := fr a; dsimp only; omega
  case case3 x q hq => -- pop
    have r := h.active hp (Nat.le_refl 1)
    have hr := live r rfl
    refine r.inv rfl rfl rfl (by simp [r.acq, r.pend, r.notFaulted, actC]) (fun _ _ => r.acq) (fun _ => ⟨?_, rfl⟩) h.pref (fun a => ?_)
    · have := r.order hr; rw [hq] at this; simpa [itemsC] using this
    · rw [hr] at a; cases a
  case case4 hq => -- release
    have r := h.active hp (Nat.le_refl 1)
    have hr := live r rfl
    refine r.inv rfl rfl rfl (by simp [r.pend, r.notFaulted, actC]) (fun a _ => absurd hq a) (fun _ => ⟨?_, rfl⟩) h.pref (fun a => ?_)
    · simpa [itemsC] using r.order hr
    · rw [hr] at a; cases a
  case case5 x => -- dstart
    have r := h.active hp (Nat.le_refl 1)
    have hr := live r rfl
    have ho := r.order hr
    simp only [itemsC, List.append_assoc, List.singleton_append] at ho
    refine r.inv rfl rfl rfl (by simp [r.acq, r.pend, r.notFaulted, actC]) (fun _ _ => r.acq) (fun _ => ⟨?_, rfl⟩) ?_ (fun a => ?_)
    · simpa [itemsC] using ho
    · dsimp only; rw [← ho]; simp
    · rw [hr] at a; cases a
  case case6 x hx => -- dend true
    have r := h.active hp (Nat.le_refl 1)
    exact r.inv rfl rfl rfl (by simp [r.acq, r.pend, r.notFaulted, actC]) (fun _ _ => r.acq) nofun h.pref (fun _ => ⟨r.pend, rfl, r.acq⟩)
  case case7 x hx => -- dend false
    have r := h.active hp (Nat.le_refl 1)
    have hr := live r rfl
    refine r.inv rfl rfl rfl (by simp [r.acq, r.pend, r.notFaulted, actC]) (fun _ _ => r.acq) (fun _ => ⟨?_, rfl⟩) h.pref (fun a => ?_)
    · simpa [itemsC] using r.order hr
    · rw [hr] at a; cases a
  case case8 => -- fault: the token is never released
    have r := h.active hp (Nat.le_refl 1)
    have hr : s.raisedG = true := by
      cases hr : s.raisedG
      · have := r.fr hr; simp [busyC, actC] at this
      · rfl
    exact r.inv rfl rfl rfl (by simp [r.acq, r.pend, actC]) nofun (fun a => by rw [hr] at a; cases a) h.pref (fun _ => ⟨r.pend, rfl, r.acq⟩)
  case case9 => -- resched: the token goes to the pending run
    have r := h.active hp (Nat.le_refl 1)
    have hr := live r rfl
    refine r.inv rfl rfl rfl (by simp [r.acq, r.pend, r.notFaulted, actC]) (fun _ _ => r.acq) (fun _ => ⟨?_, rfl⟩) h.pref (fun a => ?_)
    · simpa [itemsC] using r.order hr
    · rw [hr] at a; cases a

theorem disp_step_inv (s : Sys α) (k : Nat) (pc : DPc) (h : SInv s) :
    SInv ({ (dispStep s pc).1 with disps := s.disps.set k (dispStep s pc).2.1 }) := by
  obtain ⟨tok, wake, order, pref, dead, fr, lt⟩ := h
  have hacq : s.isAcquired.toNat ≤ 1 := Bool.toNat_le _
  fun_cases dispStep s pc
  case case2 => exact ⟨tok, wake, order, pref, fun a => ⟨(dead a).pend, (dead a).owing, (dead a).busy, (dead a).acq⟩, fr, fun _ => rfl⟩ -- dflag
  case case4 rid hc => -- cancelRun true: the token is lost
    refine ⟨?_, wake, order, pref, ?_, fr, fun _ => hc.2.2⟩
    · dsimp only
      cases hl : s.lostToken
      · simp [hl] at tok ⊢; omega
      · simp [hl] at tok; omega
    · intro a; have d := dead a; exact ⟨rfl, d.owing, d.busy, d.acq⟩
  all_goals exact ⟨tok, wake, order, pref, fun a => ⟨(dead a).pend, (dead a).owing, (dead a).busy, (dead a).acq⟩, fr, lt⟩

theorem consStep_frame (raises : Nat → Bool) (s : Sys α) (pc : CPc α) :
    ((∀ x, pc ≠ .popped x) → (consStep raises s pc).1.delivered = s.delivered) ∧
    (s.raisedG = true → (consStep raises s pc).1.raisedG = true) := by
  fun_cases consStep raises s pc
  case case5 x => exact ⟨fun h => absurd rfl (h x), id⟩ -- dstart
  case case6 => exact ⟨fun _ => rfl, fun _ => rfl⟩ -- dend true
  all_goals exact ⟨fun _ => rfl, id⟩

theorem dispStep_frame (s : Sys α) (pc : DPc) :
    (dispStep s pc).1.delivered = s.delivered ∧ (dispStep s pc).1.raisedG = s.raisedG := by
  fun_cases dispStep s pc <;> exact ⟨rfl, rfl⟩

theorem PEff.frame {s s' : Sys α} {p p' : Prod α} (e : PEff s p s' p') : s'.delivered = s.delivered ∧ s'.raisedG = s.raisedG := by
  cases e <;> subst_vars <;> exact ⟨rfl, rfl⟩

theorem step_cases (raises : Nat → Bool) (s : Sys α) (t : Tid) {P : Sys α → Prop} (h0 : P s)
    (hp : ∀ i p, s.prods[i]? = some p → P { (prodStep s p).1 with prods := s.prods.set i (prodStep s p).2.1 })
    (hc : ∀ j pc, s.cons[j]? = some pc → P { (consStep raises s pc).1 with cons := s.cons.set j (consStep raises s pc).2.1 })
    (hd : ∀ k pc, s.disps[k]? = some pc → P { (dispStep s pc).1 with disps := s.disps.set k (dispStep s pc).2.1 }) :
    P (step raises s t) := by
  unfold step stepL
  cases t with
  | prod i => dsimp only; split <;> rename_i h <;> first | exact h0 | exact hp i _ h
  | cons j => dsimp only; split <;> rename_i h <;> first | exact h0 | exact hc j _ h
  | disp k => dsimp only; split <;> rename_i h <;> first | exact h0 | exact hd k _ h

theorem step_inv (raises : Nat → Bool) (s : Sys α) (t : Tid) (h : SInv s) : SInv (step raises s t) :=
  step_cases raises s t h (fun i p hp => (prodStep_eff s p).inv i hp h) (fun j pc hp => cons_step_inv raises s j pc hp h)
    (fun k pc _ => disp_step_inv s k pc h)

theorem run_inv (raises : Nat → Bool) (s : Sys α) (sched : List Tid) (h : SInv s) : SInv (run raises s sched) :=
  List.foldl_pres (step raises) (step_inv raises) sched h

theorem run_append (raises : Nat → Bool) (s : Sys α) (a b : List Tid) :
    run raises s (a ++ b) = run raises (run raises s a) b := by
  simp [run, List.foldl_append]

theorem raised_step (raises : Nat → Bool) (s : Sys α) (t : Tid) (inv : SInv s) (hr : s.raisedG = true) :
    (step raises s t).delivered = s.delivered ∧ (step raises s t).raisedG = true := by
  refine step_cases raises s t (P := fun s' => s'.delivered = s.delivered ∧ s'.raisedG = true) ⟨rfl, hr⟩ (fun i p _ => ?_) (fun j pc hp => ?_)
    (fun k pc _ => ?_)
  · exact ⟨(prodStep_eff s p).frame.1, (prodStep_eff s p).frame.2.trans hr⟩
  · -- `dead` leaves no busy consumer, so `pc` is not `popped`
    have hb : busyC pc = 0 := Nat.le_zero.mp ((inv.dead hr).busy ▸ sumBy_le_mem busyC _ j pc hp)
    have hf := consStep_frame raises s pc
    exact ⟨hf.1 fun x h => (by subst h; cases hb), hf.2 hr⟩
  · exact ⟨(dispStep_frame s pc).1, (dispStep_frame s pc).2.trans hr⟩

theorem raised_run (raises : Nat → Bool) (s : Sys α) (more : List Tid) (inv : SInv s) (hr : s.raisedG = true) :
    (run raises s more).delivered = s.delivered := by
  induction more generalizing s with
  | nil => rfl
  | cons t ts ih =>
    have h := raised_step raises s t inv hr
    exact (ih (step raises s t) (step_inv raises s t inv) h.2).trans h.1

theorem quiescent_facts (s : Sys α) (h : quiescent s = true) :
    sumBy appendedP s.prods = 0 ∧ sumBy owingP s.prods = 0 ∧ s.pendingRuns = 0 ∧ sumBy actC s.cons = 0 ∧
      s.cons.flatMap itemsC = [] := by
  simp only [quiescent, Bool.and_eq_true, List.all_eq_true, beq_iff_eq] at h
  obtain ⟨⟨⟨h1, h2⟩, h3⟩, _⟩ := h
  have nil : ∀ p ∈ s.prods, p.calls = [] := fun p hp => List.isEmpty_iff.mp (h1 p hp)
  have hact : sumBy actC s.cons = 0 := by
    apply sumBy_eq_zero_of_forall; intro c hc
    have := h3 c hc
    cases c <;> first | rfl | cases this
  refine ⟨?_, ?_, h2, hact, flatMap_zero actC itemsC itemsC_of_act_zero _ hact⟩
  · apply sumBy_eq_zero_of_forall; intro p hp
    rcases p with ⟨calls, pc⟩; cases (nil _ hp : calls = []); exact appendedP_nil pc
  · apply sumBy_eq_zero_of_forall; intro p hp
    rcases p with ⟨calls, pc⟩; cases (nil _ hp : calls = []); exact owingP_nil pc

end Thr.SO
