import RxModel.PureMarbles
import RxProofs.Lemmas.InsertDue
/-! Helper lemmas for C38: a sorted message list passes the scheduler queue unchanged. -/
namespace Pure.Marbles

theorem enqueue_eq_insertDue {β} : @enqueue β = List.insertDue (·.1) := by
  funext q x
  induction q with
  | nil => rfl
  | cons y r ih => by_cases h : x.1 < y.1 <;> simp [enqueue, List.insertDue, h, ih, Int.not_le.2, Int.not_lt.1]

theorem enqueueAll_sorted {β} (q xs : List (Int × β))
    (h : (q ++ xs).Pairwise (fun a b => a.1 ≤ b.1)) : enqueueAll q xs = q ++ xs := by
  rw [enqueueAll, enqueue_eq_insertDue]
  exact List.foldl_insertDue_sorted _ q xs h

theorem runQueue_sorted {β} (now : Int) (q : List (Int × β)) (h : q.Pairwise (fun a b => a.1 ≤ b.1)) :
    runQueue now q = q.map (fun dx => (if dx.1 > now then dx.1 else now, dx.2)) := by
  induction q generalizing now with
  | nil => rfl
  | cons dx r ih =>
    obtain ⟨d, x⟩ := dx
    rw [List.pairwise_cons] at h
    simp only [runQueue, List.map_cons, ih _ h.2]
    congr 1
    apply List.map_congr_left
    intro dy hdy
    have := h.1 dy hdy
    simp only at this
    congr 1
    omega

theorem map_sorted {α} (msgs : List (Msg α)) (c : Int) (h : msgs.Pairwise (fun a b => a.1 ≤ b.1)) :
    (msgs.map fun (tn : Msg α) => (c + tn.1, tn.2)).Pairwise (fun a b => a.1 ≤ b.1) := by
  rw [List.pairwise_map]
  exact h.imp (fun hab => by simp only; omega)

theorem coldDeliver_sorted {α} (msgs : List (Msg α)) (sub disp : Int)
    (hs : msgs.Pairwise (fun a b => a.1 ≤ b.1)) (h0 : ∀ m ∈ msgs, 0 ≤ m.1) :
    coldDeliver msgs sub disp =
      (msgs.map fun m => (sub + m.1, m.2)).filter (fun m => m.1 < disp) := by
  have hm := map_sorted msgs sub hs
  simp only [coldDeliver]
  rw [enqueueAll_sorted [] _ (by simpa using hm), List.nil_append, runQueue_sorted sub _ hm]
  congr 1
  rw [List.map_map]
  apply List.map_congr_left
  intro m hm'
  have := h0 m hm'
  simp only [Function.comp]
  congr 1
  omega

theorem filter_clamp {β} (created sub disp : Int) (hc : created ≤ sub) (q : List (Int × β)) :
    (q.map (fun dx => (if dx.1 > created then dx.1 else created, dx.2))).filter
        (fun m => decide (sub < m.1) && decide (m.1 ≤ disp)) =
      q.filter (fun m => decide (sub < m.1) && decide (m.1 ≤ disp)) := by
  induction q with
  | nil => rfl
  | cons dx r ih =>
    obtain ⟨d, x⟩ := dx
    simp only [List.map_cons, List.filter_cons, ih]
    by_cases hd : d > created
    · simp only [hd, if_true]
    · have h1 : ¬ (sub < d) := by omega
      have h2 : ¬ (sub < created) := by omega
      simp [hd, h1, h2]

theorem hotDeliver_sorted {α} (msgs : List (Msg α)) (created sub disp : Int)
    (hs : msgs.Pairwise (fun a b => a.1 ≤ b.1)) (hc : created ≤ sub) :
    hotDeliver msgs created sub disp =
      (msgs.map fun m => (created + m.1, m.2)).filter (fun m => decide (sub < m.1) && decide (m.1 ≤ disp)) := by
  have hm := map_sorted msgs created hs
  simp only [hotDeliver]
  rw [enqueueAll_sorted [] _ (by simpa using hm), List.nil_append, runQueue_sorted created _ hm]
  exact filter_clamp created sub disp hc _

theorem hotDeliverLate_sorted {α} (msgs : List (Msg α)) (created sub disp : Int)
    (hs : msgs.Pairwise (fun a b => a.1 ≤ b.1)) :
    hotDeliverLate msgs created sub disp =
      (msgs.map fun m => (created + m.1, m.2)).filter (fun m => decide (sub ≤ m.1) && decide (m.1 < disp)) := by
  have hm := map_sorted msgs created hs
  simp only [hotDeliverLate]
  rw [enqueueAll_sorted [] _ (by simpa using hm), List.nil_append]

theorem loopFixed_all (terminal : Bool) (snapshot live : List Nat) : loopFixed terminal snapshot live = snapshot := by
  induction snapshot generalizing live with
  | nil => rfl
  | cons o r ih => simp [loopFixed, ih]

end Pure.Marbles
