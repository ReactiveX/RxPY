import RxProofs.Lemmas.WinMachOps
import RxProofs.Lemmas.WinSliding
import RxProofs.Lemmas.WinChain
/-!
# Closed form of `window_with_time_`: the timer/arrival invariant `TInv` holds along every fair schedule.
-/
namespace Win
variable {α : Type}

namespace Tim

/-- state of `window_with_time_` while the source only delivers elements: `a` shift timers and `b` span timers have
fired (windows `0..a` exist, `0..b-1` were popped), exactly the timers due before the frontier `ρ` (offset from `t0`);
`pre` = the elements processed so far. -/
structure TInv (span shift t0 : Nat) (pre : List (Nat × α)) (ρ : Nat) (s : Tim α) (a b : Nat) : Prop where
  t0_eq : s.t0 = t0
  ctl : s.b.ctl = (false, false, [0])
  len : s.b.wins.length = a + 1
  q_eq : s.queue = List.range' b (a + 1 - b)
  ba : b ≤ a + 1
  timer : s.timer = some (tickOf ((a + 1) * shift) (b * shift + span))
  chS : s.chain.nextShift = if (a + 1) * shift ≤ b * shift + span then (a + 1) * shift + shift else (a + 1) * shift
  chP : s.chain.nextSpan = if b * shift + span ≤ (a + 1) * shift then b * shift + span + shift else b * shift + span
  fa_lo : a = 0 ∨ a * shift < ρ
  fa_hi : ρ ≤ (a + 1) * shift
  fb_lo : b = 0 ∨ (b - 1) * shift + span < ρ
  fb_hi : ρ ≤ b * shift + span
  pushed : ∀ k, k ≤ a → s.b.pushedOf k = (pre.filter (inWin span shift t0 k)).map (·.2)
  ended : ∀ k, k ≤ a → s.b.endedOf k = if k < b then some none else none
  pre_le : ∀ p ∈ pre, p.1 ≤ t0 + ρ

theorem tinv_init (span shift t0 : Nat) : TInv span shift t0 ([] : List (Nat × α)) 0 (Tim.init span shift t0) 0 0 := by
  have w := Base.Sliding.first (α := α) (c := fun k => (([] : List (Nat × α)).filter (inWin span shift t0 k)).map (·.2)) t0 rfl
  refine ⟨rfl, rfl, w.len, rfl, by omega, ?_, ?_, ?_, Or.inl rfl, by omega, Or.inl rfl, by omega,
    fun k hk => w.pushed k (Nat.lt_succ_of_le hk), fun k hk => w.ended k (Nat.lt_succ_of_le hk), by simp⟩
  · simp only [init, createTimer, Chain.next_fst, Base.newWin_id]
    rw [if_neg (by rw [Base.ctl_rcDisposed (Base.ctl_open ({ now := t0 } : Base α))]; simp)]; simp
  · simp [init, createTimer, Chain.next_shift]
  · simp [init, createTimer, Chain.next_span]

theorem TInv.sliding {span shift t0 : Nat} {pre : List (Nat × α)} {ρ : Nat} {s : Tim α} {a b : Nat}
    (h : TInv span shift t0 pre ρ s a b) (t : Nat) :
    Base.Sliding ({ s.b with now := t } : Base α) (a + 1) b (fun k => (pre.filter (inWin span shift t0 k)).map (·.2)) :=
  ⟨h.len, fun k hk => h.pushed k (Nat.le_of_lt_succ hk), fun k hk => h.ended k (Nat.le_of_lt_succ hk)⟩

theorem tinv_elem {span shift t0 : Nat} {pre : List (Nat × α)} {ρ : Nat} {s : Tim α} {a b : Nat}
    (h : TInv span shift t0 pre ρ s a b) (t : Nat) (x : α) (ht0 : t0 < t) (hρ : t0 + ρ ≤ t)
    (hd : t ≤ t0 + (tickOf ((a + 1) * shift) (b * shift + span)).at_) :
    TInv span shift t0 (pre ++ [(t, x)]) (t - t0) ((Tim.mach shift).step s t (.src 0 (.next x))) a b := by
  have hlive : ({ s with b := { s.b with now := t } } : Tim α).b.live.contains 0 = true := by
    show s.b.live.contains 0 = true
    rw [Base.ctl_live h.ctl]; rfl
  have hstep : (Tim.mach shift).step s t (.src 0 (.next x)) =
      { s with b := s.queue.foldl (fun b id => b.winNext id x) ({ s.b with now := t } : Base α) } := by
    simp only [mach, step, hlive, if_true]
  rw [hstep]
  have hdA : t - t0 ≤ (a + 1) * shift := by
    have : (tickOf ((a + 1) * shift) (b * shift + span)).at_ ≤ (a + 1) * shift := by
      simp only [tickOf]; split <;> omega
    omega
  have hdB : t - t0 ≤ b * shift + span := by
    have : (tickOf ((a + 1) * shift) (b * shift + span)).at_ ≤ b * shift + span := by
      simp only [tickOf]; split <;> omega
    omega
  -- the element reaches the open windows `b..a`: those whose interval contains `t`
  have w : Base.Sliding (s.queue.foldl (fun b id => b.winNext id x) ({ s.b with now := t } : Base α)) (a + 1) b
      (fun k => ((pre ++ [(t, x)]).filter (inWin span shift t0 k)).map (·.2)) := by
    rw [h.q_eq]
    refine ((h.sliding t).push x).congr fun k hk => ?_
    rw [List.filter_append, List.map_append]
    by_cases hkb : b ≤ k
    · have hk1 : b * shift ≤ k * shift := Nat.mul_le_mul_right shift hkb
      have hk2 : k * shift ≤ a * shift := Nat.mul_le_mul_right shift (by omega)
      have hlow : t0 + k * shift < t := by
        rcases h.fa_lo with h0 | h1
        · subst h0; have : k = 0 := by omega
          subst this; omega
        · omega
      have hf : inWin span shift t0 k (t, x) = true := by
        simp only [inWin, decide_eq_true_eq]; constructor <;> omega
      rw [if_pos hkb, List.filter_cons_of_pos hf]; rfl
    · -- already popped: its interval ended before the frontier
      have hb1 : (b - 1) * shift + span < ρ := by
        rcases h.fb_lo with h0 | h1
        · omega
        · exact h1
      have : k * shift ≤ (b - 1) * shift := Nat.mul_le_mul_right shift (by omega)
      have hf : inWin span shift t0 k (t, x) = false := by
        simp only [inWin, decide_eq_false_iff_not, not_and]; intro _; omega
      rw [if_neg hkb, List.filter_cons_of_neg (by simp [hf])]; simp
  refine ⟨h.t0_eq, ?_, w.len, h.q_eq, h.ba, h.timer, h.chS, h.chP, ?_, hdA, ?_, hdB,
    fun k hk => w.pushed k (Nat.lt_succ_of_le hk), fun k hk => w.ended k (Nat.lt_succ_of_le hk), ?_⟩
  · show (s.queue.foldl (fun b id => b.winNext id x) ({ s.b with now := t } : Base α)).ctl = _
    rw [Base.ctl_foldl_winNext]; exact h.ctl
  · rcases h.fa_lo with h0 | h1
    · exact Or.inl h0
    · right; omega
  · rcases h.fb_lo with h0 | h1
    · exact Or.inl h0
    · right; omega
  · intro p hp
    rcases List.mem_append.mp hp with h1 | h1
    · have := h.pre_le p h1; omega
    · simp at h1; subst h1; simp; omega

theorem sync_of_alive (s : Tim α) (h : s.b.rcDisposed = false) : sync s = s := by
  unfold sync; simp [h]

/-- every element so far arrived no later than the opening instant of window `k`: it starts empty. -/
theorem inWin_none {span shift t0 k : Nat} {pre : List (Nat × α)} (hpre : ∀ p ∈ pre, p.1 ≤ t0 + k * shift) :
    (pre.filter (inWin span shift t0 k)).map (·.2) = [] := by
  have : pre.filter (inWin span shift t0 k) = [] := by
    rw [List.filter_eq_nil_iff]
    intro p hp
    have := hpre p hp
    simp only [inWin, decide_eq_true_eq, not_and]; intro _; omega
  rw [this]; rfl

/-- `create_timer()` on a chain standing at `next_shift = A`, `next_span = B` while the group is alive: the three
timer/chain clauses of `TInv` for `A`, `B`. -/
theorem createTimer_chain (shift : Nat) (s : Tim α) (hrc : s.b.rcDisposed = false) {A B : Nat}
    (hS : s.chain.nextShift = A) (hP : s.chain.nextSpan = B) :
    (createTimer shift s).timer = some (tickOf A B) ∧
    (createTimer shift s).chain.nextShift = (if A ≤ B then A + shift else A) ∧
    (createTimer shift s).chain.nextSpan = (if B ≤ A then B + shift else B) := by
  subst hS hP
  simp only [createTimer, hrc, Bool.false_eq_true, if_false, Chain.next_fst, Chain.next_shift, Chain.next_span, and_self]

/-- `next_shift < next_span`: a shift-only timer. -/
theorem tinv_tick_shift {span shift t0 : Nat} (hs : 0 < shift) {pre : List (Nat × α)} {ρ : Nat} {s : Tim α} {a b : Nat}
    (h : TInv span shift t0 pre ρ s a b) (hAB : (a + 1) * shift < b * shift + span) (t : Nat) :
    TInv span shift t0 pre ((a + 1) * shift + 1) ((Tim.mach shift).step s t .tick) (a + 1) b := by
  have w := (h.sliding t).open_ h.ba (inWin_none fun p hp => by have := h.pre_le p hp; have := h.fa_hi; omega)
  have hctl : ((({ s.b with now := t } : Base α).newWin.1).outerNext s.b.wins.length).ctl = (false, false, [0]) := by
    rw [← h.ctl]; exact Base.ctl_open _
  have hrc := Base.ctl_rcDisposed hctl
  have htk : tickOf ((a + 1) * shift) (b * shift + span) = ⟨(a + 1) * shift, true, false⟩ := by
    simp only [tickOf]; rw [if_neg (by omega)]; simp; omega
  have hsucc : (a + 1 + 1) * shift = (a + 1) * shift + shift := Nat.succ_mul _ _
  let s1 : Tim α := { s with timer := none,
                               b := (({ s.b with now := t } : Base α).newWin.1).outerNext s.b.wins.length,
                               queue := s.queue ++ [s.b.wins.length] }
  have hstep : (Tim.mach shift).step s t .tick = createTimer shift s1 := by
    simp only [mach, step, onTick, h.timer, htk, if_true, Bool.false_eq_true, if_false]
    exact sync_of_alive _ hrc
  rw [hstep]
  obtain ⟨hT, hS, hP⟩ := createTimer_chain shift s1 hrc (A := (a + 1 + 1) * shift) (B := b * shift + span)
    (by show s.chain.nextShift = _; rw [h.chS, if_pos (by omega), hsucc]) (by show s.chain.nextSpan = _; rw [h.chP, if_neg (by omega)])
  refine ⟨h.t0_eq, hctl, w.len, ?_, by have := h.ba; omega, hT, hS, hP, Or.inr (by omega), by omega, ?_, by omega,
    fun k hk => w.pushed k (Nat.lt_succ_of_le hk), fun k hk => w.ended k (Nat.lt_succ_of_le hk), ?_⟩
  · show s.queue ++ [s.b.wins.length] = _
    rw [h.q_eq, h.len]; exact range'_concat h.ba
  · rcases h.fb_lo with h0 | h1
    · exact Or.inl h0
    · right; have := h.fa_hi; omega
  · intro p hp'; have := h.pre_le p hp'; have := h.fa_hi; omega

/-- `next_span < next_shift`: a span-only timer. -/
theorem tinv_tick_span {span shift t0 : Nat} (hs : 0 < shift) {pre : List (Nat × α)} {ρ : Nat} {s : Tim α} {a b : Nat}
    (h : TInv span shift t0 pre ρ s a b) (hAB : b * shift + span < (a + 1) * shift) (t : Nat) :
    TInv span shift t0 pre (b * shift + span + 1) ((Tim.mach shift).step s t .tick) a (b + 1) := by
  have hba : b < a + 1 := by
    have : b * shift < (a + 1) * shift := by omega
    exact Nat.lt_of_mul_lt_mul_right this
  have w := (h.sliding t).pop hba
  have hctl : (({ s.b with now := t } : Base α).winEnd b none).ctl = (false, false, [0]) := by
    rw [Base.ctl_winEnd ({ s.b with now := t } : Base α) _ _ (Base.ctl_primary h.ctl)]; exact h.ctl
  have hrc := Base.ctl_rcDisposed hctl
  have htk : tickOf ((a + 1) * shift) (b * shift + span) = ⟨b * shift + span, false, true⟩ := by
    simp only [tickOf]; rw [if_pos (by omega)]; simp; omega
  have hq : s.queue = b :: List.range' (b + 1) (a + 1 - (b + 1)) := by rw [h.q_eq]; exact range'_pop hba
  let s1 : Tim α := { s with timer := none, b := ({ s.b with now := t } : Base α).winEnd b none,
                               queue := List.range' (b + 1) (a + 1 - (b + 1)) }
  have hstep : (Tim.mach shift).step s t .tick = createTimer shift s1 := by
    simp only [mach, step, onTick, h.timer, htk, if_true, Bool.false_eq_true, if_false, hq]
    exact sync_of_alive _ hrc
  rw [hstep]
  have hBeq : (b + 1) * shift + span = b * shift + span + shift := by rw [Nat.succ_mul]; omega
  obtain ⟨hT, hS, hP⟩ := createTimer_chain shift s1 hrc (A := (a + 1) * shift) (B := (b + 1) * shift + span)
    (by show s.chain.nextShift = _; rw [h.chS, if_neg (by omega)]) (by show s.chain.nextSpan = _; rw [h.chP, if_pos (by omega), hBeq])
  refine ⟨h.t0_eq, hctl, w.len, rfl, by omega, hT, hS, hP, ?_, by omega, Or.inr (by simp), by omega,
    fun k hk => w.pushed k (Nat.lt_succ_of_le hk), fun k hk => w.ended k (Nat.lt_succ_of_le hk), ?_⟩
  · rcases h.fa_lo with h0 | h1
    · exact Or.inl h0
    · right; have := h.fb_hi; omega
  · intro p hp''; have := h.pre_le p hp''; have := h.fb_hi; omega

/-- `next_span = next_shift`, both flags: the window opens before the oldest one is completed. -/
theorem tinv_tick_both {span shift t0 : Nat} (hs : 0 < shift) {pre : List (Nat × α)} {ρ : Nat} {s : Tim α} {a b : Nat}
    (h : TInv span shift t0 pre ρ s a b) (hAB : (a + 1) * shift = b * shift + span) (t : Nat) :
    TInv span shift t0 pre ((a + 1) * shift + 1) ((Tim.mach shift).step s t .tick) (a + 1) (b + 1) := by
  have w := ((h.sliding t).open_ h.ba (inWin_none fun p hp => by have := h.pre_le p hp; have := h.fa_hi; omega)).pop
    (Nat.lt_succ_of_le h.ba)
  have hctl : (((({ s.b with now := t } : Base α).newWin.1).outerNext s.b.wins.length).winEnd b none).ctl = (false, false, [0]) := by
    have h1 : ((({ s.b with now := t } : Base α).newWin.1).outerNext s.b.wins.length).ctl = (false, false, [0]) := by
      rw [← h.ctl]; exact Base.ctl_open _
    rw [Base.ctl_winEnd _ _ _ (Base.ctl_primary h1)]; exact h1
  have hrc := Base.ctl_rcDisposed hctl
  have htk : tickOf ((a + 1) * shift) (b * shift + span) = ⟨(a + 1) * shift, true, true⟩ := by
    simp only [tickOf]; rw [if_pos (by omega)]; simp; omega
  have hsa : (a + 1 + 1) * shift = (a + 1) * shift + shift := Nat.succ_mul _ _
  have hq : s.queue ++ [s.b.wins.length] = b :: List.range' (b + 1) (a + 1 + 1 - (b + 1)) := by
    rw [h.q_eq, h.len, range'_concat h.ba]; exact range'_pop (Nat.lt_succ_of_le h.ba)
  let s1 : Tim α := { s with timer := none,
                               b := ((({ s.b with now := t } : Base α).newWin.1).outerNext s.b.wins.length).winEnd b none,
                               queue := List.range' (b + 1) (a + 1 + 1 - (b + 1)) }
  have hstep : (Tim.mach shift).step s t .tick = createTimer shift s1 := by
    simp only [mach, step, onTick, h.timer, htk, if_true, Base.newWin_id, hq]
    exact sync_of_alive _ hrc
  rw [hstep]
  have hBeq : (b + 1) * shift + span = b * shift + span + shift := by rw [Nat.succ_mul]; omega
  obtain ⟨hT, hS, hP⟩ := createTimer_chain shift s1 hrc (A := (a + 1 + 1) * shift) (B := (b + 1) * shift + span)
    (by show s.chain.nextShift = _; rw [h.chS, if_pos (by omega), hsa]) (by show s.chain.nextSpan = _; rw [h.chP, if_pos (by omega), hBeq])
  refine ⟨h.t0_eq, hctl, w.len, rfl, by have := h.ba; omega, hT, hS, hP, Or.inr (by omega), by omega,
    Or.inr (by simp; omega), by omega, fun k hk => w.pushed k (Nat.lt_succ_of_le hk), fun k hk => w.ended k (Nat.lt_succ_of_le hk), ?_⟩
  · intro p hp''; have := h.pre_le p hp''; have := h.fa_hi; omega

theorem pending_eq {span shift t0 : Nat} {pre : List (Nat × α)} {ρ : Nat} {s : Tim α} {a b : Nat}
    (h : TInv span shift t0 pre ρ s a b) :
    (Tim.mach shift).pending s = some (t0 + (tickOf ((a + 1) * shift) (b * shift + span)).at_) := by
  simp [mach, h.timer, h.t0_eq]

theorem tinv_fair {span shift t0 : Nat} (hs : 0 < shift) :
    ∀ (L : List (Nat × Ev α)) (s : Tim α) (pre : List (Nat × α)) (ρ a b : Nat),
      TInv span shift t0 pre ρ s a b → Fair (Tim.mach shift) s L →
      (∀ p ∈ elemsOf L, t0 + ρ ≤ p.1 ∧ t0 < p.1) →
      ∃ a' b' ρ', TInv span shift t0 (pre ++ elemsOf L) ρ' ((Tim.mach shift).fold s L) a' b' := by
  intro L
  induction L with
  | nil => intro s pre ρ a b h _ _; exact ⟨a, b, ρ, by simpa [elemsOf] using h⟩
  | cons te L ih =>
    intro s pre ρ a b h hf hel
    obtain ⟨t, e⟩ := te
    simp only [Fair] at hf
    obtain ⟨hf1, hf2⟩ := hf
    rw [Mach.fold_cons]
    cases e with
    | tick =>
      simp only [] at hf1
      obtain ⟨hpd, hlater⟩ := hf1
      rw [pending_eq h] at hpd
      have ht : t = t0 + (tickOf ((a + 1) * shift) (b * shift + span)).at_ := by
        simpa using hpd.symm
      have hel' : elemsOf ((t, Ev.tick) :: L) = elemsOf L := rfl
      rw [hel']
      -- `ht`, `hat`: when the tick fires; the `omega` that moves the frontier past it reads them
      rcases Nat.lt_trichotomy ((a + 1) * shift) (b * shift + span) with hlt | heq | hgt
      · have hat : (tickOf ((a + 1) * shift) (b * shift + span)).at_ = (a + 1) * shift := by
          simp only [tickOf]; rw [if_neg (by omega)]
        exact ih _ pre _ _ _ (tinv_tick_shift hs h hlt t) hf2
          (fun p hp => ⟨by have := hlater p hp; omega, (hel p (by rw [hel']; exact hp)).2⟩)
      · have hat : (tickOf ((a + 1) * shift) (b * shift + span)).at_ = (a + 1) * shift := by
          simp only [tickOf]; rw [if_pos (by omega)]; omega
        exact ih _ pre _ _ _ (tinv_tick_both hs h heq t) hf2
          (fun p hp => ⟨by have := hlater p hp; omega, (hel p (by rw [hel']; exact hp)).2⟩)
      · have hat : (tickOf ((a + 1) * shift) (b * shift + span)).at_ = b * shift + span := by
          simp only [tickOf]; rw [if_pos (by omega)]
        exact ih _ pre _ _ _ (tinv_tick_span hs h hgt t) hf2
          (fun p hp => ⟨by have := hlater p hp; omega, (hel p (by rw [hel']; exact hp)).2⟩)
    | dispose w => exact absurd hf1 (by simp)
    | src k n =>
      cases k with
      | succ k => exact absurd hf1 (by simp)
      | zero =>
        cases n with
        | error err => exact absurd hf1 (by simp)
        | completed => exact absurd hf1 (by simp)
        | next x =>
          simp only [] at hf1
          obtain ⟨hpd, hlater⟩ := hf1
          have hel' : elemsOf ((t, Ev.src 0 (Notif.next x)) :: L) = (t, x) :: elemsOf L := rfl
          have hme := hel (t, x) (by rw [hel']; exact List.mem_cons_self)
          have hd := hpd _ (pending_eq h)
          have := ih _ (pre ++ [(t, x)]) (t - t0) a b (tinv_elem h t x hme.2 hme.1 hd) hf2
            (fun p hp => ⟨by have := hlater p hp; omega, (hel p (by rw [hel']; exact List.mem_cons_of_mem _ hp)).2⟩)
          rw [hel']
          simpa [List.append_assoc] using this

end Tim
end Win
