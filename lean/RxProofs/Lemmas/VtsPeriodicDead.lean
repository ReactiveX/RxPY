import RxProofs.Lemmas.VtsPeriodic
/-! Periodic model: the `Dead` invariant — a disposed task, all of whose pending ticks are cancelled, stays so and
is never invoked again, over iterations, `advance_to` and whole scripts — and what a raising tick does. -/

namespace Per
open Vts
variable {σ : Type}

def Dead (pid : Nat) (s : St σ) : Prop :=
  (∃ t, getTask s pid = some t ∧ t.disposed = true) ∧
  ∀ e ∈ s.queue.items, isTick pid e.1.kind = true → e.1.cancelled = true

def logOf (pid : Nat) (s : St σ) : List (Ran σ) := s.log.filter (fun r => r.pid == pid)

theorem logOf_congr (pid : Nat) {s s' : St σ} (h : s'.log = s.log) : logOf pid s' = logOf pid s := by
  rw [logOf, h, logOf]

theorem Dead.allSel {pid : Nat} {s : St σ} (h : Dead pid s) :
    PQ.AllSel (fun it => isTick pid it.kind = true) (·.cancelled = true) s.queue.items := h.2

theorem isTick_tick (pid pid' : Nat) (st : σ) : isTick pid (Kind.tick pid' st) = (pid' == pid) := rfl

theorem dead_congr {pid : Nat} {s s' : St σ} (ht : s'.tasks = s.tasks) (hq : s'.queue.items = s.queue.items)
    (h : Dead pid s) : Dead pid s' := by
  simp only [Dead, getTask] at h ⊢
  rw [ht, hq]; exact h

theorem dead_setTask_other {pid pid' : Nat} {s : St σ} (t : Task) (hne : pid' ≠ pid) (h : Dead pid s) :
    Dead pid (setTask s pid' t) := by
  obtain ⟨⟨t0, h1, h2⟩, h3⟩ := h
  refine ⟨⟨t0, ?_, h2⟩, h3⟩
  rw [getTask_setTask, if_neg (fun h => hne h.symm)]; exact h1

theorem cancelEntry_cancelled (pid' : Nat) (e : Item σ × Int) (h : e.1.cancelled = true) :
    (cancelEntry pid' e).1.cancelled = true := by
  simp only [cancelEntry]; split <;> simp [h]

theorem cancelEntry_kind (pid' : Nat) (e : Item σ × Int) : (cancelEntry pid' e).1.kind = e.1.kind := by
  simp only [cancelEntry]; split <;> rfl

theorem dead_disposeTask {pid : Nat} (pid' : Nat) {s : St σ} (h : Dead pid s) : Dead pid (disposeTask s pid') := by
  simp only [disposeTask]
  cases hg : getTask s pid' with
  | none => exact h
  | some t' =>
    simp only
    have hq := h.allSel
    obtain ⟨⟨t0, h1, h2⟩, _⟩ := h
    refine ⟨?_, ?_⟩
    · show ∃ t, getTask (setTask s pid' { t' with disposed := true }) pid = some t ∧ t.disposed = true
      rw [getTask_setTask]
      by_cases hp : pid = pid'
      · subst hp; rw [if_pos rfl, h1]; exact ⟨_, rfl, rfl⟩
      · rw [if_neg hp]; exact ⟨t0, h1, h2⟩
    · exact PQ.allSel_map (cancelEntry pid') (fun e he => cancelEntry_kind pid' e ▸ he)
        (cancelEntry_cancelled pid') hq

theorem dead_enqueue {pid : Nat} {s : St σ} (it : Item σ) (hit : isTick pid it.kind = true → it.cancelled = true)
    (h : Dead pid s) : Dead pid (enqueue s it) :=
  ⟨h.1, PQ.allSel_enqueue h.allSel it hit⟩

theorem disposeTask_dead (s : St σ) (pid : Nat) (t : Task) (hg : getTask s pid = some t) :
    Dead pid (disposeTask s pid) := by
  refine ⟨⟨_, getTask_disposeTask_self s pid t hg, rfl⟩, ?_⟩
  simp only [disposeTask, hg]
  intro e he hk
  simp only [setTask, List.mem_map] at he
  obtain ⟨e0, he0, rfl⟩ := he
  rw [cancelEntry_kind] at hk
  simp only [cancelEntry, hk, if_true]

theorem dead_afterCall {pid : Nat} (f : Nat → σ → Tick σ) (pid' : Nat) (st : σ) {s : St σ} (h : Dead pid s) :
    Dead pid (afterCall f s pid' st) := by
  simp only [afterCall]; split
  · exact dead_disposeTask _ (dead_congr rfl rfl h)
  · exact dead_congr rfl rfl h

theorem logOf_afterCall {pid pid' : Nat} (f : Nat → σ → Tick σ) (st : σ) (s : St σ) (hne : pid' ≠ pid) :
    logOf pid (afterCall f s pid' st) = logOf pid s := by
  simp [logOf, afterCall_log, List.filter_append, hne]

theorem runTick_other (handler : Err → Bool) (f : Nat → σ → Tick σ) (s : St σ) (pid pid' : Nat) (t : Task) (st : σ)
    (hne : pid' ≠ pid) (h : Dead pid s) :
    Dead pid (runTick handler f s pid' t st).1 ∧ logOf pid (runTick handler f s pid' t st).1 = logOf pid s :=
  runTick_rule (R := fun s' => Dead pid s' ∧ logOf pid s' = logOf pid s) handler f s pid' t st
    (fun h => ⟨dead_afterCall f pid' st h.1, (logOf_afterCall f st s hne).trans h.2⟩)
    (fun s' h => ⟨dead_disposeTask pid' h.1, (logOf_congr pid (disposeTask_log s' pid')).trans h.2⟩)
    (fun s' hl t' h => ⟨dead_setTask_other t' hne (dead_congr rfl rfl h.1), h.2⟩)
    -- the new tick belongs to `pid'`, so `Dead pid` does not care whether it is cancelled
    (fun s' st' c h => ⟨dead_enqueue _ (fun hh => absurd (by simpa [isTick_tick] using hh) hne) h.1, h.2⟩)
    (fun _ h => h) ⟨h, rfl⟩

theorem iter_dead (handler : Err → Bool) (f : Nat → σ → Tick σ) (T : Int) (pid : Nat) (s : St σ) (h : Dead pid s) :
    Dead pid (iter handler f T s).st ∧ logOf pid (iter handler f T s).st = logOf pid s := by
  have h1 : ∀ {x : Item σ} {q' : PQ (Item σ)}, s.queue.dequeue? Item.due = some (x, q') →
      Dead pid { s with clock := if x.due > s.clock then x.due else s.clock, queue := q' } :=
    fun hd => ⟨h.1, (PQ.allSel_dequeue h.allSel hd).1⟩
  have hi := iter_is handler f T s
  generalize iter handler f T s = r at hi ⊢
  cases hi with
  | disabled | empty | pastTarget | noPeriod => exact ⟨h, rfl⟩
  | cancelled hd | unknownTask hd => exact ⟨h1 hd, rfl⟩
  | dispose hd => exact ⟨dead_disposeTask _ (h1 hd), logOf_congr pid (disposeTask_log _ _)⟩
  | @tick x q' pid' st t hd hdue hnc hk hg hp =>
    -- the tick that runs is not cancelled, so it is not one of the dead task
    have hne : pid' ≠ pid := by
      rintro rfl
      have := (PQ.allSel_dequeue h.allSel hd).2 (by rw [hk]; simp [isTick])
      rw [hnc] at this; cases this
    rw [Iter.ofTick_st]
    exact runTick_other handler f _ pid pid' t st hne (h1 hd)

theorem loopFuel_dead (handler : Err → Bool) (f : Nat → σ → Tick σ) (T : Int) (pid : Nat) (n : Nat) (s : St σ)
    (h : Dead pid s) :
    Dead pid (loopFuel handler f T n s).1 ∧ logOf pid (loopFuel handler f T n s).1 = logOf pid s :=
  loopFuel_inv (fun s' => Dead pid s' ∧ logOf pid s' = logOf pid s)
    (fun s' h' => ⟨(iter_dead handler f T pid s' h'.1).1, (iter_dead handler f T pid s' h'.1).2.trans h'.2⟩) n s ⟨h, rfl⟩

theorem advanceTo_dead (handler : Err → Bool) (f : Nat → σ → Tick σ) (T : Int) (pid : Nat) (s : St σ)
    (h : Dead pid s) :
    Dead pid (advanceTo handler f T s).1 ∧ logOf pid (advanceTo handler f T s).1 = logOf pid s :=
  advanceTo_inv (fun s' => Dead pid s' ∧ logOf pid s' = logOf pid s)
    (fun s' h' => ⟨(iter_dead handler f T pid s' h'.1).1, (iter_dead handler f T pid s' h'.1).2.trans h'.2⟩)
    (fun _ _ _ h' => ⟨dead_congr rfl rfl h'.1, h'.2⟩) s ⟨h, rfl⟩

theorem doOp_dead (handler : Err → Bool) (f : Nat → σ → Tick σ) (pid : Nat) (s : St σ) (op : Op σ)
    (hop : match op with | .periodic pid' _ _ _ => pid' ≠ pid | _ => True) (h : Dead pid s) :
    Dead pid (doOp handler f s op).1 ∧ logOf pid (doOp handler f s op).1 = logOf pid s := by
  cases op with
  | periodic pid' p st c =>
    simp only at hop
    refine ⟨?_, rfl⟩
    simp only [doOp, schedulePeriodic]
    apply dead_enqueue
    · intro hk; simp only [isTick_tick, beq_iff_eq] at hk; exact absurd hk hop
    · obtain ⟨⟨t0, h1, h2⟩, h3⟩ := h
      exact ⟨⟨t0, getTask_append_some s pid t0 _ h1, h2⟩, h3⟩
  | disposeAt t pid' =>
    refine ⟨?_, rfl⟩
    simp only [doOp, scheduleDispose]
    exact dead_enqueue _ (by intro hk; simp [isTick] at hk) h
  | disposeNow pid' => exact ⟨dead_disposeTask _ h, logOf_congr pid (disposeTask_log s pid')⟩
  | advanceTo T => exact advanceTo_dead handler f T pid s h
  | stop => exact ⟨dead_congr rfl rfl h, rfl⟩

theorem runOps_dead (handler : Err → Bool) (f : Nat → σ → Tick σ) (pid : Nat) (ops : List (Op σ)) (s : St σ)
    (hops : ∀ op ∈ ops, match op with | .periodic pid' _ _ _ => pid' ≠ pid | _ => True) (h : Dead pid s) :
    Dead pid (runOps handler f s ops).1 ∧ logOf pid (runOps handler f s ops).1 = logOf pid s :=
  runOps_inv (fun s' => Dead pid s' ∧ logOf pid s' = logOf pid s) _
    (fun s' op hop h' => ⟨(doOp_dead handler f pid s' op hop h'.1).1, (doOp_dead handler f pid s' op hop h'.1).2.trans h'.2⟩)
    ops s hops ⟨h, rfl⟩

theorem runTick_raise_plain (handler : Err → Bool) (f : Nat → σ → Tick σ) (s : St σ) (pid : Nat) (t : Task) (st : σ)
    (e : Err) (hg : getTask s pid = some t) (hl : t.disposed = false) (hc : t.catch_ = false)
    (he : (f pid st).next = .error e) :
    ∃ s2, runTick handler f s pid t st = (s2, some e) ∧ Dead pid s2 ∧ s2.log = s.log ++ [{ pid, at_ := s.clock, st }] := by
  obtain ⟨t2, hg2⟩ := afterCall_getTask f s pid st t hg
  rw [runTick_eq]
  simp only [hl, hc, he, Bool.false_and, Bool.false_eq_true, if_false]
  exact ⟨_, rfl, disposeTask_dead _ pid t2 hg2, by rw [disposeTask_log, afterCall_log]⟩

theorem runTick_raise_catch (handler : Err → Bool) (f : Nat → σ → Tick σ) (s : St σ) (pid : Nat) (t : Task) (st : σ)
    (e : Err) (hg : getTask s pid = some t) (hl : t.disposed = false) (hc : t.catch_ = true) (hnf : t.failed = false)
    (he : (f pid st).next = .error e) :
    ∃ s2, runTick handler f s pid t st = (s2, if handler e then none else some e) ∧ Dead pid s2 ∧
      s2.hlog = s.hlog ++ [e] := by
  obtain ⟨t2, hg2⟩ := afterCall_getTask f s pid st t hg
  -- the state in which the handler has been called and the wrapper's `failed` flag is set
  generalize hs3 : setTask { afterCall f s pid st with hlog := (afterCall f s pid st).hlog ++ [e] } pid
    { ((getTask (afterCall f s pid st) pid).getD t) with failed := true } = s3
  have hg3 : ∃ t3, getTask s3 pid = some t3 := by
    rw [← hs3, getTask_setTask, if_pos rfl]
    show ∃ t3, (getTask (afterCall f s pid st) pid).map _ = some t3
    rw [hg2]; exact ⟨_, rfl⟩
  obtain ⟨t3, hg3⟩ := hg3
  have hh3 : s3.hlog = s.hlog ++ [e] := by rw [← hs3]; show _ ++ [e] = _; rw [afterCall_hlog]
  have hd3 := disposeTask_dead s3 pid t3 hg3
  rw [runTick_eq]
  simp only [hl, hc, hnf, he, Bool.and_false, Bool.false_eq_true, if_false, if_true, hs3]
  cases handler e <;> simp only [Bool.false_eq_true, if_false, if_true]
  · exact ⟨_, rfl, hd3, (disposeTask_hlog s3 pid).trans hh3⟩
  · exact ⟨_, rfl, dead_enqueue _ (fun _ => rfl) hd3, (disposeTask_hlog s3 pid).trans hh3⟩

end Per
