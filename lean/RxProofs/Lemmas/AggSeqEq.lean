import RxProofs.Lemmas.AggBase
import RxModel.AggSeqEq
/-!
# `sequence_equal`: the event machine computes the declarative decision function `seqSpec`

The code always calls `comparer(queued value, arriving value)`.  Tag every event with its position in the trace; then the
verdict on a pair is `c a b` with `a` the element that **arrived first**, and on tagged values that is a *symmetric*
comparer (`orient c`).  The machine is analysed for an arbitrary total comparer `c` against `seqSpec (orient c)` on the
tagged trace, one handler invocation from an undecided state at a time (`seqHandle_ahead`); for a symmetric `c` the tags can be forgotten.
-/

namespace Agg

def specOut : Option Bool → List (Notif Bool)
  | some b => decided b
  | none => []

/-- elements a side still contributes: nothing once its observer is stopped -/
def restE {α} (stopped : Bool) (evs : List (Notif α)) : List α := if stopped then [] else elems evs
def isDone {α} (evs : List (Notif α)) : Bool := ending evs == .done

/-- verdict on two position-tagged values: the earlier one is the comparer's first argument -/
def orient {α : Type} (c : α → α → Bool) (p q : Nat × α) : Bool :=
  if p.1 < q.1 then c p.2 q.2 else if q.1 < p.1 then c q.2 p.2 else (c p.2 q.2 && c q.2 p.2)

def tagFrom {α : Type} : Nat → List (Side × Notif α) → List (Side × Notif (Nat × α))
  | _, [] => []
  | n, (sd, x) :: tr => (sd, x.map (fun v => (n, v))) :: tagFrom (n + 1) tr

theorem seqOutFrom_cons {α} (cmp : α → α → Except Err Bool) (lag : Bool) (st : SeqRun α) (ev) (tr) :
    seqOutFrom cmp lag st (ev :: tr) = (seqStep cmp lag st ev).out ++ seqOutFrom cmp lag (seqStep cmp lag st ev).st tr := by
  simp [seqOutFrom, seqSteps]

theorem seqOutFrom_down {α} (cmp : α → α → Except Err Bool) (lag : Bool) (st : SeqRun α) (h : st.down = true)
    (tr : List (Side × Notif α)) : seqOutFrom cmp lag st tr = [] := by
  induction tr generalizing st with
  | nil => rfl
  | cons ev tr ih =>
    rw [seqOutFrom_cons]
    unfold seqStep
    split
    · simp [ih st h]
    · simp only [h, deliver_true, List.nil_append]
      apply ih; rfl

@[simp] theorem sideOf_nil {α} (sd : Side) : sideOf sd ([] : List (Side × Notif α)) = [] := rfl
theorem sideOf_cons_same {α} (sd : Side) (n : Notif α) (tr) : sideOf sd ((sd, n) :: tr) = n :: sideOf sd tr := by
  simp [sideOf]
@[simp] theorem sideOf_L_consL {α} (n : Notif α) (tr) : sideOf .L ((.L, n) :: tr) = n :: sideOf .L tr := rfl
@[simp] theorem sideOf_R_consR {α} (n : Notif α) (tr) : sideOf .R ((.R, n) :: tr) = n :: sideOf .R tr := rfl
@[simp] theorem sideOf_L_consR {α} (n : Notif α) (tr) : sideOf .L ((.R, n) :: tr) = sideOf .L tr := rfl
@[simp] theorem sideOf_R_consL {α} (n : Notif α) (tr) : sideOf .R ((.L, n) :: tr) = sideOf .R tr := rfl

@[simp] theorem seqSpec_nil_cons_done {α} (eq : α → α → Bool) (y : α) (rs) (dr) :
    seqSpec eq [] (y :: rs) true dr = some false := rfl
@[simp] theorem seqSpec_cons_nil_done {α} (eq : α → α → Bool) (x : α) (ls) (dl) :
    seqSpec eq (x :: ls) [] dl true = some false := rfl
@[simp] theorem seqSpec_nil_nil {α} (eq : α → α → Bool) (dl dr) :
    seqSpec eq ([] : List α) [] dl dr = if dl && dr then some true else none := rfl
@[simp] theorem seqSpec_cons_cons {α} (eq : α → α → Bool) (x y : α) (ls rs) (dl dr) :
    seqSpec eq (x :: ls) (y :: rs) dl dr = if eq x y then seqSpec eq ls rs dl dr else some false := rfl

@[simp] theorem isTerminal_next {α} (v : α) : (Notif.next v).isTerminal = false := rfl
@[simp] theorem isTerminal_completed {α} : (Notif.completed : Notif α).isTerminal = true := rfl
@[simp] theorem isTerminal_error {α} (e : Err) : (Notif.error e : Notif α).isTerminal = true := rfl

@[simp] theorem restE_true {α} (evs : List (Notif α)) : restE true evs = [] := rfl
@[simp] theorem restE_false {α} (evs : List (Notif α)) : restE false evs = elems evs := rfl
@[simp] theorem isDone_completed {α} (ns : List (Notif α)) : isDone (.completed :: ns) = true := rfl
@[simp] theorem isDone_next {α} (v : α) (ns : List (Notif α)) : isDone (.next v :: ns) = isDone ns := rfl
theorem isDone_of_done {α} {l : List (Notif α)} (h : ending l = .done) : isDone l = true := by rw [isDone, h]; rfl
theorem isDone_map {α β} (f : α → β) (l : List (Notif α)) : isDone (l.map (Notif.map f)) = isDone l := by rw [isDone, ending_map]; rfl

theorem seqSpec_mismatch {α} (eq : α → α → Bool) (pl pr : List α) (x y : α) (ls rs : List α) (dl dr : Bool)
    (hp : listEq eq pl pr = true) (hxy : eq x y = false) :
    seqSpec eq (pl ++ x :: ls) (pr ++ y :: rs) dl dr = some false := by
  induction pl generalizing pr with
  | nil =>
    cases pr with
    | nil => simp [hxy]
    | cons b pr => simp [listEq] at hp
  | cons a pl ih =>
    cases pr with
    | nil => simp [listEq] at hp
    | cons b pr =>
      simp only [listEq, Bool.and_eq_true] at hp
      simp only [List.cons_append, seqSpec_cons_cons, hp.1, if_true]
      exact ih pr hp.2

theorem seqSpec_done {α} (eq : α → α → Bool) (ls rs : List α) :
    seqSpec eq ls rs true true = some (listEq eq ls rs) := by
  induction ls generalizing rs with
  | nil => cases rs <;> simp [listEq, seqSpec]
  | cons x ls ih =>
    cases rs with
    | nil => simp [listEq]
    | cons y rs => simp only [seqSpec_cons_cons, listEq, ih]; cases eq x y <;> simp

theorem seqSpec_true {α} (eq : α → α → Bool) (ls rs : List α) (dl dr : Bool) (h : seqSpec eq ls rs dl dr = some true) :
    dl = true ∧ dr = true := by
  induction ls generalizing rs with
  | nil =>
    cases rs with
    | nil => cases dl <;> cases dr <;> first | exact ⟨rfl, rfl⟩ | cases h
    | cons y rs => cases dl <;> cases h
  | cons x ls ih =>
    cases rs with
    | nil => cases dr <;> cases h
    | cons y rs =>
      rw [seqSpec_cons_cons] at h
      cases hxy : eq x y <;> rw [hxy] at h
      · cases h
      · exact ih rs h

section Tags
variable {α : Type}

-- Positions in one trace are distinct, so the third branch of `orient` never arises in a run; it only makes `orient c` total
-- and symmetric.
theorem orient_symm (c : α → α → Bool) (p q : Nat × α) : orient c p q = orient c q p := by
  unfold orient
  by_cases h1 : p.1 < q.1
  · have : ¬ q.1 < p.1 := by omega
    simp [h1, this]
  · by_cases h2 : q.1 < p.1
    · simp [h1, h2]
    · simp [h1, h2, Bool.and_comm]

theorem orient_older (c : α → α → Bool) (i n : Nat) (v x : α) (h : i < n) : orient c (i, v) (n, x) = c v x := by
  simp [orient, h]

theorem orient_of_symm (c : α → α → Bool) (hsym : ∀ a b, c a b = c b a) (p q : Nat × α) : orient c p q = c p.2 q.2 := by
  simp only [orient, hsym q.2 p.2, Bool.and_self, ite_self]

end Tags

/-! While nothing is decided, one side `a` is *ahead*: its queue `q` holds what it has delivered beyond the other side, the other
queue is empty and the other side has not completed; `d` says whether `a` itself has completed.  (With both queues empty the side
that has completed, if any, is the one ahead.)  The machine is analysed for an event of the side ahead and one of the side behind. -/

def Side.other : Side → Side
  | .L => .R
  | .R => .L

section Ahead
variable {β : Type}

def qOf (a sd : Side) (q : List β) : List β := if sd = a then q else []
def dOf (a sd : Side) (d : Bool) : Bool := if sd = a then d else false

theorem dOf_false (a s : Side) : dOf a s false = false := by unfold dOf; split <;> rfl

theorem dOf_unchanged {α : Type} {a s sd : Side} {d : Bool} {n : Notif α} (h : n.isTerminal = false) :
    dOf a s d = (dOf a s d || (sd == s && n.isTerminal)) := by rw [h, Bool.and_false, Bool.or_false]

theorem dOf_completed (a sd s : Side) : dOf sd s true = (dOf a s false || (sd == s && true)) := by
  rw [dOf_false]; cases sd <;> cases s <;> rfl

variable (eq : β → β → Bool) (a : Side) (q : List β) (d : Bool) (T : List (Side × Notif β))

/-- the decision still to come: `seqSpec` on queued ++ future elements -/
def aheadSpec : Option Bool :=
  seqSpec eq (qOf a .L q ++ restE (dOf a .L d) (sideOf .L T)) (qOf a .R q ++ restE (dOf a .R d) (sideOf .R T))
    (dOf a .L d || isDone (sideOf .L T)) (dOf a .R d || isDone (sideOf .R T))

theorem aheadSpec_stopped (n : Notif β) : aheadSpec eq a q true ((a, n) :: T) = aheadSpec eq a q true T := by
  cases a <;> rfl
theorem aheadSpec_next (x : β) : aheadSpec eq a q false ((a, .next x) :: T) = aheadSpec eq a (q ++ [x]) false T := by
  cases a <;> simp [aheadSpec, qOf, dOf]
theorem aheadSpec_completed : aheadSpec eq a q false ((a, .completed) :: T) = aheadSpec eq a q true T := by
  cases a <;> rfl

theorem aheadSpec_pop (hsym : ∀ p q, eq p q = eq q p) (v x : β) :
    aheadSpec eq a (v :: q) d ((a.other, .next x) :: T) = if eq v x then aheadSpec eq a q d T else some false := by
  cases a
  · rfl
  · exact (seqSpec_cons_cons ..).trans (by rw [hsym x v]; rfl)
theorem aheadSpec_short (x : β) : aheadSpec eq a [] true ((a.other, .next x) :: T) = some false := by
  cases a <;> rfl
theorem aheadSpec_overtakes (x : β) : aheadSpec eq a [] false ((a.other, .next x) :: T) = aheadSpec eq a.other [x] false T := by
  cases a <;> rfl
theorem aheadSpec_behind_done (v : β) : aheadSpec eq a (v :: q) d ((a.other, .completed) :: T) = some false := by
  cases a <;> rfl
theorem aheadSpec_both_done : aheadSpec eq a [] true ((a.other, .completed) :: T) = some true := by
  cases a <;> rfl
theorem aheadSpec_other_done : aheadSpec eq a [] false ((a.other, .completed) :: T) = aheadSpec eq a.other [] true T := by
  cases a <;> rfl

theorem aheadSpec_nil : aheadSpec eq a q d [] = none := by
  cases a <;> cases q <;> cases d <;> rfl

end Ahead

def aheadSt {α : Type} (a : Side) (q : List α) (d : Bool) : SeqSt α := ⟨dOf a .L d, dOf a .R d, qOf a .L q, qOf a .R q, false⟩
def aheadRun {α : Type} (a : Side) (q : List α) (d : Bool) : SeqRun α := ⟨dOf a .L d, dOf a .R d, aheadSt a q d, false⟩

section Step
variable {α : Type} {cmp : α → α → Except Err Bool} {lag : Bool} {a : Side} {q : List α} {d : Bool}
  {sd : Side} {n : Notif α} {tr : List (Side × Notif α)}

theorem aheadRun_up : (aheadRun a q d).up sd = dOf a sd d := by cases sd <;> rfl

theorem seqOutFrom_ignored (h : dOf a sd d = true) :
    seqOutFrom cmp lag (aheadRun a q d) ((sd, n) :: tr) = seqOutFrom cmp lag (aheadRun a q d) tr := by
  rw [seqOutFrom_cons]; simp [seqStep, aheadRun_up, h]

theorem seqOutFrom_continues {a' : Side} {q' : List α} {d' : Bool} (hl : dOf a sd d = false)
    (hh : seqHandle cmp (aheadSt a q d) sd n = emit (aheadSt a' q' d') [])
    (hd : ∀ s, dOf a' s d' = (dOf a s d || (sd == s && n.isTerminal))) :
    seqOutFrom cmp lag (aheadRun a q d) ((sd, n) :: tr) = seqOutFrom cmp lag (aheadRun a' q' d') tr := by
  rw [seqOutFrom_cons]
  have hs : seqStep cmp lag (aheadRun a q d) (sd, n) = ⟨aheadRun a' q' d', [], none⟩ := by
    unfold seqStep
    rw [if_neg (by rw [aheadRun_up, hl]; decide)]
    show SeqStepOut.mk _ _ _ = _
    simp only [aheadRun, hh, deliver_nil, Bool.and_false, Bool.or_false, hd]
  rw [hs]; rfl

theorem seqOutFrom_stops {cs : List (Notif Bool)} (hl : dOf a sd d = false)
    (hh : (seqHandle cmp (aheadSt a q d) sd n).calls = cs) (hcs : deliver false cs = (true, cs)) :
    seqOutFrom cmp lag (aheadRun a q d) ((sd, n) :: tr) = cs := by
  rw [seqOutFrom_cons]
  have hs : (seqStep cmp lag (aheadRun a q d) (sd, n)).out = cs
      ∧ (seqStep cmp lag (aheadRun a q d) (sd, n)).st.down = true := by
    unfold seqStep
    rw [if_neg (by rw [aheadRun_up, hl]; decide)]
    simp only [aheadRun, hh, hcs, and_self]
  rw [hs.1, seqOutFrom_down _ _ _ hs.2, List.append_nil]

end Step

section Undecided
variable {α : Type} (c : α → α → Bool) (lag : Bool)

/-- in the shape the code has (`if not equal`), so that it holds by evaluation -/
theorem seqHandle_pop (a : Side) (q : List α) (d : Bool) (v x : α) :
    seqHandle (fun a b => .ok (c a b)) (aheadSt a (v :: q) d) a.other (.next x)
      = if !c v x then emitD (aheadSt a q d) false else emit (aheadSt a q d) [] := by
  cases a <;> rfl

/-- What the handler invocation for the event `(sd, n)` at position `k` does from the undecided state `(a, q, d)`, and what the spec
does with the event.  `q` carries the positions of arrival.  `on_error` events are not covered. -/
inductive Outcome (k : Nat) (a : Side) (q : List (Nat × α)) (d : Bool) (sd : Side) (n : Notif α) : Prop
  | ignored (hs : dOf a sd d = true)
      (hspec : ∀ T, aheadSpec (orient c) a q d ((sd, n.map (fun v => (k, v))) :: T) = aheadSpec (orient c) a q d T)
  | decides (hl : dOf a sd d = false) (b : Bool)
      (hcalls : (seqHandle (fun a b => .ok (c a b)) (aheadSt a (q.map (·.2)) d) sd n).calls = decided b)
      (hspec : ∀ T, aheadSpec (orient c) a q d ((sd, n.map (fun v => (k, v))) :: T) = some b)
  | continues (hl : dOf a sd d = false) (a' : Side) (q' : List (Nat × α)) (d' : Bool) (hold : ∀ p ∈ q', p.1 < k + 1)
      (hh : seqHandle (fun a b => .ok (c a b)) (aheadSt a (q.map (·.2)) d) sd n = emit (aheadSt a' (q'.map (·.2)) d') [])
      (hd : ∀ s, dOf a' s d' = (dOf a s d || (sd == s && n.isTerminal)))
      (hspec : ∀ T, aheadSpec (orient c) a q d ((sd, n.map (fun v => (k, v))) :: T) = aheadSpec (orient c) a' q' d' T)

/-- the handler is evaluated for both choices of `a` -/
theorem seqHandle_ahead (k : Nat) (a : Side) (q : List (Nat × α)) (d : Bool) (hold : ∀ p ∈ q, p.1 < k)
    (sd : Side) (n : Notif α) (hn : ∀ e, n ≠ .error e) : Outcome c k a q d sd n := by
  have hold' : ∀ p ∈ q, p.1 < k + 1 := fun p h => Nat.lt_succ_of_lt (hold p h)
  obtain rfl | rfl : sd = a ∨ sd = a.other := by cases a <;> cases sd <;> simp [Side.other]
  · -- an event of the side that is ahead
    cases d with
    | true => exact .ignored (by cases sd <;> rfl) fun T => aheadSpec_stopped ..
    | false =>
      have hl : dOf sd sd false = false := dOf_false ..
      cases n with
      | error e => exact absurd rfl (hn e)
      | next x =>
        refine .continues hl sd (q ++ [(k, x)]) false (fun p h => ?_) (by cases sd <;> rw [List.map_append] <;> rfl)
          (fun s => dOf_unchanged rfl) fun T => aheadSpec_next ..
        rcases List.mem_append.1 h with h | h
        · exact hold' p h
        · cases List.mem_singleton.1 h; exact Nat.lt_succ_self k
      | completed =>
        exact .continues hl sd q true hold' (by cases sd <;> cases q <;> rfl) (fun s => dOf_completed sd sd s)
          fun T => aheadSpec_completed ..
  · -- an event of the side that is behind: it has not completed and its queue is empty
    have hl : dOf a a.other d = false := by cases a <;> rfl
    cases n with
    | error e => exact absurd rfl (hn e)
    | next x =>
      cases q with
      | cons p q' =>
        obtain ⟨i, v⟩ := p
        have ho : orient c (i, v) (k, x) = c v x := orient_older c i k v x (hold (i, v) List.mem_cons_self)
        have hs := aheadSpec_pop (orient c) a q' d
        have hh := seqHandle_pop c a (q'.map (·.2)) d v x
        cases hv : c v x with
        | true =>
          exact .continues hl a q' d (fun p h => hold' p (List.mem_cons_of_mem _ h)) (hh.trans (if_neg (by rw [hv]; decide)))
            (fun s => dOf_unchanged rfl) fun T => (hs T (orient_symm c) (i, v) (k, x)).trans (if_pos (ho.trans hv))
        | false =>
          exact .decides hl false (congrArg HOut.calls (hh.trans (if_pos (by rw [hv]; decide))))
            fun T => (hs T (orient_symm c) (i, v) (k, x)).trans (if_neg (by rw [ho, hv]; decide))
      | nil =>
        cases d with
        | true => exact .decides hl false (by cases a <;> rfl) fun T => aheadSpec_short ..
        | false =>
          exact .continues hl a.other [(k, x)] false (fun p h => by cases List.mem_singleton.1 h; exact Nat.lt_succ_self k)
            (by cases a <;> rfl) (fun s => (dOf_false _ s).trans ((dOf_false a s).symm.trans (dOf_unchanged rfl)))
            fun T => aheadSpec_overtakes ..
    | completed =>
      cases q with
      | cons p q' => exact .decides hl false (by cases a <;> rfl) fun T => aheadSpec_behind_done ..
      | nil =>
        cases d with
        | true => exact .decides hl true (by cases a <;> rfl) fun T => aheadSpec_both_done ..
        | false =>
          exact .continues hl a.other [] true nofun (by cases a <;> rfl) (fun s => dOf_completed a a.other s)
            fun T => aheadSpec_other_done ..

theorem seqOutFrom_ahead (tr : List (Side × Notif α)) (hne : ∀ ev ∈ tr, ∀ e, ev.2 ≠ .error e)
    (k : Nat) (a : Side) (q : List (Nat × α)) (d : Bool) (hold : ∀ p ∈ q, p.1 < k) :
    seqOutFrom (fun a b => .ok (c a b)) lag (aheadRun a (q.map (·.2)) d) tr
      = specOut (aheadSpec (orient c) a q d (tagFrom k tr)) := by
  induction tr generalizing k a q d with
  | nil => rw [tagFrom, aheadSpec_nil]; rfl
  | cons ev tr ih =>
    obtain ⟨sd, n⟩ := ev
    rw [tagFrom]
    have hne' := fun ev h => hne ev (List.mem_cons_of_mem _ h)
    cases seqHandle_ahead c k a q d hold sd n (hne _ List.mem_cons_self) with
    | ignored hs hspec => rw [seqOutFrom_ignored hs, hspec]; exact ih hne' _ _ _ _ (fun p h => Nat.lt_succ_of_lt (hold p h))
    | decides hl b hcalls hspec => rw [seqOutFrom_stops hl hcalls rfl, hspec]; rfl
    | continues hl a' q' d' hold' hh hd hspec => rw [seqOutFrom_continues hl hh hd, hspec]; exact ih hne' _ _ _ _ hold'

def specOutOr (e : Err) : Option Bool → List (Notif Bool)
  | some b => decided b
  | none => [.error e]

theorem seqOutFrom_ahead_error (sd : Side) (e : Err) (pre post : List (Side × Notif α))
    (hne : ∀ ev ∈ pre, ∀ e, ev.2 ≠ .error e) (hnc : ∀ ev ∈ pre, ev ≠ (sd, .completed))
    (k : Nat) (a : Side) (q : List (Nat × α)) (d : Bool) (hold : ∀ p ∈ q, p.1 < k) (hlive : dOf a sd d = false) :
    seqOutFrom (fun a b => .ok (c a b)) lag (aheadRun a (q.map (·.2)) d) (pre ++ (sd, .error e) :: post)
      = specOutOr e (aheadSpec (orient c) a q d (tagFrom k pre)) := by
  induction pre generalizing k a q d with
  | nil =>
    rw [tagFrom, aheadSpec_nil]
    exact seqOutFrom_stops hlive (by cases sd <;> rfl) rfl
  | cons ev pre ih =>
    obtain ⟨sd', n⟩ := ev
    rw [tagFrom, List.cons_append]
    have hne' := fun ev h => hne ev (List.mem_cons_of_mem _ h)
    have hnc' := fun ev h => hnc ev (List.mem_cons_of_mem _ h)
    cases seqHandle_ahead c k a q d hold sd' n (hne _ List.mem_cons_self) with
    | ignored hs hspec =>
      rw [seqOutFrom_ignored hs, hspec]
      exact ih hne' hnc' _ _ _ _ (fun p h => Nat.lt_succ_of_lt (hold p h)) hlive
    | decides hl b hcalls hspec => rw [seqOutFrom_stops hl hcalls rfl, hspec]; rfl
    | continues hl a' q' d' hold' hh hd hspec =>
      rw [seqOutFrom_continues hl hh hd, hspec]
      refine ih hne' hnc' _ _ _ _ hold' ?_
      -- `sd` is still live: `(sd', n)` is not its `on_completed`
      rw [hd, hlive]
      cases n with
      | error e' => exact absurd rfl (hne _ List.mem_cons_self e')
      | next x => cases sd' <;> cases sd <;> rfl
      | completed => cases sd' <;> cases sd <;> first | rfl | exact absurd rfl (hnc _ List.mem_cons_self)

theorem seqOut_error (sd : Side) (e : Err) (pre post : List (Side × Notif α))
    (hne : ∀ ev ∈ pre, ∀ e, ev.2 ≠ .error e) (hnc : ∀ ev ∈ pre, ev ≠ (sd, .completed)) :
    seqOut (fun a b => .ok (c a b)) lag (pre ++ (sd, .error e) :: post)
      = specOutOr e (seqSpec (orient c) (elems (sideOf .L (tagFrom 0 pre))) (elems (sideOf .R (tagFrom 0 pre)))
          (isDone (sideOf .L (tagFrom 0 pre))) (isDone (sideOf .R (tagFrom 0 pre)))) :=
  seqOutFrom_ahead_error c lag sd e pre post hne hnc 0 .L [] false nofun (by cases sd <;> rfl)

theorem sideOf_tagFrom (sd : Side) (k : Nat) (tr : List (Side × Notif α)) :
    (sideOf sd (tagFrom k tr)).map (Notif.map (·.2)) = sideOf sd tr := by
  induction tr generalizing k with
  | nil => rfl
  | cons ev tr ih =>
    obtain ⟨sd', n⟩ := ev
    have hn : (n.map (fun v => (k, v))).map (·.2) = n := by cases n <;> rfl
    cases sd <;> cases sd' <;>
      simp only [tagFrom, sideOf_L_consL, sideOf_R_consR, sideOf_L_consR, sideOf_R_consL, List.map_cons, hn, ih]

theorem seqSpec_orient (hsym : ∀ a b, c a b = c b a) (ls rs : List (Nat × α)) (dl dr : Bool) :
    seqSpec (orient c) ls rs dl dr = seqSpec c (ls.map (·.2)) (rs.map (·.2)) dl dr := by
  induction ls generalizing rs with
  | nil => cases rs <;> rfl
  | cons x ls ih =>
    cases rs with
    | nil => rfl
    | cons y rs => simp only [List.map_cons, seqSpec_cons_cons, orient_of_symm c hsym, ih]

theorem seqSpec_tagFrom (hsym : ∀ a b, c a b = c b a) (k : Nat) (tr : List (Side × Notif α)) :
    seqSpec (orient c) (elems (sideOf .L (tagFrom k tr))) (elems (sideOf .R (tagFrom k tr)))
        (isDone (sideOf .L (tagFrom k tr))) (isDone (sideOf .R (tagFrom k tr)))
      = seqSpec c (elems (sideOf .L tr)) (elems (sideOf .R tr)) (isDone (sideOf .L tr)) (isDone (sideOf .R tr)) := by
  rw [seqSpec_orient c hsym, ← elems_map, ← elems_map, ← isDone_map (·.2) (sideOf .L _), ← isDone_map (·.2) (sideOf .R _),
    sideOf_tagFrom, sideOf_tagFrom]

end Undecided

theorem seqOutFrom_lag {α} (cmp : α → α → Except Err Bool) (tr : List (Side × Notif α)) (st1 st2 : SeqRun α)
    (hs : st1.s = st2.s) (hdn : st1.down = st2.down)
    (hup : st1.down = false → st1.upL = st2.upL ∧ st1.upR = st2.upR) :
    seqOutFrom cmp true st1 tr = seqOutFrom cmp false st2 tr := by
  induction tr generalizing st1 st2 with
  | nil => rfl
  | cons ev tr ih =>
    cases hd1 : st1.down with
    | true => rw [seqOutFrom_down _ _ _ hd1, seqOutFrom_down _ _ _ (hdn ▸ hd1)]
    | false =>
      obtain ⟨hL, hR⟩ := hup hd1
      have hd2 : st2.down = false := hdn ▸ hd1
      rw [seqOutFrom_cons, seqOutFrom_cons]
      obtain ⟨sd, n⟩ := ev
      have hupsd : st1.up sd = st2.up sd := by cases sd <;> simp [SeqRun.up, hL, hR]
      unfold seqStep
      simp only [hupsd]
      split
      · simp only [List.nil_append]
        exact ih st1 st2 hs hdn hup
      -- once `down` is set both runs are silent; before that `stopAll` is false in both
      · simp only [hs, hd1, hd2, Bool.not_true, Bool.false_and, Bool.or_false, Bool.not_false, Bool.true_and]
        congr 1
        apply ih
        · rfl
        · rfl
        · intro h
          simp only at h
          simp [h, hL, hR]

end Agg
