import RxProofs.Lemmas.SubjReplayOps
/-!
# What the subject does to its observers, in closed form

`emit` and `subscribe` loop over ScheduledObservers; here the loops are solved, up to the scheduling of the `run` actions
(`SchedWrites`), which is whatever the `ensure_active()` calls made it: only the liveness invariant looks at that, and it goes
through the loops itself.
-/

namespace SubjReplay
open Subj (upd)
variable {α : Type}

theorem St.so_ext (st : St α) {ss ss' : Id → Bool} {sq sq' e e' : Id → List (Notif α)} (h1 : ∀ k, ss k = ss' k)
    (h2 : ∀ k, sq k = sq' k) (h3 : ∀ k, e k = e' k) :
    { st with soStopped := ss, soQueue := sq, enq := e } = { st with soStopped := ss', soQueue := sq', enq := e' } :=
  St.ext' (soStopped := funext h1) (soQueue := h2) (enq := h3)

def pushed (st : St α) (l : List Id) (n : Notif α) : St α :=
  { st with soStopped := fun k => if k ∈ l ∧ n.isTerminal = true then true else st.soStopped k,
            soQueue := fun k => if k ∈ l ∧ st.soStopped k = false then st.soQueue k ++ [n] else st.soQueue k,
            enq := fun k => if k ∈ l ∧ st.soStopped k = false then st.enq k ++ [n] else st.enq k }

theorem mem_pushed_soQueue {st : St α} {l : List Id} {n n' : Notif α} {k : Id} (h : n' ∈ (pushed st l n).soQueue k) :
    n' ∈ st.soQueue k ∨ n' = n := by
  have h : n' ∈ (if k ∈ l ∧ st.soStopped k = false then st.soQueue k ++ [n] else st.soQueue k) := h
  split at h
  · exact (List.mem_append.mp h).imp id List.mem_singleton.mp
  · exact Or.inl h

theorem pushed_enq (st : St α) (l : List Id) (n : Notif α) (k : Id) :
    (pushed st l n).enq k = if k ∈ l ∧ st.soStopped k = false then st.enq k ++ [n] else st.enq k := rfl

theorem pushed_nil (st : St α) (n : Notif α) : pushed st [] n = st :=
  st.so_ext (ss' := st.soStopped) (sq' := st.soQueue) (e' := st.enq) (fun k => by simp) (fun k => by simp) (fun k => by simp)

/-- `soPush st i n` writes the three fields at `i` only, and `i ∉ is`: the guards of `pushed · is n` read them as in `st`. -/
theorem pushed_cons (st : St α) (i : Id) (is : List Id) (n : Notif α) (hi : i ∉ is) :
    pushed (soPush st i n) is n = pushed st (i :: is) n := by
  unfold soPush
  split
  next hs => refine st.so_ext (fun k => ?_) (fun k => ?_) (fun k => ?_) <;> by_cases e : k = i <;> simp [e, hs, hi]
  next hs =>
    refine st.so_ext (fun k => ?_) (fun k => ?_) (fun k => ?_) <;> by_cases e : k = i <;>
      cases n.isTerminal <;> simp [e, hs, hi, updE]

theorem pushAll_eq (n : Notif α) (l : List Id) (hl : l.Nodup) (st : St α) : pushAll n l st = pushed st l n := by
  induction l generalizing st with
  | nil => exact (pushed_nil st n).symm
  | cons i is ih =>
    have hc := List.nodup_cons.mp hl
    exact (ih hc.2 _).trans (pushed_cons st i is n hc.1)

theorem pushEnsureAll_closed (n : Notif α) (l : List Id) (hl : l.Nodup) (st : St α) :
    SchedWrites (pushed st l n) (pushEnsureAll n l st) := by
  induction l generalizing st with
  | nil => rw [pushed_nil]; rfl
  | cons i is ih =>
    have hc := List.nodup_cons.mp hl
    have h1 : SchedWrites (pushed (soPush st i n) is n) (pushed (ensureActive (soPush st i n) i) is n) := by
      rw [ensureActive_writes (soPush st i n) i]; rfl
    rw [← pushed_cons st i is n hc.1]
    exact h1.trans (ih hc.2 _)

theorem accept_closed (cfg : Cfg α) (st : St α) (n : Notif α) (hl : st.observers.Nodup) :
    SchedWrites (pushed (acceptCore cfg st n) st.observers n) (accept cfg st n) := by
  unfold accept
  split
  · exact pushEnsureAll_closed n _ hl (acceptCore cfg st n)
  · rw [← pushAll_eq _ _ hl]; exact ensureAll_writes _ _

/-- `ns` handed to the ScheduledObserver of `j`, one after the other; right only if it is not stopped. -/
def pushedTo (st : St α) (j : Id) (ns : List (Notif α)) : St α :=
  { st with soStopped := upd st.soStopped j (ns.any Notif.isTerminal),
            soQueue := upd st.soQueue j (st.soQueue j ++ ns),
            enq := upd st.enq j (st.enq j ++ ns) }

theorem mem_pushedTo_soQueue {st : St α} {j k : Id} {ns : List (Notif α)} {n' : Notif α} (h : n' ∈ (pushedTo st j ns).soQueue k) :
    n' ∈ st.soQueue k ∨ (k = j ∧ n' ∈ ns) := by
  have h : n' ∈ upd st.soQueue j (st.soQueue j ++ ns) k := h
  by_cases e : k = j
  · subst e; rw [upd_self] at h; exact (List.mem_append.mp h).imp id fun hm => ⟨rfl, hm⟩
  · rw [upd_ne _ _ e] at h; exact Or.inl h

theorem pushedTo_nil (st : St α) (j : Id) (hs : st.soStopped j = false) : pushedTo st j [] = st :=
  st.so_ext (ss' := st.soStopped) (sq' := st.soQueue) (e' := st.enq) (fun k => by by_cases e : k = j <;> simp [updE, e, hs])
    (fun k => by by_cases e : k = j <;> simp [updE, e]) (fun k => by by_cases e : k = j <;> simp [updE, e])

theorem soPush_eq_pushedTo (st : St α) (j : Id) (n : Notif α) (hs : st.soStopped j = false) :
    soPush st j n = pushedTo st j [n] := by
  unfold soPush
  rw [if_neg (by simp [hs])]
  refine st.so_ext (fun k => ?_) (fun _ => rfl) (fun _ => rfl)
  cases ht : n.isTerminal <;> by_cases e : k = j <;> simp [updE, e, ht, hs]

theorem pushedTo_append (st : St α) (j : Id) (ns ms : List (Notif α)) (hn : ∀ n ∈ ns, n.isTerminal = false) :
    pushedTo (pushedTo st j ns) j ms = pushedTo st j (ns ++ ms) := by
  have : ns.any Notif.isTerminal = false := List.any_eq_false.mpr fun n hn' => by simp [hn n hn']
  refine st.so_ext (fun k => ?_) (fun k => ?_) (fun k => ?_) <;> by_cases e : k = j <;> simp [pushedTo, updE, e, this]

theorem pushList_eq (j : Id) (ns : List (Notif α)) (st : St α) (hn : ∀ n ∈ ns, n.isTerminal = false)
    (hs : st.soStopped j = false) : pushList st j ns = pushedTo st j ns := by
  induction ns generalizing st with
  | nil => exact (pushedTo_nil st j hs).symm
  | cons n ns ih =>
    have h0 : n.isTerminal = false := hn n (List.mem_cons_self ..)
    rw [pushList, soPush_eq_pushedTo st j n hs, ih _ (fun m hm => hn m (List.mem_cons_of_mem _ hm)) (by simp [pushedTo, updE, h0])]
    exact pushedTo_append st j [n] ns (fun m hm => by rw [List.mem_singleton.mp hm]; exact h0)

theorem pushList_eq_short (j : Id) (ns : List (Notif α)) (st : St α) (hl : ns.length ≤ 1) (hs : st.soStopped j = false) :
    pushList st j ns = pushedTo st j ns := by
  match ns, hl with
  | [], _ => exact (pushedTo_nil st j hs).symm
  | [n], _ => exact soPush_eq_pushedTo st j n hs

theorem subscribeCore_closed (cfg : Cfg α) (st : St α) (j : Id) (hs : st.soStopped j = false) :
    SchedWrites
      (subFinish (pushedTo (subStart cfg st j) j ((trim cfg st.clock st.queue).map (fun it => Notif.next it.2) ++ terminalOf st)) j)
      (subscribeCore cfg st j) := by
  have hn : ∀ n ∈ (subStart cfg st j).queue.map (fun (it : Nat × α) => Notif.next it.2), n.isTerminal = false :=
    fun n hn => by obtain ⟨_, _, rfl⟩ := List.mem_map.mp hn; rfl
  have hs' : (subStart cfg st j).soStopped j = false := hs
  have hany : ((subStart cfg st j).queue.map fun (it : Nat × α) => Notif.next it.2).any Notif.isTerminal = false :=
    List.any_eq_false.mpr fun n h => by simp [hn n h]
  rw [subscribeCore_eq, pushList_eq j _ (subStart cfg st j) hn hs', pushList_eq_short j _ _ (terminalOf_length st) (by simp [pushedTo, updE, hany]),
    pushedTo_append _ j _ _ hn, ensureActive_writes]
  rfl

theorem subscribeCore_enq (cfg : Cfg α) (st : St α) (j k : Id) (hs : st.soStopped j = false) :
    (subscribeCore cfg st j).enq k =
      if k = j then st.enq j ++ ((trim cfg st.clock st.queue).map (fun it => Notif.next it.2) ++ terminalOf st) else st.enq k := by
  rw [subscribeCore_closed cfg st j hs]; rfl

theorem sadDispose_done (st : St α) (i : Id) (hs : st.sadDisposed i = true) : sadDispose st i = st := by
  rw [sadDispose_eq, if_pos hs]

theorem sadDispose_closed (st : St α) (i : Id) (hs : st.sadDisposed i = false) :
    SchedWrites
      { st with sadDisposed := upd st.sadDisposed i true, held := upd st.held i false,
                soStopped := if st.held i = true then upd st.soStopped i true else st.soStopped,
                observers := if st.held i = true ∧ st.disposed = false then st.observers.erase i else st.observers }
      (sadDispose st i) := by
  by_cases hh : st.held i = true
  · have e : sadDispose st i = removableDispose (sadOff st i) i := by
      rw [sadDispose_eq, if_neg (by simp [hs]), if_pos hh]
    have ho : (if (sadOff st i).disposed = false then (sadOff st i).observers.erase i else (sadOff st i).observers) =
        if st.held i = true ∧ st.disposed = false then st.observers.erase i else st.observers := by
      show (if st.disposed = false then st.observers.erase i else st.observers) = _
      by_cases hd : st.disposed = false
      · rw [if_pos hd, if_pos ⟨hh, hd⟩]
      · rw [if_neg hd, if_neg fun h => hd h.2]
    rw [e, removableDispose_closed (sadOff st i) i, ho]
    simp only [if_pos hh]
    rfl
  · have e : sadDispose st i = sadOff st i := by rw [sadDispose_eq, if_neg (by simp [hs]), if_neg hh]
    have h1 : ¬(st.held i = true ∧ st.disposed = false) := fun h => hh h.1
    rw [e]
    simp only [if_neg hh, if_neg h1]
    rfl

end SubjReplay
