import RxModel.Comb
/-!
# The frame of the L2 trace machines: plumbing and the step

A step is `Plumb.acts` of the actions of the one invocation an event causes, then the source's own unsubscribe (`step_eq`);
`Plumb.acts` has a closed form by phase (open / stopped), stated with `C02Comb.lateEffs`.
-/

namespace Comb

/-- the notifications a handler sends downstream, in program order -/
def actEmits {β} : List (Act β) → List (Notif β)
  | [] => []
  | .emit n :: r => n :: actEmits r
  | _ :: r => actEmits r

def actSubs {β} : List (Act β) → List Nat
  | [] => []
  | .sub k :: r => k :: actSubs r
  | _ :: r => actSubs r

/-- a notification list cut after its first terminal (what a live `AutoDetachObserver` lets through) -/
def cut {β} : List (Notif β) → List (Notif β)
  | [] => []
  | n :: r => if n.isTerminal then [n] else n :: cut r

def nextVals {β} : List (Notif β) → List β
  | [] => []
  | .next v :: r => v :: nextVals r
  | _ :: r => nextVals r

@[simp] theorem emits_nil {β} : emits ([] : List (Eff β)) = [] := rfl
@[simp] theorem outVals_nil {β} : outVals ([] : List (Eff β)) = [] := rfl
@[simp] theorem subsOf_nil {β} : subsOf ([] : List (Eff β)) = [] := rfl
@[simp] theorem unsubsOf_nil {β} : unsubsOf ([] : List (Eff β)) = [] := rfl

theorem emits_append {β} (a b : List (Eff β)) : emits (a ++ b) = emits a ++ emits b := by
  induction a with
  | nil => rfl
  | cons x xs ih => cases x <;> simp [emits, ih]

theorem subsOf_append {β} (a b : List (Eff β)) : subsOf (a ++ b) = subsOf a ++ subsOf b := by
  induction a with
  | nil => rfl
  | cons x xs ih => cases x <;> simp [subsOf, ih]

theorem outVals_eq_nextVals {β} (a : List (Eff β)) : outVals a = nextVals (emits a) := by
  induction a with
  | nil => rfl
  | cons x xs ih =>
    cases x with
    | emit n => cases n <;> simp [outVals, emits, nextVals, ih]
    | sub k => simp [outVals, emits, ih]
    | unsub k => simp [outVals, emits, ih]

@[simp] theorem emits_map_unsub {β} (l : List Nat) : emits (l.map (Eff.unsub (β := β))) = [] := by
  induction l with
  | nil => rfl
  | cons x xs ih => simp [emits, ih]

@[simp] theorem subsOf_map_unsub {β} (l : List Nat) : subsOf (l.map (Eff.unsub (β := β))) = [] := by
  induction l with
  | nil => rfl
  | cons x xs ih => simp [subsOf, ih]

@[simp] theorem unsubsOf_map_unsub {β} (l : List Nat) : unsubsOf (l.map (Eff.unsub (β := β))) = l := by
  induction l with
  | nil => rfl
  | cons x xs ih => simp [unsubsOf, ih]

theorem mem_subsOf {β} (effs : List (Eff β)) (j : Nat) : j ∈ subsOf effs ↔ Eff.sub j ∈ effs := by
  induction effs with
  | nil => simp
  | cons x xs ih => cases x <;> simp [subsOf, ih]

theorem actEmits_append {β} (a b : List (Act β)) : actEmits (a ++ b) = actEmits a ++ actEmits b := by
  induction a with
  | nil => rfl
  | cons x xs ih => cases x <;> simp [actEmits, ih]

theorem actSubs_append {β} (a b : List (Act β)) : actSubs (a ++ b) = actSubs a ++ actSubs b := by
  induction a with
  | nil => rfl
  | cons x xs ih => cases x <;> simp [actSubs, ih]

theorem nextVals_append {β} (a b : List (Notif β)) : nextVals (a ++ b) = nextVals a ++ nextVals b := by
  induction a with
  | nil => rfl
  | cons x xs ih => cases x <;> simp [nextVals, ih]

theorem outVals_append {β} (a b : List (Eff β)) : outVals (a ++ b) = outVals a ++ outVals b := by
  simp only [outVals_eq_nextVals, emits_append, nextVals_append]

theorem nextVals_cut_nil {β} (l : List (Notif β)) (h : nextVals l = []) : nextVals (cut l) = [] := by
  induction l with
  | nil => rfl
  | cons x xs ih => cases x <;> simp_all [nextVals, cut, Notif.isTerminal]

theorem mem_of_mem_cut {β} (x : Notif β) (l : List (Notif β)) (h : x ∈ cut l) : x ∈ l := by
  induction l with
  | nil => simp [cut] at h
  | cons a r ih =>
    simp only [cut] at h
    split at h
    · simp at h; simp [h]
    · rcases List.mem_cons.mp h with h | h
      · simp [h]
      · exact List.mem_cons_of_mem _ (ih h)

theorem cut_singleton {β} (x : Notif β) : cut [x] = [x] := by
  simp only [cut]; split <;> rfl

theorem filterMap_one {γ δ} (f : γ → Option δ) (a : γ) : [a].filterMap f = (f a).toList := by
  simp only [List.filterMap_cons, List.filterMap_nil]; cases f a <;> rfl

theorem valsOf_append {ι} (a b : List (Nat × Notif ι)) (i : Nat) :
    valsOf (a ++ b) i = valsOf a i ++ valsOf b i := by
  simp [valsOf]

@[simp] theorem valsOf_nil {ι} (i : Nat) : valsOf ([] : List (Nat × Notif ι)) i = [] := rfl

/-- plumbing well-formedness: once the downstream observer is stopped nothing is live -/
def Plumb.WF (p : Plumb) : Prop := p.done = true → p.live = []

theorem WF_of_not_done (p : Plumb) (h : p.done = false) : p.WF := fun hd => by rw [h] at hd; cases hd

theorem not_done_of_live {p : Plumb} (h : p.WF) {k : Nat} (hk : k ∈ p.live) : p.done = false := by
  cases hd : p.done
  · rfl
  · have := h hd; simp_all

theorem acts_append {β} (a b : List (Act β)) : ∀ p : Plumb,
    p.acts (a ++ b) = ((( p.acts a).1.acts b).1, (p.acts a).2 ++ ((p.acts a).1.acts b).2) := by
  induction a with
  | nil => intro p; simp [Plumb.acts]
  | cons x xs ih => intro p; simp [Plumb.acts, ih, List.append_assoc]

/-- the container after a list of actions on open plumbing, as long as no terminal goes out -/
def liveFold {β} : List Nat → List (Act β) → List Nat
  | l, [] => l
  | l, .emit _ :: r => liveFold l r
  | l, .sub k :: r => liveFold (l ++ [k]) r
  | l, .unsub k :: r => liveFold (l.erase k) r

@[simp] theorem liveFold_nil {β} (l : List Nat) : liveFold (β := β) l [] = l := rfl
@[simp] theorem liveFold_emit {β} (l : List Nat) (n : Notif β) (r : List (Act β)) :
    liveFold l (.emit n :: r) = liveFold l r := rfl
@[simp] theorem liveFold_sub {β} (l : List Nat) (k : Nat) (r : List (Act β)) :
    liveFold l (.sub k :: r) = liveFold (l ++ [k]) r := rfl
@[simp] theorem liveFold_unsub {β} (l : List Nat) (k : Nat) (r : List (Act β)) :
    liveFold l (.unsub k :: r) = liveFold (l.erase k) r := rfl

theorem liveFold_append {β} (a b : List (Act β)) : ∀ l, liveFold l (a ++ b) = liveFold (liveFold l a) b := by
  induction a with
  | nil => intro l; rfl
  | cons x xs ih => intro l; cases x <;> simp [ih]

theorem liveFold_map_emit {β} (l : List Nat) (xs : List (Notif β)) : liveFold l (xs.map Act.emit) = l := by
  induction xs with
  | nil => rfl
  | cons x xs ih => exact ih

theorem mem_liveFold {β} (as : List (Act β)) (k : Nat) : ∀ l, k ∈ liveFold l as → k ∈ l ∨ Act.sub k ∈ as := by
  induction as with
  | nil => intro l h; exact Or.inl h
  | cons a as ih =>
    intro l h
    cases a with
    | emit n => exact (ih l h).imp id (List.mem_cons_of_mem _)
    | sub j =>
      rcases ih _ h with h | h
      · rcases List.mem_append.mp h with h | h
        · exact Or.inl h
        · exact Or.inr (by rw [List.mem_singleton.mp h]; exact List.mem_cons_self ..)
      · exact Or.inr (List.mem_cons_of_mem _ h)
    | unsub j => exact (ih _ h).imp List.mem_of_mem_erase (List.mem_cons_of_mem _)

end Comb

namespace C02Comb
open Comb

/-- what a handler's actions produce once the downstream observer is stopped (the returned disposable is disposed):
nothing is emitted, nothing is live any more, and every subscription is opened and closed on the spot -/
def lateEffs {β} : List (Act β) → List (Eff β)
  | [] => []
  | .sub k :: r => Eff.sub k :: Eff.unsub k :: lateEffs r
  | _ :: r => lateEffs r

/-- **late_subscriptions_closed.** After the terminal (or a dispose) every subscription the operator still opens is closed
immediately: the effects of any further handler actions are exactly `sub k, unsub k` pairs, in program order. (In the frame
this is `Plumb.act (.sub k)` on a stopped plumbing: the holder is disposed when it is added to the disposed container /
assigned to the disposed SerialDisposable, the subscription when it is assigned to the holder.) -/
theorem late_subscriptions_closed {β} (as : List (Act β)) : ∀ (p : Plumb), p.WF → p.done = true →
    (p.acts as).2 = lateEffs as ∧ (p.acts as).1 = p := by
  induction as with
  | nil => intro p _ _; exact ⟨rfl, rfl⟩
  | cons a as ih =>
    intro p hwf hd
    have hl := hwf hd
    cases a with
    | emit n =>
      have : p.act (.emit n) = (p, []) := by simp [Plumb.act, hd]
      simp only [Plumb.acts, this, lateEffs, List.nil_append]; exact ih p hwf hd
    | sub k =>
      have : p.act (β := β) (.sub k) = (p, [Eff.sub k, Eff.unsub k]) := by simp [Plumb.act, hd]
      simp only [Plumb.acts, this, lateEffs]
      have := ih p hwf hd
      exact ⟨by rw [this.1]; rfl, this.2⟩
    | unsub k =>
      have : p.act (β := β) (.unsub k) = (p, []) := by simp [Plumb.act, hl]
      simp only [Plumb.acts, this, lateEffs, List.nil_append]; exact ih p hwf hd

/-- the unsubscribe effects of a downstream terminal are issued in container order: the emitting action closes exactly the
subscriptions live at that moment, in the order of the returned disposable -/
theorem terminal_container_order {β} (p : Plumb) (n : Notif β) (hd : p.done = false) (hn : n.isTerminal = true) :
    (p.act (.emit n)).2 = Eff.emit n :: p.live.map Eff.unsub ∧ (p.act (.emit n)).1.live = [] := by
  simp [Plumb.act, hd, hn]

end C02Comb

namespace Comb
open C02Comb (lateEffs late_subscriptions_closed)

theorem emits_lateEffs {β} (as : List (Act β)) : emits (lateEffs as) = [] := by
  induction as with
  | nil => rfl
  | cons a as ih => cases a <;> simp [lateEffs, emits, ih]

theorem subsOf_lateEffs {β} (as : List (Act β)) : subsOf (lateEffs as) = actSubs as := by
  induction as with
  | nil => rfl
  | cons a as ih => cases a <;> simp [lateEffs, subsOf, actSubs, ih]

/-- the effects of a list of actions on open plumbing with container `l`; after a terminal, `lateEffs` -/
def openEffs {β} : List Nat → List (Act β) → List (Eff β)
  | _, [] => []
  | l, .emit n :: r => if n.isTerminal then .emit n :: l.map .unsub ++ lateEffs r else .emit n :: openEffs l r
  | l, .sub k :: r => .sub k :: openEffs (l ++ [k]) r
  | l, .unsub k :: r => if k ∈ l then .unsub k :: openEffs (l.erase k) r else openEffs l r

@[simp] theorem openEffs_nil {β} (l : List Nat) : openEffs (β := β) l [] = [] := rfl
@[simp] theorem openEffs_nonterminal {β} (l : List Nat) (n : Notif β) (r : List (Act β)) (hn : n.isTerminal = false) :
    openEffs l (.emit n :: r) = .emit n :: openEffs l r := by simp [openEffs, hn]
@[simp] theorem openEffs_terminal {β} (l : List Nat) (n : Notif β) (r : List (Act β)) (hn : n.isTerminal = true) :
    openEffs l (.emit n :: r) = .emit n :: l.map .unsub ++ lateEffs r := by simp [openEffs, hn]
@[simp] theorem openEffs_sub {β} (l : List Nat) (k : Nat) (r : List (Act β)) :
    openEffs l (.sub k :: r) = .sub k :: openEffs (l ++ [k]) r := rfl
@[simp] theorem openEffs_unsub {β} (l : List Nat) (k : Nat) (r : List (Act β)) :
    openEffs l (.unsub k :: r) = if k ∈ l then .unsub k :: openEffs (l.erase k) r else openEffs l r := rfl

theorem openEffs_append {β} (a b : List (Act β)) : ∀ l, (actEmits a).any Notif.isTerminal = false →
    openEffs l (a ++ b) = openEffs l a ++ openEffs (liveFold l a) b := by
  induction a with
  | nil => intro l _; rfl
  | cons x xs ih =>
    intro l h
    cases x with
    | emit n =>
      simp only [actEmits, List.any_cons, Bool.or_eq_false_iff] at h
      simp [h.1, ih l h.2]
    | sub k => simpa using ih _ h
    | unsub k =>
      simp only [List.cons_append, openEffs_unsub, liveFold_unsub]
      split
      · simp [ih _ h]
      · rename_i hk; rw [ih _ h, List.erase_of_not_mem hk]

@[simp] theorem emits_openEffs {β} (as : List (Act β)) : ∀ l, emits (openEffs l as) = cut (actEmits as) := by
  induction as with
  | nil => intro l; rfl
  | cons a as ih =>
    intro l
    cases a with
    | emit n => rw [openEffs]; split <;> simp [emits, emits_append, emits_lateEffs, actEmits, cut, *]
    | sub k => simp [emits, actEmits, ih]
    | unsub k => rw [openEffs_unsub]; split <;> simp [emits, actEmits, ih]

@[simp] theorem subsOf_openEffs {β} (as : List (Act β)) : ∀ l, subsOf (openEffs l as) = actSubs as := by
  induction as with
  | nil => intro l; rfl
  | cons a as ih =>
    intro l
    cases a with
    | emit n => rw [openEffs]; split <;> simp [subsOf, subsOf_append, subsOf_lateEffs, actSubs, ih]
    | sub k => simp [subsOf, actSubs, ih]
    | unsub k => rw [openEffs_unsub]; split <;> simp [subsOf, actSubs, ih]

theorem unsub_mem_lateEffs {β} (as : List (Act β)) (k : Nat) (h : Eff.sub k ∈ lateEffs as) : Eff.unsub k ∈ lateEffs as := by
  induction as with
  | nil => cases h
  | cons a as ih =>
    cases a with
    | sub j =>
      simp only [lateEffs, List.mem_cons, Eff.sub.injEq, reduceCtorEq, false_or] at h ⊢
      exact h.elim (fun h => Or.inl (by rw [h])) (fun h => Or.inr (ih h))
    | _ => exact ih h

theorem unsub_mem_openEffs {β} (as : List (Act β)) (k : Nat) : ∀ l, (actEmits as).any Notif.isTerminal = true →
    k ∈ l ∨ Eff.sub k ∈ openEffs l as → Eff.unsub k ∈ openEffs l as := by
  induction as with
  | nil => intro l hT; cases hT
  | cons a as ih =>
    intro l hT hk
    cases a with
    | emit n =>
      cases hn : n.isTerminal
      · rw [openEffs_nonterminal _ _ _ hn] at hk ⊢
        simp only [actEmits, List.any_cons, hn, Bool.false_or] at hT
        exact List.mem_cons_of_mem _ (ih l hT (hk.imp_right (by simp)))
      · rw [openEffs_terminal _ _ _ hn] at hk ⊢
        simp only [List.cons_append, List.mem_cons, reduceCtorEq, false_or, List.mem_append, List.mem_map] at hk ⊢
        rcases hk with hk | ⟨j, _, hj⟩ | hk
        · exact Or.inl ⟨k, hk, rfl⟩
        · cases hj
        · exact Or.inr (unsub_mem_lateEffs as k hk)
    | sub j =>
      rw [openEffs_sub] at hk ⊢
      refine List.mem_cons_of_mem _ (ih _ hT ?_)
      rcases hk with hk | hk
      · exact Or.inl (List.mem_append_left _ hk)
      · rcases List.mem_cons.mp hk with hk | hk
        · cases hk; exact Or.inl (by simp)
        · exact Or.inr hk
    | unsub j =>
      rw [openEffs_unsub] at hk ⊢
      by_cases hj : j ∈ l <;> simp only [hj, if_true, if_false] at hk ⊢
      · by_cases hkj : k = j
        · subst hkj; exact List.mem_cons_self
        · refine List.mem_cons_of_mem _ (ih _ hT (hk.imp (List.mem_erase_of_ne hkj).mpr (by simp)))
      · exact ih l hT hk

/-- `Plumb.act`'s branches: 1 an emission on stopped plumbing, 2 a terminal, 3 an element; 4 a late subscription, 5 a
subscription; 6 an unsubscribe of a live id, 7 of another. -/
theorem acts_open {β} (as : List (Act β)) : ∀ (p : Plumb), p.done = false →
    p.acts as = (⟨(actEmits as).any Notif.isTerminal,
      if (actEmits as).any Notif.isTerminal then [] else liveFold p.live as⟩, openEffs p.live as) := by
  induction as with
  | nil => intro p hd; cases p; simp only at hd; subst hd; rfl
  | cons a as ih =>
    intro p hd
    simp only [Plumb.acts]
    fun_cases Plumb.act p a
    case case2 n _ ht =>
      obtain ⟨h1, h2⟩ := late_subscriptions_closed as ⟨true, []⟩ (fun _ => rfl) rfl
      simp [h1, h2, actEmits, ht]
    case case3 n _ ht => rw [ih p hd]; simp [actEmits, ht]
    case case5 k _ => rw [ih ⟨p.done, p.live ++ [k]⟩ hd]; simp [actEmits]
    case case6 k hk => rw [ih ⟨p.done, p.live.erase k⟩ hd]; simp [actEmits, hk]
    case case7 k hk => rw [ih p hd]; simp [actEmits, hk, List.erase_of_not_mem hk]
    all_goals (rename_i hd'; rw [hd] at hd'; cases hd')

/-- **Stopped plumbing**, well-formed or not (for well-formed plumbing `late_subscriptions_closed` says all) -/
theorem acts_stopped {β} (as : List (Act β)) : ∀ (p : Plumb), p.done = true →
    (p.acts as).1.done = true ∧ emits (p.acts as).2 = [] ∧ subsOf (p.acts as).2 = actSubs as := by
  induction as with
  | nil => intro p hd; exact ⟨hd, rfl, rfl⟩
  | cons a as ih =>
    intro p hd
    simp only [Plumb.acts]
    fun_cases Plumb.act p a
    case case1 n _ => simpa [actSubs] using ih p hd
    case case4 k _ => simpa [actSubs, emits, subsOf] using ih p hd
    case case6 k hk =>
      obtain ⟨h1, h2, h3⟩ := ih ⟨p.done, p.live.erase k⟩ hd
      exact ⟨h1, by simpa [emits] using h2, by simpa [subsOf, actSubs] using h3⟩
    case case7 k hk => simpa [actSubs] using ih p hd
    case case2 n hd' _ => exact absurd hd hd'
    case case3 n hd' _ => exact absurd hd hd'
    case case5 k hd' => exact absurd hd hd'

theorem folds_unsubs {β} (L : List Nat) : ∀ (l : List Nat), L.Nodup → l.Nodup →
    openEffs (β := β) l (L.map Act.unsub) = (L.filter (fun j => l.contains j)).map Eff.unsub ∧
    (liveFold (β := β) l (L.map Act.unsub)).Nodup ∧
    ∀ x, x ∈ liveFold (β := β) l (L.map Act.unsub) ↔ (x ∈ l ∧ x ∉ L) := by
  induction L with
  | nil => intro l _ h; simp [h]
  | cons j L ih =>
    intro l hL hnd
    have hL' := List.nodup_cons.mp hL
    simp only [List.map_cons, openEffs_unsub, liveFold_unsub, List.filter_cons, List.contains_iff_mem]
    by_cases hj : j ∈ l
    · obtain ⟨h1, h2, h3⟩ := ih (l.erase j) hL'.2 (hnd.erase j)
      have hfil : L.filter (fun x => (l.erase j).contains x) = L.filter (fun x => l.contains x) :=
        List.filter_congr fun x hx => by
          have : x ≠ j := fun h => hL'.1 (h ▸ hx)
          simp [List.mem_erase_of_ne this]
      refine ⟨by rw [if_pos hj, h1, hfil]; simp [hj], h2, fun x => ?_⟩
      rw [h3 x, List.mem_cons, not_or]
      exact ⟨fun ⟨a, b⟩ => ⟨List.mem_of_mem_erase a, fun hx => by subst hx; exact hnd.not_mem_erase a, b⟩,
        fun ⟨a, b, c⟩ => ⟨(List.mem_erase_of_ne b).mpr a, c⟩⟩
    · obtain ⟨h1, h2, h3⟩ := ih l hL'.2 hnd
      rw [List.erase_of_not_mem hj]
      refine ⟨by simp [hj, h1], h2, fun x => ?_⟩
      rw [h3 x, List.mem_cons, not_or]
      exact ⟨fun ⟨a, b⟩ => ⟨a, fun hx => hj (hx ▸ a), b⟩, fun ⟨a, _, c⟩ => ⟨a, c⟩⟩

theorem acts_WF {β} (p : Plumb) (as : List (Act β)) (h : p.WF) : (p.acts as).1.WF := by
  cases hd : p.done
  · rw [acts_open as p hd]; intro hT; simp only at hT ⊢; rw [hT]; rfl
  · rw [(late_subscriptions_closed as p h hd).2]; exact h

theorem done_acts {β} (p : Plumb) (as : List (Act β)) :
    (p.acts as).1.done = (p.done || (actEmits as).any Notif.isTerminal) := by
  cases hd : p.done
  · rw [acts_open as p hd]; rfl
  · exact (acts_stopped as p hd).1

theorem emits_acts {β} (p : Plumb) (as : List (Act β)) :
    emits (p.acts as).2 = if p.done then [] else cut (actEmits as) := by
  cases hd : p.done
  · rw [acts_open as p hd]; exact emits_openEffs as _
  · exact (acts_stopped as p hd).2.1

theorem subsOf_acts {β} (p : Plumb) (as : List (Act β)) : subsOf (p.acts as).2 = actSubs as := by
  cases hd : p.done
  · rw [acts_open as p hd]; exact subsOf_openEffs as _
  · exact (acts_stopped as p hd).2.2

theorem acts_sub_stopped {β} (p : Plumb) (hd : p.done = true) (k : Nat) :
    p.acts (β := β) [.sub k] = (p, [.sub k, .unsub k]) := by
  simp [Plumb.acts, Plumb.act, hd]

theorem actEmits_map_emit {β} (xs : List (Notif β)) : actEmits (xs.map Act.emit) = xs := by
  induction xs with
  | nil => rfl
  | cons x xs ih => simp [actEmits, ih]

theorem actEmits_map_unsub {β} (L : List Nat) : actEmits (L.map (Act.unsub (β := β))) = [] := by
  induction L with
  | nil => rfl
  | cons a as ih => simp [actEmits, ih]

def accOne {σ ι} (st : St σ) : Ev ι → List (Nat × Notif ι)
  | .src k n => if k ∈ st.p.live then [(k, n)] else []
  | _ => []

theorem mem_accOne {σ ι} {st : St σ} {e : Ev ι} {kn : Nat × Notif ι} (h : kn ∈ accOne st e) : kn.1 ∈ st.p.live := by
  cases e with
  | src k n =>
    simp only [accOne] at h
    split at h
    · simp at h; subst h; assumption
    · cases h
  | tick => cases h
  | dispose => cases h

/-- the invocation of operator code that event `e` causes in `st` (new operator state, actions): the handler of a live
source, the scheduled action, or nothing -/
def fired {σ ι β} (m : Machine σ ι β) (st : St σ) : Ev ι → σ × List (Act β)
  | .src k n => if k ∈ st.p.live then m.handler st.s k n else (st.s, [])
  | .tick => m.tick st.s st.p.done
  | .dispose => (st.s, [])

theorem fired_cases {σ ι β} (m : Machine σ ι β) (st : St σ) (e : Ev ι)
    {Q : σ × List (Act β) → List (Nat × Notif ι) → Prop}
    (h0 : Q (st.s, []) []) (hh : ∀ k n, k ∈ st.p.live → Q (m.handler st.s k n) [(k, n)])
    (ht : Q (m.tick st.s st.p.done) []) : Q (fired m st e) (accOne st e) := by
  cases e with
  | src k n =>
    simp only [fired, accOne]; split
    · exact hh k n ‹_›
    · exact h0
  | tick => exact ht
  | dispose => exact h0

theorem fired_src {σ ι β} (m : Machine σ ι β) (st : St σ) (k : Nat) (n : Notif ι) (hk : k ∈ st.p.live) :
    fired m st (.src k n) = m.handler st.s k n := by simp [fired, hk]

theorem fired_src_not_live {σ ι β} (m : Machine σ ι β) (st : St σ) (k : Nat) (n : Notif ι) (hk : k ∉ st.p.live) :
    fired m st (.src k n) = (st.s, []) := by simp [fired, hk]

@[simp] theorem fired_tick {σ ι β} (m : Machine σ ι β) (st : St σ) : fired m st .tick = m.tick st.s st.p.done := rfl

@[simp] theorem fired_dispose {σ ι β} (m : Machine σ ι β) (st : St σ) : fired m st .dispose = (st.s, []) := rfl

/-- after handing a terminal to the operator, the `AutoDetachObserver` of source `k` closes `k`'s subscription -/
def own {ι β} (p : Plumb) : Ev ι → List (Act β)
  | .src k n => if k ∈ p.live ∧ n.isTerminal = true then [.unsub k] else []
  | _ => []

theorem own_src {ι β} (p : Plumb) (k : Nat) (n : Notif ι) (hk : k ∈ p.live) :
    own (β := β) p (.src k n) = if n.isTerminal then [.unsub k] else [] := by simp [own, hk]

theorem own_src_not_live {ι β} (p : Plumb) (k : Nat) (n : Notif ι) (hk : k ∉ p.live) : own (β := β) p (.src k n) = [] := by
  simp [own, hk]

@[simp] theorem own_next {ι β} (p : Plumb) (k : Nat) (v : ι) : own (β := β) p (.src k (.next v)) = [] := by
  simp [own, Notif.isTerminal]

@[simp] theorem own_tick {ι β} (p : Plumb) : own (ι := ι) (β := β) p .tick = [] := rfl

@[simp] theorem own_dispose {ι β} (p : Plumb) : own (ι := ι) (β := β) p .dispose = [] := rfl

theorem own_cases {ι β} (p : Plumb) (e : Ev ι) : own (β := β) p e = [] ∨ ∃ k, own (β := β) p e = [.unsub k] := by
  cases e with
  | src k n => simp only [own]; split <;> simp
  | _ => exact Or.inl rfl

@[simp] theorem actEmits_own {ι β} (p : Plumb) (e : Ev ι) : actEmits (own (β := β) p e) = [] := by
  rcases own_cases (β := β) p e with h | ⟨k, h⟩ <;> rw [h] <;> rfl

@[simp] theorem actSubs_own {ι β} (p : Plumb) (e : Ev ι) : actSubs (own (β := β) p e) = [] := by
  rcases own_cases (β := β) p e with h | ⟨k, h⟩ <;> rw [h] <;> rfl

theorem step_eq {σ ι β} (m : Machine σ ι β) (st : St σ) (e : Ev ι) (he : e ≠ .dispose) :
    step m st e = (⟨(fired m st e).1, (st.p.acts ((fired m st e).2 ++ own st.p e)).1⟩,
      (st.p.acts ((fired m st e).2 ++ own st.p e)).2) := by
  cases e with
  | dispose => exact absurd rfl he
  | tick => simp [step]
  | src k n =>
    by_cases hk : k ∈ st.p.live
    · cases hn : n.isTerminal <;> simp [step, fired_src _ _ _ _ hk, own_src _ _ _ hk, hk, hn, acts_append, Plumb.acts]
    · simp [step, fired_src_not_live _ _ _ _ hk, own_src_not_live _ _ _ hk, hk, Plumb.acts]

theorem step_dispose {σ ι β} (m : Machine σ ι β) (st : St σ) :
    step m st .dispose = (⟨st.s, ⟨true, []⟩⟩, st.p.live.map Eff.unsub) := rfl

theorem step_state {σ ι β} (m : Machine σ ι β) (st : St σ) (e : Ev ι) : (step m st e).1.s = (fired m st e).1 := by
  by_cases he : e = .dispose
  · subst he; rfl
  · rw [step_eq m st e he]

theorem step_inv_state {σ ι β} (m : Machine σ ι β) {inv : σ → Prop} (hh : ∀ s k n, inv s → inv (m.handler s k n).1)
    (ht : ∀ s d, inv s → inv (m.tick s d).1) (st : St σ) (e : Ev ι) (h : inv st.s) : inv (step m st e).1.s := by
  rw [step_state]; exact fired_cases m st e (Q := fun r _ => inv r.1) h (fun k n _ => hh _ k n h) (ht _ _ h)

theorem step_WF {σ ι β} (m : Machine σ ι β) (st : St σ) (e : Ev ι) (h : st.p.WF) : (step m st e).1.p.WF := by
  by_cases he : e = .dispose
  · subst he; intro _; rfl
  · rw [step_eq m st e he]; exact acts_WF _ _ h

theorem subsOf_step {σ ι β} (m : Machine σ ι β) (st : St σ) (e : Ev ι) :
    subsOf (step m st e).2 = actSubs (fired m st e).2 := by
  by_cases he : e = .dispose
  · subst he; rw [step_dispose, subsOf_map_unsub]; rfl
  · rw [step_eq m st e he, subsOf_acts, actSubs_append, actSubs_own, List.append_nil]

theorem emits_step {σ ι β} (m : Machine σ ι β) (st : St σ) (e : Ev ι) :
    emits (step m st e).2 = if st.p.done then [] else cut (actEmits (fired m st e).2) := by
  by_cases he : e = .dispose
  · subst he; rw [step_dispose, emits_map_unsub]; split <;> rfl
  · rw [step_eq m st e he, emits_acts, actEmits_append, actEmits_own, List.append_nil]

theorem done_step {σ ι β} (m : Machine σ ι β) (st : St σ) (e : Ev ι) (he : e ≠ .dispose) :
    (step m st e).1.p.done = (st.p.done || (actEmits (fired m st e).2).any Notif.isTerminal) := by
  rw [step_eq m st e he, done_acts, actEmits_append, actEmits_own, List.append_nil]

theorem step_done {σ ι β} (m : Machine σ ι β) (st : St σ) (e : Ev ι) (hd : st.p.done = true) :
    (step m st e).1.p.done = true := by
  by_cases he : e = .dispose
  · subst he; rfl
  · rw [done_step m st e he, hd]; rfl

theorem done_of_emits_terminal {σ ι β} (m : Machine σ ι β) (st : St σ) (e : Ev ι) (x : Notif β)
    (hx : x ∈ emits (step m st e).2) (ht : x.isTerminal = true) : (step m st e).1.p.done = true := by
  rw [emits_step] at hx
  split at hx
  · cases hx
  · have hne : e ≠ .dispose := by rintro rfl; simp [actEmits, cut] at hx
    rw [done_step m st e hne, List.any_eq_true.mpr ⟨x, mem_of_mem_cut _ _ hx, ht⟩, Bool.or_true]

theorem step_open {σ ι β} (m : Machine σ ι β) (st : St σ) (e : Ev ι) (he : e ≠ .dispose) (hd : st.p.done = false) :
    step m st e = (⟨(fired m st e).1, ⟨(actEmits (fired m st e).2).any Notif.isTerminal,
        if (actEmits (fired m st e).2).any Notif.isTerminal then [] else liveFold st.p.live ((fired m st e).2 ++ own st.p e)⟩⟩,
      openEffs st.p.live ((fired m st e).2 ++ own st.p e)) := by
  rw [step_eq m st e he, acts_open _ _ hd, actEmits_append, actEmits_own, List.append_nil]

theorem live_step {σ ι β} (m : Machine σ ι β) (st : St σ) (e : Ev ι) (h : st.p.WF) (he : e ≠ .dispose) :
    (step m st e).1.p.live = if st.p.done || (actEmits (fired m st e).2).any Notif.isTerminal then []
      else liveFold st.p.live ((fired m st e).2 ++ own st.p e) := by
  cases hd : st.p.done
  · rw [step_open m st e he hd]; rfl
  · rw [step_eq m st e he]; exact acts_WF _ _ h ((acts_stopped _ _ hd).1)

/-- what the frame adds to an invocation (the cut at a terminal, the source's own unsubscribe, a dispose) only closes -/
theorem live_step_sublist {σ ι β} (m : Machine σ ι β) (st : St σ) (e : Ev ι) (h : st.p.WF) :
    (step m st e).1.p.live.Sublist (liveFold st.p.live (fired m st e).2) := by
  by_cases he : e = .dispose
  · subst he; exact List.nil_sublist _
  rw [live_step m st e h he]
  split
  · exact List.nil_sublist _
  · rw [liveFold_append]
    rcases own_cases (β := β) st.p e with h | ⟨k, h⟩ <;> rw [h]
    · exact List.Sublist.refl _
    · exact List.erase_sublist ..

theorem step_src_live {σ ι β} (m : Machine σ ι β) (st : St σ) (k : Nat) (n : Notif ι) (h : st.p.WF) (hk : k ∈ st.p.live) :
    step m st (.src k n) =
      (⟨(m.handler st.s k n).1, ⟨(actEmits (m.handler st.s k n).2).any Notif.isTerminal,
          if (actEmits (m.handler st.s k n).2).any Notif.isTerminal then []
          else liveFold st.p.live ((m.handler st.s k n).2 ++ if n.isTerminal then [.unsub k] else [])⟩⟩,
        openEffs st.p.live ((m.handler st.s k n).2 ++ if n.isTerminal then [.unsub k] else [])) := by
  rw [step_open m st _ (by simp) (not_done_of_live h hk), fired_src m st k n hk, own_src st.p k n hk]

theorem step_src_emits {σ ι β} (m : Machine σ ι β) (st : St σ) (k : Nat) (n : Notif ι) (h : st.p.WF) (hk : k ∈ st.p.live)
    (xs : List (Notif β)) (hxs : (m.handler st.s k n).2 = xs.map Act.emit) :
    (step m st (.src k n)).1.p = if xs.any Notif.isTerminal then ⟨true, []⟩
      else ⟨false, if n.isTerminal then st.p.live.erase k else st.p.live⟩ := by
  rw [step_src_live m st k n h hk, hxs, liveFold_append, liveFold_map_emit, actEmits_map_emit]
  cases xs.any Notif.isTerminal <;> cases n.isTerminal <;> rfl

theorem step_src_not_live {σ ι β} (m : Machine σ ι β) (st : St σ) (k : Nat) (n : Notif ι)
    (hk : k ∉ st.p.live) : step m st (.src k n) = (st, []) := by
  simp [step, hk]

theorem step_src_state {σ ι β} (m : Machine σ ι β) (st : St σ) (k : Nat) (n : Notif ι)
    (hk : k ∈ st.p.live) : (step m st (.src k n)).1.s = (m.handler st.s k n).1 := by
  rw [step_state, fired_src _ _ _ _ hk]

theorem step_tick_silent {σ ι β} (m : Machine σ ι β) (st : St σ) (hm : m.tick st.s st.p.done = (st.s, [])) :
    step m st .tick = (st, []) := by
  simp [step, hm, Plumb.acts]

/-- `Q`: new operator state, delivered, sent downstream, subscribed. A live source means the downstream observer is not
stopped: the handler's calls go out as they are, cut at the first terminal. -/
theorem step_obs {σ ι β} (m : Machine σ ι β) (st : St σ) (e : Ev ι) (h : st.p.WF)
    {Q : σ → List (Nat × Notif ι) → List (Notif β) → List Nat → Prop} (h0 : Q st.s [] [] [])
    (hh : ∀ k n, k ∈ st.p.live →
      Q (m.handler st.s k n).1 [(k, n)] (cut (actEmits (m.handler st.s k n).2)) (actSubs (m.handler st.s k n).2))
    (ht : Q (m.tick st.s st.p.done).1 [] (if st.p.done then [] else cut (actEmits (m.tick st.s st.p.done).2))
      (actSubs (m.tick st.s st.p.done).2)) :
    Q (step m st e).1.s (accOne st e) (emits (step m st e).2) (subsOf (step m st e).2) := by
  rw [step_state, emits_step, subsOf_step]
  refine fired_cases m st e (Q := fun r acc => Q r.1 acc (if st.p.done then [] else cut (actEmits r.2)) (actSubs r.2))
    ?_ (fun k n hk => ?_) ht
  · split <;> exact h0
  · rw [not_done_of_live h hk]; exact hh k n hk

theorem step_obs_static {σ ι β} (m : Machine σ ι β) (hm : ∀ s d, m.tick s d = (s, [])) (st : St σ) (e : Ev ι)
    (h : st.p.WF) {Q : σ → List (Nat × Notif ι) → List (Notif β) → List Nat → Prop} (h0 : Q st.s [] [] [])
    (hh : ∀ k n, k ∈ st.p.live →
      Q (m.handler st.s k n).1 [(k, n)] (cut (actEmits (m.handler st.s k n).2)) (actSubs (m.handler st.s k n).2)) :
    Q (step m st e).1.s (accOne st e) (emits (step m st e).2) (subsOf (step m st e).2) :=
  step_obs m st e h h0 hh (by simpa [hm, actEmits, actSubs, cut] using h0)

theorem step_inv_static {σ ι β} (m : Machine σ ι β) (hm : ∀ s d, m.tick s d = (s, [])) {I : St σ → Prop}
    (st : St σ) (e : Ev ι) (h : I st) (hsrc : ∀ k n, k ∈ st.p.live → I (step m st (.src k n)).1)
    (hdisp : I ⟨st.s, { done := true, live := [] }⟩) : I (step m st e).1 := by
  cases e with
  | src k n =>
    by_cases hk : k ∈ st.p.live
    · exact hsrc k n hk
    · rw [step_src_not_live _ _ _ _ hk]; exact h
  | tick => rw [step_tick_silent m st (hm _ _)]; exact h
  | dispose => exact hdisp

end Comb
