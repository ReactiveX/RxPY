import RxProofs.Lemmas.WinGrpFrame
import RxProofs.Lemmas.WinGrpList
/-!
# The writer and subscriber operations of the `group_by_until` machine in one normal form

`subEnd`, `writerNext`, `writerTerm`, `subscribeGroup` do the same three things to one group: rewrite
its record, log what was delivered, possibly give back the subscriber's reference of the RefCountDisposable.  `act` is that shape.
-/
namespace WinGrp
variable {α κ β : Type}

def relIf (b : Bool) (s : St κ β) : St κ β := if b then rcdRelease s else s

def emits (s : St κ β) (l : List (Eff κ β)) : St κ β := { s with out := s.out ++ l }

/-- Record `r` of group `g` becomes `F r` (the assignments to the writer `Subject`, to the subscriber's observer and to its
`CompositeDisposable(inner_ref, writer_subscription)`, merged into one update), `L r` is logged, and if `B r` the subscription's `dispose()`
runs with the reference still held: `RefCountDisposable.release()`, the only way such an operation reaches the other groups and the source. -/
def act (s : St κ β) (g : Nat) (F : Grp κ β → Grp κ β) (L : Grp κ β → List (Eff κ β)) (B : Grp κ β → Bool) : St κ β :=
  match s.groups[g]? with
  | none => s
  | some r => relIf (B r) (emits (modGrp s g F) (L r))

theorem act_some {s : St κ β} {g : Nat} {r : Grp κ β} (hg : s.groups[g]? = some r) (F L B) :
    act s g F L B = relIf (B r) (emits (modGrp s g F) (L r)) := by unfold act; simp only [hg]

theorem act_of_not {s : St κ β} {g : Nat} {r : Grp κ β} (hg : s.groups[g]? = some r) {F L B} (hB : B r = false) :
    act s g F L B = emits (modGrp s g F) (L r) := by
  unfold act relIf; simp only [hg, hB, Bool.false_eq_true, if_false]

theorem modGrp_congr_at {s : St κ β} {g : Nat} {r : Grp κ β} (hg : s.groups[g]? = some r) (F H : Grp κ β → Grp κ β) (h : F r = H r) :
    modGrp s g F = modGrp s g H := by
  unfold modGrp; rw [List.modify_congr_at _ _ F H fun a ha => by rw [hg] at ha; cases ha; exact h]

theorem modGrp_id_at (s : St κ β) (g : Nat) (F : Grp κ β → Grp κ β) (h : ∀ r, s.groups[g]? = some r → F r = r) :
    modGrp s g F = s := by
  unfold modGrp; rw [List.modify_congr_at _ _ F id h, List.modify_id]

theorem act_after {s : St κ β} {g : Nat} {r : Grp κ β} (hg : s.groups[g]? = some r) (F : Grp κ β → Grp κ β) (l : List (Eff κ β))
    (F2 : Grp κ β → Grp κ β) (L2 B2) :
    act (emits (modGrp s g F) l) g F2 L2 B2 = relIf (B2 (F r)) (emits (modGrp s g (F2 ∘ F)) (l ++ L2 (F r))) := by
  unfold act
  simp only [emits, modGrp, List.getElem?_modify, hg, if_true, Option.map_eq_map, Option.map_some, List.modify_modify_eq,
    List.append_assoc]

theorem act_modGrp (s : St κ β) (g : Nat) (F F2 : Grp κ β → Grp κ β) (L2 B2) :
    act (modGrp s g F) g F2 L2 B2 = act s g (F2 ∘ F) (L2 ∘ F) (B2 ∘ F) := by
  unfold act
  cases hg : s.groups[g]? with
  | none => simp only [modGrp, List.getElem?_modify, hg]; exact modGrp_id_at s g F (by simp [hg])
  | some r => simp [modGrp, emits, hg, List.modify_modify_eq]

/-- the subscriber's `AutoDetachObserver` has ended and its subscription is disposed -/
def endR (r : Grp κ β) : Grp κ β := { r with sub := .ended, holdsRef := false }

theorem subEnd_eq (s : St κ β) (g : Nat) : subEnd s g = act s g endR (fun _ => []) (·.holdsRef) := by
  unfold subEnd act
  cases s.groups[g]? with
  | none => rfl
  | some r => simp only [relIf, emits, List.append_nil]; rfl

/-- a stopped Subject ignores the terminal; an active subscriber gets it and its subscription ends -/
def termR (n : Notif β) (r : Grp κ β) : Grp κ β :=
  if r.stopped then r
  else if r.sub = .active then
    { r with stopped := true, exc := excOf n, wlog := r.wlog ++ [n], seen := r.seen ++ [n], sub := .ended, holdsRef := false }
  else { r with stopped := true, exc := excOf n, wlog := r.wlog ++ [n] }

def sendL (g : Nat) (n : Notif β) (r : Grp κ β) : List (Eff κ β) :=
  if r.stopped then [] else .tap g n :: (if r.sub = .active then [.grp g n] else [])

def termB (r : Grp κ β) : Bool := !r.stopped && (decide (r.sub = .active) && r.holdsRef)

theorem writerTerm_eq (s : St κ β) (g : Nat) (n : Notif β) : writerTerm s g n = act s g (termR n) (sendL g n) termB := by
  unfold writerTerm
  cases hg : s.groups[g]? with
  | none => unfold act; rw [hg]
  | some r =>
    simp only
    by_cases hs : r.stopped
    · unfold act
      simp only [hg, hs, if_true, termB, sendL, Bool.not_true, Bool.false_and, relIf, Bool.false_eq_true, if_false, emits,
        List.append_nil]
      rw [← modGrp_congr_at hg id (termR n) (by simp [termR, hs])]; exact (modGrp_id_at s g id fun _ _ => rfl).symm
    · by_cases ha : r.sub = .active
      · -- tap, delivery, `dispose()` of the subscription: the three updates merge
        simp only [hs, ha, Bool.false_eq_true, if_false, if_true, subEnd_eq]
        have merged : emit (modGrp (emit (modGrp s g fun r => { r with stopped := true, exc := excOf n, wlog := r.wlog ++ [n] })
            (Eff.tap g n)) g fun r => { r with seen := r.seen ++ [n] }) (Eff.grp g n) =
            emits (modGrp s g fun r => { r with stopped := true, exc := excOf n, wlog := r.wlog ++ [n], seen := r.seen ++ [n] })
              [.tap g n, .grp g n] := by
          simp only [modGrp, emit, emits, List.modify_modify_eq, List.append_assoc, List.cons_append, List.nil_append]; rfl
        rw [merged, act_after hg]
        unfold act
        simp only [hg, termB, sendL, hs, ha, Bool.not_false, Bool.true_and, decide_true, Bool.false_eq_true, if_false, if_true,
          List.append_nil]
        rw [modGrp_congr_at hg _ (termR n) (by simp [termR, hs, ha, endR])]
      · unfold act
        simp only [hg, hs, ha, Bool.false_eq_true, if_false, termB, sendL, decide_false, Bool.false_and, Bool.and_false, relIf, emits]
        rw [modGrp_congr_at hg _ (termR n) (by simp [termR, hs, ha])]; rfl

def pushR (v : β) (r : Grp κ β) : Grp κ β :=
  if r.stopped then r
  else if r.sub = .active then { r with wlog := r.wlog ++ [.next v], seen := r.seen ++ [.next v] }
  else { r with wlog := r.wlog ++ [.next v] }

theorem writerNext_eq (s : St κ β) (g : Nat) (v : β) :
    writerNext s g v = act s g (pushR v) (sendL g (.next v)) (fun _ => false) := by
  unfold writerNext act
  cases hg : s.groups[g]? with
  | none => rfl
  | some r =>
    simp only [relIf, Bool.false_eq_true, if_false]
    by_cases hs : r.stopped
    · simp only [hs, if_true, sendL, emits, List.append_nil]
      rw [← modGrp_congr_at hg id (pushR v) (by simp [pushR, hs])]; exact (modGrp_id_at s g id fun _ _ => rfl).symm
    · by_cases ha : r.sub = .active
      · simp only [hs, ha, Bool.false_eq_true, if_false, if_true, sendL]
        rw [← modGrp_congr_at hg (fun r => { r with wlog := r.wlog ++ [.next v], seen := r.seen ++ [.next v] }) (pushR v) (by simp [pushR, hs, ha])]
        simp only [modGrp, emit, emits, List.modify_modify_eq, List.append_assoc, List.cons_append, List.nil_append]; rfl
      · simp only [hs, ha, Bool.false_eq_true, if_false, sendL, emits]
        rw [modGrp_congr_at hg _ (pushR v) (by simp [pushR, hs, ha])]; rfl

theorem pushElem_ok {cfg : Cfg α κ β} {x : α} {v : β} (hv : cfg.elemMapper x = .ok v) (s : St κ β) (g : Nat) :
    pushElem cfg s g x = writerNext s g v := by
  unfold pushElem; rw [hv]

/-- the terminal a stopped Subject replays to a late subscriber -/
def replay (r : Grp κ β) : Notif β := match r.exc with | some e => .error e | none => .completed

/-- a stopped Subject replays its terminal and the subscription ends at once -/
def subR (held : Bool) (r : Grp κ β) : Grp κ β :=
  if r.stopped then { r with sub := .ended, holdsRef := false, seen := r.seen ++ [replay r] }
  else { r with sub := .active, holdsRef := held }

def subL (g : Nat) (r : Grp κ β) : List (Eff κ β) := if r.stopped then [.grp g (replay r)] else []

/-- `held`: the `.disposable` getter takes a reference unless the RefCountDisposable is disposed -/
theorem subscribeGroup_eq (s : St κ β) (g : Nat) :
    subscribeGroup s g =
      match s.groups[g]? with
      | some r =>
        if r.sub ≠ .none ∨ r.announced = false then s
        else act { s with count := if !s.rcdDisposed then s.count + 1 else s.count } g (subR (!s.rcdDisposed)) (subL g)
          (fun r => r.stopped && !s.rcdDisposed)
      | none => s := by
  unfold subscribeGroup
  cases hg : s.groups[g]? with
  | none => rfl
  | some r =>
    simp only
    split
    · rfl
    · generalize hs0 : ({ s with count := if (!s.rcdDisposed) = true then s.count + 1 else s.count } : St κ β) = s0
      have hg0 : s0.groups[g]? = some r := by rw [← hs0]; exact hg
      by_cases hst : r.stopped
      · simp only [hst, Bool.not_true, Bool.false_eq_true, if_false, subEnd_eq]
        rw [show ∀ (t : St κ β) e, emit t e = emits t [e] from fun _ _ => rfl, act_after hg0]
        unfold act
        simp only [hg0, hst, subL, if_true, Bool.true_and, List.append_nil]
        rw [modGrp_congr_at hg0 _ (subR (!s.rcdDisposed)) (by unfold subR endR; rw [if_pos hst]; rfl)]; rfl
      · unfold act
        simp only [hst, Bool.not_false, if_true, hg0, Bool.false_and, relIf, Bool.false_eq_true, if_false, subL, emits, List.append_nil]
        rw [modGrp_congr_at hg0 _ (subR (!s.rcdDisposed)) (by simp [subR, hst])]

def setExp (r : Grp κ β) : Grp κ β := { r with expired := true }

theorem expire_found (cfg : Cfg α κ β) {s : St κ β} {g : Nat} {r : Grp κ β} (hg : s.groups[g]? = some r)
    (hf : (s.writers.find? (fun p => cfg.keyEq p.1 r.key)).isSome = true) :
    expire cfg s g =
      let t := act (modGrp { s with writers := s.writers.eraseP (fun p => cfg.keyEq p.1 r.key) } g setExp) g (termR .completed)
        (sendL g .completed) termB
      if t.rcdDisposed then t else closeDur t g := by
  unfold expire
  simp only [hg]
  cases hf' : s.writers.find? (fun p => cfg.keyEq p.1 r.key) with
  | none => rw [hf'] at hf; cases hf
  | some p => simp only [writerTerm_eq]; rfl

theorem expire_cases (cfg : Cfg α κ β) (s : St κ β) (g : Nat) :
    expire cfg s g = s ∨ expire cfg s g = emit s (.escaped "KeyError") ∨
      ∃ r, s.groups[g]? = some r ∧ (s.writers.find? (fun p => cfg.keyEq p.1 r.key)).isSome = true := by
  cases hg : s.groups[g]? with
  | none => left; unfold expire; rw [hg]
  | some r =>
    cases hf : s.writers.find? (fun p => cfg.keyEq p.1 r.key) with
    | none => right; left; unfold expire; simp only [hg, hf]
    | some p => right; right; exact ⟨r, rfl, by simp [hf]⟩

theorem td_relIf (b : Bool) (s : St κ β) : Td s (relIf b s) := by
  unfold relIf; split
  · exact td_rcdRelease s
  · exact Td.refl s

theorem fr_relIf (b : Bool) (s : St κ β) : Fr s (relIf b s) := by
  unfold relIf; split
  · exact fr_rcdRelease s
  · exact Fr.refl s

theorem fr_emits (s : St κ β) (l : List (Eff κ β)) (h : l.filter isEsc = []) : Fr s (emits s l) :=
  .of_eq (DE_of_groups_eq rfl) l rfl h rfl rfl rfl rfl rfl rfl id

theorem fr_act (s : St κ β) (g : Nat) {F L B}
    (hF : ∀ r : Grp κ β, ((F r).dur = .live → r.dur = .live) ∧ (F r).expired = r.expired)
    (hL : ∀ r : Grp κ β, (L r).filter isEsc = []) : Fr s (act s g F L B) := by
  unfold act
  cases s.groups[g]? with
  | none => exact Fr.refl s
  | some r => exact ((fr_modGrp s g F hF).trans (fr_emits _ _ (hL r))).trans (fr_relIf _ _)

theorem td_act {s : St κ β} {g : Nat} {r : Grp κ β} (hg : s.groups[g]? = some r) (F L B) :
    Td (emits (modGrp s g F) (L r)) (act s g F L B) := by
  rw [act_some hg]; exact td_relIf _ _

theorem Td.map {s s' : St κ β} (h : Td s s') {A : Type} (π : Grp κ β → A) (hπ : ∀ r d, π { r with dur := d } = π r) :
    s'.groups.map π = s.groups.map π := by
  apply List.ext_getElem?; intro j
  rw [List.getElem?_map, List.getElem?_map]
  cases hj : s.groups[j]? with
  | none =>
    have : s'.groups[j]? = none := by rw [List.getElem?_eq_none_iff] at hj ⊢; have := h.len; omega
    rw [this]
  | some r =>
    obtain ⟨r', hr', e⟩ := h.only j r hj
    rw [hr', e]; exact congrArg some (hπ r r'.dur)

theorem outerTerm_map (s : St κ β) (n) {A : Type} (π : Grp κ β → A) (hπ : ∀ r d, π { r with dur := d } = π r) :
    (outerTerm s n).groups.map π = s.groups.map π := by
  unfold outerTerm; split
  · rfl
  · exact (td_rcdDispose _).map π hπ

theorem act_map (s : St κ β) (g : Nat) (F L B) {A : Type} (π : Grp κ β → A) (hπ : ∀ r d, π { r with dur := d } = π r)
    (T : A → A) (hT : ∀ r, π (F r) = T (π r)) : (act s g F L B).groups.map π = (s.groups.map π).modify g T := by
  unfold act
  cases hg : s.groups[g]? with
  | none => simp only; rw [List.modify_eq_of_none]; simp [hg]
  | some r => simp only; rw [(td_relIf _ _).map π hπ]; exact List.map_modify_comm π F T _ g hT

theorem foldl_act_map (l : List Nat) (s : St κ β) (F) (L : Nat → Grp κ β → List (Eff κ β)) (B) {A : Type} (π : Grp κ β → A)
    (hπ : ∀ r d, π { r with dur := d } = π r) (T : A → A) (hT : ∀ r, π (F r) = T (π r)) :
    (l.foldl (fun s g => act s g F (L g) B) s).groups.map π = l.foldl (fun t g => t.modify g T) (s.groups.map π) := by
  induction l generalizing s with
  | nil => rfl
  | cons a l ih => simp only [List.foldl_cons, ih, act_map s a F (L a) B π hπ T hT]

theorem expire_out (cfg : Cfg α κ β) {s : St κ β} {g : Nat} {r : Grp κ β} (hg : s.groups[g]? = some r)
    (hf : (s.writers.find? (fun p => cfg.keyEq p.1 r.key)).isSome = true) :
    OutU (emits s (sendL g .completed r)) (expire cfg s g) := by
  rw [expire_found cfg hg hf]
  have h : OutU (emits s (sendL g .completed r)) _ :=
    (td_act (s := modGrp { s with writers := s.writers.eraseP (fun p => cfg.keyEq p.1 r.key) } g setExp) (g := g) (r := setExp r)
      (by simp [modGrp, hg]) (termR .completed) (sendL g .completed) termB).unsub
  simp only; split
  · exact h
  · exact h.trans (tear_closeDur _ g).unsub

def nodur (r : Grp κ β) : Grp κ β := { r with dur := .unsub }

theorem termR_nodur (n : Notif β) (r : Grp κ β) : nodur (termR n r) = termR n (nodur r) := by
  by_cases hs : r.stopped <;> by_cases ha : r.sub = .active <;> simp [termR, nodur, hs, ha]

theorem termR_idem (n : Notif β) (r : Grp κ β) : termR n (termR n r) = termR n r := by
  by_cases hs : r.stopped <;> by_cases ha : r.sub = .active <;> simp [termR, hs, ha]

theorem termR_stopped (n : Notif β) (r : Grp κ β) : (termR n r).stopped = true := by
  by_cases hs : r.stopped <;> by_cases ha : r.sub = .active <;> simp [termR, hs, ha]

/-- up to `dur`: a `release()` in between only closes durations -/
theorem foldl_writerTerm_get (l : List Nat) (s : St κ β) (n : Notif β) (j : Nat) :
    ((l.foldl (fun s g => writerTerm s g n) s).groups[j]?).map nodur =
      (s.groups[j]?).map fun r => if j ∈ l then termR n (nodur r) else nodur r := by
  have h := foldl_act_map l s (termR n) (sendL · n) termB nodur (fun _ _ => rfl) (termR n) (termR_nodur n)
  simp only [← writerTerm_eq] at h
  have h2 := congrArg (·[j]?) h
  simp only [List.getElem?_map, List.foldl_modify_get _ (termR_idem n)] at h2
  rw [h2]; cases s.groups[j]? <;> rfl

theorem foldl_writerTerm_stops (l : List Nat) (s : St κ β) (n : Notif β) (hl : ∀ g ∈ l, g < s.groups.length) :
    ∀ g ∈ l, stoppedAt (l.foldl (fun s g => writerTerm s g n) s) g := by
  intro g hg
  have h := foldl_writerTerm_get l s n g
  simp only [List.getElem?_eq_getElem (hl g hg), Option.map_some, hg, if_true] at h
  cases hr : (l.foldl (fun s g => writerTerm s g n) s).groups[g]? with
  | none => rw [hr] at h; cases h
  | some r' =>
    rw [hr] at h
    exact ⟨r', hr, (congrArg Grp.stopped (Option.some.inj h)).trans (termR_stopped n _)⟩

theorem sendL_noEsc (g : Nat) (n : Notif β) (r : Grp κ β) : (sendL g n r : List (Eff κ β)).filter isEsc = [] := by
  unfold sendL; split
  · rfl
  · split <;> rfl

theorem fr_subEnd (s : St κ β) (g : Nat) : Fr s (subEnd s g) := by
  rw [subEnd_eq]; exact fr_act s g (fun _ => ⟨id, rfl⟩) (fun _ => rfl)

theorem fr_writerNext (s : St κ β) (g : Nat) (v : β) : Fr s (writerNext s g v) := by
  rw [writerNext_eq]
  refine fr_act s g (fun r => ?_) (sendL_noEsc g _)
  unfold pushR; split
  · exact ⟨id, rfl⟩
  · split <;> exact ⟨id, rfl⟩

theorem fr_writerTerm (s : St κ β) (g : Nat) (n : Notif β) : Fr s (writerTerm s g n) := by
  rw [writerTerm_eq]
  refine fr_act s g (fun r => ?_) (sendL_noEsc g n)
  unfold termR; split
  · exact ⟨id, rfl⟩
  · split <;> exact ⟨id, rfl⟩

theorem fr_termAll (s : St κ β) (n : Notif β) : Fr s (termAll s n) :=
  List.foldl_pres (P := Fr s) _ (fun t g h => h.trans (fr_writerTerm t g n)) _ (Fr.refl s)

theorem fr_expire_found (cfg : Cfg α κ β) {s : St κ β} {g : Nat} {r : Grp κ β} (hg : s.groups[g]? = some r)
    (hf : (s.writers.find? (fun p => cfg.keyEq p.1 r.key)).isSome = true) :
    Fr (modGrp { s with writers := s.writers.eraseP (fun p => cfg.keyEq p.1 r.key) } g setExp) (expire cfg s g) := by
  rw [expire_found cfg hg hf, ← writerTerm_eq]
  simp only; split
  · exact fr_writerTerm _ _ _
  · exact (fr_writerTerm _ _ _).trans (fr_closeDur _ _)

theorem fr_subscribeGroup (s : St κ β) (g : Nat) : Fr s (subscribeGroup s g) := by
  rw [subscribeGroup_eq]; split
  · split
    · exact Fr.refl s
    · refine (fr_flags s s.srcStopped _ id).trans (fr_act _ g (fun r => ?_) fun r => ?_)
      · unfold subR; split <;> exact ⟨id, rfl⟩
      · unfold subL; split <;> rfl
  · exact Fr.refl s

/-- what an error-all and the source's completion share: `errorAll s e` is `termOuter { s with failed := true } (.error e) (.error e)` -/
abbrev termOuter (s : St κ β) (n : Notif β) (n' : Notif (Nat × κ)) : St κ β := outerTerm (termAll s n) n'

/-- `Fr.outS` is an equality: the frame starts from the state with the outer observer stopped -/
theorem fr_outerTerm (s : St κ β) (n) : Fr { s with outStopped := true } (outerTerm s n) := by
  unfold outerTerm; split
  next ho => exact .of_eq (DE_of_groups_eq rfl) [] (List.append_nil _).symm rfl ho rfl rfl rfl rfl rfl id
  · exact (fr_emit _ _ rfl).trans (fr_rcdDispose _ rfl)

theorem OutExt_errorAll (s : St κ β) (e : Err) : OutExt s (errorAll s e) :=
  ((OutExt_of_eq rfl : OutExt s { s with failed := true }).trans (fr_termAll _ _).grow).trans
    ((OutExt_of_eq rfl : OutExt _ { termAll { s with failed := true } (.error e) with outStopped := true }).trans (fr_outerTerm _ _).grow)

theorem OutExt_expire (cfg : Cfg α κ β) (s : St κ β) (g : Nat) : OutExt s (expire cfg s g) := by
  rcases expire_cases cfg s g with e | e | ⟨r, hg, hf⟩
  · rw [e]; exact OutExt.refl _
  · rw [e]; exact OutExt_emit _ _
  · obtain ⟨l, hl, _⟩ := expire_out cfg hg hf
    exact ⟨sendL g .completed r ++ l, by rw [hl]; simp [emits]⟩

theorem OutExt_durFire (cfg : Cfg α κ β) (s : St κ β) (g : Nat) (n : Notif Unit) : OutExt s (durFire cfg s g n) := by
  cases n with
  | error e => exact (OutExt_errorAll s e).trans (fr_closeDur _ _).grow
  | next v => exact (OutExt_expire cfg s g).trans (fr_closeDur _ _).grow
  | completed => exact (OutExt_expire cfg s g).trans (fr_closeDur _ _).grow

theorem OutExt_pushElem (cfg : Cfg α κ β) (s : St κ β) (g : Nat) (x : α) : OutExt s (pushElem cfg s g x) := by
  unfold pushElem; split
  · exact OutExt_errorAll _ _
  · exact (fr_writerNext _ _ _).grow

end WinGrp
