import RxModel.ThrTramp
import RxProofs.Lemmas.ThrList
import RxProofs.Lemmas.ThrTQ
/-!
# The trampoline, one thread: stack shapes, the order/time/cancellation invariants and their preservation (C30)
-/
namespace Thr.Tramp

def key (it : Item) : Int × Nat := (it.due, it.seq)

/-- well-bracketing of the log read oldest first: `some none` = nothing open, `some (some a)` = action `a` open,
`none` = a start inside an open action, or a `fin`/`raised` that does not close the open one -/
def wb : List Ev → Option (Option Nat)
  | [] => some none
  | .start a _ _ _ :: rest =>
    match wb rest with
    | some none => some (some a)
    | _ => none
  | .fin b :: rest =>
    match wb rest with
    | some (some a) => if a = b then some none else none
    | _ => none
  | .raised b :: rest =>
    match wb rest with
    | some (some a) => if a = b then some none else none
    | _ => none
  | _ :: rest => wb rest

def isMain : Frame → Bool
  | .act none _ => true
  | .enq none _ _ => true
  | _ => false

/-- the possible shapes of the call stack, with the value `idle` must have and the action that is open (the value of `wb`). -/
inductive Shape : Bool → List Frame → Option Nat → Prop where
  | nil : Shape true [] none
  | main (m) : isMain m = true → Shape true [m] none
  | drain (ph ready ops) : (ph ≠ .exec → ready = []) → Shape false [.drain ph ready, .act none ops] none
  | inAct (i ops ready mops) : Shape false [.act (some i) ops, .drain .exec ready, .act none mops] (some i)
  | inEnq (i it ops ready mops) : Shape false [.enq (some i) it ops, .drain .exec ready, .act none mops] (some i)

structure Inv1 (s : St) : Prop where
  shape : ∃ o, Shape s.tr.idle s.th.stack o ∧ wb s.th.log = some o

def startsL : List Ev → List (Int × Nat)
  | [] => []
  | .start _ due seq _ :: rest => startsL rest ++ [(due, seq)]
  | _ :: rest => startsL rest

def readyOf : List Frame → List Item
  | [] => []
  | .drain _ r :: rest => r ++ readyOf rest
  | _ :: rest => readyOf rest

def pendOf : List Frame → Option Item
  | .enq _ it _ :: _ => some it
  | _ => none

def EqR (a b : Int × Nat) : Prop := a.1 = b.1 → a.2 < b.2
def LeR (a b : Int × Nat) : Prop := a.1 ≤ b.1

def NoPast (log : List Ev) : Prop := ∀ id due clk kind, Ev.sched id due clk kind ∈ log → clk ≤ due

/-- `so`: due-time order holds only if nothing was scheduled into the past; an item being scheduled is then due no
earlier than everything started or in the batch -/
structure Inv2 (s : St) : Prop where
  qs : s.tr.queue.Pairwise (fun a b => a.due ≤ b.due)
  sq : ∀ k ∈ startsL s.th.log ++ (readyOf s.th.stack ++ s.tr.queue).map key, k.2 < s.g.nsched
  eo : (startsL s.th.log ++ (readyOf s.th.stack ++ s.tr.queue).map key).Pairwise EqR
  dc : ∀ k ∈ startsL s.th.log ++ (readyOf s.th.stack).map key, k.1 ≤ s.g.clock
  so : NoPast s.th.log →
        (startsL s.th.log ++ (readyOf s.th.stack ++ s.tr.queue).map key).Pairwise LeR ∧
        ∀ it, pendOf s.th.stack = some it → ∀ k ∈ startsL s.th.log ++ (readyOf s.th.stack).map key, k.1 ≤ it.due

theorem noPast_cons {e : Ev} {log : List Ev} (h : NoPast (e :: log)) : NoPast log := by
  intro id due clk kind hm; exact h id due clk kind (List.mem_cons_of_mem _ hm)

def okCancel : List Ev → Prop
  | [] => True
  | .start id _ _ _ :: rest => Ev.cancel id ∉ rest ∧ okCancel rest
  | _ :: rest => okCancel rest

/-- every start is preceded by the `schedule*` call that created the item (same id, same due time)
and by its enqueueing (same id, same sequence number) -/
def okSched : List Ev → Prop
  | [] => True
  | .start id due seq _ :: rest =>
    (∃ clk kind, Ev.sched id due clk kind ∈ rest) ∧ (∃ r, Ev.enq id seq r ∈ rest) ∧ okSched rest
  | _ :: rest => okSched rest

/-- sequence numbers are handed out in increasing order of enqueueing -/
def okEnq : List Ev → Prop
  | [] => True
  | .enq _ seq _ :: rest => (∀ id' seq' r', Ev.enq id' seq' r' ∈ rest → seq' < seq) ∧ okEnq rest
  | _ :: rest => okEnq rest

structure Inv3 (s : St) : Prop where
  nb : ∀ id due seq clk, Ev.start id due seq clk ∈ s.th.log → due ≤ clk
  cl : ∀ k, Ev.cancel k ∈ s.th.log → k ∈ s.g.cancelled
  oc : okCancel s.th.log
  os : okSched s.th.log
  oe : okEnq s.th.log
  en : ∀ id seq r, Ev.enq id seq r ∈ s.th.log → seq < s.g.nsched
  it1 : ∀ it ∈ readyOf s.th.stack ++ s.tr.queue,
    (∃ clk kind, Ev.sched it.id it.due clk kind ∈ s.th.log) ∧ (∃ r, Ev.enq it.id it.seq r ∈ s.th.log)
  it2 : ∀ it, pendOf s.th.stack = some it → ∃ clk kind, Ev.sched it.id it.due clk kind ∈ s.th.log
  sk : ∀ id due clk kind, Ev.sched id due clk kind ∈ s.th.log → kind ≠ .abs → clk ≤ due

/-- events no clause of `Inv2`/`Inv3` reads, except `cancel` (see the last premise of `Eff.quiet`) -/
def quietEv : Ev → Bool
  | .start .. => false
  | .enq .. => false
  | .sched .. => false
  | _ => true

theorem quiet_nil : ∀ e ∈ ([] : List Ev), quietEv e = true := fun _ h => absurd h List.not_mem_nil
theorem quiet_one {e : Ev} (h : quietEv e = true) : ∀ e' ∈ [e], quietEv e' = true := by simpa using h

structure Unseen (es log : List Ev) : Prop where
  starts : startsL (es ++ log) = startsL log
  cancel : okCancel (es ++ log) = okCancel log
  sched : okSched (es ++ log) = okSched log
  enq : okEnq (es ++ log) = okEnq log

theorem quiet_log (es log : List Ev) (h : ∀ e ∈ es, quietEv e = true) : Unseen es log := by
  induction es with
  | nil => exact ⟨rfl, rfl, rfl, rfl⟩
  | cons e es ih =>
    have he := h e List.mem_cons_self
    obtain ⟨a, b, c, d⟩ := ih fun x hx => h x (List.mem_cons_of_mem _ hx)
    cases e <;> first | exact ⟨a, b, c, d⟩ | cases he

/-- the effect of a step on what `Inv2`/`Inv3` read -/
inductive Eff (s s' : St) : Prop where
  /-- batch ++ queue shrinks, or is cut differently: `collect` moves the due items from the queue into the batch -/
  | quiet (es : List Ev) (hes : ∀ e ∈ es, quietEv e = true) (hlog : s'.th.log = es ++ s.th.log)
      (hq : s'.tr.queue.Sublist s.tr.queue)
      (hrq : (readyOf s'.th.stack ++ s'.tr.queue).Sublist (readyOf s.th.stack ++ s.tr.queue))
      (hr : ∀ x ∈ readyOf s'.th.stack, x ∈ readyOf s.th.stack ∨ x.due ≤ s'.g.clock)
      (hpend : pendOf s'.th.stack = none)
      (hn : s'.g.nsched = s.g.nsched) (hclk : s.g.clock ≤ s'.g.clock)
      (hcan : ∀ k, (Ev.cancel k ∈ es ∨ k ∈ s.g.cancelled) → k ∈ s'.g.cancelled)
  | sched (it : Item) (kind : Kind) (hlog : s'.th.log = .sched it.id it.due s'.g.clock kind :: s.th.log)
      (hk : kind ≠ .abs → s'.g.clock ≤ it.due) (hpend : pendOf s'.th.stack = some it)
      (hq : s'.tr.queue = s.tr.queue) (hr : readyOf s'.th.stack = readyOf s.th.stack)
      (hn : s'.g.nsched = s.g.nsched) (hclk : s.g.clock ≤ s'.g.clock) (hcan : s'.g.cancelled = s.g.cancelled)
  | enq (it : Item) (r : Bool) (hpend0 : pendOf s.th.stack = some it) (hlog : s'.th.log = .enq it.id s.g.nsched r :: s.th.log)
      (hq : s'.tr.queue = enqueue s.tr.queue { it with seq := s.g.nsched })
      (hr : readyOf s'.th.stack = readyOf s.th.stack) (hpend : pendOf s'.th.stack = none)
      (hn : s'.g.nsched = s.g.nsched + 1) (hclk : s.g.clock ≤ s'.g.clock) (hcan : s'.g.cancelled = s.g.cancelled)
  | start (it : Item) (hr : readyOf s.th.stack = it :: readyOf s'.th.stack) (hnc : it.id ∉ s.g.cancelled)
      (hlog : s'.th.log = .start it.id it.due it.seq s'.g.clock :: s.th.log)
      (hq : s'.tr.queue = s.tr.queue) (hpend : pendOf s'.th.stack = none)
      (hn : s'.g.nsched = s.g.nsched) (hclk : s.g.clock ≤ s'.g.clock) (hcan : s'.g.cancelled = s.g.cancelled)

theorem wb_start {l : List Ev} (h : wb l = some none) (a : Nat) (d : Int) (q : Nat) (c : Int) :
    wb (.start a d q c :: l) = some (some a) := by simp [wb, h]
theorem wb_fin {l : List Ev} {a : Nat} (h : wb l = some (some a)) : wb (.fin a :: l) = some none := by simp [wb, h]
theorem wb_raised {l : List Ev} {a : Nat} (h : wb l = some (some a)) : wb (.raised a :: l) = some none := by simp [wb, h]

theorem Eff.same {s s' : St} (es : List Ev) (hes : ∀ e ∈ es, quietEv e = true) (hlog : s'.th.log = es ++ s.th.log)
    (hq : s'.tr.queue = s.tr.queue) (hr : readyOf s'.th.stack = readyOf s.th.stack) (hpend : pendOf s'.th.stack = none)
    (hn : s'.g.nsched = s.g.nsched) (hclk : s.g.clock ≤ s'.g.clock)
    (hcan : ∀ k, (Ev.cancel k ∈ es ∨ k ∈ s.g.cancelled) → k ∈ s'.g.cancelled) : Eff s s' :=
  .quiet es hes hlog (hq ▸ .refl _) (by rw [hq, hr]; exact .refl _) (fun x hx => .inl (hr ▸ hx)) hpend hn hclk hcan

theorem Eff.note {s s' : St} (es : List Ev) (hes : ∀ e ∈ es, quietEv e = true) (hlog : s'.th.log = es ++ s.th.log)
    (hq : s'.tr.queue = s.tr.queue) (hr : readyOf s'.th.stack = readyOf s.th.stack) (hpend : pendOf s'.th.stack = none)
    (hn : s'.g.nsched = s.g.nsched) (hclk : s.g.clock ≤ s'.g.clock) (hcan : s'.g.cancelled = s.g.cancelled)
    (hnc : ∀ k, Ev.cancel k ∉ es := by simp) : Eff s s' :=
  .same es hes hlog hq hr hpend hn hclk (fun k hk => hcan ▸ hk.resolve_left (hnc k))

theorem act_eff (fixed : Bool) (tr : Tr) (g : Glob) (id : Option Nat) (op : Op) (ops : List Op) (rest : List Frame)
    (log : List Ev) (dt : Nat) (hop : op ≠ .raise_) :
    Eff ⟨tr, g, ⟨.act id (op :: ops) :: rest, log⟩⟩ (step fixed ⟨tr, g, ⟨.act id (op :: ops) :: rest, log⟩⟩ dt) := by
  have hc : g.clock ≤ g.clock + dt := by omega
  cases op with
  | tick d => exact .note [] quiet_nil rfl rfl rfl rfl rfl (by show g.clock ≤ g.clock + dt + d; omega) rfl
  | cancel k =>
    have can : ∀ j, (Ev.cancel j ∈ [Ev.cancel k] ∨ j ∈ g.cancelled) → j ∈ k :: g.cancelled := by intro j hj; simpa using hj
    exact .same [.cancel k] (quiet_one rfl) rfl rfl rfl rfl rfl hc can
  | sched l b => exact .sched ⟨l, g.clock + dt, 0, b⟩ .imm rfl (fun _ => Int.le_refl _) rfl rfl rfl rfl hc rfl
  | schedRel l d b =>
    exact .sched ⟨l, g.clock + dt + max d 0, 0, b⟩ .rel rfl (fun _ => by show g.clock + dt ≤ g.clock + dt + max d 0; omega)
      rfl rfl rfl rfl hc rfl
  | schedAbs l t b => exact .sched ⟨l, t, 0, b⟩ .abs rfl (fun h => absurd rfl h) rfl rfl rfl rfl hc rfl
  | raise_ => exact absurd rfl hop

/-- `thStep` evaluates on the stack each `Shape` case fixes, so the premises of `Eff` hold by `rfl`; where it tests a
condition, the test is rewritten first. -/
theorem step_spec (fixed : Bool) (s : St) (dt : Nat) (h : Inv1 s) : Inv1 (step fixed s dt) ∧ Eff s (step fixed s dt) := by
  obtain ⟨o, hs, hw⟩ := h
  rcases s with ⟨⟨idle, queue, rg⟩, g, ⟨stack, log⟩⟩
  simp only at hs hw
  have hc : g.clock ≤ g.clock + dt := by omega
  have keep : ∀ (es : List Ev), (∀ k, Ev.cancel k ∉ es) → ∀ k, (Ev.cancel k ∈ es ∨ k ∈ g.cancelled) → k ∈ g.cancelled :=
    fun es hes k hk => hk.resolve_left (hes k)
  cases hs with
  | nil => exact ⟨⟨none, .nil, hw⟩, .note [] quiet_nil rfl rfl rfl rfl rfl hc rfl⟩
  | main m hm =>
    cases m with
    | act id ops =>
      cases id with
      | some i => exact absurd hm Bool.false_ne_true
      | none =>
        cases ops with
        | nil => exact ⟨⟨none, .nil, hw⟩, .note [] quiet_nil rfl rfl rfl rfl rfl hc rfl⟩
        | cons op ops =>
          refine ⟨⟨none, by cases op <;> exact .main _ rfl, by cases op <;> exact hw⟩, ?_⟩
          cases op with
          | raise_ => exact .note [] quiet_nil rfl rfl rfl rfl rfl hc rfl
          | _ => exact act_eff _ _ _ _ _ _ _ _ _ nofun
    | enq id it ops =>
      cases id with
      | some i => exact absurd hm Bool.false_ne_true
      | none => exact ⟨⟨none, .drain _ _ _ (fun _ => rfl), hw⟩, .enq it true rfl rfl rfl rfl rfl rfl hc rfl⟩
    | drain ph r => exact absurd hm Bool.false_ne_true
  | drain ph ready ops hre =>
    cases ph with
    | collect =>
      have hrq : (ready ++ queue.takeWhile (isDue (g.clock + dt)) ++ [] ++ queue.dropWhile (isDue (g.clock + dt))).Sublist
          (ready ++ [] ++ queue) := by simp
      have hr : ∀ x ∈ ready ++ queue.takeWhile (isDue (g.clock + dt)) ++ [], x ∈ ready ++ [] ∨ x.due ≤ g.clock + dt := by
        intro x hx
        simp only [List.append_nil, List.mem_append] at hx ⊢
        exact hx.imp id (fun hx => by simpa [isDue] using List.mem_takeWhile_imp _ _ x hx)
      exact ⟨⟨none, .drain _ _ _ (fun h => absurd rfl h), hw⟩,
        .quiet [.collect _] (quiet_one rfl) rfl (List.dropWhile_sublist _) hrq hr rfl rfl hc (keep _ (by simp))⟩
    | exec =>
      cases ready with
      | nil => exact ⟨⟨none, .drain _ _ _ (fun _ => rfl), hw⟩, .note [] quiet_nil rfl rfl rfl rfl rfl hc rfl⟩
      | cons it ready =>
        by_cases hcn : it.id ∈ g.cancelled
        · simp only [step, thStep, if_pos hcn]
          exact ⟨⟨none, .drain _ _ _ (fun h => absurd rfl h), hw⟩,
            .quiet [.skip it.id] (quiet_one rfl) rfl (.refl _) (.cons _ (.refl _))
              (fun x hx => .inl (List.mem_cons_of_mem _ hx)) rfl rfl hc (keep _ (by simp))⟩
        · simp only [step, thStep, if_neg hcn]
          exact ⟨⟨some it.id, .inAct _ _ _ _, wb_start hw ..⟩, .start it rfl hcn rfl rfl rfl rfl hc rfl⟩
    | check =>
      cases hre (by simp)
      cases queue with
      | nil =>
        cases fixed
        · exact ⟨⟨none, .drain _ _ _ (fun _ => rfl), hw⟩,
            .note [.exit_] (quiet_one rfl) rfl rfl rfl rfl rfl hc rfl⟩
        · exact ⟨⟨none, .main _ rfl, hw⟩, .note [.exit_] (quiet_one rfl) rfl rfl rfl rfl rfl hc rfl⟩
      | cons it q =>
        by_cases hd : it.due > g.clock + dt
        · simp only [step, thStep, if_pos hd]
          exact ⟨⟨none, .drain _ _ _ (fun _ => rfl), hw⟩,
            .note [.wait it.due] (quiet_one rfl) rfl rfl rfl rfl rfl hc rfl⟩
        · simp only [step, thStep, if_neg hd]
          exact ⟨⟨none, .drain _ _ _ (fun _ => rfl), hw⟩, .note [] quiet_nil rfl rfl rfl rfl rfl hc rfl⟩
    | final | abort =>
      cases hre (by simp)
      exact ⟨⟨none, .main _ rfl, hw⟩, .quiet [.final _] (quiet_one rfl) rfl (List.nil_sublist _) (List.nil_sublist _)
        nofun rfl rfl hc (keep _ (by simp))⟩
    | waiting =>
      cases hre (by simp)
      exact ⟨⟨none, .drain _ _ _ (fun _ => rfl), hw⟩, .note [.woke] (quiet_one rfl) rfl rfl rfl rfl rfl hc rfl⟩
  | inAct i ops ready mops =>
    cases ops with
    | nil =>
      exact ⟨⟨none, .drain _ _ _ (fun h => absurd rfl h), wb_fin hw⟩,
        .note [.fin i] (quiet_one rfl) rfl rfl rfl rfl rfl hc rfl⟩
    | cons op ops =>
      cases op with
      | raise_ =>
        -- the exception discards the loop's local batch
        exact ⟨⟨none, .drain _ _ _ (fun _ => rfl), wb_raised hw⟩,
          .quiet [.raised i] (quiet_one rfl) rfl (.refl _) (List.sublist_append_right (ready ++ []) queue) nofun
            rfl rfl hc (keep _ (by simp))⟩
      | tick d | cancel k => exact ⟨⟨some i, .inAct _ _ _ _, hw⟩, act_eff _ _ _ _ _ _ _ _ _ nofun⟩
      | sched l b | schedRel l d b | schedAbs l t b => exact ⟨⟨some i, .inEnq _ _ _ _ _, hw⟩, act_eff _ _ _ _ _ _ _ _ _ nofun⟩
  | inEnq i it ops ready mops =>
    exact ⟨⟨some i, .inAct _ _ _ _, hw⟩, .enq it false rfl rfl rfl rfl rfl rfl hc rfl⟩

theorem enqueue_eq_insertDue (q : List Item) (n : Item) : enqueue q n = insertDue (·.due) q n := by
  induction q with
  | nil => rfl
  | cons x xs ih => simp only [enqueue, insertDue, ih]

theorem inv2_iff (s : St) : Inv2 s ↔
    TQ Item.due Item.seq (NoPast s.th.log) (startsL s.th.log ++ (readyOf s.th.stack).map key) s.tr.queue s.g.clock s.g.nsched ∧
    (NoPast s.th.log → ∀ it, pendOf s.th.stack = some it → ∀ k ∈ startsL s.th.log ++ (readyOf s.th.stack).map key, k.1 ≤ it.due) := by
  have eT : startsL s.th.log ++ (readyOf s.th.stack ++ s.tr.queue).map key
      = (startsL s.th.log ++ (readyOf s.th.stack).map key) ++ s.tr.queue.map key := by simp
  constructor
  · rintro ⟨qs, sq, eo, dc, so⟩
    exact ⟨⟨qs, eT ▸ sq, eT ▸ eo, dc, fun p => eT ▸ (so p).1⟩, fun p => (so p).2⟩
  · rintro ⟨⟨qs, sq, eo, dc, lo⟩, pd⟩
    exact ⟨qs, eT ▸ sq, eT ▸ eo, dc, fun p => ⟨eT ▸ lo p, pd p⟩⟩

theorem Inv2.tq {s : St} (h : Inv2 s) :
    TQ Item.due Item.seq (NoPast s.th.log) (startsL s.th.log ++ (readyOf s.th.stack).map key) s.tr.queue s.g.clock s.g.nsched :=
  ((inv2_iff s).1 h).1

theorem Eff.inv2 {s s' : St} (e : Eff s s') (h : Inv2 s) : Inv2 s' := by
  obtain ⟨tq, pd⟩ := (inv2_iff s).1 h
  refine (inv2_iff s').2 ?_
  cases e with
  | quiet es hes hlog hq hrq hr hpend hn hclk hcan =>
    have np' : NoPast s'.th.log → NoPast s.th.log := fun np id due clk kind hm =>
      np id due clk kind (by rw [hlog]; exact List.mem_append_right _ hm)
    rw [hlog, (quiet_log es _ hes).starts, hpend]
    refine ⟨tq.sub hq ?_ ?_ hclk (Nat.le_of_eq hn.symm) (hlog ▸ np'), fun _ => nofun⟩
    · show (startsL s.th.log ++ (readyOf s'.th.stack).map key ++ s'.tr.queue.map key).Sublist
        (startsL s.th.log ++ (readyOf s.th.stack).map key ++ s.tr.queue.map key)
      simpa [List.append_assoc] using (List.Sublist.refl (startsL s.th.log)).append (hrq.map key)
    · intro k hk
      rcases List.mem_append.mp hk with hk | hk
      · exact .inl (List.mem_append_left _ hk)
      · obtain ⟨x, hx, rfl⟩ := List.mem_map.mp hk
        exact (hr x hx).imp (fun hx => List.mem_append_right _ (List.mem_map_of_mem hx)) id
  | sched it kind hlog hk hpend hq hr hn hclk hcan =>
    have hst : startsL s'.th.log = startsL s.th.log := by rw [hlog]; rfl
    rw [hst, hr, hq, hn, hpend]
    refine ⟨tq.mono hclk (Nat.le_refl _) (fun np => noPast_cons (hlog ▸ np)), fun np it' hit k hk => ?_⟩
    cases hit
    have := tq.dc k hk
    have := np it.id it.due s'.g.clock kind (by rw [hlog]; exact List.mem_cons_self)
    omega
  | enq it r hpend0 hlog hq hr hpend hn hclk hcan =>
    have hst : startsL s'.th.log = startsL s.th.log := by rw [hlog]; rfl
    rw [hst, hr, hq, hn, hpend, enqueue_eq_insertDue]
    exact ⟨tq.enq _ rfl (fun p => pd p it hpend0) hclk (fun np => noPast_cons (hlog ▸ np)), fun _ => nofun⟩
  | start it hr hnc hlog hq hpend hn hclk hcan =>
    have hst : startsL s'.th.log ++ (readyOf s'.th.stack).map key = startsL s.th.log ++ (readyOf s.th.stack).map key := by
      rw [hlog, hr]; simp [startsL, key]
    rw [hst, hq, hn, hpend]
    exact ⟨tq.mono hclk (Nat.le_refl _) (fun np => noPast_cons (hlog ▸ np)), fun _ => nofun⟩

theorem mem_older {e e0 : Ev} {l : List Ev} (hm : e ∈ e0 :: l) (hne : e ≠ e0 := by nofun) : e ∈ l :=
  List.mem_of_ne_of_mem hne hm

theorem Eff.inv3 {s s' : St} (e : Eff s s') (h2 : Inv2 s) (h : Inv3 s) : Inv3 s' := by
  obtain ⟨nb, cl, oc, os, oe, en, it1, it2, sk⟩ := h
  have keep1 : ∀ {log' : List Ev}, (∀ e ∈ s.th.log, e ∈ log') → ∀ it ∈ readyOf s.th.stack ++ s.tr.queue,
      (∃ clk kind, Ev.sched it.id it.due clk kind ∈ log') ∧ (∃ r, Ev.enq it.id it.seq r ∈ log') := by
    intro log' hsub it hi
    obtain ⟨⟨c, k, h1⟩, ⟨r, h2⟩⟩ := it1 it hi
    exact ⟨⟨c, k, hsub _ h1⟩, ⟨r, hsub _ h2⟩⟩
  cases e with
  | quiet es hes hlog hq hrq hr hpend hn hclk hcan =>
    have old : ∀ e, quietEv e = false → e ∈ s'.th.log → e ∈ s.th.log := by
      intro e he hm
      rw [hlog] at hm
      rcases List.mem_append.mp hm with hm | hm
      · rw [hes e hm] at he; cases he
      · exact hm
    refine ⟨fun _ _ _ _ hm => nb _ _ _ _ (old _ rfl hm), ?_, by rw [hlog, (quiet_log es _ hes).cancel]; exact oc,
      by rw [hlog, (quiet_log es _ hes).sched]; exact os, by rw [hlog, (quiet_log es _ hes).enq]; exact oe,
      fun _ _ _ hm => hn ▸ en _ _ _ (old _ rfl hm), fun it hi => keep1 (by rw [hlog]; exact fun e => List.mem_append_right _) it (hrq.subset hi),
      by rw [hpend]; nofun, fun _ _ _ _ hm => sk _ _ _ _ (old _ rfl hm)⟩
    intro k hk
    rw [hlog] at hk
    exact hcan k ((List.mem_append.mp hk).imp id (cl k))
  | sched it kind hlog hk hpend hq hr hn hclk hcan =>
    constructor <;> rw [hlog]
    · exact fun _ _ _ _ hm => nb _ _ _ _ (mem_older hm)
    · rw [hcan]; exact fun k hm => cl k (mem_older hm)
    · exact oc
    · exact os
    · exact oe
    · rw [hn]; exact fun _ _ _ hm => en _ _ _ (mem_older hm)
    · rw [hr, hq]; exact keep1 (fun e => List.mem_cons_of_mem _)
    · rw [hpend]; intro it' hit; cases hit; exact ⟨_, _, List.mem_cons_self⟩
    · intro id due clk kind' hm hne
      rcases List.mem_cons.mp hm with hm | hm
      · cases hm; exact hk hne
      · exact sk _ _ _ _ hm hne
  | enq it r hpend0 hlog hq hr hpend hn hclk hcan =>
    obtain ⟨c0, k0, hs0⟩ := it2 it hpend0
    constructor <;> rw [hlog]
    · exact fun _ _ _ _ hm => nb _ _ _ _ (mem_older hm)
    · rw [hcan]; exact fun k hm => cl k (mem_older hm)
    · exact oc
    · exact os
    · exact ⟨fun a b c hm => en a b c hm, oe⟩
    · rw [hn]; intro a b c hm
      rcases List.mem_cons.mp hm with hm | hm
      · cases hm; exact Nat.lt_succ_self _
      · exact Nat.lt_succ_of_lt (en _ _ _ hm)
    · rw [hr, hq]; intro x hx
      rw [enqueue_eq_insertDue, List.mem_append, mem_insertDue] at hx
      rcases hx with hx | rfl | hx
      · exact keep1 (fun e => List.mem_cons_of_mem _) x (List.mem_append_left _ hx)
      · exact ⟨⟨c0, k0, List.mem_cons_of_mem _ hs0⟩, ⟨_, List.mem_cons_self⟩⟩
      · exact keep1 (fun e => List.mem_cons_of_mem _) x (List.mem_append_right _ hx)
    · rw [hpend]; nofun
    · exact fun _ _ _ _ hm => sk _ _ _ _ (mem_older hm)
  | start it hr hnc hlog hq hpend hn hclk hcan =>
    have hdue : it.due ≤ s.g.clock := h2.tq.dc (key it) (by rw [hr]; simp)
    obtain ⟨⟨c0, k0, hs0⟩, ⟨r0, he0⟩⟩ := it1 it (by rw [hr]; simp)
    rw [hr] at keep1
    constructor <;> rw [hlog]
    · intro id due seq clk hm
      rcases List.mem_cons.mp hm with hm | hm
      · cases hm; omega
      · exact nb _ _ _ _ hm
    · rw [hcan]; exact fun k hm => cl k (mem_older hm)
    · exact ⟨fun hm => hnc (cl _ hm), oc⟩
    · exact ⟨⟨c0, k0, hs0⟩, ⟨r0, he0⟩, os⟩
    · exact oe
    · rw [hn]; exact fun _ _ _ hm => en _ _ _ (mem_older hm)
    · rw [hq]; exact fun x hx => keep1 (fun e => List.mem_cons_of_mem _) x (List.mem_cons_of_mem _ hx)
    · rw [hpend]; nofun
    · exact fun _ _ _ _ hm => sk _ _ _ _ (mem_older hm)

structure TInv (s : St) : Prop where
  i1 : Inv1 s
  i2 : Inv2 s
  i3 : Inv3 s

theorem init_inv (prog : List Op) (clock : Int) : TInv (init prog clock) := by
  refine ⟨⟨none, Shape.main _ rfl, rfl⟩, ?_, ?_⟩
  · exact (inv2_iff _).2 ⟨TQ.nil, fun _ _ _ => nofun⟩
  · constructor <;> simp [init, okCancel, okSched, okEnq, readyOf, pendOf]

theorem step_inv (fixed : Bool) (s : St) (dt : Nat) (h : TInv s) : TInv (step fixed s dt) :=
  have ⟨i1, e⟩ := step_spec fixed s dt h.i1
  ⟨i1, e.inv2 h.i2, e.inv3 h.i2 h.i3⟩

theorem run_inv (fixed : Bool) (s : St) (dts : List Nat) (h : TInv s) : TInv (run fixed s dts) :=
  List.foldl_pres (step fixed) (step_inv fixed) dts h

theorem env_inv (s : St) (dt dn : Nat) (cs : List Nat) (h : TInv s) : TInv (envStep s dt dn cs) := by
  obtain ⟨h1, h2, h3⟩ := h
  refine ⟨⟨h1.shape⟩, ?_, ?_⟩
  · obtain ⟨tq, pd⟩ := (inv2_iff s).1 h2
    exact (inv2_iff _).2 ⟨tq.mono (by show s.g.clock ≤ s.g.clock + dt; omega) (Nat.le_add_right _ _) id, pd⟩
  · obtain ⟨nb, cl, oc, os, oe, en, it1, it2, sk⟩ := h3
    refine ⟨nb, ?_, oc, os, oe, ?_, it1, it2, sk⟩
    · intro k hk; simp only [envStep, List.mem_append]; exact Or.inr (cl k hk)
    · intro a b c hm; have := en a b c hm; simp only [envStep]; omega

theorem stepA_inv (fixed : Bool) (s : St) (a : Act) (h : TInv s) : TInv (stepA fixed s a) := by
  cases a with
  | go dt => exact step_inv fixed s dt h
  | env dt dn cs => exact env_inv s dt dn cs h

theorem runA_inv (fixed : Bool) (s : St) (acts : List Act) (h : TInv s) : TInv (runA fixed s acts) :=
  List.foldl_pres (stepA fixed) (stepA_inv fixed) acts h

theorem wb_start_inv {l : List Ev} {a : Nat} {d : Int} {q : Nat} {c : Int} {o : Option Nat} (h : wb (.start a d q c :: l) = some o) :
    wb l = some none ∧ o = some a := by
  simp only [wb] at h
  cases hw : wb l with
  | none => simp [hw] at h
  | some o' =>
    cases o' with
    | none => simpa [hw] using h.symm
    | some y => simp [hw] at h

theorem wb_close_inv {e : Ev} {l : List Ev} {b : Nat} {o : Option Nat} (he : e = .fin b ∨ e = .raised b) (h : wb (e :: l) = some o) :
    wb l = some (some b) ∧ o = none := by
  rcases he with rfl | rfl <;> simp only [wb] at h <;>
    cases hw : wb l with
    | none => simp [hw] at h
    | some o' =>
      cases o' with
      | none => simp [hw] at h
      | some y =>
        by_cases hyb : y = b
        · subst hyb; simpa [hw] using h.symm
        · simp [hw, hyb] at h

theorem wb_cons_some (e : Ev) (l : List Ev) (o : Option Nat) (h : wb (e :: l) = some o) : ∃ o', wb l = some o' := by
  cases e
  case start => exact ⟨_, (wb_start_inv h).1⟩
  case fin => exact ⟨_, (wb_close_inv (.inl rfl) h).1⟩
  case raised => exact ⟨_, (wb_close_inv (.inr rfl) h).1⟩
  all_goals exact ⟨o, h⟩

theorem wb_suffix (l r : List Ev) (o : Option Nat) (h : wb (l ++ r) = some o) : ∃ o', wb r = some o' := by
  induction l generalizing o with
  | nil => exact ⟨o, h⟩
  | cons e l ih =>
    obtain ⟨o', h'⟩ := wb_cons_some e (l ++ r) o h
    exact ih o' h'

theorem wb_open_closed (l pre : List Ev) (a : Nat) (o : Option Nat) (h : wb (l ++ pre) = some o)
    (hp : wb pre = some (some a)) (ho : o ≠ some a) : Ev.fin a ∈ l ∨ Ev.raised a ∈ l := by
  induction l generalizing o with
  | nil => simp only [List.nil_append] at h; rw [hp] at h; cases h; exact absurd rfl ho
  | cons e l ih =>
    -- an event that closes `a` is the one looked for; any other leaves the question to the older part
    have older : ∀ o', wb (l ++ pre) = some o' → o' ≠ some a → Ev.fin a ∈ e :: l ∨ Ev.raised a ∈ e :: l := fun o' h' ho' =>
      (ih o' h' ho').imp (List.mem_cons_of_mem _) (List.mem_cons_of_mem _)
    cases e
    case start => exact older none (wb_start_inv h).1 nofun
    case fin x =>
      by_cases hxa : x = a
      · exact .inl (hxa ▸ List.mem_cons_self)
      · exact older _ (wb_close_inv (.inl rfl) h).1 (fun e => hxa (Option.some.inj e))
    case raised x =>
      by_cases hxa : x = a
      · exact .inr (hxa ▸ List.mem_cons_self)
      · exact older _ (wb_close_inv (.inr rfl) h).1 (fun e => hxa (Option.some.inj e))
    all_goals exact older o h ho

/-- number of action bodies (of scheduled items) currently executing on the stack -/
def nRunning : List Frame → Nat
  | [] => 0
  | .act (some _) _ :: rest => 1 + nRunning rest
  | .enq (some _) _ _ :: rest => 1 + nRunning rest
  | _ :: rest => nRunning rest

def nDrain : List Frame → Nat
  | [] => 0
  | .drain _ _ :: rest => 1 + nDrain rest
  | _ :: rest => nDrain rest

theorem shape_counts {idle : Bool} {st : List Frame} {o : Option Nat} (h : Shape idle st o) :
    nRunning st ≤ 1 ∧ nDrain st = (!idle).toNat := by
  cases h with
  | nil => simp [nRunning, nDrain]
  | main m hm =>
    cases m with
    | act id ops => cases id <;> simp_all [nRunning, nDrain, isMain]
    | enq id it ops => cases id <;> simp_all [nRunning, nDrain, isMain]
    | drain ph r => simp [isMain] at hm
  | drain ph ready ops hre => simp [nRunning, nDrain]
  | inAct i ops ready mops => simp [nRunning, nDrain]
  | inEnq i it ops ready mops => simp [nRunning, nDrain]

end Thr.Tramp
