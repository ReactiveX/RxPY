import RxProofs.Lemmas.Win
/-!
# `Base.Ops`: what a step of a window machine does, after the clock, to the bookkeeping and the open set

Source 0 is the windowed source; every other source id is the machine's own.
-/
namespace Win
variable {α : Type}

def Ev.notSrcTerminal : Ev α → Bool
  | .src 0 (.error _) => false
  | .src 0 .completed => false
  | _ => true

theorem Ev.keeps_src {k : Nat} {n : Notif α} (hn : n.isTerminal = true) :
    (Ev.src k n).notSrcTerminal = true → k ≠ 0 := by
  rintro h rfl; cases n <;> simp_all [Ev.notSrcTerminal, Notif.isTerminal]

namespace Base

/-- bookkeeping `b'` and open set `o'` arise from `b`, `o` by the operations of a step.  `keep`: the operator does not itself dispose its
subscription to source 0 (false only at a source terminal; for `SrcKept`).  `closed`: a window leaves the open set only after it has
ended (false only for `window_toggle_`, whose `expire` drops by key; for `ClosedB`).  `quiet`: nothing is pushed (the handlers of the
six machines, `Ev.feed` having done it before them; for the routing, `Ops.pushedOf_eq`). -/
inductive Ops (keep closed quiet : Prop) : Base α → List Nat → Base α → List Nat → Prop
  | refl (b : Base α) (o : List Nat) : Ops keep closed quiet b o b o
  | emit {b : Base α} {o : List Nat} {b' : Base α} {o' : List Nat} (out : Out α) : (∀ i n, out ≠ .win i n) →
      Ops keep closed quiet b o b' o' → Ops keep closed quiet b o (b'.emit out) o'
  | subscribe {b : Base α} {o : List Nat} {b' : Base α} {o' : List Nat} (k : Nat) : b'.rcDisposed = false →
      Ops keep closed quiet b o b' o' → Ops keep closed quiet b o (b'.subscribe k) o'
  | subscribeDead {b : Base α} {o : List Nat} {b' : Base α} {o' : List Nat} (k : Nat) : b'.rcDisposed = true →
      Ops keep closed quiet b o b' o' → Ops keep closed quiet b o ((b'.subscribe k).unsub k) o'
  | unsub {b : Base α} {o : List Nat} {b' : Base α} {o' : List Nat} (k : Nat) : (keep → k ≠ 0) →
      Ops keep closed quiet b o b' o' → Ops keep closed quiet b o (b'.unsub k) o'
  | push {b : Base α} {o : List Nat} {b' : Base α} {o' : List Nat} (i : Nat) (x : α) : ¬ quiet →
      Ops keep closed quiet b o b' o' → Ops keep closed quiet b o (b'.winNext i x) o'
  | winEnd {b : Base α} {o : List Nat} {b' : Base α} {o' : List Nat} (i : Nat) (e : Option Err) :
      Ops keep closed quiet b o b' o' → Ops keep closed quiet b o (b'.winEnd i e) o'
  | open_ {b : Base α} {o : List Nat} {b' : Base α} {o' : List Nat} :
      Ops keep closed quiet b o b' o' → Ops keep closed quiet b o (b'.newWin.1.outerNext b'.wins.length) (o' ++ [b'.wins.length])
  | outerEnd {b : Base α} {o : List Nat} {b' : Base α} {o' : List Nat} (e : Option Err) :
      Ops keep closed quiet b o b' o' → Ops keep closed quiet b o (b'.outerEnd e) o'
  | disposeEv {b : Base α} {o : List Nat} {b' : Base α} {o' : List Nat} (w : Bool) :
      Ops keep closed quiet b o b' o' → Ops keep closed quiet b o (b'.disposeEv w) o'
  | drop {b : Base α} {o : List Nat} {b' : Base α} {o' : List Nat} (o'' : List Nat) : o''.Sublist o' →
      (closed → ∀ i ∈ o', i ∉ o'' → i < b'.wins.length → (b'.endedOf i).isSome = true) →
      Ops keep closed quiet b o b' o' → Ops keep closed quiet b o b' o''

namespace Ops
variable {keep closed quiet : Prop} {b b' b'' : Base α} {o o' o'' : List Nat}

theorem trans (h : Ops keep closed quiet b o b' o') (h' : Ops keep closed quiet b' o' b'' o'') : Ops keep closed quiet b o b'' o'' := by
  induction h' with
  | refl => exact h
  | emit out ho _ ih => exact .emit out ho ih
  | subscribe k hd _ ih => exact .subscribe k hd ih
  | subscribeDead k hd _ ih => exact .subscribeDead k hd ih
  | unsub k hk _ ih => exact .unsub k hk ih
  | push i x hq _ ih => exact .push i x hq ih
  | winEnd i e _ ih => exact .winEnd i e ih
  | open_ _ ih => exact .open_ ih
  | outerEnd e _ ih => exact .outerEnd e ih
  | disposeEv w _ ih => exact .disposeEv w ih
  | drop o3 hs hc _ ih => exact .drop o3 hs hc ih

theorem mono {keep' : Prop} (hk : keep' → keep) (h : Ops keep closed quiet b o b' o') : Ops keep' closed quiet b o b' o' := by
  induction h with
  | refl => exact .refl _ _
  | emit out ho _ ih => exact .emit out ho ih
  | subscribe k hd _ ih => exact .subscribe k hd ih
  | subscribeDead k hd _ ih => exact .subscribeDead k hd ih
  | unsub k hk0 _ ih => exact .unsub k (fun h => hk0 (hk h)) ih
  | push i x hq _ ih => exact .push i x hq ih
  | winEnd i e _ ih => exact .winEnd i e ih
  | open_ _ ih => exact .open_ ih
  | outerEnd e _ ih => exact .outerEnd e ih
  | disposeEv w _ ih => exact .disposeEv w ih
  | drop o3 hs hd _ ih => exact .drop o3 hs hd ih

theorem pop {i : Nat} (e : Option Err) (h : Ops keep closed quiet b o b' (i :: o')) : Ops keep closed quiet b o (b'.winEnd i e) o' :=
  .drop o' (List.sublist_cons_self _ _)
    (fun _ j hj hnj hlt => by
      rcases List.mem_cons.mp hj with rfl | hj
      · exact endedOf_winEnd_self b' j e (by simpa using hlt)
      · exact absurd hj hnj)
    (.winEnd i e h)

theorem roll {cur : Nat} (e : Option Err) (h : Ops keep closed quiet b o b' [cur]) :
    Ops keep closed quiet b o ((b'.winEnd cur e).newWin.1.outerNext (b'.winEnd cur e).wins.length) [(b'.winEnd cur e).wins.length] :=
  .open_ (h.pop e)

end Ops

/-- where every operator but `window_toggle_` starts listening: the first window handed out, the source subscribed
(`SrcKept` holds from here on, not of the empty bookkeeping). -/
def first (t0 : Nat) : Base α :=
  (({ now := t0 } : Base α).newWin.1.outerNext ({ now := t0 } : Base α).newWin.2).subscribe 0

theorem ops_first {keep closed quiet : Prop} (t0 : Nat) : Ops keep closed quiet ({ now := t0 } : Base α) [] (first t0) [0] :=
  .subscribe 0 rfl (.open_ (.refl _ _))

theorem first_ctl (t0 : Nat) : (first (α := α) t0).ctl = (false, false, [0]) := by
  simp [first, ctl, subscribe, emit, outerNext, newWin]

end Base

/-- the bookkeeping once the event's element — if the windowed source is listened to — has gone to every window of `o`. -/
def Ev.feed (ev : Ev α) (b : Base α) (o : List Nat) : Base α :=
  match ev with
  | .src 0 (.next x) => if b.live.contains 0 then o.foldl (fun b i => b.winNext i x) b else b
  | _ => b

theorem Ev.feed_elem {b : Base α} (hl : b.live.contains 0 = true) {x : α} {o : List Nat} :
    (Ev.src 0 (.next x)).feed b o = o.foldl (fun b i => b.winNext i x) b := if_pos hl

theorem Ev.feed_idle {k : Nat} {n : Notif α} {b : Base α} (h : ∀ x, k = 0 → n = .next x → ¬ b.live.contains 0 = true) {o : List Nat} :
    (Ev.src k n).feed b o = b := by
  cases k with
  | zero => cases n with
    | next x => exact if_neg (h x rfl rfl)
    | error e => rfl
    | completed => rfl
  | succ k => rfl

namespace Base

theorem Ops.of_feed {keep closed : Prop} {ev : Ev α} {b b' : Base α} {o o' : List Nat}
    (h : Ops keep closed False (ev.feed b o) o b' o') : Ops keep closed False b o b' o' := by
  refine Ops.trans ?_ h
  unfold Ev.feed; split
  · split
    · exact List.foldl_pres (P := fun c => Ops keep closed False b o c o) _ (fun _ i hc => .push i _ id hc) _ (.refl _ _)
    · exact .refl _ _
  · exact .refl _ _

structure Inv (keep closed : Prop) (P : Base α → List Nat → Prop) : Prop where
  now : ∀ (t : Nat) {b : Base α} {o : List Nat}, P b o → P { b with now := t } o
  ops : ∀ {b : Base α} {o : List Nat} {b' : Base α} {o' : List Nat}, Ops keep closed False b o b' o' → P b o → P b' o'

end Base

end Win
