import RxModel.Conn
import RxProofs.Lemmas.Basics
/-!
# What a subscriber of the (minimal) subject sees (C24)

Only the lemmas on `subscribe` and `onNotif` unfold the subject's code, kind by kind.  What says no more than that
deliveries go to observers holds whatever a kind fans out; `member_sees_suffix` rests on the fan-out equation of
`onNotif_running`: each of the three kinds hands every input to the observers present, at once.
-/

namespace Conn
namespace Subj
variable {α : Type}

theorem seenBy_append (i : Nat) (a b : List (Nat × Notif α)) : seenBy i (a ++ b) = seenBy i a ++ seenBy i b := by
  simp [seenBy, List.filterMap_append]

theorem seenBy_map_obs (i : Nat) (n : Notif α) (obs : List Nat) :
    seenBy i (obs.map (fun k => (k, n))) = List.replicate (obs.count i) n := by
  induction obs with
  | nil => rfl
  | cons k rest ih =>
    by_cases hk : k = i
    · subst hk
      simp only [List.map_cons, seenBy, List.filterMap_cons, if_true, List.count_cons_self, List.replicate_succ] at ih ⊢
      rw [ih]
    · have hc : (k :: rest).count i = rest.count i := by
        simp [hk]
      simp only [List.map_cons, seenBy, List.filterMap_cons, hk, if_false, hc] at ih ⊢
      exact ih

theorem subscribe_spec (s : Subj α) (i : Nat) :
    (∀ d ∈ (s.subscribe i).2, d.1 = i) ∧ (s.subscribe i).1.term = s.term ∧
    ((s.subscribe i).1.obs = s.obs ∨ (s.subscribe i).1.obs = s.obs ++ [i]) ∧
    (s.term = none → (s.subscribe i).1.obs = s.obs ++ [i] ∧
      (s.subscribe i).2.any (fun d => d.2.isTerminal) = false) := by
  unfold subscribe
  cases hr : s.isReplay with
  | true =>
    refine ⟨fun d hd => ?_, rfl, Or.inr rfl, fun ht => ⟨rfl, by simp [ht, Notif.isTerminal]⟩⟩
    simp only [if_true, List.mem_append, List.mem_map] at hd
    rcases hd with ⟨v, _, rfl⟩ | hd
    · rfl
    · cases ht : s.term <;> simp [ht] at hd
      rw [hd]
  | false =>
    cases ht : s.term with
    | some t =>
      exact ⟨fun d hd => by rw [List.mem_singleton.mp hd], ht, Or.inl rfl, fun h => by cases h⟩
    | none =>
      have nothing : ∀ d ∈ ([] : List (Nat × Notif α)), d.1 = i := fun _ hd => by cases hd
      cases s.isBehavior with
      | false => exact ⟨nothing, rfl, Or.inr rfl, fun _ => ⟨rfl, rfl⟩⟩
      | true =>
        cases s.value with
        | none => exact ⟨nothing, rfl, Or.inr rfl, fun _ => ⟨rfl, rfl⟩⟩
        | some v => exact ⟨fun d hd => by rw [List.mem_singleton.mp hd], rfl, Or.inr rfl, fun _ => ⟨rfl, rfl⟩⟩

theorem subscribe_ids (s : Subj α) (i : Nat) : ∀ d ∈ (s.subscribe i).2, d.1 = i := (subscribe_spec s i).1

theorem subscribe_term (s : Subj α) (j : Nat) : (s.subscribe j).1.term = s.term := (subscribe_spec s j).2.1

theorem subscribe_obs (s : Subj α) (i : Nat) : (s.subscribe i).1.obs = s.obs ∨ (s.subscribe i).1.obs = s.obs ++ [i] :=
  (subscribe_spec s i).2.2.1

theorem subscribe_running (s : Subj α) (i : Nat) (ht : s.term = none) :
    (s.subscribe i).1.obs = s.obs ++ [i] ∧ (s.subscribe i).2.any (fun d => d.2.isTerminal) = false :=
  (subscribe_spec s i).2.2.2 ht

theorem subscribe_count (s : Subj α) (i j : Nat) (hne : j ≠ i) : (s.subscribe j).1.obs.count i = s.obs.count i := by
  rcases subscribe_obs s j with h | h <;> simp [h, List.count_append, hne]

theorem subscribe_count_self (s : Subj α) (i : Nat) : (s.subscribe i).1.obs.count i ≤ s.obs.count i + 1 := by
  rcases subscribe_obs s i with h | h <;> simp [h, List.count_append]

theorem onNotif_stopped (s : Subj α) (n : Notif α) (h : s.term.isSome = true) : s.onNotif n = (s, []) := by
  unfold onNotif
  simp only [h, if_true]

theorem onNotif_running (s : Subj α) (n : Notif α) (ht : s.term = none) :
    (s.onNotif n).2 = s.obs.map (fun k => (k, n)) ∧ (s.onNotif n).1.obs = (if n.isTerminal then [] else s.obs) ∧
      (n.isTerminal = false → (s.onNotif n).1.term = none) := by
  unfold onNotif
  cases n <;> simp [ht, Notif.isTerminal]

theorem onNotif_ids (s : Subj α) (n : Notif α) : ∀ d ∈ (s.onNotif n).2, d.1 ∈ s.obs := by
  cases ht : s.term with
  | some t => rw [onNotif_stopped s n (by rw [ht]; rfl)]; nofun
  | none =>
    rw [(onNotif_running s n ht).1]
    intro d hd
    obtain ⟨k, hk, rfl⟩ := List.mem_map.mp hd
    exact hk

theorem onNotif_obs_subset (s : Subj α) (n : Notif α) : ∀ k ∈ (s.onNotif n).1.obs, k ∈ s.obs := by
  cases ht : s.term with
  | some t => rw [onNotif_stopped s n (by rw [ht]; rfl)]; exact fun _ h => h
  | none =>
    rw [(onNotif_running s n ht).2.1]
    split
    · nofun
    · exact fun _ h => h

theorem unsubscribe_count_self (s : Subj α) (i : Nat) : (s.unsubscribe i).obs.count i = s.obs.count i - 1 :=
  List.count_erase_self

theorem unsubscribe_count_ne (s : Subj α) (i j : Nat) (hne : j ≠ i) : (s.unsubscribe j).obs.count i = s.obs.count i :=
  List.count_erase_of_ne (Ne.symm hne)

theorem seenBy_self (i : Nat) (l : List (Nat × Notif α)) (h : ∀ d ∈ l, d.1 = i) : seenBy i l = l.map (·.2) :=
  List.filterMap_tag_eq_map h

theorem seenBy_other (i j : Nat) (hne : j ≠ i) (l : List (Nat × Notif α)) (h : ∀ d ∈ l, d.1 = j) : seenBy i l = [] :=
  List.filterMap_tag_eq_nil fun d hd => h d hd ▸ hne

theorem afterSub_running (s : Subj α) (j : Nat) (ht : s.term = none) :
    (s.afterSub j).term = none ∧ (s.afterSub j).obs = s.obs ++ [j] := by
  obtain ⟨hobs, hany⟩ := subscribe_running s j ht
  unfold afterSub
  rw [hany]
  exact ⟨(subscribe_term s j).trans ht, hobs⟩

theorem subscribe_of_stopped (s : Subj α) (i : Nat) (t : Notif α) (ht : s.term = some t) :
    (s.isReplay = false → (s.subscribe i).2 = [(i, t)]) ∧
    (s.isReplay = true → (s.subscribe i).2 = (trim s.bufSize s.queue).map (fun v => (i, Notif.next v)) ++ [(i, t)]) :=
  ⟨fun hr => by simp [subscribe, hr, ht], fun hr => by simp [subscribe, hr, ht]⟩

theorem subscribe_stopped (s : Subj α) (i : Nat) (t : Notif α) (ht : s.term = some t) : (i, t) ∈ (s.subscribe i).2 := by
  cases hr : s.isReplay with
  | false => rw [(subscribe_of_stopped s i t ht).1 hr]; exact List.mem_singleton.mpr rfl
  | true => rw [(subscribe_of_stopped s i t ht).2 hr]; exact List.mem_append_right _ (List.mem_singleton.mpr rfl)

theorem afterSub_stopped (s : Subj α) (i : Nat) (t : Notif α) (ht : s.term = some t) (hT : t.isTerminal = true)
    (hc : s.obs.count i = 0) : (s.afterSub i).obs.count i = 0 := by
  have hterm : ((s.subscribe i).2.any fun d => d.2.isTerminal) = true :=
    List.any_eq_true.mpr ⟨_, subscribe_stopped s i t ht, hT⟩
  unfold afterSub
  rw [if_pos hterm, unsubscribe_count_self]
  have := subscribe_count_self s i
  omega

theorem afterSub_count (s : Subj α) (i j : Nat) (hne : j ≠ i) : (s.afterSub j).obs.count i = s.obs.count i := by
  unfold afterSub
  split
  · rw [unsubscribe_count_ne _ i j hne]
    exact subscribe_count s i j hne
  · exact subscribe_count s i j hne

theorem afterSub_term (s : Subj α) (j : Nat) : (s.afterSub j).term = s.term := by
  unfold afterSub
  split
  · exact subscribe_term s j
  · exact subscribe_term s j

theorem seenBy_sub_other (i j : Nat) (hne : j ≠ i) (s : Subj α) (r : List (SEv α)) :
    seenBy i (runEv s (.sub j :: r)) = seenBy i (runEv (s.afterSub j) r) := by
  simp only [runEv, seenBy_append]
  rw [seenBy_other i j hne _ (subscribe_ids s j), List.nil_append]

theorem absent_sees_nothing (i : Nat) : ∀ (evs : List (SEv α)) (s : Subj α),
    s.obs.count i = 0 → noSub i evs = true → seenBy i (runEv s evs) = [] := by
  intro evs
  induction evs with
  | nil => intro s _ _; rfl
  | cons e rest ih =>
    intro s hc hn
    cases e with
    | sub j =>
      simp only [noSub, Bool.and_eq_true, bne_iff_ne, ne_eq] at hn
      rw [seenBy_sub_other i j hn.1]
      exact ih _ (by rw [afterSub_count s i j hn.1]; exact hc) hn.2
    | unsub j =>
      simp only [noSub] at hn
      simp only [runEv]
      apply ih _ _ hn
      by_cases hj : j = i
      · rw [hj, unsubscribe_count_self, hc]
      · rw [unsubscribe_count_ne s i j hj]; exact hc
    | inp n =>
      -- deliveries go to observers only, and no observer is added
      simp only [noSub] at hn
      have hni : i ∉ s.obs := List.count_eq_zero.mp hc
      have hnone : seenBy i (s.onNotif n).2 = [] :=
        List.filterMap_tag_eq_nil fun d hd e => hni (e ▸ onNotif_ids s n d hd)
      simp only [runEv, seenBy_append, hnone, List.nil_append]
      exact ih _ (List.count_eq_zero.mpr fun h => hni (onNotif_obs_subset s n i h)) hn

theorem member_sees_suffix (i : Nat) : ∀ (evs : List (SEv α)) (s : Subj α),
    s.term = none → s.obs.count i = 1 → noSub i evs = true → seenBy i (runEv s evs) = suffixFor i evs := by
  intro evs
  induction evs with
  | nil => intro s _ _ _; rfl
  | cons e rest ih =>
    intro s ht hc hn
    cases e with
    | sub j =>
      simp only [noSub, Bool.and_eq_true, bne_iff_ne, ne_eq] at hn
      rw [seenBy_sub_other i j hn.1]
      exact ih _ (afterSub_running s j ht).1 (by rw [afterSub_count s i j hn.1]; exact hc) hn.2
    | unsub j =>
      simp only [noSub] at hn
      simp only [runEv, suffixFor]
      by_cases hj : j = i
      · subst hj
        rw [if_pos rfl]
        exact absent_sees_nothing j rest _ (by rw [unsubscribe_count_self, hc]) hn
      · rw [if_neg hj]
        exact ih (s.unsubscribe j) ht (by rw [unsubscribe_count_ne s i j hj]; exact hc) hn
    | inp n =>
      simp only [noSub] at hn
      simp only [runEv, seenBy_append, suffixFor]
      obtain ⟨hout, hobs, hterm⟩ := onNotif_running s n ht
      rw [hout, seenBy_map_obs, hc]
      cases hn' : n.isTerminal with
      | false =>
        simp only [Bool.false_eq_true, if_false, List.replicate_one, List.singleton_append]
        congr 1
        exact ih _ (hterm hn') (by rw [hobs, hn']; exact hc) hn
      | true =>
        simp only [if_true, List.replicate_one]
        rw [absent_sees_nothing i rest _ (by rw [hobs, hn']; rfl) hn]; rfl

end Subj
end Conn
