import RxProofs.Lemmas.ThrEL
/-!
# EventLoopScheduler model: order, time, cancellation and disposal (`E2`), preserved by every kind of thread step (C31)
-/
namespace Thr.EL

structure ELog (log : List Ev) (cancelled : List Nat) (disposed : Bool) : Prop where
  nb : ∀ t id due seq imm clk, Ev.start t id due seq imm clk ∈ log → due ≤ clk
  cl : ∀ t k, Ev.cancel t k ∈ log → k ∈ cancelled
  oc : okCancel log
  dl : ∀ t, Ev.dispose t true ∈ log → disposed = true
  od : okDisp log

theorem ELog.cons {log : List Ev} {can : List Nat} {d : Bool} (h : ELog log can d) (e : Ev)
    (hst : ∀ t id due seq imm clk, e = .start t id due seq imm clk → due ≤ clk ∧ id ∉ can)
    (hcol : (∃ t ids c, e = .collect t ids c) → d = false)
    (hp : plainEv e = true := by rfl) : ELog (e :: log) can d where
  nb t id due seq imm clk hm := (List.mem_cons.mp hm).elim (fun hm => (hst _ _ _ _ _ _ hm.symm).1) (h.nb _ _ _ _ _ _)
  cl t k hm := (List.mem_cons.mp hm).elim (fun hm => absurd hm.symm ((plainEv_ne hp).1 t k)) (h.cl _ _)
  oc := by
    cases e <;> first
      | exact h.oc
      | exact ⟨fun t hm => (hst _ _ _ _ _ _ rfl).2 (h.cl t _ hm), h.oc⟩
  dl t hm := (List.mem_cons.mp hm).elim (fun hm => absurd hm.symm ((plainEv_ne hp).2.1 t)) (h.dl _)
  od := by
    cases e <;> first
      | exact h.od
      | exact absurd rfl ((plainEv_ne hp).2.2 _ _)
      | exact ⟨fun t hm => (by have := h.dl t hm; rw [hcol ⟨_, _, _, rfl⟩] at this; cases this), h.od⟩

theorem ELog.neutral {log : List Ev} {can cs : List Nat} {d d' : Bool} (h : ELog log can d) {es : List Ev}
    (hes : es = [] ∨ ∃ e, es = [e] ∧ neutral e = true)
    (hcan : ∀ k, (k ∈ can ∨ ∃ t, Ev.cancel t k ∈ es) → k ∈ cs)
    (hd : (d = true ∨ ∃ t, Ev.dispose t true ∈ es) → d' = true)
    (hps : ∀ t id, Ev.passed t id ∈ es → d = false) : ELog (es ++ log) cs d' where
  nb t id due seq imm clk hm := by
    rcases List.mem_append.mp hm with hm | hm
    · rcases hes with rfl | ⟨e, rfl, he⟩
      · cases hm
      · cases List.mem_singleton.mp hm; cases he
    · exact h.nb _ _ _ _ _ _ hm
  cl t k hk := hcan k ((List.mem_append.mp hk).symm.imp (h.cl t k) (fun hk => ⟨t, hk⟩))
  oc := by rw [(neutral_log hes log).cancel]; exact h.oc
  dl t ht := hd ((List.mem_append.mp ht).symm.imp (h.dl t) (fun ht => ⟨t, ht⟩))
  od := by
    rcases hes with rfl | ⟨e, rfl, he⟩
    · exact h.od
    · -- only `passed` of the neutral events is read by `okDisp`: the flag it read was not set, so no dispose precedes it
      cases e with
      | passed t id => exact ⟨fun t' hm => (by have := h.dl t' hm; rw [hps t id List.mem_cons_self] at this; cases this), h.od⟩
      | collect => cases he
      | _ => exact h.od

/-- order, time, cancellation and disposal, read off the shared state and the loop thread's batch `b` -/
structure E2 (sh : Sh) (b : List Item) : Prop where
  kinds : (∀ r ∈ sh.readyList, r.imm = true) ∧ (∀ q ∈ sh.queue, q.imm = false)
  due : ∀ it ∈ b ++ sh.readyList, it.due ≤ sh.clock
  fifo : immEnq sh.log = immPop sh.log ++ (b.filter (·.imm)).map (·.seq) ++ sh.readyList.map (·.seq)
  tq : TQ Item.due Item.seq True (tPop sh.log ++ (b.filter (fun x => !x.imm)).map key) sh.queue sh.clock sh.nsched
  logs : ELog sh.log sh.cancelled sh.disposed

theorem E2.tick {sh : Sh} {b : List Item} (h : E2 sh b) (dt : Nat) : E2 { sh with clock := sh.clock + dt } b :=
  { h with
    due := fun it hi => Int.le_trans (h.due it hi) (by show sh.clock ≤ sh.clock + dt; omega)
    tq := h.tq.mono (by show sh.clock ≤ sh.clock + dt; omega) (Nat.le_refl _) id }

theorem E2.frame {sh : Sh} {b : List Item} (h : E2 sh b) {c : Int} {cs : List Nat} {d : Bool} {w : WS} {t : Option Nat} (es : List Ev)
    (hes : es = [] ∨ ∃ e, es = [e] ∧ neutral e = true) (hc : sh.clock ≤ c)
    (hcan : ∀ k, (k ∈ sh.cancelled ∨ ∃ t, Ev.cancel t k ∈ es) → k ∈ cs)
    (hd : (sh.disposed = true ∨ ∃ t, Ev.dispose t true ∈ es) → d = true)
    (hps : ∀ t id, Ev.passed t id ∈ es → sh.disposed = false) :
    E2 { sh with clock := c, cancelled := cs, disposed := d, wstate := w, thread := t, log := es ++ sh.log } b where
  kinds := h.kinds
  due it hi := Int.le_trans (h.due it hi) hc
  fifo := by
    show immEnq (es ++ sh.log) = immPop (es ++ sh.log) ++ _ ++ _
    rw [(neutral_log hes sh.log).enq, (neutral_log hes sh.log).pop]; exact h.fifo
  tq := by
    show TQ _ _ _ (tPop (es ++ sh.log) ++ _) _ _ _
    rw [(neutral_log hes sh.log).tpop]; exact h.tq.mono hc (Nat.le_refl _) id
  logs := h.logs.neutral hes hcan hd hps

theorem E2.note {sh : Sh} {b : List Item} (h : E2 sh b) {w : WS} {t : Option Nat} (e : Ev) (he : neutral e = true)
    (hp : plainEv e = true := by rfl) :
    E2 { sh with wstate := w, thread := t, log := e :: sh.log } b :=
  h.frame [e] (.inr ⟨e, rfl, he⟩) (Int.le_refl _)
    (fun k hk => hk.elim id fun ⟨t, ht⟩ => absurd (List.mem_singleton.mp ht).symm ((plainEv_ne hp).1 t k))
    (fun hd => hd.elim id fun ⟨t, ht⟩ => absurd (List.mem_singleton.mp ht).symm ((plainEv_ne hp).2.1 t))
    (fun t id ht => absurd (List.mem_singleton.mp ht).symm ((plainEv_ne hp).2.2 t id))

/-- `b`, `b'`: the loop's batch before and after; it is the stepping thread's own if that is the loop thread, and left alone otherwise (`hb`) -/
theorem Eff.e2 {xie me nth sh st sh' st' spawn} (e : Eff xie me nth sh st sh' st' spawn) {b b' : List Item}
    (hb : nLoop st = 0 ∧ b' = b ∨ b = readyOf st ∧ b' = readyOf st') (h : E2 sh b) : E2 sh' b' := by
  have same : readyOf st' = readyOf st → b' = b := fun hr => hb.elim (·.2) fun ⟨h1, h2⟩ => by rw [h1, h2, hr]
  have own : nLoop st = 1 → b = readyOf st ∧ b' = readyOf st' := fun h1 => hb.resolve_left fun h0 => by rw [h1] at h0; cases h0.1
  cases e with
  | quiet c cs es hsh hc hes hcan hnd hps hl hr hsp =>
    subst hsh; rw [same hr]
    exact h.frame es hes hc hcan (fun hd => hd.elim id (fun ⟨t, ht⟩ => absurd ht (hnd t))) hps
  | dispose hsh hl hr hsp =>
    subst hsh; rw [same hr]
    exact h.frame [.dispose me true] (.inr ⟨_, rfl, rfl⟩) (Int.le_refl _) (by simp) (fun _ => rfl) (by simp)
  | exitDisposed hd hsh hst hst' hsp =>
    subst hsh; rw [same (by rw [hst, hst']; rfl)]
    exact h.note (.exitDisposed me) rfl
  | exitEmpty hx hrl hq hsh hst hst' hsp =>
    subst hsh; rw [same (by rw [hst, hst']; rfl)]
    exact h.note (.exitEmpty me) rfl
  | wait w e hrl hw hsh hl hr hsp =>
    subst hsh; rw [same hr]
    rcases hw with ⟨_, d, rfl⟩ | ⟨_, _, rfl⟩ <;> exact h.note _ rfl
  | woke hsh hl hr hsp =>
    subst hsh; rw [same hr]
    exact h.note (.woke me) rfl
  | enq it hsh hl hr hsp =>
    subst hsh; rw [same hr]
    have hlog := h.logs.cons (.enq me it.id sh.nsched (decide (it.due ≤ sh.clock)) (if sh.thread.isNone then some nth else none)) nofun nofun
    obtain ⟨kinds, due, fifo, tq, -⟩ := h
    by_cases himm : it.due ≤ sh.clock
    · simp only [himm, decide_true, if_true] at hlog ⊢
      refine ⟨⟨?_, kinds.2⟩, ?_, ?_, tq.mono (Int.le_refl _) (Nat.le_succ _) id, hlog⟩
      · intro r hr
        rcases List.mem_append.mp hr with hr | hr
        · exact kinds.1 r hr
        · cases List.mem_singleton.mp hr; rfl
      · intro x hx
        rw [← List.append_assoc] at hx
        rcases List.mem_append.mp hx with hx | hx
        · exact due x hx
        · cases List.mem_singleton.mp hx; exact himm
      · simp [immEnq, immPop, fifo, List.append_assoc]
    · simp only [himm, decide_false, Bool.false_eq_true, if_false, enqueue_eq_insertDue] at hlog ⊢
      -- everything taken or gathered so far was due by now, the new item is due later
      refine ⟨⟨kinds.1, ?_⟩, due, fifo, tq.enq { it with seq := sh.nsched, imm := false } rfl
        (fun _ a ha => by have := tq.dc a ha; show a.1 ≤ it.due; omega) (Int.le_refl _) id, hlog⟩
      intro x hx
      rcases (mem_insertDue _ _ _ _).mp hx with rfl | hx
      · rfl
      · exact kinds.2 x hx
  | collect hd hsh hst hst' hsp =>
    subst hsh
    obtain ⟨rfl, rfl⟩ := own (by rw [hst]; rfl)
    rw [hst']
    have hlog := h.logs.cons (.collect me ((merge sh.clock sh.queue sh.readyList).1.map (·.id)) sh.clock) nofun (fun _ => hd)
    obtain ⟨kinds, due, fifo, tq, -⟩ := h
    have hm := merge_spec sh.clock sh.queue sh.readyList kinds.1 kinds.2
    have hsub : (merge sh.clock sh.queue sh.readyList).2.Sublist sh.queue := by
      conv => rhs; rw [← hm.timed]
      exact List.sublist_append_right _ _
    rw [hst] at due fifo tq
    simp only [readyOf, List.nil_append, List.filter_nil, List.map_nil, List.append_nil] at due fifo tq ⊢
    have hg := merge_due _ _ _ kinds.1 kinds.2 due
    refine ⟨⟨nofun, fun x hx => kinds.2 x (hsub.subset hx)⟩, fun x hx => hg x (by simpa using hx), ?_, ?_, hlog⟩
    · simp only [immEnq, immPop, hm.imm, List.map_nil, List.append_nil]; exact fifo
    · refine tq.sub hsub ?_ ?_ (Int.le_refl _) (Nat.le_refl _) id
      · show (tPop sh.log ++ ((merge sh.clock sh.queue sh.readyList).1.filter (fun x => !x.imm)).map key
          ++ (merge sh.clock sh.queue sh.readyList).2.map key).Sublist (tPop sh.log ++ sh.queue.map key)
        rw [List.append_assoc, ← List.map_append, hm.timed]; exact .refl _
      · intro k hk
        rcases List.mem_append.mp hk with hk | hk
        · exact .inl hk
        · obtain ⟨x, hx, rfl⟩ := List.mem_map.mp hk
          exact .inr (hg x (List.mem_filter.mp hx).1)
  | pop it ready started hnc hsh hst hl hr hsp =>
    subst hsh
    obtain ⟨rfl, rfl⟩ := own (by rw [hst]; rfl)
    rw [hr]
    rw [hst] at h
    simp only [readyOf, List.append_nil] at h
    have hdue : it.due ≤ sh.clock := h.due it (by simp)
    generalize hev : (if started then Ev.start me it.id it.due it.seq it.imm sh.clock else Ev.skip me it.id it.due it.seq it.imm) = ev
    have hlog := h.logs.cons ev
      (by subst hev; cases started <;> intro t id due seq imm clk he <;> cases he; exact ⟨hdue, hnc rfl⟩)
      (by subst hev; cases started <;> nofun) (by subst hev; cases started <;> rfl)
    obtain ⟨kinds, due, fifo, tq, -⟩ := h
    -- the item moves from the batch to the taken ones: both listings stay the same
    have hI : immEnq (ev :: sh.log) = immEnq sh.log ∧
        immPop (ev :: sh.log) ++ (ready.filter (·.imm)).map (·.seq) = immPop sh.log ++ ((it :: ready).filter (·.imm)).map (·.seq) := by
      subst hev; cases started <;> cases hi : it.imm <;> simp [immEnq, immPop, hi]
    have hT : tPop (ev :: sh.log) ++ (ready.filter (fun x => !x.imm)).map key
        = tPop sh.log ++ ((it :: ready).filter (fun x => !x.imm)).map key := by
      subst hev; cases started <;> cases hi : it.imm <;> simp [tPop, key, hi]
    refine ⟨kinds, fun x hx => due x (List.mem_cons_of_mem _ hx), ?_, hT ▸ tq, hlog⟩
    show immEnq (ev :: sh.log) = immPop (ev :: sh.log) ++ _ ++ _
    rw [hI.1, hI.2, fifo]

end Thr.EL
