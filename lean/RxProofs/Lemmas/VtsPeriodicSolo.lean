import RxProofs.Lemmas.VtsPeriodic
/-! Periodic model: the closed form of a single live periodic task on an otherwise idle scheduler.  The general
form (`idealG`, any in-call sleep) is what the run produces (`advanceTo_solo`); while no call sleeps longer than
a period it is an arithmetic progression (`idealG_grid`). -/

namespace Per
open Vts
variable {σ : Type}

def iterate (F : σ → σ) : Nat → σ → σ
  | 0, a => a
  | n + 1, a => iterate F n (F a)

theorem iterate_succ_int : ∀ (i : Nat) (a : Int), iterate (fun v : Int => v + 1) i a = a + i := by
  intro i
  induction i with
  | zero => intro a; simp [iterate]
  | succ i ih => intro a; simp only [iterate, ih]; push_cast; omega

/-- the single pending item is the live tick of task `pid`; the clock may already be past its due time -/
structure SoloG (pid : Nat) (t : Task) (s : St σ) (d : Int) (st : σ) : Prop where
  en : s.enabled = true
  q : ∃ c, s.queue.items = [({ due := d, kind := .tick pid st, cancelled := false }, c)]
  task : getTask s pid = some t

/-- the invocation sequence of one task whose call with state `st` returns `F st` after sleeping `sl st`:
run at `now = max clock due`; afterwards the clock is `now + sl st` and the next tick is due at `now + p` -/
def idealG (pid : Nat) (T p : Int) (F : σ → σ) (sl : σ → Nat) : Nat → Int → Int → σ → List (Ran σ)
  | 0, _, _, _ => []
  | n + 1, clock, d, st =>
    if d > T then []
    else
      { pid, at_ := if d > clock then d else clock, st } ::
        idealG pid T p F sl n ((if d > clock then d else clock) + sl st) ((if d > clock then d else clock) + p) (F st)

theorem soloG_iter (handler : Err → Bool) (f : Nat → σ → Tick σ) (T : Int) (pid : Nat) (t : Task) (F : σ → σ)
    (hp : 1 ≤ t.period) (hlive : t.disposed = false) (hnf : t.failed = false)
    (hf : ∀ st, (f pid st).next = .ok (F st) ∧ (f pid st).dispose = false)
    (s : St σ) (d : Int) (st : σ) (hs : SoloG pid t s d st) :
    (d > T → iter handler f T s = .exit s) ∧
    (d ≤ T → ∃ s2, iter handler f T s = .next s2 ∧
      SoloG pid t s2 ((if d > s.clock then d else s.clock) + t.period) (F st) ∧
      s2.clock = (if d > s.clock then d else s.clock) + (f pid st).sleep ∧
      s2.log = s.log ++ [{ pid, at_ := if d > s.clock then d else s.clock, st }] ∧ s2.hlog = s.hlog) := by
  obtain ⟨hen, ⟨c, hq⟩, htask⟩ := hs
  have hdq : s.queue.dequeue? Item.due = some (({ due := d, kind := .tick pid st, cancelled := false } : Item σ),
      { items := [], count := PQ.MIN_COUNT }) := by
    simp [PQ.dequeue?, hq, popMinBy]
  obtain ⟨hf1, hf2⟩ := hf st
  refine ⟨fun hgt => ?_, fun hle => ?_⟩
  · simp [iter, hen, hdq, hgt]
  · have hi := iter_tick handler f T s _ _ pid st t hen hdq hle rfl rfl htask hp
    rw [runTick_ok handler f { s with clock := if d > s.clock then d else s.clock, queue := _ } pid t st (F st) htask hlive
      (by simp [hnf]) hf1 hf2] at hi
    refine ⟨_, hi, ⟨hen, ⟨PQ.MIN_COUNT, ?_⟩, htask⟩, rfl, rfl, rfl⟩
    simp [enqueue, PQ.enqueue]

theorem soloG_loop (handler : Err → Bool) (f : Nat → σ → Tick σ) (T : Int) (pid : Nat) (t : Task) (F : σ → σ)
    (hp : 1 ≤ t.period) (hlive : t.disposed = false) (hnf : t.failed = false)
    (hf : ∀ st, (f pid st).next = .ok (F st) ∧ (f pid st).dispose = false) :
    ∀ (n : Nat) (s : St σ) (d : Int) (st : σ), SoloG pid t s d st →
      (loopFuel handler f T n s).1.log =
        s.log ++ idealG pid T t.period F (fun x => (f pid x).sleep) n s.clock d st ∧
      (loopFuel handler f T n s).1.hlog = s.hlog ∧
      (weight T s.queue.items < n → (loopFuel handler f T n s).2 = .ok) := by
  intro n
  induction n with
  | zero => intro s d st _; simp [loopFuel, idealG]
  | succ n ih =>
    intro s d st hs
    by_cases hgt : d > T
    · have := (soloG_iter handler f T pid t F hp hlive hnf hf s d st hs).1 hgt
      simp [loopFuel, this, idealG, hgt]
    · obtain ⟨s2, hi, hs2, hc2, hl2, hh2⟩ := (soloG_iter handler f T pid t F hp hlive hnf hf s d st hs).2 (by omega)
      obtain ⟨h1, h2, h3⟩ := ih s2 _ (F st) hs2
      simp only [loopFuel, hi, idealG, hgt, if_false]
      rw [h1, h2, hl2, hh2, hc2]
      exact ⟨by simp, rfl, fun hw => h3 (by have := iter_next_weight hi; omega)⟩

theorem idealG_chain (pid : Nat) (T p : Int) (F : σ → σ) (sl : σ → Nat) :
    ∀ (n : Nat) (clock d : Int) (st : σ),
      (∀ r, (idealG pid T p F sl n clock d st)[0]? = some r → r.st = st ∧ r.at_ = (if d > clock then d else clock)) ∧
      (∀ (i : Nat) (a b : Ran σ), (idealG pid T p F sl n clock d st)[i]? = some a →
        (idealG pid T p F sl n clock d st)[i + 1]? = some b →
        b.st = F a.st ∧ b.at_ = a.at_ + (if (sl a.st : Int) > p then (sl a.st : Int) else p)) := by
  intro n
  induction n with
  | zero => intro clock d st; simp [idealG]
  | succ n ih =>
    intro clock d st
    simp only [idealG]
    by_cases hgt : d > T
    · simp [hgt]
    · simp only [hgt, if_false]
      have ih' := ih ((if d > clock then d else clock) + sl st) ((if d > clock then d else clock) + p) (F st)
      refine ⟨by intro r hr; simp at hr; subst hr; exact ⟨rfl, rfl⟩, ?_⟩
      intro i a b ha hb
      cases i with
      | zero =>
        simp at ha; subst ha
        simp only [List.getElem?_cons_succ] at hb
        obtain ⟨h1, h2⟩ := ih'.1 b hb
        refine ⟨h1, ?_⟩
        rw [h2]; simp only; split <;> split <;> omega
      | succ i =>
        simp only [List.getElem?_cons_succ] at ha hb
        exact ih'.2 i a b ha hb

theorem idealG_grid (pid : Nat) (T p : Int) (F : σ → σ) (sl : σ → Nat) (hp : 1 ≤ p) (hsl : ∀ st, (sl st : Int) ≤ p) :
    ∀ (n : Nat) (clock d : Int) (st : σ), clock ≤ d → T + 1 - d < (n : Int) →
      d + ((idealG pid T p F sl n clock d st).length : Int) * p > T ∧
      ∀ (i : Nat) (r : Ran σ), (idealG pid T p F sl n clock d st)[i]? = some r →
        r = { pid, at_ := d + i * p, st := iterate F i st } ∧ d + i * p ≤ T := by
  intro n
  induction n with
  | zero => intro clock d st _ h; exact ⟨by rw [idealG]; simp; omega, fun i r h => by cases h⟩
  | succ n ih =>
    intro clock d st hc hn
    by_cases hgt : d > T
    · rw [idealG, if_pos hgt]; exact ⟨by simpa using hgt, fun i r h => by cases h⟩
    · have hnow : (if d > clock then d else clock) = d := by split <;> omega
      -- the tail starts one period later: entry `i + 1` of the whole is entry `i` of the tail
      have hs : ∀ i : Nat, d + p + (i : Int) * p = d + ((i + 1 : Nat) : Int) * p := fun i => by
        rw [Int.natCast_succ, Int.add_mul]; omega
      obtain ⟨h1, h2⟩ := ih (d + sl st) (d + p) (F st) (by have := hsl st; omega) (by omega)
      rw [idealG, if_neg hgt, hnow, List.length_cons]
      refine ⟨hs _ ▸ h1, fun i r h => ?_⟩
      cases i with
      | zero => cases h; exact ⟨by simp [iterate], by simp; omega⟩
      | succ i => exact hs i ▸ h2 i r h

theorem advanceTo_solo (handler : Err → Bool) (f : Nat → σ → Tick σ) (pid : Nat) (t0 p : Int) (st0 : σ) (c : Bool)
    (T : Int) (F : σ → σ) (hp : 1 ≤ p) (hT : t0 < T)
    (hf : ∀ st, (f pid st).next = .ok (F st) ∧ (f pid st).dispose = false) :
    (advanceTo handler f T (schedulePeriodic { clock := t0 } pid p st0 c)).2 = .ok ∧
    (advanceTo handler f T (schedulePeriodic { clock := t0 } pid p st0 c)).1.clock = T ∧
    (advanceTo handler f T (schedulePeriodic { clock := t0 } pid p st0 c)).1.hlog = [] ∧
    (advanceTo handler f T (schedulePeriodic { clock := t0 } pid p st0 c)).1.log =
      idealG pid T p F (fun x => (f pid x).sleep) ((T + 1 - (t0 + p)).toNat + 2) t0 (t0 + p) st0 := by
  generalize hs0 : schedulePeriodic { clock := t0 } pid p st0 c = s0
  have hitems : s0.queue.items = [({ due := t0 + p, kind := .tick pid st0, cancelled := false }, PQ.MIN_COUNT)] := by
    rw [← hs0]; rfl
  have hclock : s0.clock = t0 := by rw [← hs0]; rfl
  have hsolo : SoloG pid { period := p, catch_ := c } { s0 with enabled := true } (t0 + p) st0 :=
    ⟨rfl, ⟨_, hitems⟩, by rw [← hs0]; simp [schedulePeriodic, enqueue, getTask]⟩
  have hw : weight T s0.queue.items = (T + 1 - (t0 + p)).toNat + 1 := by rw [hitems]; simp [weight]
  obtain ⟨k1, k2, k3⟩ := soloG_loop handler f T pid { period := p, catch_ := c } F hp rfl rfl hf
    (weight T s0.queue.items + 1) { s0 with enabled := true } (t0 + p) st0 hsolo
  have hen : s0.enabled = false := by rw [← hs0]; rfl
  have hlog : s0.log = [] := by rw [← hs0]; rfl
  have hhlog : s0.hlog = [] := by rw [← hs0]; rfl
  rw [advanceTo_eq, if_neg (show ¬ s0.clock > T by omega),
    if_neg (show ¬ (s0.clock = T ∨ s0.enabled = true) by rw [hen]; simp; omega)]
  rw [closeRun_of_ok _ (k3 (Nat.lt_succ_self _))]
  refine ⟨rfl, rfl, k2.trans hhlog, k1.trans ?_⟩
  show s0.log ++ idealG pid T p F _ _ s0.clock (t0 + p) st0 = _
  rw [hlog, hclock, hw, List.nil_append]

end Per
