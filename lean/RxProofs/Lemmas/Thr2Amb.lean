import RxProofs.Lemmas.Thr2Token
import RxModel.Thr2Merge
/-! # Lemmas for C43 — binary and n-ary `amb` are token-guarded -/

namespace Thr2

variable {α : Type}

/-! ### binary `amb`: the guard of the call is the token itself -/

def BUpd (u : Option Bool → Option Bool) : Prop := ∃ d, u = ambChoose d

def BW (j : Nat) (s : Option Bool) : Prop := (j = 0 ∧ s = some false) ∨ (j = 1 ∧ s = some true)

theorem BW_stable (j : Nat) : Stable BUpd (BW j) := by
  rintro v ⟨d, rfl⟩ t (⟨h, rfl⟩ | ⟨h, rfl⟩)
  · exact .inl ⟨h, rfl⟩
  · exact .inr ⟨h, rfl⟩

theorem BW_excl (i j : Nat) (s : Option Bool) (hi : BW i s) (hj : BW j s) : i = j := by
  rcases hi with ⟨rfl, rfl⟩ | ⟨rfl, rfl⟩ <;> rcases hj with ⟨rfl, h⟩ | ⟨rfl, h⟩ <;> first | rfl | cases h

theorem tok_ambProg (d : Bool) (W : Option Bool → Prop) (hW : ∀ s, s = some d → W s) (ns : List (Notif α)) :
    Tok BUpd W (fun _ => True) (.run (ambProg d ns)) := by
  induction ns with
  | nil => exact .halt
  | cons n ns ih =>
    refine .crit (.step (fun _ _ => True) ⟨d, rfl⟩ (fun _ _ => ⟨fun _ _ _ h => h, trivial, fun _ h => nomatch h⟩)
      fun _ _ => .done (.ucall (fun s c _ hc => hW s ?_) ih))
    simp only [ambGuard] at hc
    split at hc
    · assumption
    · cases hc

theorem tok_ambProgs (ls rs : List (Notif α)) : ∀ i, Tok BUpd (BW i) (fun _ => True) (.run (ambProgs ls rs i))
  | 0 => tok_ambProg false _ (fun _ h => .inl ⟨rfl, h⟩) ls
  | 1 => tok_ambProg true _ (fun _ h => .inr ⟨rfl, h⟩) rs
  | _ + 2 => .halt

def AUpd (u : AS → AS) : Prop := ∃ j d, u = tas j d

/-- source `i` (of `n`) is the choice of the stages before `j` that it passes through: left at its own, right at the later
ones; the token is `AK n i n` -/
def AK (n i j : Nat) (s : AS) : Prop := i < n ∧ ∀ j', i ≤ j' → j' < j → s j' = some (decide (j' ≠ i))

theorem tas_keeps (j : Nat) (d : Bool) (s : AS) (j' : Nat) (b : Bool) (h : s j' = some b) : tas j d s j' = some b := by
  unfold tas
  split
  · next hn =>
    by_cases hjj : j' = j
    · subst hjj; rw [h] at hn; cases hn
    · rw [upd_other _ _ _ _ hjj]; exact h
  · exact h

theorem AK_stable (n i j : Nat) : Stable AUpd (AK n i j) := by
  rintro v ⟨j0, d0, rfl⟩ t ⟨h1, h2⟩
  exact ⟨h1, fun j' a b => tas_keeps _ _ _ _ _ (h2 j' a b)⟩

theorem AK_excl (n : Nat) (i j : Nat) (s : AS) (hi : AK n i n s) (hj : AK n j n s) : i = j := by
  have key : ∀ i j, AK n i n s → AK n j n s → ¬i < j := by
    intro i j hi hj h
    have a := hi.2 j (Nat.le_of_lt h) hj.1
    have b := hj.2 j (Nat.le_refl _) hj.1
    rw [a] at b
    have : j ≠ i := fun e => by omega
    simp [this] at b
  exact Nat.le_antisymm (Nat.not_lt.1 (key j i hj hi)) (Nat.not_lt.1 (key i j hi hj))

/-- the knowledge after the test-and-set of stage `j` from pre-state `s` -/
def AKnext (n i j : Nat) (d : Bool) (s : AS) : AS → Prop :=
  fun t => if tas j d s j = some d then AK n i (j + 1) t else True

theorem AKnext_ok (n i j : Nat) (d : Bool) (hd : d = decide (j ≠ i)) (s : AS) (hs : AK n i j s) :
    Stable AUpd (AKnext n i j d s) ∧ AKnext n i j d s (tas j d s) := by
  unfold AKnext
  split
  · next hp =>
    refine ⟨AK_stable n i (j + 1), hs.1, fun j' a b => ?_⟩
    by_cases hjj : j' = j
    · subst hjj; rw [hp, hd]
    · exact tas_keeps _ _ _ _ _ (hs.2 j' a (by omega))
  · exact ⟨fun _ _ _ h => h, trivial⟩

theorem tok_ambPass (n i : Nat) (k : TProg AS α) (hk : Tok AUpd (AK n i n) (fun _ => True) (.run k)) (c : Notif α) :
    ∀ (m j : Nat) (d : Bool), j + m + 1 = n → i ≤ j → d = decide (j ≠ i) →
      Tok AUpd (AK n i n) (AK n i j) (.run (ambPass d j m c k)) := by
  intro m
  induction m with
  | zero =>
    intro j d hjm hij hd
    refine .free (AKnext n i j d) ⟨j, d, rfl⟩ (fun s hs => AKnext_ok n i j d hd s hs) (fun s hs => ?_)
    -- the knowledge and the program branch on the same test: `split` decides both
    unfold AKnext
    split
    · exact .ucall (fun t _ ht _ => hjm ▸ ht) (hk.weaken (fun _ _ => trivial))
    · exact hk
  | succ m ih =>
    intro j d hjm hij hd
    refine .free (AKnext n i j d) ⟨j, d, rfl⟩ (fun s hs => AKnext_ok n i j d hd s hs) (fun s hs => ?_)
    unfold AKnext
    split
    · next hp =>
      have hne : j + 1 ≠ i := by omega
      simpa [ambPass, hp] using ih (j + 1) true (by omega) (by omega) (by simp [hne])
    · next hp => simpa [ambPass, hp] using hk

theorem tok_ambSrc (n i : Nat) (hi : i < n) (cs : List (Notif α)) :
    Tok AUpd (AK n i n) (fun _ => True) (.run (ambSrc n i cs)) := by
  induction cs with
  | nil => exact .halt
  | cons c cs ih =>
    have := tok_ambPass n i (ambSrc n i cs) ih c (n - 1 - i) i false (by omega) (Nat.le_refl _) (by simp)
    exact this.weaken (fun s _ => ⟨hi, fun j' a b => by omega⟩)

theorem tok_ambNProgs (n : Nat) (srcs : Nat → List (Notif α)) (i : Nat) :
    Tok AUpd (AK n i n) (fun _ => True) (.run (ambNProgs n srcs i)) := by
  unfold ambNProgs
  split
  · next hi => exact tok_ambSrc n i hi (srcs i)
  · exact .halt

end Thr2
