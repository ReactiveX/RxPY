import RxModel.WinGrp
import RxProofs.Lemmas.Basics
/-!
# `partition`: the run in which both outputs are subscribed before the source emits
-/
namespace WinGrp
variable {α : Type}

/-- the two outputs of `partition`, neither subscribed yet -/
def partInit : Part.St α := { slots := [⟨false, .none, 0, []⟩, ⟨true, .none, 0, []⟩] }

end WinGrp

namespace WinGrp.Part
variable {α : Type}

/-- both outputs subscribed (first to output 1, then to output 2), connected, nothing terminated -/
def S2 (i0 i1 : Nat) (a b : List (Notif α)) (o : List (Eff α)) : St α :=
  { slots := [⟨false, .active, i0, a⟩, ⟨true, .active, i1, b⟩], observers := [0, 1], subjStopped := false,
    subjExc := none, count := 2, hasSub := true, connSome := true, connDisposed := false, connLive := true,
    connOpen := true, out := o }

theorem run_subscribe_both (indexed : Bool) (pred : α → Nat → Except Err Bool) :
    run indexed pred partInit [.sub 0, .sub 1] = S2 0 0 [] [] [.subSrc] := by
  simp [partInit, run, step, subscribe, S2, modSlot, emit, List.modify]

/-- what the element `v` contributes to an output (`second = false`: first output) at index `i` -/
def pick (p : α → Nat → Bool) (second : Bool) (v : α) (i : Nat) : List (Notif α) :=
  if (if second then !p v i else p v i) then [.next v] else []

theorem filterNext_active (indexed : Bool) (p : α → Nat → Bool) (s : St α) (j : Nat) (v : α) (r : Slot α)
    (hj : s.slots[j]? = some r) (ha : r.st = .active) :
    filterNext indexed (fun v i => .ok (p v i)) s j v =
      { s with slots := s.slots.set j { r with idx := if indexed then r.idx + 1 else r.idx, seen := r.seen ++ pick p r.second v r.idx },
               out := s.out ++ (pick p r.second v r.idx).map (.got j) } := by
  have hself : s.slots.set j r = s.slots := (List.modify_eq_set_of_getElem? hj id).symm.trans (List.modify_id _ _)
  unfold filterNext
  simp only [hj, ha, ne_eq, not_true_eq_false, if_false]
  obtain ⟨sec, st, idx, seen⟩ := r
  cases ha
  cases indexed <;> cases sec <;> cases hp : p v idx <;>
    simp only [modSlot, emit, pick, hp, List.modify_modify_eq, Bool.false_eq_true, if_false, if_true, Bool.not_true, Bool.not_false] <;>
    simp [List.modify_eq_set_of_getElem? hj, hself]

theorem step_next (indexed : Bool) (p : α → Nat → Bool) (i0 i1 : Nat) (a b : List (Notif α)) (o) (v : α) :
    ∃ o', step indexed (fun v i => .ok (p v i)) (S2 i0 i1 a b o) (.src (.next v)) =
      S2 (if indexed then i0 + 1 else i0) (if indexed then i1 + 1 else i1) (a ++ pick p false v i0) (b ++ pick p true v i1) o' := by
  -- the Subject hands `v` to its two observers in turn
  have e : step indexed (fun v i => .ok (p v i)) (S2 i0 i1 a b o) (.src (.next v)) =
      filterNext indexed (fun v i => .ok (p v i)) (filterNext indexed (fun v i => .ok (p v i)) (S2 i0 i1 a b o) 0 v) 1 v := rfl
  rw [e, filterNext_active indexed p _ 0 v ⟨false, .active, i0, a⟩ rfl rfl,
    filterNext_active indexed p _ 1 v ⟨true, .active, i1, b⟩ rfl rfl]
  exact ⟨_, rfl⟩

/-- elements selected for an output from `xs`, the per-subscription index starting at `i` -/
def sel (indexed : Bool) (p : α → Nat → Bool) (second : Bool) : List α → Nat → List (Notif α)
  | [], _ => []
  | v :: vs, i => pick p second v i ++ sel indexed p second vs (if indexed then i + 1 else i)

def idxAfter (indexed : Bool) (i n : Nat) : Nat := if indexed then i + n else i

theorem run_elements (indexed : Bool) (p : α → Nat → Bool) (xs : List α) (i0 i1 : Nat) (a b : List (Notif α)) (o) :
    ∃ o', run indexed (fun v i => .ok (p v i)) (S2 i0 i1 a b o) (xs.map fun v => .src (.next v)) =
      S2 (idxAfter indexed i0 xs.length) (idxAfter indexed i1 xs.length)
        (a ++ sel indexed p false xs i0) (b ++ sel indexed p true xs i1) o' := by
  induction xs generalizing i0 i1 a b o with
  | nil => exact ⟨o, by simp [run, sel, idxAfter]⟩
  | cons v vs ih =>
    obtain ⟨o1, h1⟩ := step_next indexed p i0 i1 a b o v
    obtain ⟨o2, h2⟩ := ih (if indexed then i0 + 1 else i0) (if indexed then i1 + 1 else i1)
      (a ++ pick p false v i0) (b ++ pick p true v i1) o1
    refine ⟨o2, ?_⟩
    simp only [List.map_cons, run, h1, h2, sel, List.append_assoc, List.length_cons]
    cases indexed <;> simp [idxAfter, Nat.add_assoc, Nat.add_comm 1]

theorem step_term (indexed : Bool) (pred : α → Nat → Except Err Bool) (i0 i1 : Nat) (a b : List (Notif α)) (o) (n : Notif α)
    (hn : n.isTerminal = true) :
    (step indexed pred (S2 i0 i1 a b o) (.src n)).slots.map (fun r => (r.st, r.seen)) = [(.ended, a ++ [n]), (.ended, b ++ [n])] := by
  cases n with
  | next v => cases hn
  | error e => simp [step, S2, deliverTerm, slotEnd, refDispose, connDispose, modSlot, emit, List.modify, excOf]
  | completed => simp [step, S2, deliverTerm, slotEnd, refDispose, connDispose, modSlot, emit, List.modify, excOf]

theorem sel_filter (p : α → Nat → Bool) (second : Bool) (xs : List α) (i : Nat) :
    sel false p second xs i = (xs.filter fun v => if second then !p v i else p v i).map .next := by
  induction xs with
  | nil => rfl
  | cons v vs ih =>
    simp only [sel, pick, Bool.false_eq_true, if_false, ih, List.filter_cons]
    cases second <;> cases h : p v i <;> simp

theorem sel_indexed (p : α → Nat → Bool) (second : Bool) (xs : List α) (i : Nat) :
    sel true p second xs i = (((xs.zipIdx i).filter fun q => if second then !p q.1 q.2 else p q.1 q.2).map (·.1)).map .next := by
  induction xs generalizing i with
  | nil => rfl
  | cons v vs ih =>
    simp only [sel, pick, if_true, ih, List.zipIdx_cons, List.filter_cons]
    cases second <;> cases h : p v i <;> simp
end WinGrp.Part

namespace WinGrp
variable {α : Type}

theorem part_run_append (indexed : Bool) (pred : α → Nat → Except Err Bool) (s : Part.St α) (a b : List (Part.Ev α)) :
    Part.run indexed pred s (a ++ b) = Part.run indexed pred (Part.run indexed pred s a) b := by
  induction a generalizing s with
  | nil => rfl
  | cons e es ih => simp [Part.run, ih]

theorem partition_core (indexed : Bool) (p : α → Nat → Bool) (xs : List α) (n : Notif α) (hn : n.isTerminal = true) :
    (Part.run indexed (fun v i => .ok (p v i)) partInit
        ([.sub 0, .sub 1] ++ xs.map (fun v => .src (.next v)) ++ [.src n])).slots.map (fun r => (r.st, r.seen)) =
      [(.ended, Part.sel indexed p false xs 0 ++ [n]), (.ended, Part.sel indexed p true xs 0 ++ [n])] := by
  rw [part_run_append, part_run_append]
  rw [Part.run_subscribe_both indexed (fun v i => Except.ok (p v i))]
  obtain ⟨o', h2⟩ := Part.run_elements indexed p xs 0 0 [] [] [.subSrc]
  rw [h2]
  simp only [Part.run, List.nil_append]
  exact Part.step_term indexed _ _ _ _ _ _ n hn

end WinGrp
