import RxProofs.Lemmas.SubjReplayOps
import RxProofs.Lemmas.SubjNat
/-!
# Naturality of the ReplaySubject machine in the value type

Renaming all values of a history by an arbitrary `g` renames queue, logs and pending calls and changes
nothing else: `_trim` only looks at times and counts, nothing ever inspects a value.  One equation `f (st.map g) = (f st).map g`
per primitive, and for `doTask`, `doCall`, `invoke`, `step` themselves: the relation `Step` gives no equation.
-/

namespace SubjReplay
open Subj (Call upd disposedExn)
variable {α β : Type}

def RAction.map (g : α → β) : RAction α → RAction β
  | .base a => .base a
  | .emit n => .emit (n.map g)

def Task.map (g : α → β) : Task α → Task β
  | .act w a => .act w (a.map g)
  | .sadDispose i => .sadDispose i
  | .resched i => .resched i
  | .handle j => .handle j

def EvR.map (g : α → β) : EvR α → EvR β
  | .emit i now n => .emit i now (n.map g)
  | .call k now nobs c => .call k now nobs (c.map g)
  | .sub j now => .sub j now
  | .unsub j => .unsub j
  | .dispose => .dispose
  | .cb i now => .cb i now

def Cfg.map (g : α → β) (cfg : Cfg α) : Cfg β :=
  { bufferSize := cfg.bufferSize, window := cfg.window, hasErr := cfg.hasErr,
    react := fun i k => (cfg.react i k).map (RAction.map g) }

def tv (g : α → β) (p : Nat × α) : Nat × β := (p.1, g p.2)
def tn (g : α → β) (p : Nat × Notif α) : Nat × Notif β := (p.1, p.2.map g)
def tc (g : α → β) (p : Nat × Call α) : Nat × Call β := (p.1, p.2.map g)

def ItemKind.map (g : α → β) : ItemKind α → ItemKind β
  | .call k c => .call k (c.map g)
  | .run i => .run i

def Item.map (g : α → β) (it : Item α) : Item β :=
  { due := it.due, id := it.id, kind := it.kind.map g, cancelled := it.cancelled }

def St.map (g : α → β) (st : St α) : St β :=
  { stopped := st.stopped, disposed := st.disposed, observers := st.observers, exception := st.exception,
    queue := st.queue.map (tv g), seen := st.seen, handle := st.handle, cbs := st.cbs,
    log := fun i => (st.log i).map (tn g), adoStopped := st.adoStopped, sadDisposed := st.sadDisposed, held := st.held,
    soStopped := st.soStopped, soQueue := fun i => (st.soQueue i).map (Notif.map g), acquired := st.acquired,
    faulted := st.faulted, serDisposed := st.serDisposed, serCur := st.serCur, clock := st.clock, spin := st.spin,
    nextId := st.nextId, pending := st.pending.map (Item.map g), crashed := st.crashed, agenda := st.agenda.map (Task.map g),
    curCall := st.curCall, raised := st.raised, xlog := st.xlog,
    enq := fun i => (st.enq i).map (Notif.map g), fed := fun i => (st.fed i).map (Notif.map g),
    allVals := st.allVals.map (tv g), lastNow := st.lastNow, evs := st.evs.map (EvR.map g) }

theorem upd_map {γ δ : Type} (h : γ → δ) (f : Id → γ) (i : Id) (v : γ) (k : Id) :
    upd (fun k => h (f k)) i (h v) k = h (upd f i v k) := by
  rw [updE, updE]; split <;> rfl

theorem map_snoc {γ δ : Type} (h : γ → δ) (l : List γ) (x : γ) : l.map h ++ [h x] = (l ++ [x]).map h := by
  rw [List.map_append]; rfl

theorem upd_snoc_map {γ δ : Type} (h : γ → δ) (f : Id → List γ) (i : Id) (x : γ) (k : Id) :
    upd (fun k => (f k).map h) i ((f i).map h ++ [h x]) k = (upd f i (f i ++ [x]) k).map h := by
  rw [map_snoc]; exact upd_map (List.map h) f i _ k

theorem trimCount_map (g : α → β) (bs : Option Nat) (q : List (Nat × α)) :
    trimCount bs (q.map (tv g)) = (trimCount bs q).map (tv g) := by
  induction q with
  | nil => simp [trimCount]
  | cons x xs ih =>
    cases bs with
    | none => simp [trimCount]
    | some n =>
      simp only [List.map_cons, trimCount, List.length_cons, List.length_map]
      split
      · exact ih
      · simp

theorem trimAge_map (g : α → β) (w : Option Nat) (now : Nat) (q : List (Nat × α)) :
    trimAge w now (q.map (tv g)) = (trimAge w now q).map (tv g) := by
  induction q with
  | nil => simp [trimAge]
  | cons x xs ih =>
    cases w with
    | none => simp [trimAge]
    | some w' =>
      simp only [List.map_cons, trimAge, tv]
      split
      · exact ih
      · simp [tv]

theorem trim_map (cfg : Cfg α) (g : α → β) (now : Nat) (q : List (Nat × α)) :
    trim (cfg.map g) now (q.map (tv g)) = (trim cfg now q).map (tv g) := by
  simp [trim, Cfg.map, trimCount_map, trimAge_map]

theorem pqInsert_map (g : α → β) (it : Item α) (p : List (Item α)) :
    pqInsert (it.map g) (p.map (Item.map g)) = (pqInsert it p).map (Item.map g) := by
  induction p with
  | nil => simp [pqInsert]
  | cons x xs ih =>
    simp only [List.map_cons, pqInsert]
    have : (Item.map g it).due = it.due ∧ (Item.map g x).due = x.due := ⟨rfl, rfl⟩
    rw [this.1, this.2]
    split
    · simp
    · simp [ih]

theorem cancelItem_map (g : α → β) (id : Nat) (p : List (Item α)) :
    cancelItem id (p.map (Item.map g)) = (cancelItem id p).map (Item.map g) := by
  simp only [cancelItem, List.map_map]
  apply List.map_congr_left
  intro it _
  simp only [Function.comp]
  have : (Item.map g it).id = it.id := rfl
  rw [this]
  split <;> rfl

theorem scheduleRun_map (g : α → β) (st : St α) (i : Id) :
    scheduleRun (st.map g) i = ((scheduleRun st i).1.map g, (scheduleRun st i).2) :=
  Prod.ext (St.ext' (pending := pqInsert_map g { due := st.clock, id := st.nextId, kind := .run i } st.pending)) rfl

theorem soPush_map (g : α → β) (st : St α) (i : Id) (n : Notif α) :
    soPush (st.map g) i (n.map g) = (soPush st i n).map g := by
  unfold soPush
  by_cases hs : st.soStopped i = true
  · rw [if_pos (show (st.map g).soStopped i = true from hs), if_pos hs]
  · rw [if_neg (show ¬(st.map g).soStopped i = true from hs), if_neg hs]
    have ht : (n.map g).isTerminal = n.isTerminal := by cases n <;> rfl
    rw [ht]
    exact St.ext' (soQueue := upd_snoc_map (Notif.map g) st.soQueue i n) (enq := upd_snoc_map (Notif.map g) st.enq i n)

@[simp] theorem m_faulted (g : α → β) (st : St α) : (st.map g).faulted = st.faulted := rfl
@[simp] theorem m_acquired (g : α → β) (st : St α) : (st.map g).acquired = st.acquired := rfl
@[simp] theorem m_serDisposed (g : α → β) (st : St α) : (st.map g).serDisposed = st.serDisposed := rfl
@[simp] theorem m_serCur (g : α → β) (st : St α) : (st.map g).serCur = st.serCur := rfl
@[simp] theorem m_soStopped (g : α → β) (st : St α) : (st.map g).soStopped = st.soStopped := rfl
@[simp] theorem m_soQueue (g : α → β) (st : St α) (i : Id) : (st.map g).soQueue i = (st.soQueue i).map (Notif.map g) := rfl
@[simp] theorem m_disposed (g : α → β) (st : St α) : (st.map g).disposed = st.disposed := rfl
@[simp] theorem m_stopped (g : α → β) (st : St α) : (st.map g).stopped = st.stopped := rfl
@[simp] theorem m_observers (g : α → β) (st : St α) : (st.map g).observers = st.observers := rfl
@[simp] theorem m_exception (g : α → β) (st : St α) : (st.map g).exception = st.exception := rfl
@[simp] theorem m_seen (g : α → β) (st : St α) : (st.map g).seen = st.seen := rfl
@[simp] theorem m_handle (g : α → β) (st : St α) : (st.map g).handle = st.handle := rfl
@[simp] theorem m_held (g : α → β) (st : St α) : (st.map g).held = st.held := rfl
@[simp] theorem m_sadDisposed (g : α → β) (st : St α) : (st.map g).sadDisposed = st.sadDisposed := rfl
@[simp] theorem m_adoStopped (g : α → β) (st : St α) : (st.map g).adoStopped = st.adoStopped := rfl
@[simp] theorem m_clock (g : α → β) (st : St α) : (st.map g).clock = st.clock := rfl
@[simp] theorem m_crashed (g : α → β) (st : St α) : (st.map g).crashed = st.crashed := rfl
@[simp] theorem m_agenda (g : α → β) (st : St α) : (st.map g).agenda = st.agenda.map (Task.map g) := rfl
@[simp] theorem m_pending (g : α → β) (st : St α) : (st.map g).pending = st.pending.map (Item.map g) := rfl
@[simp] theorem m_queue (g : α → β) (st : St α) : (st.map g).queue = st.queue.map (tv g) := rfl
@[simp] theorem m_cbs (g : α → β) (st : St α) : (st.map g).cbs = st.cbs := rfl
@[simp] theorem m_spin (g : α → β) (st : St α) : (st.map g).spin = st.spin := rfl

theorem acquire_map (g : α → β) (st : St α) (i : Id) : acquire (st.map g) i = (acquire st i).map g := rfl

theorem serialAssign_map (g : α → β) (st : St α) (i : Id) (id : Nat) :
    serialAssign (st.map g) i id = (serialAssign st i id).map g := by
  unfold serialAssign
  simp only [m_serDisposed, m_serCur, m_pending]
  by_cases hd : st.serDisposed i = true
  · simp only [hd, if_true, cancelItem_map]; rfl
  · simp only [hd, if_false, Bool.false_eq_true]
    cases hcur : st.serCur i with
    | none => rfl
    | some old => simp only [cancelItem_map]; rfl

theorem ensureActive_map (g : α → β) (st : St α) (i : Id) : ensureActive (st.map g) i = (ensureActive st i).map g := by
  rw [ensureActive_eq, ensureActive_eq]
  have hq : ((st.map g).soQueue i).isEmpty = (st.soQueue i).isEmpty := by simp
  rw [hq, acquire_map, scheduleRun_map, serialAssign_map]
  simp only [m_faulted, m_acquired, apply_ite (St.map g)]
  rfl

theorem stopSo_map (g : α → β) (st : St α) (i : Id) : stopSo (st.map g) i = (stopSo st i).map g := rfl

theorem serialOff_map (g : α → β) (st : St α) (i : Id) : serialOff (st.map g) i = (serialOff st i).map g := by
  unfold serialOff
  simp only [m_serCur, m_pending]
  cases hcur : st.serCur i with
  | none => rfl
  | some old => simp only [cancelItem_map]; rfl

theorem soDispose_map (g : α → β) (st : St α) (i : Id) : soDispose (st.map g) i = (soDispose st i).map g := by
  rw [soDispose_eq, soDispose_eq, stopSo_map, serialOff_map]
  simp only [m_serDisposed, apply_ite (St.map g)]
  rfl

theorem eraseObs_map (g : α → β) (st : St α) (i : Id) : eraseObs (st.map g) i = (eraseObs st i).map g := rfl

theorem removableDispose_map (g : α → β) (st : St α) (i : Id) :
    removableDispose (st.map g) i = (removableDispose st i).map g := by
  rw [removableDispose_eq, removableDispose_eq, soDispose_map, eraseObs_map]
  simp only [m_disposed, m_observers, apply_ite (St.map g)]
  rfl

theorem sadOff_map (g : α → β) (st : St α) (i : Id) : sadOff (st.map g) i = (sadOff st i).map g := rfl

theorem sadDispose_map (g : α → β) (st : St α) (i : Id) : sadDispose (st.map g) i = (sadDispose st i).map g := by
  rw [sadDispose_eq, sadDispose_eq, sadOff_map, removableDispose_map]
  simp only [m_sadDisposed, m_held, apply_ite (St.map g)]
  rfl

theorem pushAll_map (g : α → β) (n : Notif α) (l : List Id) (st : St α) :
    pushAll (n.map g) l (st.map g) = (pushAll n l st).map g := by
  induction l generalizing st with
  | nil => rfl
  | cons i is ih => simp only [pushAll]; rw [soPush_map, ih]

theorem ensureAll_map (g : α → β) (l : List Id) (st : St α) : ensureAll l (st.map g) = (ensureAll l st).map g := by
  induction l generalizing st with
  | nil => rfl
  | cons i is ih => simp only [ensureAll]; rw [ensureActive_map, ih]

theorem pushEnsureAll_map (g : α → β) (n : Notif α) (l : List Id) (st : St α) :
    pushEnsureAll (n.map g) l (st.map g) = (pushEnsureAll n l st).map g := by
  induction l generalizing st with
  | nil => rfl
  | cons i is ih => simp only [pushEnsureAll]; rw [soPush_map, ensureActive_map, ih]

theorem pushList_map (g : α → β) (j : Id) (ns : List (Notif α)) (st : St α) :
    pushList (st.map g) j (ns.map (Notif.map g)) = (pushList st j ns).map g := by
  induction ns generalizing st with
  | nil => rfl
  | cons n ns ih => simp only [List.map_cons, pushList]; rw [soPush_map, ih]

theorem raiseTo_map (g : α → β) (who : Option Id) (e : Err) (st : St α) :
    raiseTo who e (st.map g) = (raiseTo who e st).map g := by
  cases who <;> rfl

theorem callback_map (g : α → β) (st : St α) (i : Id) (n : Notif α) :
    callback (st.map g) i (n.map g) = (callback st i n).map g :=
  St.ext' (log := upd_snoc_map (tn g) st.log i (st.clock, n)) (evs := map_snoc (EvR.map g) st.evs (.cb i st.clock))

theorem reactions_map (cfg : Cfg α) (g : α → β) (st : St α) (i : Id) :
    reactions (cfg.map g) (st.map g) i = (reactions cfg st i).map (Task.map g) := by
  simp [reactions, Cfg.map, Task.map, Function.comp_def]

theorem subjDispose_map (g : α → β) (st : St α) : subjDispose (st.map g) = (subjDispose st).map g :=
  St.ext' (evs := map_snoc (EvR.map g) st.evs .dispose)

theorem acceptCore_map (cfg : Cfg α) (g : α → β) (st : St α) (n : Notif α) :
    acceptCore (cfg.map g) (st.map g) (n.map g) = (acceptCore cfg st n).map g := by
  cases n with
  | next v =>
    exact St.ext' (queue := (congrArg (trim (cfg.map g) st.clock) (map_snoc (tv g) st.queue (st.clock, v))).trans (trim_map cfg g st.clock _))
      (allVals := map_snoc (tv g) st.allVals (st.clock, v))
  | error e => exact St.ext' (queue := trim_map cfg g st.clock st.queue)
  | completed => exact St.ext' (queue := trim_map cfg g st.clock st.queue)

theorem accept_map (cfg : Cfg α) (g : α → β) (st : St α) (n : Notif α) :
    accept (cfg.map g) (st.map g) (n.map g) = (accept cfg st n).map g := by
  have ht : (n.map g).isTerminal = n.isTerminal := by cases n <;> rfl
  unfold accept
  rw [acceptCore_map, m_observers, pushAll_map, ensureAll_map, pushEnsureAll_map, ht]
  exact (apply_ite (St.map g) ..).symm

theorem emit_map (cfg : Cfg α) (g : α → β) (st : St α) (who : Option Id) (n : Notif α) :
    emit (cfg.map g) (st.map g) who (n.map g) = (emit cfg st who n).map g := by
  rw [emit_eq, emit_eq, accept_map, raiseTo_map]
  simp only [m_disposed, m_stopped, apply_ite (St.map g)]
  rfl

theorem logUnsub_map (g : α → β) (st : St α) (j : Id) : logUnsub (st.map g) j = (logUnsub st j).map g :=
  St.ext' (evs := map_snoc (EvR.map g) st.evs (.unsub j))

theorem doUnsub_map (g : α → β) (st : St α) (j : Id) : doUnsub (st.map g) j = (doUnsub st j).map g := by
  rw [doUnsub_eq, doUnsub_eq, logUnsub_map, sadDispose_map]
  simp only [m_handle, apply_ite (St.map g)]
  rfl

theorem subStart_map (cfg : Cfg α) (g : α → β) (st : St α) (j : Id) :
    subStart (cfg.map g) (st.map g) j = (subStart cfg st j).map g :=
  St.ext' (queue := trim_map cfg g st.clock st.queue)

theorem terminalOf_map (g : α → β) (st : St α) : terminalOf (st.map g) = (terminalOf st).map (Notif.map g) := by
  unfold terminalOf
  simp only [m_exception, m_stopped]
  cases st.exception with
  | some e => rfl
  | none => show (if st.stopped = true then _ else _) = List.map _ (if st.stopped = true then _ else _); split <;> rfl

theorem subFinish_map (g : α → β) (st : St α) (j : Id) : subFinish (st.map g) j = (subFinish st j).map g := rfl

theorem subscribeCore_map (cfg : Cfg α) (g : α → β) (st : St α) (j : Id) :
    subscribeCore (cfg.map g) (st.map g) j = (subscribeCore cfg st j).map g := by
  rw [subscribeCore_eq, subscribeCore_eq, subStart_map]
  have hq : ((subStart cfg st j).map g).queue.map (fun (it : Nat × β) => Notif.next it.2) =
      ((subStart cfg st j).queue.map fun (it : Nat × α) => Notif.next it.2).map (Notif.map g) := by
    simp [St.map, tv, Notif.map, Function.comp_def]
  rw [hq, pushList_map, terminalOf_map, pushList_map, ensureActive_map, subFinish_map]

theorem markSub_map (g : α → β) (st : St α) (j : Id) : markSub (st.map g) j = (markSub st j).map g :=
  St.ext' (evs := map_snoc (EvR.map g) st.evs (.sub j st.clock))

theorem failMark_map (g : α → β) (st : St α) (j : Id) : failMark (st.map g) j = (failMark st j).map g :=
  St.ext' (enq := upd_map (List.map (Notif.map g)) st.enq j [.error disposedExn])
    (fed := upd_map (List.map (Notif.map g)) st.fed j [.error disposedExn])

theorem doSub_map (cfg : Cfg α) (g : α → β) (st : St α) (who : Option Id) (j : Id) :
    doSub (cfg.map g) (st.map g) who j = ((doSub cfg st who j).1.map g, (doSub cfg st who j).2.map (Task.map g)) := by
  rw [doSub_eq, doSub_eq, markSub_map, failMark_map, subscribeCore_map, raiseTo_map, reactions_map]
  have hc := callback_map g (failMark (markSub st j) j) j (.error disposedExn)
  simp only [Notif.map] at hc
  rw [hc]
  simp only [m_seen, m_disposed]
  have hh : (cfg.map g).hasErr j = cfg.hasErr j := rfl
  rw [hh]
  by_cases h1 : st.seen j = true
  · simp [h1]
  · by_cases h2 : (markSub st j).disposed = true
    · by_cases h3 : cfg.hasErr j = true <;> simp [h1, h2, h3, Task.map]
    · simp [h1, h2]

theorem adoDeliver_map (cfg : Cfg α) (g : α → β) (st : St α) (i : Id) (n : Notif α) :
    adoDeliver (cfg.map g) (st.map g) i (n.map g) =
      ((adoDeliver cfg st i n).1.map g, (adoDeliver cfg st i n).2.1.map (Task.map g), (adoDeliver cfg st i n).2.2) := by
  have hu : unhandled (cfg.map g) i (n.map g) = unhandled cfg i n := by cases n <;> rfl
  have ht : (n.map g).isTerminal = n.isTerminal := by cases n <;> rfl
  have hc : callback (if n.isTerminal = true then adoStop (st.map g) i else st.map g) i (n.map g) =
      (callback (if n.isTerminal = true then adoStop st i else st) i n).map g := by
    rw [← callback_map]; split <;> rfl
  rw [adoDeliver_eq, adoDeliver_eq, hu, ht, hc, reactions_map, m_adoStopped]
  split
  · rfl
  · cases unhandled cfg i n with
    | some e => exact congrArg (·, [], some e) (sadDispose_map g (adoStop st i) i)
    | none =>
      have hl : (reactions cfg st i).map (Task.map g) ++ (if n.isTerminal = true then [Task.sadDispose i] else []) =
          (reactions cfg st i ++ if n.isTerminal = true then [Task.sadDispose i] else []).map (Task.map g) := by
        rw [List.map_append]; cases n.isTerminal <;> rfl
      exact congrArg (_, ·, none) hl

theorem release_map (g : α → β) (st : St α) (i : Id) : release (st.map g) i = (release st i).map g := rfl

theorem popped_map (g : α → β) (st : St α) (i : Id) (n : Notif α) (rest : List (Notif α)) :
    popped (st.map g) i (n.map g) (rest.map (Notif.map g)) = (popped st i n rest).map g :=
  St.ext' (soQueue := upd_map (List.map (Notif.map g)) st.soQueue i rest) (fed := upd_snoc_map (Notif.map g) st.fed i n)

theorem finishRun_map (g : α → β) (i : Id) (r : St α × List (Task α) × Option Err) :
    finishRun i (r.1.map g, r.2.1.map (Task.map g), r.2.2) = (finishRun i r).map g := by
  unfold finishRun
  cases r.2.2 with
  | some e => exact St.ext' (soQueue := upd_map (List.map (Notif.map g)) r.1.soQueue i [])
  | none => exact St.ext' (agenda := map_snoc (Task.map g) r.2.1 (.resched i))

theorem soRun_map (cfg : Cfg α) (g : α → β) (st : St α) (i : Id) : soRun (cfg.map g) (st.map g) i = (soRun cfg st i).map g := by
  cases hq : st.soQueue i with
  | nil =>
    rw [soRun_nil cfg st i hq, soRun_nil (cfg.map g) (st.map g) i (by simp [hq]), release_map]
  | cons n rest =>
    rw [soRun_cons cfg st i n rest hq, soRun_cons (cfg.map g) (st.map g) i (n.map g) (rest.map (Notif.map g)) (by simp [hq]),
      popped_map, adoDeliver_map, finishRun_map]

theorem logEmit_map (g : α → β) (st : St α) (who : Option Id) (n : Notif α) :
    logEmit (st.map g) who (n.map g) = (logEmit st who n).map g := by
  cases who with
  | none => rfl
  | some i => exact St.ext' (evs := map_snoc (EvR.map g) st.evs (.emit i st.clock n))

theorem pushAgenda_map (g : α → β) (r : St α × List (Task α)) :
    pushAgenda (r.1.map g, r.2.map (Task.map g)) = (pushAgenda r).map g :=
  St.ext' (agenda := (List.map_append (f := Task.map g) (l₁ := r.2) (l₂ := r.1.agenda)).symm)

theorem setHandle_map (g : α → β) (st : St α) (j : Id) : setHandle (st.map g) j = (setHandle st j).map g := rfl

theorem doTask_map (cfg : Cfg α) (g : α → β) (st : St α) (t : Task α) :
    doTask (cfg.map g) (st.map g) (t.map g) = (doTask cfg st t).map g := by
  cases t with
  | act who a =>
    cases a with
    | emit n =>
      rw [doTask_emit, ← emit_map, ← logEmit_map]; exact doTask_emit ..
    | base a =>
      cases a with
      | sub j =>
        rw [doTask_sub, ← pushAgenda_map, ← doSub_map]; exact doTask_sub ..
      | unsub j => rw [doTask_unsub]; exact doUnsub_map g st j
      | dispose => rw [doTask_dispose]; exact subjDispose_map g st
  | sadDispose i => rw [doTask_sadDispose]; exact sadDispose_map g st i
  | resched i => rw [doTask_resched]; exact (congrArg Prod.fst (scheduleRun_map g st i) :)
  | handle j => rw [doTask_handle]; exact setHandle_map g st j

theorem startCall_map (g : α → β) (st : St α) (k : Nat) (c : Call α) : startCall (st.map g) k (c.map g) = (startCall st k c).map g :=
  St.ext' (evs := map_snoc (EvR.map g) st.evs (.call k st.clock st.observers.length c))

theorem withAgenda_map (g : α → β) (st : St α) (ts : List (Task α)) :
    withAgenda (st.map g) (ts.map (Task.map g)) = (withAgenda st ts).map g := rfl

theorem doCall_map (cfg : Cfg α) (g : α → β) (st : St α) (k : Nat) (c : Call α) :
    doCall (cfg.map g) (st.map g) k (c.map g) = (doCall cfg st k c).map g := by
  have he : emitted (c.map g) = (emitted c).map (Notif.map g) := by cases c <;> rfl
  have ha : asked (c.map g) = asked c := by cases c <;> rfl
  rw [doCall_eq, doCall_eq, he, ha, startCall_map]
  cases emitted c with
  | some n => exact emit_map cfg g _ none n
  | none => exact withAgenda_map g _ [Task.act none (.base (asked c))]

theorem setClock_map (g : α → β) (st : St α) (c s : Nat) : setClock (st.map g) c s = (setClock st c s).map g := rfl
theorem bumpSpin_map (g : α → β) (st : St α) : bumpSpin (st.map g) = (bumpSpin st).map g := rfl

theorem advance_map (g : α → β) (st : St α) (due : Nat) : advance (st.map g) due = (advance st due).map g := by
  rw [advance_eq, advance_eq, setClock_map, setClock_map]
  simp only [m_clock, m_spin]
  rw [← bumpSpin_map]
  simp only [apply_ite (St.map g)]
  rfl

theorem invoke_map (cfg : Cfg α) (g : α → β) (st : St α) (it : Item α) :
    invoke (cfg.map g) (st.map g) (it.map g) = (invoke cfg st it).map g := by
  cases hx : it.cancelled with
  | true => rw [invoke_skip _ _ _ hx, invoke_skip _ _ (it.map g) hx]
  | false =>
    cases hk : it.kind with
    | call k c =>
      rw [invoke_call _ _ _ k c hx hk, invoke_call _ _ (it.map g) k (c.map g) hx (congrArg (ItemKind.map g) hk)]
      exact doCall_map cfg g st k c
    | run i =>
      rw [invoke_run _ _ _ i hx hk, invoke_run _ _ (it.map g) i hx (congrArg (ItemKind.map g) hk)]
      exact soRun_map cfg g st i

theorem withPending_map (g : α → β) (st : St α) (p : List (Item α)) :
    withPending (st.map g) (p.map (Item.map g)) = (withPending st p).map g := rfl

theorem step_map (cfg : Cfg α) (g : α → β) (st : St α) : step (cfg.map g) (st.map g) = (step cfg st).map g := by
  cases hc : st.crashed with
  | some e => rw [step_crashed cfg st e hc, step_crashed (cfg.map g) (st.map g) e hc]
  | none =>
    have hc' : (st.map g).crashed = none := hc
    cases ha : st.agenda with
    | cons t ts =>
      rw [step_task cfg st t ts hc ha, step_task (cfg.map g) (st.map g) (t.map g) (ts.map (Task.map g)) hc' (by simp [ha]),
        withAgenda_map, doTask_map]
    | nil =>
      have ha' : (st.map g).agenda = [] := by simp [ha]
      cases hp : st.pending with
      | nil => rw [step_idle cfg st ha hp, step_idle (cfg.map g) (st.map g) ha' (by simp [hp])]
      | cons it rest =>
        rw [step_pop cfg st it rest hc ha hp,
          step_pop (cfg.map g) (st.map g) (it.map g) (rest.map (Item.map g)) hc' ha' (by simp [hp]),
          withPending_map]
        have hd : (it.map g).due = it.due := rfl
        rw [hd, advance_map, invoke_map]

theorem idle_map (g : α → β) (st : St α) : idle (st.map g) = idle st := by
  simp [idle]

theorem steps_map (cfg : Cfg α) (g : α → β) (f : Nat) (st : St α) :
    steps (cfg.map g) f (st.map g) = (steps cfg f st).map g := by
  induction f generalizing st with
  | zero => rfl
  | succ f ih =>
    simp only [steps, idle_map]
    split
    · rfl
    · rw [step_map, ih]

theorem schedule_go_map (g : α → β) (cs : List (Nat × Call α)) (k : Nat) (st : St α) :
    schedule.go (cs.map (tc g)) k (st.map g) = (schedule.go cs k st).map g := by
  induction cs generalizing k st with
  | nil => rfl
  | cons c cs ih =>
    obtain ⟨t, c⟩ := c
    simp only [List.map_cons, tc, schedule.go]
    have : ({ st.map g with pending := pqInsert { due := t, id := (st.map g).nextId, kind := .call k (c.map g) } (st.map g).pending, nextId := (st.map g).nextId + 1 } : St β) =
        ({ st with pending := pqInsert { due := t, id := st.nextId, kind := .call k c } st.pending, nextId := st.nextId + 1 } : St α).map g :=
      St.ext' (pending := pqInsert_map g { due := t, id := st.nextId, kind := .call k c } st.pending)
    rw [← ih]
    congr 1

theorem run_map (cfg : Cfg α) (g : α → β) (fuel : Nat) (calls : List (Nat × Call α)) :
    run (cfg.map g) fuel (calls.map (tc g)) = (run cfg fuel calls).map g := by
  unfold run schedule
  have : schedule.go (calls.map (tc g)) 0 ({} : St β) = (schedule.go calls 0 ({} : St α)).map g :=
    schedule_go_map g calls 0 {}
  rw [this, steps_map]

end SubjReplay
