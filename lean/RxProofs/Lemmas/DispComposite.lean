import RxProofs.Lemmas.DispBase
/-!
# Invariants behind C26: CompositeDisposable

For every item `i`, in every reachable state of the thread system:
`cnt i + (#pending call-outs for i in threads) + (#times the container holds i) = given i`.
-/
namespace Disp

/-- `add i` operations not yet executed by a thread -/
def cProgAdds (i : Nat) : CTh → Nat
  | (_, p) => p.count (.add i)

/-- `dispose()` calls of a thread that have not yet got past their first step(s) -/
def cProgDisp : CTh → Nat
  | (.chk0, p) => 1 + p.count .dispose
  | (_, p) => p.count .dispose

theorem cOut_sh (s : CSh) (ev l r p) :
    (CSh.out s ev l r p).1 = { s with log := s.log ++ ev :: (if l = [] then [.ret r] else []) } := by
  cases l <;> simp [CSh.out]

theorem cOut_prog (s : CSh) (ev l r p) : (CSh.out s ev l r p).2.2 = p := by
  cases l <;> simp [CSh.out]

theorem cOut_w (s : CSh) (ev l r p) : (∀ i, pendW i (CSh.out s ev l r p).2 = l.count i ∧
    cProgAdds i (CSh.out s ev l r p).2 = p.count (.add i)) ∧ cProgDisp (CSh.out s ev l r p).2 = p.count .dispose := by
  cases l <;> simp [CSh.out, pendW, cProgAdds, cProgDisp]

/-- What one move of a thread conserves: the whereabouts of item `i` (disposed, held, owed by this thread) against its
hand-overs; the hand-overs against the `add`s still to come; the `dispose()` calls made against those still to come. -/
structure CConserve (s : CSh) (t : CTh) (r : CSh × CTh) (i : Nat) : Prop where
  item : r.1.cnt i + r.1.items.count i + pendW i r.2 + s.given i = s.cnt i + s.items.count i + pendW i t + r.1.given i
  adds : r.1.given i + cProgAdds i r.2 = s.given i + cProgAdds i t
  calls : r.1.dcalls + cProgDisp r.2 = s.dcalls + cProgDisp t

theorem cStep_conserve (s : CSh) (t : CTh) (i : Nat) : CConserve s t (cStep s t) i := by
  obtain ⟨pc, prog⟩ := t
  cases pc with
  | idle =>
    cases prog with
    | nil => exact ⟨rfl, rfl, rfl⟩
    | cons op prog =>
      cases op <;> simp only [cStep] <;> (try split) <;> constructor <;> simp only [cOut_sh, cOut_w] <;>
        simp [pendW, cProgAdds, cProgDisp, count_bump, count_cons_inj COp.add (fun _ _ => COp.add.inj),
          List.count_append] <;> omega
  | pend l r =>
    match l with
    | [] => exact ⟨rfl, rfl, rfl⟩
    | [j] => constructor <;> simp [cStep, pendW, cProgAdds, cProgDisp, count_bump]; omega
    | j :: k :: l => constructor <;> simp [cStep, pendW, cProgAdds, cProgDisp, count_bump, List.count_cons]; omega
  | chk1 j =>
    simp only [cStep]
    split <;> constructor <;> simp only [cOut_sh, cOut_w] <;> simp [pendW, cProgAdds, cProgDisp]
    next hj => have := count_erase_add s.items i j hj; omega
  | chk0 => simp only [cStep]; constructor <;> simp only [cOut_sh, cOut_w] <;> simp [pendW, cProgAdds, cProgDisp]; omega
  | after j => exact ⟨rfl, rfl, rfl⟩

structure CInv2 (s : CSh) : Prop where
  held : s.isDisposed = true → s.items = []
  dcall : 0 < s.dcalls → s.isDisposed = true

theorem c2_pres (t : CTh) : Sys.Pres cStep (fun s => CInv2 s.sh) t := Sys.pres_sh cStep CInv2 t fun sh ⟨h1, h2⟩ => by
  obtain ⟨pc, prog⟩ := t
  cases pc with
  | idle =>
    cases prog with
    | nil => exact ⟨h1, h2⟩
    | cons op prog =>
      cases op <;> simp only [cStep] <;> (try split) <;> constructor <;> simp only [cOut_sh] <;> simp_all
  | pend l r =>
    match l with
    | [] => exact ⟨h1, h2⟩
    | [j] => exact ⟨h1, h2⟩
    | j :: k :: l => exact ⟨h1, h2⟩
  | chk1 j =>
    simp only [cStep]; split <;> constructor <;> simp only [cOut_sh]
    · next hj => exact fun hd => by rw [h1 hd] at hj; simp at hj
    all_goals assumption
  | chk0 => simp only [cStep]; constructor <;> simp only [cOut_sh] <;> simp
  | after j => exact ⟨h1, h2⟩

/-- all threads have finished their programs -/
def cQuiet (s : Sys CSh CTh) : Prop := ∀ t ∈ s.pcs, t = (CPc.idle, [])
instance (s : Sys CSh CTh) : Decidable (cQuiet s) := by unfold cQuiet; infer_instance

structure CInv (init : List Nat) (progs : List (List COp)) (s : Sys CSh CTh) : Prop where
  item : ∀ i, s.sh.cnt i + s.sh.items.count i + wsum (pendW i) s.pcs = s.sh.given i
  flags : CInv2 s.sh
  adds : ∀ i, s.sh.given i + wsum (cProgAdds i) s.pcs = init.count i + wsum (fun p => p.count (COp.add i)) progs
  calls : s.sh.dcalls + wsum cProgDisp s.pcs = wsum (fun p => p.count COp.dispose) progs

theorem cInv_run (init : List Nat) (progs : List (List COp)) (sched : List Nat) :
    CInv init progs ((cInit init progs).run cStep sched) where
  item i := Sys.conserve_run cStep (fun s => s.cnt i + s.items.count i) (·.given i) (pendW i)
    (fun s t => (cStep_conserve s t i).item) (cInit init progs) (wsum_map_zero _ _ _ fun _ => rfl) (by simp [cInit]) sched
  flags := Sys.run_inv cStep _ c2_pres _ sched ⟨by simp [cInit], by simp [cInit]⟩
  adds i := by
    refine Sys.run_inv cStep _ (Sys.conserve_const cStep (·.given i) (cProgAdds i) _
      fun s t => (cStep_conserve s t i).adds) _ sched ?_
    simp [cInit, wsum_map, cProgAdds]
  calls := by
    refine Sys.run_inv cStep _ (Sys.conserve_const cStep (·.dcalls) cProgDisp _
      fun s t => (cStep_conserve s t 0).calls) _ sched ?_
    simp [cInit, wsum_map, cProgDisp]

theorem CInv.quiet {init progs s} (h : CInv init progs s) (hq : cQuiet s) (i : Nat) :
    s.sh.cnt i + s.sh.items.count i = init.count i + wsum (fun p => p.count (COp.add i)) progs := by
  have a := h.item i; have b := h.adds i
  rw [wsum_quiet (pendW i) _ _ hq rfl] at a; rw [wsum_quiet (cProgAdds i) _ _ hq rfl] at b
  omega

theorem CInv.quiet_calls {init progs s} (h : CInv init progs s) (hq : cQuiet s) :
    s.sh.dcalls = wsum (fun p => p.count COp.dispose) progs := by
  have c := h.calls
  rwa [wsum_quiet cProgDisp _ _ hq rfl] at c

end Disp
