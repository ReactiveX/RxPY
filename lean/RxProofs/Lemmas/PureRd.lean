import Mathlib.Tactic.Linarith
import Mathlib.Tactic.Positivity
import Mathlib.Tactic.Ring
import Mathlib.Algebra.Order.Field.Power
import Mathlib.Data.Rat.Defs
import RxProofs.Lemmas.PureTimeConv
/-! Helper lemmas for C36: the executable `rd` is monotone, exact on integers up to 2^53 and has relative error ≤ 2^-53:
the four fields of `Rounding rd`. -/
namespace Pure.TimeConv

theorem pow2_eq (e : Int) : pow2 e = (2 : ℚ) ^ e := by
  unfold pow2
  split
  · rename_i h
    obtain ⟨n, rfl⟩ := Int.eq_ofNat_of_zero_le h
    simp
  · rename_i h
    obtain ⟨n, hn⟩ : ∃ n : ℕ, e = -(n : ℤ) := ⟨(-e).toNat, by omega⟩
    subst hn
    simp

theorem pow2_pos (e : Int) : 0 < pow2 e := by rw [pow2_eq]; positivity

theorem pow2_add (a b : Int) : pow2 (a + b) = pow2 a * pow2 b := by
  simp only [pow2_eq]; exact zpow_add₀ (by norm_num) a b

theorem pow2_mono {a b : Int} (h : a ≤ b) : pow2 a ≤ pow2 b := by
  simp only [pow2_eq]; exact zpow_le_zpow_right₀ (by norm_num) h

theorem pow2_lt {a b : Int} (h : pow2 a < pow2 b) : a < b := by
  by_contra hc
  have := pow2_mono (Int.not_lt.1 hc)
  linarith

theorem pow2_succ (a : Int) : pow2 (a + 1) = 2 * pow2 a := by
  rw [pow2_add]; simp [pow2_eq]; exact mul_comm _ _

theorem pow2_bracket_div {a b : ℚ} {N D : Int} (a1 : pow2 N ≤ a) (a2 : a < pow2 (N + 1))
    (b1 : pow2 D ≤ b) (b2 : b < pow2 (D + 1)) : pow2 (N - D - 1) < a / b ∧ a / b < pow2 (N - D + 1) := by
  have hb : 0 < b := lt_of_lt_of_le (pow2_pos D) b1
  constructor
  · rw [lt_div_iff₀ hb]
    calc pow2 (N - D - 1) * b < pow2 (N - D - 1) * pow2 (D + 1) := mul_lt_mul_of_pos_left b2 (pow2_pos _)
      _ = pow2 N := by rw [← pow2_add]; congr 1; ring
      _ ≤ a := a1
  · rw [div_lt_iff₀ hb]
    calc a < pow2 (N + 1) := a2
      _ = pow2 (N - D + 1) * pow2 D := by rw [← pow2_add]; congr 1; ring
      _ ≤ pow2 (N - D + 1) * b := mul_le_mul_of_nonneg_left b1 (pow2_pos _).le

theorem pow2_log2_bracket (m : ℕ) (hm : m ≠ 0) : pow2 m.log2 ≤ m ∧ (m : ℚ) < pow2 (m.log2 + 1) := by
  rw [pow2_eq, pow2_eq, zpow_natCast, show ((m.log2 : ℤ) + 1) = ((m.log2 + 1 : ℕ) : ℤ) by simp, zpow_natCast]
  exact ⟨by exact_mod_cast Nat.log2_self_le hm, by exact_mod_cast Nat.lt_log2_self⟩

theorem ilog2_spec (x : ℚ) (hx : 0 < x) : pow2 (ilog2 x) ≤ x ∧ x < pow2 (ilog2 x + 1) := by
  -- crude bounds from the bit lengths of numerator and denominator
  have hnum : 0 < x.num := Rat.num_pos.2 hx
  obtain ⟨a1, a2⟩ := pow2_log2_bracket x.num.natAbs (by omega)
  obtain ⟨b1, b2⟩ := pow2_log2_bracket x.den x.den_nz
  have h := pow2_bracket_div a1 a2 b1 b2
  rw [Nat.cast_natAbs, abs_of_pos hnum, Rat.num_div_den] at h
  unfold ilog2
  simp only
  generalize ((Nat.log2 x.num.natAbs : Int) - (Nat.log2 x.den : Int)) = k at *
  split
  · rename_i h1
    split
    · rename_i h2
      exact absurd h.2 (not_lt.2 h2)
    · rename_i h2
      exact ⟨h1, not_le.1 h2⟩
  · rename_i h1
    refine ⟨le_of_lt h.1, ?_⟩
    have : k - 1 + 1 = k := by ring
    rw [this]; exact not_le.1 h1

/-- unit in the last place of a positive `a` (53-bit significand) -/
def ulp (a : ℚ) : ℚ := pow2 (ilog2 a - 52)

theorem ulp_pos (a : ℚ) : 0 < ulp a := pow2_pos _

def rdp (a : ℚ) : ℚ := (rhe (a / ulp a) : ℚ) * ulp a

theorem rd_zero : rd 0 = 0 := by simp [rd]
theorem rd_pos {x : ℚ} (h : 0 < x) : rd x = rdp x := by
  have h1 : x ≠ 0 := ne_of_gt h
  have h2 : ¬ x < 0 := not_lt.2 (le_of_lt h)
  simp [rd, rdp, ulp, h1, h2]
theorem rd_neg {x : ℚ} (h : x < 0) : rd x = -rdp (-x) := by
  have h1 : x ≠ 0 := ne_of_lt h
  simp [rd, rdp, ulp, h1, h]

theorem pow2_52 : pow2 52 = 4503599627370496 := by rw [pow2_eq]; norm_num
theorem pow2_53 : pow2 53 = 9007199254740992 := by rw [pow2_eq]; norm_num

theorem scaled_range (a : ℚ) (ha : 0 < a) :
    (4503599627370496 : ℚ) ≤ a / ulp a ∧ a / ulp a < 9007199254740992 := by
  obtain ⟨h1, h2⟩ := ilog2_spec a ha
  have hp := ulp_pos a
  have e1 : pow2 (ilog2 a) = ulp a * 4503599627370496 := by
    rw [ulp, ← pow2_52, ← pow2_add]; congr 1; ring
  have e2 : pow2 (ilog2 a + 1) = ulp a * 9007199254740992 := by
    rw [ulp, ← pow2_53, ← pow2_add]; congr 1; ring
  constructor
  · rw [le_div_iff₀ hp]; linarith
  · rw [div_lt_iff₀ hp]; linarith

theorem mant_range (a : ℚ) (ha : 0 < a) :
    (4503599627370496 : ℤ) ≤ rhe (a / ulp a) ∧ rhe (a / ulp a) ≤ (9007199254740992 : ℤ) := by
  obtain ⟨h1, h2⟩ := scaled_range a ha
  have l := rhe_mono (x := ((4503599627370496 : ℤ) : ℚ)) (y := a / ulp a) (by simpa using h1)
  have u := rhe_mono (x := a / ulp a) (y := ((9007199254740992 : ℤ) : ℚ)) (by simpa using le_of_lt h2)
  rw [rhe_int] at l u
  exact ⟨l, u⟩

theorem rdp_pos (a : ℚ) (ha : 0 < a) : 0 < rdp a := by
  have := (mant_range a ha).1
  have hp := ulp_pos a
  unfold rdp
  apply mul_pos _ hp
  have : (4503599627370496 : ℚ) ≤ (rhe (a / ulp a) : ℚ) := by exact_mod_cast this
  linarith

theorem rdp_err (a : ℚ) (ha : 0 < a) :
    a - a / 9007199254740992 ≤ rdp a ∧ rdp a ≤ a + a / 9007199254740992 := by
  obtain ⟨s1, _⟩ := scaled_range a ha
  obtain ⟨n1, n2⟩ := rhe_near (a / ulp a)
  have hp := ulp_pos a
  unfold rdp
  generalize ulp a = p at *
  generalize (rhe (a / p) : ℚ) = m at *
  -- |m·p − a| = |m − a/p|·p ≤ p/2 ≤ a / 2^53
  rw [le_div_iff₀ hp] at s1
  have e : a / p * p = a := div_mul_cancel₀ a hp.ne'
  have l := mul_le_mul_of_nonneg_right n1 hp.le
  have u := mul_le_mul_of_nonneg_right n2 hp.le
  rw [sub_mul, e] at l
  rw [add_mul, e] at u
  constructor <;> linarith

theorem ilog2_mono {x y : ℚ} (hx : 0 < x) (h : x ≤ y) : ilog2 x ≤ ilog2 y := by
  have a := (ilog2_spec x hx).1
  have b := (ilog2_spec y (lt_of_lt_of_le hx h)).2
  have : ilog2 x < ilog2 y + 1 := pow2_lt (by linarith)
  omega

theorem rdp_mono {x y : ℚ} (hx : 0 < x) (h : x ≤ y) : rdp x ≤ rdp y := by
  have hy : 0 < y := lt_of_lt_of_le hx h
  have he := ilog2_mono hx h
  rcases lt_or_eq_of_le he with hlt | heq
  · -- different binades
    have mx := (mant_range x hx).2
    have my := (mant_range y hy).1
    have px := ulp_pos x
    have py := ulp_pos y
    have mx' : (rhe (x / ulp x) : ℚ) ≤ 9007199254740992 := by exact_mod_cast mx
    have my' : (4503599627370496 : ℚ) ≤ (rhe (y / ulp y) : ℚ) := by exact_mod_cast my
    have step : ulp x * 9007199254740992 ≤ ulp y * 4503599627370496 := by
      rw [ulp, ulp, ← pow2_53, ← pow2_52, ← pow2_add, ← pow2_add]
      apply pow2_mono; omega
    unfold rdp
    calc (rhe (x / ulp x) : ℚ) * ulp x
        ≤ 9007199254740992 * ulp x := mul_le_mul_of_nonneg_right mx' (le_of_lt px)
      _ = ulp x * 9007199254740992 := mul_comm _ _
      _ ≤ ulp y * 4503599627370496 := step
      _ = 4503599627370496 * ulp y := mul_comm _ _
      _ ≤ (rhe (y / ulp y) : ℚ) * ulp y := mul_le_mul_of_nonneg_right my' (le_of_lt py)
  · have hu : ulp x = ulp y := by rw [ulp, ulp, heq]
    have p := ulp_pos y
    unfold rdp
    rw [hu]
    have := rhe_mono (div_le_div_of_nonneg_right h p.le)
    exact mul_le_mul_of_nonneg_right (by exact_mod_cast this) p.le

theorem rd_mono (x y : ℚ) (h : x ≤ y) : rd x ≤ rd y := by
  rcases lt_trichotomy x 0 with hx | hx | hx
  · rcases lt_trichotomy y 0 with hy | hy | hy
    · rw [rd_neg hx, rd_neg hy]
      have := rdp_mono (x := -y) (y := -x) (by linarith) (by linarith)
      linarith
    · subst hy; rw [rd_neg hx, rd_zero]; have := rdp_pos (-x) (by linarith); linarith
    · rw [rd_neg hx, rd_pos hy]
      have := rdp_pos (-x) (by linarith); have := rdp_pos y hy; linarith
  · subst hx
    rcases lt_or_eq_of_le h with hy | hy
    · rw [rd_zero, rd_pos hy]; exact le_of_lt (rdp_pos y hy)
    · rw [← hy]
  · have hy : 0 < y := lt_of_lt_of_le hx h
    rw [rd_pos hx, rd_pos hy]; exact rdp_mono hx h

theorem rdp_int (k : ℤ) (h0 : 0 < k) (h1 : k ≤ 9007199254740992) : rdp (k : ℚ) = (k : ℚ) := by
  have hk : (0 : ℚ) < (k : ℚ) := by exact_mod_cast h0
  have hk1 : (k : ℚ) ≤ 9007199254740992 := by exact_mod_cast h1
  obtain ⟨s1, s2⟩ := ilog2_spec (k : ℚ) hk
  have hL : ilog2 (k : ℚ) ≤ 53 := by
    have : pow2 (ilog2 (k : ℚ)) < pow2 54 := by
      have : pow2 54 = 18014398509481984 := by rw [pow2_eq]; norm_num
      rw [this]; linarith
    have := pow2_lt this; omega
  have hp := ulp_pos (k : ℚ)
  -- the scaled value is an integer
  have hint : ∃ j : ℤ, (k : ℚ) / ulp (k : ℚ) = (j : ℚ) := by
    rcases lt_or_eq_of_le hL with hlt | heq
    · -- exponent ≤ 0 : multiply by a natural power of two
      obtain ⟨n, hn⟩ : ∃ n : ℕ, ilog2 (k : ℚ) - 52 = -(n : ℤ) := ⟨(52 - ilog2 (k : ℚ)).toNat, by omega⟩
      refine ⟨k * 2 ^ n, ?_⟩
      rw [ulp, hn, pow2_eq, zpow_neg, zpow_natCast]
      push_cast
      exact div_inv_eq_mul _ _
    · -- exponent 1 : k = 2^53
      have : (k : ℚ) = 9007199254740992 := by
        rw [heq, pow2_53] at s1; linarith
      refine ⟨4503599627370496, ?_⟩
      rw [ulp, heq, this]
      have : pow2 (53 - 52) = 2 := by rw [pow2_eq]; norm_num
      rw [this]; norm_num
  obtain ⟨j, hj⟩ := hint
  unfold rdp
  rw [hj, rhe_int, ← hj]
  exact div_mul_cancel₀ _ hp.ne'

theorem rd_int (k : ℤ) (hlo : -9007199254740992 ≤ k) (hhi : k ≤ 9007199254740992) : rd (k : ℚ) = (k : ℚ) := by
  rcases lt_trichotomy k 0 with h | h | h
  · have hk : (k : ℚ) < 0 := by exact_mod_cast h
    rw [rd_neg hk]
    have := rdp_int (-k) (by omega) (by omega)
    push_cast at this
    rw [this]; ring
  · subst h; simp [rd_zero]
  · have hk : (0 : ℚ) < (k : ℚ) := by exact_mod_cast h
    rw [rd_pos hk]; exact rdp_int k h hhi

theorem rd_errPos (x : ℚ) (h : 0 ≤ x) : x - x / 9007199254740992 ≤ rd x ∧ rd x ≤ x + x / 9007199254740992 := by
  rcases lt_or_eq_of_le h with hx | hx
  · rw [rd_pos hx]; exact rdp_err x hx
  · rw [← hx, rd_zero]; norm_num

theorem rd_errNeg (x : ℚ) (h : x ≤ 0) : x + x / 9007199254740992 ≤ rd x ∧ rd x ≤ x - x / 9007199254740992 := by
  rcases lt_or_eq_of_le h with hx | hx
  · rw [rd_neg hx]
    have := rdp_err (-x) (by linarith)
    constructor <;> linarith [this.1, this.2]
  · rw [hx, rd_zero]; norm_num

end Pure.TimeConv
