import RxModel.TimedSim
import RxProofs.Lemmas.InsertDue
import RxProofs.Lemmas.TimedAttr
/-! What the whole family reads: the small vocabulary as a simp set, timelines, time-sorted queues and their stable merge. -/

namespace Timed

@[timeline_simp] theorem at_nil {α} (t : Nat) : at_ t ([] : List (Notif α)) = [] := rfl
@[timeline_simp] theorem at_cons {α} (t : Nat) (n : Notif α) (l : List (Notif α)) : at_ t (n :: l) = (t, n) :: at_ t l := rfl
@[timeline_simp] theorem at_append {α} (t : Nat) (l l' : List (Notif α)) : at_ t (l ++ l') = at_ t l ++ at_ t l' :=
  List.map_append
@[timeline_simp] theorem at_map {α γ} (t : Nat) (f : γ → Notif α) (l : List γ) : at_ t (l.map f) = l.map (fun x => (t, f x)) := by
  simp only [at_, List.map_map, Function.comp_def]

@[timeline_simp] theorem map_snd_at {α} (t : Nat) (l : List (Notif α)) : (at_ t l).map (·.2) = l := by
  simp only [at_, List.map_map, Function.comp_def, List.map_id']

theorem at_map_snd {α} (t : Nat) (l : TL α) (h : ∀ q ∈ l, q.1 = t) : at_ t (l.map (·.2)) = l := by
  induction l with
  | nil => rfl
  | cons a l ih =>
    obtain ⟨t', n⟩ := a
    obtain rfl : t' = t := h _ (List.mem_cons_self ..)
    exact congrArg _ (ih fun q hq => h q (List.mem_cons_of_mem _ hq))

@[timeline_simp] theorem isNext_next {α} (v : α) : isNext (Notif.next v) = true := rfl
@[timeline_simp] theorem isNext_error {α} (e : Err) : isNext (Notif.error e : Notif α) = false := rfl
@[timeline_simp] theorem isNext_completed {α} : isNext (Notif.completed : Notif α) = false := rfl

@[timeline_simp] theorem hasTerm_nil {β} : hasTerm ([] : List (Notif β)) = false := rfl
@[timeline_simp] theorem hasTerm_cons {β} (n : Notif β) (l : List (Notif β)) : hasTerm (n :: l) = (!isNext n || hasTerm l) := rfl
@[timeline_simp] theorem hasTerm_append {β} (l l' : List (Notif β)) : hasTerm (l ++ l') = (hasTerm l || hasTerm l') :=
  List.any_append

@[timeline_simp] theorem hasTerminal_nil {α} : hasTerminal ([] : TL α) = false := rfl
@[timeline_simp] theorem hasTerminal_cons {α} (m : Nat × Notif α) (l : TL α) : hasTerminal (m :: l) = (!isNext m.2 || hasTerminal l) := rfl
@[timeline_simp] theorem hasTerminal_append {α} (l l' : TL α) : hasTerminal (l ++ l') = (hasTerminal l || hasTerminal l') :=
  List.any_append

@[timeline_simp] theorem effTm_keep {P} (tm : Option (Nat × P)) : effTm .keep tm = tm := rfl
@[timeline_simp] theorem effTm_cancel {P} (tm : Option (Nat × P)) : effTm .cancel tm = none := rfl
@[timeline_simp] theorem effTm_arm {P} (due : Nat) (p : P) (tm : Option (Nat × P)) : effTm (.arm due p) tm = some (due, p) := rfl

theorem tb_mono {tf : Bool} {due t t' : Nat} (h : t ≤ t') (hb : timerBefore tf due t = true) :
    timerBefore tf due t' = true := by
  cases tf <;> simp [timerBefore] at hb ⊢ <;> omega

theorem Mono.weaken {α} {lo lo' : Nat} {l : TL α} (h : Mono lo l) (hl : lo' ≤ lo) : Mono lo' l := by
  cases l with
  | nil => trivial
  | cons m r => obtain ⟨t, n⟩ := m; exact ⟨Nat.le_trans hl h.1, h.2⟩

theorem Mono.mem_ge {α} {lo : Nat} {l : TL α} (h : Mono lo l) : ∀ m ∈ l, lo ≤ m.1 := by
  induction l generalizing lo with
  | nil => intro m hm; cases hm
  | cons a r ih =>
    obtain ⟨t, n⟩ := a
    intro m hm
    rcases List.mem_cons.1 hm with rfl | hm
    · exact h.1
    · exact Nat.le_trans h.1 (ih h.2 m hm)

theorem firstTerminal_ge {α} {lo : Nat} {l : TL α} (h : Mono lo l) {T : Nat} {n : Notif α}
    (hf : firstTerminal l = some (T, n)) : lo ≤ T := by
  induction l generalizing lo with
  | nil => simp [firstTerminal] at hf
  | cons a r ih =>
    obtain ⟨t, m⟩ := a
    cases m with
    | next v => exact Nat.le_trans h.1 (ih h.2 (by simpa [firstTerminal] using hf))
    | error e =>
      simp only [firstTerminal, Option.some.injEq, Prod.mk.injEq] at hf
      have := h.1; omega
    | completed =>
      simp only [firstTerminal, Option.some.injEq, Prod.mk.injEq] at hf
      have := h.1; omega

theorem mono_pairwise {α} {lo : Nat} {l : TL α} (h : Mono lo l) : l.Pairwise (fun a b => a.1 ≤ b.1) := by
  induction l generalizing lo with
  | nil => exact List.Pairwise.nil
  | cons a r ih =>
    obtain ⟨t, n⟩ := a
    exact List.pairwise_cons.2 ⟨fun b hb => Mono.mem_ge h.2 b hb, ih h.2⟩

theorem firstTerminal_not_next {α} (msgs : TL α) (T : Nat) (v : α) : firstTerminal msgs ≠ some (T, .next v) := by
  induction msgs with
  | nil => simp [firstTerminal]
  | cons a r ih =>
    obtain ⟨t, n⟩ := a
    cases n <;> simp [firstTerminal, ih]

theorem firstTerminal_cases {α} {lo : Nat} {l : TL α} (h : Mono lo l) :
    firstTerminal l = none ∨ (∃ T, lo ≤ T ∧ firstTerminal l = some (T, .completed))
      ∨ ∃ T e, lo ≤ T ∧ firstTerminal l = some (T, .error e) := by
  cases hf : firstTerminal l with
  | none => exact Or.inl rfl
  | some Tn =>
    obtain ⟨T, n⟩ := Tn
    have hT := firstTerminal_ge h hf
    cases n with
    | next v => exact absurd hf (firstTerminal_not_next l T v)
    | completed => exact Or.inr (Or.inl ⟨T, hT, rfl⟩)
    | error e => exact Or.inr (Or.inr ⟨T, e, hT, rfl⟩)

def SortedQ {α} (q : List (Nat × α)) : Prop := q.Pairwise (fun a b => a.1 ≤ b.1)

theorem sortedQ_snoc {α} {q : List (Nat × α)} {lo t : Nat} (x : α) (hs : SortedQ q) (hq : ∀ e ∈ q, e.1 ≤ lo)
    (hlo : lo ≤ t) : SortedQ (q ++ [(t, x)]) := by
  unfold SortedQ
  rw [List.pairwise_append]
  refine ⟨hs, List.pairwise_singleton _ _, ?_⟩
  intro a ha b hb
  rw [List.mem_singleton] at hb
  subst hb
  exact Nat.le_trans (hq a ha) hlo

theorem le_snoc {α} {q : List (Nat × α)} {lo t : Nat} (x : α) (hq : ∀ e ∈ q, e.1 ≤ lo) (hlo : lo ≤ t) :
    ∀ e ∈ q ++ [(t, x)], e.1 ≤ t := by
  intro e he
  rcases List.mem_append.1 he with hm | hm
  · exact Nat.le_trans (hq e hm) hlo
  · rw [List.mem_singleton] at hm; subst hm; exact Nat.le_refl _

theorem takeWhile_eq_filter_of_sorted {α} {p : Nat × α → Bool}
    (hp : ∀ a b : Nat × α, a.1 ≤ b.1 → p b = true → p a = true) {q : List (Nat × α)} (hs : SortedQ q) :
    q.takeWhile p = q.filter p := by
  induction q with
  | nil => rfl
  | cons a q ih =>
    have hs' := List.pairwise_cons.1 hs
    cases h : p a
    · have : q.filter p = [] := by
        rw [List.filter_eq_nil_iff]; intro e he hpe; rw [hp a e (hs'.1 e he) hpe] at h; cases h
      simp [h, this]
    · simp [h, ih hs'.2]

theorem dropWhile_eq_filter_of_sorted {α} {p : Nat × α → Bool}
    (hp : ∀ a b : Nat × α, a.1 ≤ b.1 → p b = true → p a = true) {q : List (Nat × α)} (hs : SortedQ q) :
    q.dropWhile p = q.filter (fun e => !p e) := by
  induction q with
  | nil => rfl
  | cons a q ih =>
    have hs' := List.pairwise_cons.1 hs
    cases h : p a
    · have : (a :: q).filter (fun e => !p e) = a :: q := by
        rw [List.filter_eq_self]; intro e he
        cases hpe : p e
        · rfl
        · rcases List.mem_cons.1 he with rfl | he
          · rw [hpe] at h; cases h
          · rw [hp a e (hs'.1 e he) hpe] at h; cases h
      rw [this]; simp [h]
    · simp [h, ih hs'.2]

theorem insertEv_eq_insertDue {β} (e : Nat × β) (Q : List (Nat × β)) :
    insertEv e Q = Q.insertDue (fun x => (x.1 : Int)) e := by
  induction Q with
  | nil => rfl
  | cons x Q ih => by_cases h : e.1 < x.1 <;> simp [insertEv, List.insertDue, h, ih, Nat.not_le.2, Nat.not_lt.1]

theorem lt_mono {α} (t : Nat) (a b : Nat × α) (hab : a.1 ≤ b.1) (hb : decide (b.1 < t) = true) :
    decide (a.1 < t) = true := by
  simp at hb ⊢; omega

theorem old_mono {α} (d now : Nat) (a b : Nat × α) (hab : a.1 ≤ b.1) (hb : decide (b.1 + d ≤ now) = true) :
    decide (a.1 + d ≤ now) = true := by
  simp at hb ⊢; omega

theorem takeWhile_true {α} (l : List α) : l.takeWhile (fun _ => true) = l := by
  induction l with
  | nil => rfl
  | cons a l ih => simp [ih]

/-- merge of two time-sorted lists in which the FIRST list wins ties -/
def merge2 {β} : List (Nat × β) → List (Nat × β) → List (Nat × β)
  | [], B => B
  | a :: A, [] => a :: A
  | a :: A, b :: B => if b.1 < a.1 then b :: merge2 (a :: A) B else a :: merge2 A (b :: B)
termination_by A B => A.length + B.length

theorem merge2_nil_right {β} (A : List (Nat × β)) : merge2 A [] = A := by
  cases A <;> simp [merge2]

theorem merge2_cons_cons {β} (a b : Nat × β) (A B : List (Nat × β)) :
    merge2 (a :: A) (b :: B) = if b.1 < a.1 then b :: merge2 (a :: A) B else a :: merge2 A (b :: B) := by
  rw [merge2]

theorem merge2_insert {β} (b : Nat × β) (B : List (Nat × β)) (hB : ∀ x ∈ B, b.1 ≤ x.1) :
    ∀ Q : List (Nat × β), merge2 (insertEv b Q) B = merge2 Q (b :: B) := by
  intro Q
  induction Q with
  | nil =>
    cases B with
    | nil => simp [insertEv, merge2]
    | cons b' B' =>
      have : ¬ b'.1 < b.1 := by have := hB b' (List.mem_cons_self ..); omega
      simp [insertEv, merge2, this]
  | cons a A ih =>
    by_cases h : b.1 < a.1
    · simp only [insertEv, h, if_true, merge2_cons_cons]
      cases B with
      | nil => simp [merge2_nil_right]
      | cons b' B' =>
        have : ¬ b'.1 < b.1 := by have := hB b' (List.mem_cons_self ..); omega
        simp [merge2_cons_cons, this]
    · simp only [insertEv, h, if_false, merge2_cons_cons]
      cases B with
      | nil => simp [merge2_nil_right, ← ih]
      | cons b' B' =>
        have : ¬ b'.1 < a.1 := by have := hB b' (List.mem_cons_self ..); omega
        rw [merge2_cons_cons]
        simp only [this, if_false]
        rw [ih]

theorem foldl_insert_merge {β} (B Q : List (Nat × β)) (hB : SortedQ B) :
    B.foldl (fun acc e => insertEv e acc) Q = merge2 Q B := by
  induction B generalizing Q with
  | nil => simp [merge2_nil_right]
  | cons b B ih =>
    have hb := List.pairwise_cons.1 hB
    simp only [List.foldl_cons]
    rw [ih (insertEv b Q) hb.2, merge2_insert b B hb.1]

theorem mergeStable_append {β} (A B : List (Nat × β)) (hA : SortedQ A) (hB : SortedQ B) :
    mergeStable (A ++ B) = merge2 A B := by
  have hsorted : A.foldl (fun acc e => insertEv e acc) [] = A := by
    simp only [insertEv_eq_insertDue]
    exact List.foldl_insertDue_sorted _ [] A (hA.imp Int.ofNat_le.2)
  unfold mergeStable
  rw [List.foldl_append, hsorted, foldl_insert_merge B A hB]

/-- two pre-scheduled time-sorted blocks in one queue; `bFirst` = block `B` was scheduled first, so it wins ties -/
def mergeBlocks {β} (bFirst : Bool) (A B : List (Nat × β)) : List (Nat × β) := if bFirst then merge2 B A else merge2 A B

theorem mergeBlocks_nil_right {β} (tf : Bool) (A : List (Nat × β)) : mergeBlocks tf A [] = A := by
  cases tf <;> simp [mergeBlocks, merge2_nil_right, merge2]

theorem mergeBlocks_nil_left {β} (tf : Bool) (B : List (Nat × β)) : mergeBlocks tf [] B = B := by
  cases tf <;> simp [mergeBlocks, merge2_nil_right, merge2]

theorem mergeBlocks_cons_cons {β} (tf : Bool) (a b : Nat × β) (A B : List (Nat × β)) :
    mergeBlocks tf (a :: A) (b :: B) =
      if timerBefore tf b.1 a.1 then b :: mergeBlocks tf (a :: A) B else a :: mergeBlocks tf A (b :: B) := by
  cases tf with
  | false =>
    simp only [mergeBlocks, Bool.false_eq_true, if_false, merge2_cons_cons, timerBefore]
    by_cases h : b.1 < a.1 <;> simp [h]
  | true =>
    simp only [mergeBlocks, if_true, merge2_cons_cons, timerBefore]
    by_cases h : a.1 < b.1
    · have : ¬ b.1 ≤ a.1 := by omega
      simp [h, this]
    · have : b.1 ≤ a.1 := by omega
      simp [h, this]

theorem sortedQ_map_of_mono {α β} (f : Notif α → β) {lo : Nat} {msgs : TL α} (h : Mono lo msgs) :
    SortedQ (msgs.map (fun m => (m.1, f m.2))) := by
  unfold SortedQ
  rw [List.pairwise_map]
  exact mono_pairwise h

end Timed
