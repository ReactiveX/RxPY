import RxProofs.Lemmas.Basics
/-!
# Lists of per-thread states (used by the atomic-step proofs C30–C32)
-/

namespace Thr

def sumBy {β : Type} (f : β → Nat) : List β → Nat
  | [] => 0
  | x :: xs => f x + sumBy f xs

@[simp] theorem sumBy_nil {β} (f : β → Nat) : sumBy f [] = 0 := rfl
@[simp] theorem sumBy_cons {β} (f : β → Nat) (x : β) (xs : List β) : sumBy f (x :: xs) = f x + sumBy f xs := rfl

theorem sumBy_eq_sum_map {β} (f : β → Nat) (l : List β) : sumBy f l = (l.map f).sum := by
  induction l with
  | nil => rfl
  | cons x xs ih => simp [ih]

theorem sumBy_append {β} (f : β → Nat) (a b : List β) : sumBy f (a ++ b) = sumBy f a + sumBy f b := by
  simp [sumBy_eq_sum_map]

theorem sumBy_map {β γ} (f : β → Nat) (g : γ → β) (l : List γ) : sumBy f (l.map g) = sumBy (fun x => f (g x)) l := by
  simp [sumBy_eq_sum_map, Function.comp_def]

theorem sumBy_eq_zero_iff {β} (f : β → Nat) (l : List β) : sumBy f l = 0 ↔ ∀ x ∈ l, f x = 0 := by
  rw [sumBy_eq_sum_map, List.sum_map_eq_zero_iff]

theorem sumBy_eq_zero_of_forall {β} (f : β → Nat) (l : List β) (h : ∀ x ∈ l, f x = 0) : sumBy f l = 0 :=
  (sumBy_eq_zero_iff f l).2 h

theorem sumBy_zero_mem {β} (f : β → Nat) (l : List β) (h : sumBy f l = 0) : ∀ x ∈ l, f x = 0 :=
  (sumBy_eq_zero_iff f l).1 h

theorem sumBy_replicate {β} (f : β → Nat) (n : Nat) (a : β) (h : f a = 0) : sumBy f (List.replicate n a) = 0 :=
  sumBy_eq_zero_of_forall f _ fun _ hx => List.eq_of_mem_replicate hx ▸ h

theorem sumBy_congr {β} (f g : β → Nat) (l : List β) (h : ∀ x ∈ l, f x = g x) : sumBy f l = sumBy g l := by
  rw [sumBy_eq_sum_map, sumBy_eq_sum_map, List.map_congr_left h]

theorem sumBy_map_zero {β γ : Type} (f : β → Nat) (g : γ → β) (l : List γ) (h : ∀ x, f (g x) = 0) : sumBy f (l.map g) = 0 :=
  (sumBy_map f g l).trans (sumBy_eq_zero_of_forall _ l fun x _ => h x)

theorem sumBy_le_sumBy {β} (f g : β → Nat) (l : List β) (h : ∀ x ∈ l, f x ≤ g x) : sumBy f l ≤ sumBy g l := by
  induction l with
  | nil => exact Nat.le_refl _
  | cons x xs ih => exact Nat.add_le_add (h x List.mem_cons_self) (ih fun y hy => h y (List.mem_cons_of_mem _ hy))

theorem sumBy_set {β} (f : β → Nat) (l : List β) (i : Nat) (a b : β) (h : l[i]? = some a) :
    sumBy f (l.set i b) + f a = sumBy f l + f b := by
  rw [sumBy_eq_sum_map, sumBy_eq_sum_map, List.sum_map_set f h]

theorem sumBy_le_mem {β} (f : β → Nat) (l : List β) (i : Nat) (a : β) (h : l[i]? = some a) : f a ≤ sumBy f l := by
  obtain ⟨l₁, l₂, rfl, -⟩ := List.split_at h
  simp only [sumBy_append, sumBy_cons]; omega

theorem sumBy_zero {β} (act f : β → Nat) (hz : ∀ b, act b = 0 → f b = 0) (l : List β) (h : sumBy act l = 0) : sumBy f l = 0 :=
  sumBy_eq_zero_of_forall f l fun y hy => hz y (sumBy_zero_mem act l h y hy)

theorem flatMap_zero {β γ} (act : β → Nat) (items : β → List γ) (hz : ∀ b, act b = 0 → items b = []) (l : List β)
    (h : sumBy act l = 0) : l.flatMap items = [] :=
  List.flatMap_eq_nil_iff.mpr fun y hy => hz y (sumBy_zero_mem act l h y hy)

theorem flatMap_unique {β γ} (act : β → Nat) (items : β → List γ) (hz : ∀ b, act b = 0 → items b = [])
    (l : List β) (i : Nat) (a b : β) (h : l[i]? = some a) (ha : 1 ≤ act a) (hs : sumBy act l ≤ 1) :
    l.flatMap items = items a ∧ (l.set i b).flatMap items = items b := by
  obtain ⟨l₁, l₂, rfl, hset⟩ := List.split_at h
  simp only [sumBy_append, sumBy_cons] at hs
  simp [hset, flatMap_zero act items hz l₁ (by omega), flatMap_zero act items hz l₂ (by omega)]

theorem sumBy_unique {β} (act f : β → Nat) (hz : ∀ b, act b = 0 → f b = 0)
    (l : List β) (i : Nat) (a b : β) (h : l[i]? = some a) (ha : 1 ≤ act a) (hs : sumBy act l ≤ 1) :
    sumBy f l = f a ∧ sumBy f (l.set i b) = f b := by
  obtain ⟨l₁, l₂, rfl, hset⟩ := List.split_at h
  simp only [sumBy_append, sumBy_cons] at hs
  simp [hset, sumBy_append, sumBy_zero act f hz l₁ (by omega), sumBy_zero act f hz l₂ (by omega)]

theorem flatMap_set_nil {β γ} (items : β → List γ) (l : List β) (i : Nat) (a b : β) (h : l[i]? = some a)
    (ha : items a = []) (hb : items b = []) : (l.set i b).flatMap items = l.flatMap items := by
  obtain ⟨l₁, l₂, rfl, hs⟩ := List.split_at h
  simp [hs, ha, hb]

end Thr
