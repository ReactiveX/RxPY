import RxProofs.Lemmas.WinPre
import RxProofs.Lemmas.WinBuf
import RxProofs.Lemmas.WinSched
import RxModel.WinBnd
import RxModel.WinTime
/-!
# Each handler of the six window machines is `Base.Ops`, so each machine is an `OpsMach`: a `Base.Inv` holds along every run

The open set is a field of the state (`q`, `[cur]`, `queue`, `[s]`) except for toggle: `Tgl.openOf`, the windows in `left_map`.
-/
namespace Win
variable {α : Type}
open Base

namespace Cnt
@[simp] theorem createWindow_n (s : Cnt α) : s.createWindow.n = s.n := rfl
@[simp] theorem createWindow_q (s : Cnt α) : s.createWindow.q = s.q ++ [s.b.wins.length] := rfl
@[simp] theorem createWindow_len (s : Cnt α) : s.createWindow.b.wins.length = s.b.wins.length + 1 := by
  simp [createWindow]
@[simp] theorem createWindow_pushedOf (s : Cnt α) (k) : s.createWindow.b.pushedOf k = s.b.pushedOf k := by
  simp [createWindow]
@[simp] theorem createWindow_endedOf (s : Cnt α) (k) : s.createWindow.b.endedOf k = s.b.endedOf k := by
  simp [createWindow]

/-- the last phase of `on_next`: open a window every `skip` elements. -/
def fin (skip : Nat) (s : Cnt α) : Cnt α := if s.n % skip = 0 then createWindow s else s

theorem onNext_eq (count skip : Nat) (s : Cnt α) (x : α) :
    onNext count skip s x =
      if s.n + 1 ≥ count ∧ (s.n + 1 - count) % skip = 0 then
        match s.q with
        | [] => { s with b := (s.q.foldl (fun b id => b.winNext id x) s.b).emit (.escaped "IndexError") }
        | id :: q' => fin skip { s with b := (s.q.foldl (fun b id => b.winNext id x) s.b).winEnd id none, q := q', n := s.n + 1 }
      else fin skip { s with b := s.q.foldl (fun b id => b.winNext id x) s.b, n := s.n + 1 } := rfl
theorem onEnd_q (s : Cnt α) (e) : (onEnd s e).q = [] := rfl
theorem onEnd_len (s : Cnt α) (e) : (onEnd s e).b.wins.length = s.b.wins.length := by
  simp [onEnd, (Base.foldl_winEnd s.q e s.b).1]
end Cnt

namespace Toc
@[simp] theorem sync_b (st : Toc α) : (sync st).b = st.b := by unfold sync; split <;> rfl
@[simp] theorem sync_s (st : Toc α) : (sync st).s = st.s := by unfold sync; split <;> rfl
@[simp] theorem createTimer_b (span : Nat) (st : Toc α) (i) : (createTimer span st i).b = st.b := rfl
end Toc

namespace Tim
@[simp] theorem sync_b (s : Tim α) : (sync s).b = s.b := by unfold sync; split <;> rfl
@[simp] theorem sync_queue (s : Tim α) : (sync s).queue = s.queue := by unfold sync; split <;> rfl
@[simp] theorem createTimer_b (shift : Nat) (s : Tim α) : (createTimer shift s).b = s.b := rfl
@[simp] theorem createTimer_queue (shift : Nat) (s : Tim α) : (createTimer shift s).queue = s.queue := rfl
end Tim

variable {keep closed quiet : Prop} {b0 : Base α} {o0 : List Nat}

namespace Cnt
theorem init_b (t0 : Nat) : (Cnt.init (α := α) t0).b = first t0 := rfl

theorem ops_fin (skip : Nat) (s : Cnt α) (h : Ops keep closed quiet b0 o0 s.b s.q) :
    Ops keep closed quiet b0 o0 (fin skip s).b (fin skip s).q := by
  unfold fin; split
  · exact .open_ h
  · exact h

theorem ops_onNext (count skip : Nat) (s : Cnt α) (x : α)
    (h : Ops keep closed quiet b0 o0 (s.q.foldl (fun b id => b.winNext id x) s.b) s.q) :
    Ops keep closed quiet b0 o0 (onNext count skip s x).b (onNext count skip s x).q := by
  rw [onNext_eq]; split
  · cases hsq : s.q with
    | nil => rw [hsq] at h; exact .emit _ (fun _ _ => nofun) h
    | cons id q' => rw [hsq] at h; exact ops_fin _ _ (h.pop none)
  · exact ops_fin _ _ h

theorem ops_onEnd (s : Cnt α) (e) (h : Ops keep closed quiet b0 o0 s.b s.q) :
    Ops keep closed quiet b0 o0 (onEnd s e).b (onEnd s e).q :=
  .outerEnd _ (.drop [] (List.nil_sublist _) (fun _ i hi _ hlt => ended_foldl_winEnd _ _ _ i hi hlt)
    (List.foldl_pres (P := fun b => Ops keep closed quiet b0 o0 b s.q) _ (fun _ i hb => .winEnd i e hb) _ h))

theorem ops_step (count skip : Nat) (s : Cnt α) (t : Nat) (ev : Ev α) :
    Ops (ev.notSrcTerminal = true) True quiet (ev.feed ({ s.b with now := t } : Base α) s.q) s.q
      ((Cnt.mach count skip).step s t ev).b ((Cnt.mach count skip).step s t ev).q := by
  simp only [mach]
  generalize ({ s.b with now := t } : Base α) = b
  cases ev with
  | src k n =>
    cases k with
    | zero =>
      simp only [step]; split
      · next hl =>
        cases n with
        | next x => rw [Ev.feed_elem hl]; exact ops_onNext _ _ _ _ (.refl _ _)
        | error e => exact .unsub _ nofun (ops_onEnd _ _ (.refl _ _))
        | completed => exact .unsub _ nofun (ops_onEnd _ _ (.refl _ _))
      · next hl => rw [Ev.feed_idle (fun _ _ _ => hl)]; exact .refl _ _
    | succ k => exact .refl _ _
  | dispose w => exact .disposeEv _ (.refl _ _)
  | tick => exact .refl _ _
end Cnt

namespace Bnd
theorem ops_onEnd (s : Bnd α) (e) (h : Ops keep closed quiet b0 o0 s.b [s.cur]) :
    Ops keep closed quiet b0 o0 (onEnd s e).b [(onEnd s e).cur] := .outerEnd _ (.winEnd _ _ h)

theorem ops_onBoundary (s : Bnd α) (h : Ops keep closed quiet b0 o0 s.b [s.cur]) :
    Ops keep closed quiet b0 o0 (onBoundary s).b [(onBoundary s).cur] := h.roll none

/-- `boundaries` may deliver inside its own subscribe.  From `first t0`: `SrcKept` starts there (`C02Win.kept`). -/
theorem ops_init_first (t0 : Nat) (bsync : Option (Notif Unit)) :
    Ops keep closed quiet (first t0) [0] (Bnd.init (α := α) t0 bsync).b [(Bnd.init (α := α) t0 bsync).cur] := by
  cases bsync with
  | none => exact .subscribe 1 rfl (.refl _ _)
  | some n => cases n with
    | next u => exact ops_onBoundary ⟨first t0, 0⟩ (.refl _ _)
    | error e => exact ops_onEnd ⟨first t0, 0⟩ _ (.refl _ _)
    | completed => exact ops_onEnd ⟨first t0, 0⟩ _ (.refl _ _)

theorem ops_step (s : Bnd α) (t : Nat) (ev : Ev α) :
    Ops (ev.notSrcTerminal = true) True quiet (ev.feed ({ s.b with now := t } : Base α) [s.cur]) [s.cur]
      (Bnd.mach.step s t ev).b [(Bnd.mach.step s t ev).cur] := by
  simp only [mach]
  generalize ({ s.b with now := t } : Base α) = b
  cases ev with
  | src k n =>
    simp only [step]; split
    · next hl =>
      cases n with
      | next x =>
        by_cases hk : (k == 0) = true
        · obtain rfl : k = 0 := by simpa using hk
          rw [Ev.feed_elem (by simpa using hl)]; exact .refl _ _
        · simp only [hk, Bool.false_eq_true, if_false]
          rw [Ev.feed_idle (fun _ h0 => absurd (by simp [h0]) hk)]; exact ops_onBoundary _ (.refl _ _)
      | error e => rw [Ev.feed_idle (n := .error e) nofun]; exact .unsub _ (Ev.keeps_src rfl) (ops_onEnd _ _ (.refl _ _))
      | completed => rw [Ev.feed_idle (n := .completed) nofun]; exact .unsub _ (Ev.keeps_src rfl) (ops_onEnd _ _ (.refl _ _))
    · next hl => rw [Ev.feed_idle (fun _ h0 _ hl0 => hl (by subst h0; simpa using hl0))]; exact .refl _ _
  | dispose w => exact .disposeEv _ (.refl _ _)
  | tick => exact .refl _ _
end Bnd

namespace Whn
theorem ops_onEnd (s : Whn α) (e) (h : Ops keep closed quiet b0 o0 s.b [s.cur]) :
    Ops keep closed quiet b0 o0 (onEnd s e).b [(onEnd s e).cur] := .outerEnd _ (.winEnd _ _ h)

theorem ops_createClosingF (r : Option Nat) (pool : Nat) (fuel : Nat) (s : Whn α) (h : Ops keep closed quiet b0 o0 s.b [s.cur]) :
    Ops keep closed quiet b0 o0 (createClosingF r pool fuel s).b [(createClosingF r pool fuel s).cur] := by
  induction fuel generalizing s with
  | zero => exact h
  | succ fuel ih =>
    simp only [createClosingF]
    -- the mapper raises; else the closing fires at once (roll, again) / fails at once / is subscribed, if one is left
    split
    · exact ops_onEnd { s with calls := s.calls + 1 } _ h
    · have h1 : Ops keep closed quiet b0 o0 (if s.calls ≥ 1 then s.b.unsub s.calls else s.b) [s.cur] := by
        split
        · exact .unsub _ (fun _ => by omega) h
        · exact h
      generalize (if s.calls ≥ 1 then s.b.unsub s.calls else s.b) = b1 at h1 ⊢
      split
      · exact ih _ (h1.roll none)
      · exact .outerEnd _ (.winEnd _ _ h1)
      · simp only []
        split
        · split
          · exact .subscribeDead _ (by assumption) h1
          · exact .subscribe _ (by simpa using ‹¬ b1.rcDisposed = true›) h1
        · exact h1

theorem ops_init_first (r : Option Nat) (pool t0 : Nat) (sync : List (Option (Option Err))) :
    Ops keep closed quiet (first t0) [0] (Whn.init (α := α) r pool t0 sync).b [(Whn.init (α := α) r pool t0 sync).cur] :=
  ops_createClosingF r pool _ { b := first t0, cur := 0, sync := sync } (.refl _ _)

theorem ops_onClose (r : Option Nat) (pool : Nat) (s : Whn α) (h : Ops keep closed quiet b0 o0 s.b [s.cur]) :
    Ops keep closed quiet b0 o0 (onClose r pool s).b [(onClose r pool s).cur] :=
  ops_createClosingF _ _ _ _ (h.roll none)

theorem ops_step (r : Option Nat) (pool : Nat) (s : Whn α) (t : Nat) (ev : Ev α) :
    Ops (ev.notSrcTerminal = true) True quiet (ev.feed ({ s.b with now := t } : Base α) [s.cur]) [s.cur]
      ((Whn.mach r pool).step s t ev).b [((Whn.mach r pool).step s t ev).cur] := by
  simp only [mach]
  generalize ({ s.b with now := t } : Base α) = b
  cases ev with
  | src k n =>
    simp only [step]; split
    · next hl =>
      split
      · obtain rfl : k = 0 := by simpa using ‹(k == 0) = true›
        cases n with
        | next x => rw [Ev.feed_elem hl]; exact .refl _ _
        | error e => exact .unsub _ nofun (ops_onEnd _ _ (.refl _ _))
        | completed => exact .unsub _ nofun (ops_onEnd _ _ (.refl _ _))
      · have hk : k ≠ 0 := by simpa using ‹¬ (k == 0) = true›
        rw [Ev.feed_idle (fun _ h0 => absurd h0 hk)]
        cases n with
        | next x => exact .unsub _ (fun _ => hk) (ops_onClose _ _ _ (.refl _ _))
        | error e => exact .unsub _ (fun _ => hk) (ops_onEnd _ _ (.refl _ _))
        | completed => exact .unsub _ (fun _ => hk) (ops_onClose _ _ _ (.refl _ _))
    · next hl => rw [Ev.feed_idle (fun _ h0 _ => h0 ▸ hl)]; exact .refl _ _
  | dispose w => exact .disposeEv _ (.refl _ _)
  | tick => exact .refl _ _
end Whn

namespace Tgl
def openOf (s : Tgl α) : List Nat := s.leftMap.map (·.2)

theorem errAll_leftMap (s : Tgl α) (e) : (errAll s e).leftMap = s.leftMap := rfl
theorem expire_len (s : Tgl α) (i) : (expire s i).b.wins.length = s.b.wins.length := by
  unfold expire; split <;> simp

theorem ops_errAll (s : Tgl α) (e) (h : Ops keep False quiet b0 o0 s.b (openOf s)) :
    Ops keep False quiet b0 o0 (errAll s e).b (openOf (errAll s e)) :=
  .outerEnd _ (List.foldl_pres (P := fun b => Ops keep False quiet b0 o0 b (openOf s)) _ (fun _ p hb => .winEnd p.2 (some e) hb) _ h)

/-- `expire` drops the entries of `left_map` by key: that only the ended window goes would need the keys to be distinct. -/
theorem ops_expire (s : Tgl α) (i) (h : Ops keep False quiet b0 o0 s.b (openOf s)) :
    Ops keep False quiet b0 o0 (expire s i).b (openOf (expire s i)) := by
  unfold expire; split
  · exact .drop _ ((List.filter_sublist).map _) nofun (.winEnd _ _ h)
  · exact h

theorem ops_onOpen (r : Option Nat) (pool : Nat) (s : Tgl α) (h : Ops keep False quiet b0 o0 s.b (openOf s)) :
    Ops keep False quiet b0 o0 (onOpen r pool s).b (openOf (onOpen r pool s)) := by
  have h1 : Ops keep False quiet b0 o0 (s.b.newWin.1.outerNext s.b.wins.length)
      (openOf ({ s with b := s.b.newWin.1.outerNext s.b.wins.length, leftId := s.leftId + 1,
                        leftMap := s.leftMap ++ [(s.leftId, s.b.newWin.2)] } : Tgl α)) := by
    simpa only [openOf, List.map_append, List.map_cons, List.map_nil, Base.newWin_id] using Ops.open_ h
  unfold onOpen; simp only []
  -- the mapper raises / the duration fires at once / fails at once / is subscribed, if one is left
  split
  · exact ops_errAll _ _ h1
  · split
    · exact ops_expire _ _ h1
    · exact ops_errAll _ _ h1
    · split
      · split
        · exact .subscribeDead _ (by assumption) h1
        · exact .subscribe _ (by simpa using ‹¬ _ = true›) h1
      · exact h1

theorem ops_step (r : Option Nat) (pool : Nat) (s : Tgl α) (t : Nat) (ev : Ev α) :
    Ops (ev.notSrcTerminal = true) False quiet (ev.feed ({ s.b with now := t } : Base α) (openOf s)) (openOf s)
      ((Tgl.mach r pool).step s t ev).b (openOf ((Tgl.mach r pool).step s t ev)) := by
  simp only [mach]
  generalize ({ s.b with now := t } : Base α) = b
  cases ev with
  | src k n =>
    simp only [step]; split
    · next hl =>
      split
      · obtain rfl : k = 0 := by simpa using ‹(k == 0) = true›
        cases n with
        | next x =>
          -- `left_map.values()` are the open windows
          have : s.leftMap.foldl (fun b p => b.winNext p.2 x) b = (openOf s).foldl (fun b i => b.winNext i x) b := by
            rw [openOf, List.foldl_map]
          rw [Ev.feed_elem hl, ← this]; exact .refl _ _
        | error e => exact .unsub _ nofun (ops_errAll _ _ (.refl _ _))
        | completed => exact .unsub _ nofun (.refl _ _)
      · have hk : k ≠ 0 := by simpa using ‹¬ (k == 0) = true›
        rw [Ev.feed_idle (fun _ h0 => absurd h0 hk)]
        split
        · cases n with
          | next x => exact ops_onOpen _ _ _ (.refl _ _)
          | error e => exact .unsub _ nofun (ops_errAll _ _ (.refl _ _))
          | completed => exact .unsub _ nofun (.outerEnd _ (.refl _ _))
        · cases n with
          | next x => exact .unsub _ (fun _ => hk) (ops_expire _ _ (.refl _ _))
          | error e => exact .unsub _ (fun _ => hk) (ops_errAll _ _ (.refl _ _))
          | completed => exact .unsub _ (fun _ => hk) (ops_expire _ _ (.refl _ _))
    · next hl => rw [Ev.feed_idle (fun _ h0 _ => h0 ▸ hl)]; exact .refl _ _
  | dispose w => exact .disposeEv _ (.refl _ _)
  | tick => exact .refl _ _
end Tgl

namespace Tim
theorem init_b (span shift t0 : Nat) : (Tim.init (α := α) span shift t0).b = first t0 := rfl

theorem ops_onEnd (s : Tim α) (e) (h : Ops keep closed quiet b0 o0 s.b s.queue) :
    Ops keep closed quiet b0 o0 (onEnd s e).b (onEnd s e).queue :=
  .outerEnd _ (List.foldl_pres (P := fun b => Ops keep closed quiet b0 o0 b s.queue) _ (fun _ i hb => .winEnd i e hb) _ h)

theorem ops_onTick (shift : Nat) (s : Tim α) (h : Ops keep closed quiet b0 o0 s.b s.queue) :
    Ops keep closed quiet b0 o0 (onTick shift s).b (onTick shift s).queue := by
  -- the span part of the action, after the shift part has led to `s'`
  have hpop : ∀ s' : Tim α, Ops keep closed quiet b0 o0 s'.b s'.queue →
      Ops keep closed quiet b0 o0
        (match s'.queue with
          | [] => { s' with b := s'.b.emit (.escaped "IndexError") }
          | id :: q => createTimer shift { s' with b := s'.b.winEnd id none, queue := q }).b
        (match s'.queue with
          | [] => { s' with b := s'.b.emit (.escaped "IndexError") }
          | id :: q => createTimer shift { s' with b := s'.b.winEnd id none, queue := q }).queue := by
    intro s' hs'
    cases hq : s'.queue with
    | nil => rw [hq] at hs'; exact .emit _ (fun _ _ => nofun) hs'
    | cons id q => rw [hq] at hs'; exact hs'.pop none
  unfold onTick; split
  · exact h
  · next tk _ =>
    simp only []
    cases tk.isShift <;> cases tk.isSpan <;> simp only [Bool.false_eq_true, if_false, if_true]
    · exact h
    · exact hpop { s with timer := none } h
    · exact .open_ h
    · exact hpop { s with timer := none, b := s.b.newWin.1.outerNext s.b.wins.length, queue := s.queue ++ [s.b.newWin.2] } (.open_ h)

theorem ops_step (shift : Nat) (s : Tim α) (t : Nat) (ev : Ev α) :
    Ops (ev.notSrcTerminal = true) True quiet (ev.feed ({ s.b with now := t } : Base α) s.queue) s.queue
      ((Tim.mach shift).step s t ev).b ((Tim.mach shift).step s t ev).queue := by
  simp only [mach]
  generalize ({ s.b with now := t } : Base α) = b
  cases ev with
  | src k n =>
    cases k with
    | zero =>
      simp only [step]; split
      · next hl =>
        cases n with
        | next x => rw [Ev.feed_elem hl]; exact .refl _ _
        | error e => rw [sync_b, sync_queue]; exact .unsub _ nofun (ops_onEnd _ _ (.refl _ _))
        | completed => rw [sync_b, sync_queue]; exact .unsub _ nofun (ops_onEnd _ _ (.refl _ _))
      · next hl => rw [Ev.feed_idle (fun _ _ _ => hl)]; exact .refl _ _
    | succ k => exact .refl _ _
  | dispose w => simp only [step, sync_b, sync_queue]; exact .disposeEv _ (.refl _ _)
  | tick => simp only [step, sync_b, sync_queue]; exact ops_onTick _ _ (.refl _ _)
end Tim

namespace Toc
theorem init_b (span t0 : Nat) : (Toc.init (α := α) span t0).b = first t0 := rfl

theorem ops_step (span count : Nat) (s : Toc α) (t : Nat) (ev : Ev α) :
    Ops (ev.notSrcTerminal = true) True quiet (ev.feed ({ s.b with now := t } : Base α) [s.s]) [s.s]
      ((Toc.mach span count).step s t ev).b [((Toc.mach span count).step s t ev).s] := by
  simp only [mach]
  generalize ({ s.b with now := t } : Base α) = b
  cases ev with
  | src k n =>
    cases k with
    | zero =>
      simp only [step]; split
      · next hl =>
        cases n with
        | next x =>
          simp only [sync_b, sync_s, onNext]; split
          · simp only [createTimer, sync_b, sync_s]; rw [Ev.feed_elem hl]; exact Ops.roll none (.refl _ _)
          · rw [Ev.feed_elem hl]; exact .refl _ _
        | error e => simp only [sync_b, sync_s, onEnd]; exact .unsub _ nofun (.outerEnd _ (.winEnd _ _ (.refl _ _)))
        | completed => simp only [sync_b, sync_s, onEnd]; exact .unsub _ nofun (.outerEnd _ (.winEnd _ _ (.refl _ _)))
      · next hl => rw [Ev.feed_idle (fun _ _ _ => hl)]; exact .refl _ _
    | succ k => exact .refl _ _
  | dispose w => simp only [step, sync_b, sync_s]; exact .disposeEv _ (.refl _ _)
  | tick =>
    simp only [step, sync_b, sync_s, onTick]; split
    · exact .refl _ _
    · split
      · exact .refl _ _
      · simp only [createTimer, sync_b, sync_s]; exact Ops.roll none (.refl _ _)
end Toc

/-- `run` is the model's own fold over the events where it has one; `init` leads from the empty bookkeeping to the start `s0`. -/
structure OpsMach (σ α : Type) (closed : Prop) where
  m : Mach σ α
  base : σ → Base α
  openOf : σ → List Nat
  log : ∀ s, m.log s = (base s).log
  step : ∀ s t e, Ops (e.notSrcTerminal = true) closed False ({ base s with now := t } : Base α) (openOf s)
    (base (m.step s t e)) (openOf (m.step s t e))
  run : σ → List (Nat × Ev α) → σ
  run_eq : ∀ s evs, run s evs = m.fold s evs
  t0 : Nat
  s0 : σ
  init : ∀ {keep closed' quiet : Prop}, Ops keep closed' quiet ({ now := t0 } : Base α) [] (base s0) (openOf s0)

namespace OpsMach
variable {σ : Type} {closed : Prop} (M : OpsMach σ α closed) {K : Prop} {P : Base α → List Nat → Prop}

/-- `K` is what the invariant needs of `keep`: then the event may not be a terminal of the windowed source. -/
theorem inv_step (hP : Inv K closed P) (s : σ) (t : Nat) (e : Ev α) (hK : K → e.notSrcTerminal = true) (h : P (M.base s) (M.openOf s)) :
    P (M.base (M.m.step s t e)) (M.openOf (M.m.step s t e)) :=
  hP.ops ((M.step s t e).mono hK) (hP.now t h)

theorem inv_fold (hP : Inv K closed P) (evs : List (Nat × Ev α)) (hK : K → ∀ te ∈ evs, te.2.notSrcTerminal = true) (s : σ)
    (h : P (M.base s) (M.openOf s)) : P (M.base (M.m.fold s evs)) (M.openOf (M.m.fold s evs)) := by
  induction evs generalizing s with
  | nil => exact h
  | cons te es ih =>
    exact ih (fun k x hx => hK k x (List.mem_cons_of_mem _ hx)) _ (M.inv_step hP s te.1 te.2 (fun k => hK k te List.mem_cons_self) h)

theorem inv_run (hP : Inv False closed P) (evs : List (Nat × Ev α)) (h0 : P ({ now := M.t0 } : Base α) []) :
    P (M.base (M.run M.s0 evs)) (M.openOf (M.run M.s0 evs)) := by
  rw [M.run_eq]; exact M.inv_fold hP evs nofun _ (hP.ops M.init h0)

theorem grows : M.m.Grows := fun s t e => by
  rw [M.log, M.log]
  exact (M.inv_step (K := False) (Pre.inv (M.base s).log) s t e nofun (Pre.refl _)).isPrefix

end OpsMach

theorem Cnt.run_eq_fold (count skip : Nat) (s : Cnt α) (evs : List (Nat × Ev α)) :
    Cnt.run count skip s evs = (Cnt.mach count skip).fold s evs :=
  Mach.run_eq_fold_of _ _ (fun _ => rfl) (fun _ _ _ _ => rfl) s evs

theorem Bnd.run_eq_fold (s : Bnd α) (evs : List (Nat × Ev α)) : Bnd.run s evs = Bnd.mach.fold s evs :=
  Mach.run_eq_fold_of _ _ (fun _ => rfl) (fun _ _ _ _ => rfl) s evs

theorem Whn.run_eq_fold (r : Option Nat) (pool : Nat) (s : Whn α) (evs : List (Nat × Ev α)) :
    Whn.run r pool s evs = (Whn.mach r pool).fold s evs :=
  Mach.run_eq_fold_of _ _ (fun _ => rfl) (fun _ _ _ _ => rfl) s evs

theorem Tgl.run_eq_fold (r : Option Nat) (pool : Nat) (s : Tgl α) (evs : List (Nat × Ev α)) :
    Tgl.run r pool s evs = (Tgl.mach r pool).fold s evs :=
  Mach.run_eq_fold_of _ _ (fun _ => rfl) (fun _ _ _ _ => rfl) s evs

abbrev Cnt.opsMach (count skip t0 : Nat) : OpsMach (Cnt α) α True where
  m := Cnt.mach count skip; base := Cnt.b; openOf := Cnt.q; log _ := rfl
  step s t e := (Cnt.ops_step count skip s t e).of_feed
  run := Cnt.run count skip; run_eq := Cnt.run_eq_fold count skip; t0 := t0; s0 := Cnt.init t0; init := ops_first t0

abbrev Bnd.opsMach (t0 : Nat) (bsync : Option (Notif Unit)) : OpsMach (Bnd α) α True where
  m := Bnd.mach; base := Bnd.b; openOf s := [s.cur]; log _ := rfl
  step s t e := (Bnd.ops_step s t e).of_feed
  run := Bnd.run; run_eq := Bnd.run_eq_fold; t0 := t0; s0 := Bnd.init t0 bsync; init := (ops_first t0).trans (Bnd.ops_init_first t0 bsync)

abbrev Whn.opsMach (r : Option Nat) (pool t0 : Nat) (sync : List (Option (Option Err))) : OpsMach (Whn α) α True where
  m := Whn.mach r pool; base := Whn.b; openOf s := [s.cur]; log _ := rfl
  step s t e := (Whn.ops_step r pool s t e).of_feed
  run := Whn.run r pool; run_eq := Whn.run_eq_fold r pool; t0 := t0; s0 := Whn.init r pool t0 sync; init := (ops_first t0).trans (Whn.ops_init_first r pool t0 sync)

abbrev Tgl.opsMach (r : Option Nat) (pool t0 : Nat) (sync : List (Option (Option Err))) : OpsMach (Tgl α) α False where
  m := Tgl.mach r pool; base := Tgl.b; openOf := Tgl.openOf; log _ := rfl
  step s t e := (Tgl.ops_step r pool s t e).of_feed
  run := Tgl.run r pool; run_eq := Tgl.run_eq_fold r pool; t0 := t0; s0 := Tgl.init t0 sync; init := .subscribe 0 rfl (.subscribe 1 rfl (.refl _ _))

abbrev Tim.opsMach (span shift t0 : Nat) : OpsMach (Tim α) α True where
  m := Tim.mach shift; base := Tim.b; openOf := Tim.queue; log _ := rfl
  step s t e := (Tim.ops_step shift s t e).of_feed
  run := (Tim.mach shift).fold; run_eq _ _ := rfl; t0 := t0; s0 := Tim.init span shift t0; init := ops_first t0

abbrev Toc.opsMach (span count t0 : Nat) : OpsMach (Toc α) α True where
  m := Toc.mach span count; base := Toc.b; openOf st := [st.s]; log _ := rfl
  step s t e := (Toc.ops_step span count s t e).of_feed
  run := (Toc.mach span count).fold; run_eq _ _ := rfl; t0 := t0; s0 := Toc.init span t0; init := ops_first t0

/-! ### the timed operators cancel their armed timer together with the underlying disposable (`TOk`) -/

def TOk {τ : Type} (b : Base α) (timer : Option τ) : Prop := b.rcDisposed = true → timer = none

namespace Tim
theorem tok_sync (s : Tim α) : TOk (sync s).b (sync s).timer := by
  unfold TOk sync; split
  · intro _; rfl
  · rename_i h; intro h2; exact absurd h2 h
theorem tok_step (shift : Nat) (s : Tim α) (t : Nat) (e : Ev α) (h : TOk s.b s.timer) :
    TOk ((Tim.mach shift).step s t e).b ((Tim.mach shift).step s t e).timer := by
  simp only [mach]
  cases e with
  | src k n =>
    cases k with
    | zero =>
      simp only [step]; split
      · cases n with
        | next x =>
          intro hd
          exact h ((Base.ctl_rcDisposed (Base.ctl_foldl_winNext s.queue ({ s.b with now := t } : Base α) x)).symm.trans hd)
        | error e => exact tok_sync _
        | completed => exact tok_sync _
      · exact h
    | succ k => exact h
  | dispose w => exact tok_sync _
  | tick => exact tok_sync _
theorem tok_init (span shift t0 : Nat) : TOk (Tim.init (α := α) span shift t0).b (Tim.init (α := α) span shift t0).timer := by
  intro hd; rw [init_b, ctl_rcDisposed (first_ctl t0)] at hd; cases hd
end Tim

namespace Toc
theorem tok_sync (s : Toc α) : TOk (sync s).b (sync s).timer := by
  unfold TOk sync; split
  · intro _; rfl
  · rename_i h; intro h2; exact absurd h2 h
theorem tok_step (span count : Nat) (s : Toc α) (t : Nat) (e : Ev α) (h : TOk s.b s.timer) :
    TOk ((Toc.mach span count).step s t e).b ((Toc.mach span count).step s t e).timer := by
  simp only [mach]
  cases e with
  | src k n =>
    cases k with
    | zero =>
      simp only [step]; split
      · cases n <;> exact tok_sync _
      · exact h
    | succ k => exact h
  | dispose w => exact tok_sync _
  | tick => exact tok_sync _
theorem tok_init (span t0 : Nat) : TOk (Toc.init (α := α) span t0).b (Toc.init (α := α) span t0).timer := by
  intro hd; rw [init_b, ctl_rcDisposed (first_ctl t0)] at hd; cases hd
end Toc

end Win
