import RxProofs.Lemmas.SubjInv
/-!
# Running an agenda prefix to completion

`RunsTo cfg st pre st'`: executing the agenda prefix `pre` — and everything it spawns — to completion
(no exception escaping to the emitter) leads from `st` to `st'`.  Such runs are reachability paths that leave the
rest of the agenda alone, they compose, and `exec` follows them given enough fuel.
-/

namespace Subj
variable {α : Type}

theorem exec_nil (cfg : Cfg) (f : Nat) (st : St α) : exec cfg f st [] = st := by
  cases f <;> rfl

theorem exec_one (cfg : Cfg) (f : Nat) (st : St α) (t : Task α) (ts : List (Task α)) :
    exec cfg (f + 1) st (t :: ts) = exec cfg f (step1 cfg st t).1 (nextAgenda (step1 cfg st t) ts) := rfl

inductive RunsTo (cfg : Cfg) : St α → List (Task α) → St α → Prop
  | nil {st : St α} : RunsTo cfg st [] st
  | cons {st st2 st3 : St α} {t : Task α} {ts : List (Task α)} :
      (step1 cfg st t).2.2 = false → RunsTo cfg (step1 cfg st t).1 (step1 cfg st t).2.1 st2 → RunsTo cfg st2 ts st3 →
      RunsTo cfg st (t :: ts) st3

theorem RunsTo.reach {cfg : Cfg} {st st' : St α} {pre : List (Task α)} (h : RunsTo cfg st pre st') (rest : List (Task α)) :
    Reach cfg st (pre ++ rest) st' rest := by
  induction h generalizing rest with
  | nil => exact Reach.init
  | @cons st st2 st3 t ts hne _ _ ih1 ih2 =>
    have s1 : Reach cfg st (t :: ts ++ rest) (step1 cfg st t).1 (nextAgenda (step1 cfg st t) (ts ++ rest)) :=
      Reach.step Reach.init
    have e : nextAgenda (step1 cfg st t) (ts ++ rest) = (step1 cfg st t).2.1 ++ (ts ++ rest) := by
      simp [nextAgenda, hne]
    rw [e] at s1
    exact (s1.trans (ih1 (ts ++ rest))).trans (ih2 rest)

theorem RunsTo.reachable {cfg : Cfg} {v : Option α} {st st' : St α} {pre rest : List (Task α)} (h : RunsTo cfg st pre st')
    (hr : Reachable cfg v st (pre ++ rest)) : Reachable cfg v st' rest :=
  hr.trans (h.reach rest)

theorem RunsTo.append {cfg : Cfg} {st st1 st2 : St α} {a b : List (Task α)} (h1 : RunsTo cfg st a st1)
    (h2 : RunsTo cfg st1 b st2) : RunsTo cfg st (a ++ b) st2 := by
  induction h1 with
  | nil => exact h2
  | cons hne hnew _ _ ih2 => exact RunsTo.cons hne hnew (ih2 h2)

theorem RunsTo.single {cfg : Cfg} {st st' : St α} {t : Task α} (hne : (step1 cfg st t).2.2 = false)
    (h : RunsTo cfg (step1 cfg st t).1 (step1 cfg st t).2.1 st') : RunsTo cfg st [t] st' :=
  RunsTo.cons hne h RunsTo.nil

theorem RunsTo.step {cfg : Cfg} {st st1 st' : St α} {t : Task α} {new : List (Task α)}
    (hstep : step1 cfg st t = (st1, new, false)) (h : RunsTo cfg st1 new st') : RunsTo cfg st [t] st' :=
  RunsTo.single (by rw [hstep]) (by rw [hstep]; exact h)

theorem reach_step {cfg : Cfg} {v : Option α} {st st1 : St α} {t : Task α} {new rest : List (Task α)}
    (hr : Reachable cfg v st (t :: rest)) (hstep : step1 cfg st t = (st1, new, false)) : Reachable cfg v st1 (new ++ rest) := by
  have := Reach.step hr
  simpa [hstep, nextAgenda] using this

theorem exec_of_runsTo {cfg : Cfg} {st st' : St α} {ag : List (Task α)} (h : RunsTo cfg st ag st') :
    ∃ N, ∀ f rest, (N ≤ f → exec cfg f st (ag ++ rest) = exec cfg (f - N) st' rest) ∧
      (f < N → (exec cfg f st (ag ++ rest)).oof = true) := by
  induction h with
  | nil => exact ⟨0, fun f rest => ⟨fun _ => rfl, nofun⟩⟩
  | @cons st st2 st3 t ts hne _ _ ih1 ih2 =>
    obtain ⟨N1, h1⟩ := ih1
    obtain ⟨N2, h2⟩ := ih2
    refine ⟨1 + N1 + N2, fun f rest => ?_⟩
    cases f with
    | zero => exact ⟨fun hf => by omega, fun _ => by simp [exec]⟩
    | succ f =>
      simp only [List.cons_append, exec, nextAgenda, hne, Bool.false_eq_true, if_false]
      rcases Nat.lt_or_ge f N1 with hf1 | hf1
      · exact ⟨fun hf => by omega, fun _ => (h1 f (ts ++ rest)).2 hf1⟩
      · rw [(h1 f (ts ++ rest)).1 hf1]
        exact ⟨fun hf => by rw [(h2 (f - N1) rest).1 (by omega)]; congr 1; omega, fun hf => (h2 (f - N1) rest).2 (by omega)⟩

theorem runsTo_oof {cfg : Cfg} {st st' : St α} {ag : List (Task α)} (h : RunsTo cfg st ag st') : st'.oof = st.oof := by
  induction h with
  | nil => rfl
  | cons _ _ _ ih1 ih2 => rw [ih2, ih1, (step1_frame cfg _ _).oof]

theorem exec_oof (cfg : Cfg) (f : Nat) : ∀ (st : St α) (ag : List (Task α)), st.oof = true → (exec cfg f st ag).oof = true := by
  induction f with
  | zero => intro st ag h; cases ag <;> simp [exec, h]
  | succ f ih =>
    intro st ag h
    cases ag with
    | nil => simpa [exec] using h
    | cons t ts => simp only [exec]; exact ih _ _ (by rw [(step1_frame cfg _ _).oof]; exact h)

theorem run_oof (cfg : Cfg) (fuel : Nat) (calls : List (Call α)) :
    ∀ st : St α, st.oof = true → (run cfg fuel st calls).1.oof = true := by
  induction calls with
  | nil => intro st h; exact h
  | cons c cs ih =>
    intro st h
    show (run cfg fuel (call cfg fuel st c) cs).1.oof = true
    exact ih _ (exec_oof cfg fuel _ _ h)

theorem call_of_runsTo {cfg : Cfg} {st st' : St α} {c : Call α}
    (h : RunsTo cfg { st with raisedNow := none } [c.toTask] st') :
    ∃ N, ∀ fuel, (N ≤ fuel → call cfg fuel st c = st') ∧ (fuel < N → (call cfg fuel st c).oof = true) := by
  obtain ⟨N, h1⟩ := exec_of_runsTo h
  exact ⟨N, fun fuel => ⟨fun hf => by have := (h1 fuel []).1 hf; rwa [exec_nil] at this, (h1 fuel []).2⟩⟩

end Subj
