import RxModel.Subj
/-!
# What one step of the subject machine can do

`Step` is for what holds of every step, the guard equations of `emit`, `doSub`, `deliver`, `doUnsub` for the result of
a particular one; the rows of `Step` are read off the equations.
-/

namespace Subj
variable {α : Type}

/-- Does the *user* of observer `i` see this notification?  (Without an `on_error` handler an error
goes to `default_error`, which raises instead.) -/
def userSees (cfg : Cfg) (i : Id) : Notif α → Bool
  | .error _ => cfg.hasErr i
  | _ => true

/-- The late-subscriber notification the code computes from `exception`. -/
def termOf (st : St α) : Notif α :=
  match st.exception with
  | some e => .error e
  | none => .completed

/-- The top-level emissions: they enter only from outside, alone on the agenda; no step pushes one. -/
def Task.isEmit : Task α → Bool
  | .emit _ => true
  | .act _ _ | .deliver _ _ | .finish _ _ | .sadDispose _ => false

/-- What a step for `t` can leave (`st'`), push (`new`), and whether an exception escapes to the emitter (`b`).
A row keeps only those conditions of its branch that some invariant reads: what a step can do, not when. -/
inductive Step (cfg : Cfg) (st : St α) : Task α → St α → List (Task α) → Bool → Prop
  | idle (t : Task α) : Step cfg st t st [] false
  | raise {t : Task α} : t.isEmit = true → Step cfg st t { st with raisedNow := some disposedExn } [] false
  | next {t : Task α} (v : α) (x : Option α) (b : Bool) : t.isEmit = true → st.disposed = false → st.stopped = false →
      (cfg.kind = .behavior → x = some v) → (cfg.kind = .async → x = some v ∧ b = true) →
      Step cfg st t { st with tr := .emit (.next v) :: st.tr, value := x, hasValue := b }
        (if cfg.kind = .async then [] else st.observers.map (Task.deliver · (.next v))) false
  | error {t : Task α} (e : Err) : t.isEmit = true → st.disposed = false →
      Step cfg st t { st with tr := .emit (.error e) :: st.tr, stopped := true, observers := [], exception := some e }
        (st.observers.map (Task.deliver · (.error e))) false
  | completed {t : Task α} (new : List (Task α)) : t.isEmit = true → st.disposed = false → st.stopped = false →
      (new = st.observers.map (Task.deliver · .completed) ∨
        cfg.kind = .async ∧ ∃ v, new = st.observers.flatMap fun i => [Task.deliver i (.next v), Task.deliver i .completed]) →
      Step cfg st t { st with tr := .emit .completed :: st.tr, stopped := true, observers := [] } new false
  | subRefused (who : Option Id) (j : Id) : st.seen j = false → st.disposed = true → cfg.hasErr j = true →
      Step cfg st (.act who (.sub j))
        (callback { st with seen := upd st.seen j true, adoStopped := upd st.adoStopped j true } j (.error disposedExn))
        (reactions cfg st j ++ [.finish j none]) false
  | subRaise (who : Option Id) (j : Id) (e : Err) (sd : Id → Bool) : st.seen j = false → cfg.hasErr j = false →
      (st.disposed = true ∧ e = disposedExn ∨ st.disposed = false ∧ st.stopped = true ∧ st.exception = some e) →
      (∀ k, k ≠ j → sd k = st.sadDisposed k) →
      Step cfg st (.act who (.sub j))
        (raiseTo who e { st with seen := upd st.seen j true, adoStopped := upd st.adoStopped j true, sadDisposed := sd,
                                 tr := .recv j (.error e) :: st.tr }) [] false
  | subLive (who : Option Id) (j : Id) (new : List (Task α)) : st.seen j = false → st.stopped = false →
      (new = [.finish j (some .inner)] ∨
        cfg.kind = .behavior ∧ ∃ v, new = [.deliver j (.next v), .finish j (some .inner)]) →
      Step cfg st (.act who (.sub j))
        { st with seen := upd st.seen j true, observers := st.observers ++ [j], tr := .sub j :: st.tr } new false
  | subLate (who : Option Id) (j : Id) (pre : List (Task α)) : st.seen j = false → st.disposed = false → st.stopped = true →
      (pre = [] ∨ cfg.kind = .async ∧ ∃ v, pre = [.deliver j (.next v)]) →
      Step cfg st (.act who (.sub j)) { st with seen := upd st.seen j true }
        (pre ++ [.deliver j (termOf st), .finish j (some .noop)]) false
  | unsub (who : Option Id) (j : Id) : st.handle j = true →
      Step cfg st (.act who (.unsub j))
        (sadDispose { st with tr := .unsub j :: st.tr, adoStopped := upd st.adoStopped j true } j) [] false
  | dispose (who : Option Id) : Step cfg st (.act who .dispose) (subjDispose st) [] false
  | deliverNext (i : Id) (v : α) : st.adoStopped i = false →
      Step cfg st (.deliver i (.next v)) (callback st i (.next v)) (reactions cfg st i) false
  | deliverTerm (i : Id) (n : Notif α) : st.adoStopped i = false → n.isTerminal = true → userSees cfg i n = true →
      Step cfg st (.deliver i n) (callback { st with adoStopped := upd st.adoStopped i true } i n)
        (reactions cfg st i ++ [.sadDispose i]) false
  | deliverRaise (i : Id) (e : Err) : cfg.hasErr i = false →
      Step cfg st (.deliver i (.error e))
        { sadDispose { st with adoStopped := upd st.adoStopped i true, tr := .recv i (.error e) :: st.tr } i with
          raisedNow := some e } [] true
  | fin (j : Id) (h : Option Held) : Step cfg st (.finish j h) (finish st j h) [] false
  | sad (i : Id) : Step cfg st (.sadDispose i) (sadDispose st i) [] false

section guards
variable (cfg : Cfg) {st : St α} (who : Option Id) {i j : Id}

variable {cfg who} in
theorem step1_sub {s : St α} {l : List (Task α)} (h : doSub cfg st who j = (s, l)) :
    step1 cfg st (.act who (.sub j)) = (s, l, false) := by
  show ((doSub cfg st who j).1, (doSub cfg st who j).2, false) = _
  rw [h]

theorem step1_deliver (st : St α) (i : Id) (n : Notif α) : step1 cfg st (.deliver i n) = deliver cfg st i n := rfl

theorem termOf_terminal (st : St α) : (termOf st).isTerminal = true := by
  unfold termOf; split <;> rfl

variable {cfg} in
theorem step1_emit {n : Notif α} {s : St α} {l : List (Task α)} (h : emit cfg st n = (s, l)) :
    step1 cfg st (.emit n) = (s, l, false) := by
  show ((emit cfg st n).1, (emit cfg st n).2, false) = _
  rw [h]

theorem emit_disposed (hd : st.disposed = true) (n : Notif α) :
    emit cfg st n = ({ st with raisedNow := some disposedExn }, []) := by
  simp [emit, hd]

theorem emit_stopped (hd : st.disposed = false) (hs : st.stopped = true) (n : Notif α) : emit cfg st n = (st, []) := by
  simp [emit, hd, hs]

theorem emit_refused (hs : st.stopped = true) (n : Notif α) : ∃ x, emit cfg st n = ({ st with raisedNow := x }, []) := by
  by_cases hd : st.disposed = true
  · exact ⟨_, emit_disposed cfg hd n⟩
  · exact ⟨st.raisedNow, emit_stopped cfg (by simpa using hd) hs n⟩

theorem emit_next (hd : st.disposed = false) (hs : st.stopped = false) (v : α) :
    emit cfg st (.next v) =
      match cfg.kind with
      | .subject => ({ st with tr := .emit (.next v) :: st.tr }, st.observers.map (Task.deliver · (.next v)))
      | .behavior =>
        ({ st with tr := .emit (.next v) :: st.tr, value := some v }, st.observers.map (Task.deliver · (.next v)))
      | .async => ({ st with tr := .emit (.next v) :: st.tr, value := some v, hasValue := true }, []) := by
  unfold emit; rw [if_neg (by simp [hd]), if_neg (by simp [hs])]
  cases cfg.kind <;> rfl

theorem emit_error (hd : st.disposed = false) (hs : st.stopped = false) (e : Err) :
    emit cfg st (.error e) =
      ({ st with tr := .emit (.error e) :: st.tr, stopped := true, observers := [], exception := some e },
        st.observers.map (Task.deliver · (.error e))) := by
  unfold emit; rw [if_neg (by simp [hd]), if_neg (by simp [hs])]

theorem emit_completed (hd : st.disposed = false) (hs : st.stopped = false) :
    emit cfg st .completed =
      ({ st with tr := .emit .completed :: st.tr, stopped := true, observers := [] },
        match (if cfg.kind = .async ∧ st.hasValue = true then st.value else none) with
        | some v => st.observers.flatMap fun i => [Task.deliver i (.next v), Task.deliver i .completed]
        | none => st.observers.map (Task.deliver · .completed)) := by
  unfold emit; rw [if_neg (by simp [hd]), if_neg (by simp [hs])]
  cases cfg.kind <;> cases st.hasValue <;> cases st.value <;> simp

theorem step1_unsub (st : St α) (j : Id) : step1 cfg st (.act who (.unsub j)) = (doUnsub st j, [], false) := rfl

theorem doUnsub_none (hh : st.handle j = false) : doUnsub st j = st := by
  simp [doUnsub, hh]

theorem doUnsub_handle (hh : st.handle j = true) :
    doUnsub st j = sadDispose { st with tr := .unsub j :: st.tr, adoStopped := upd st.adoStopped j true } j := by
  unfold doUnsub adoDispose; rw [if_pos hh]

theorem doSub_seen (hj : st.seen j = true) : doSub cfg st who j = (st, []) := by
  simp [doSub, hj]

theorem doSub_disposed (hj : st.seen j = false) (hd : st.disposed = true) :
    doSub cfg st who j =
      if cfg.hasErr j = true then
        (callback { st with seen := upd st.seen j true, adoStopped := upd st.adoStopped j true } j (.error disposedExn),
          reactions cfg st j ++ [.finish j none])
      else
        (raiseTo who disposedExn { st with seen := upd st.seen j true, adoStopped := upd st.adoStopped j true,
                                           tr := .recv j (.error disposedExn) :: st.tr }, []) := by
  simp only [doSub, hj, hd, Bool.false_eq_true, if_false, if_true]
  rfl

theorem doSub_live (hj : st.seen j = false) (hd : st.disposed = false) (hs : st.stopped = false) :
    doSub cfg st who j =
      ({ st with seen := upd st.seen j true, observers := st.observers ++ [j], tr := .sub j :: st.tr },
        (if cfg.kind = .behavior then (st.value.map fun v => Task.deliver j (.next v)).toList else []) ++
          [.finish j (some .inner)]) := by
  simp only [doSub, hj, hd, hs, Bool.false_eq_true, if_false, Bool.not_false, if_true]
  cases cfg.kind <;> cases st.value <;> rfl

theorem doSub_late (hj : st.seen j = false) (hd : st.disposed = false) (hs : st.stopped = true)
    (hu : userSees cfg j (termOf st) = true) :
    doSub cfg st who j =
      ({ st with seen := upd st.seen j true },
        (if cfg.kind = .async ∧ st.exception = none ∧ st.hasValue = true
          then (st.value.map fun v => Task.deliver j (.next v)).toList else []) ++
          [.deliver j (termOf st), .finish j (some .noop)]) := by
  simp only [doSub, hj, hd, hs, Bool.false_eq_true, if_false, Bool.not_true]
  unfold termOf userSees at *
  cases hx : st.exception with
  | some e => simp [hx] at hu; simp [hu]
  | none => cases cfg.kind <;> cases st.hasValue <;> cases st.value <;> simp

theorem doSub_late_raise {e : Err} (hj : st.seen j = false) (hd : st.disposed = false) (hs : st.stopped = true)
    (hx : st.exception = some e) (he : cfg.hasErr j = false) :
    doSub cfg st who j =
      (raiseTo who e { st with seen := upd st.seen j true, adoStopped := upd st.adoStopped j true,
                               sadDisposed := upd st.sadDisposed j true, tr := .recv j (.error e) :: st.tr }, []) := by
  simp only [doSub, hj, hd, hs, hx, he, Bool.false_eq_true, if_false, Bool.not_true]

theorem deliver_stopped (n : Notif α) (hs : st.adoStopped i = true) : deliver cfg st i n = (st, [], false) := by
  simp [deliver, hs]

theorem deliver_next (v : α) (hs : st.adoStopped i = false) :
    deliver cfg st i (.next v) = (callback st i (.next v), reactions cfg st i, false) := by
  simp [deliver, hs]

theorem deliver_term {n : Notif α} (hs : st.adoStopped i = false) (hn : n.isTerminal = true) (hu : userSees cfg i n = true) :
    deliver cfg st i n =
      (callback { st with adoStopped := upd st.adoStopped i true } i n, reactions cfg st i ++ [.sadDispose i], false) := by
  cases n with
  | next v => cases hn
  | completed => simp [deliver, hs]
  | error e => simp only [deliver, hs, show cfg.hasErr i = true from hu, Bool.false_eq_true, if_false, if_true]; rfl

theorem deliver_raise (e : Err) (hs : st.adoStopped i = false) (he : cfg.hasErr i = false) :
    deliver cfg st i (.error e) =
      ({ sadDispose { st with adoStopped := upd st.adoStopped i true, tr := .recv i (.error e) :: st.tr } i with
         raisedNow := some e }, [], true) := by
  simp [deliver, hs, he]

end guards

theorem emit_step (cfg : Cfg) (st : St α) (n : Notif α) : Step cfg st (.emit n) (emit cfg st n).1 (emit cfg st n).2 false := by
  cases hd : st.disposed with
  | true => rw [emit_disposed cfg hd]; exact .raise rfl
  | false =>
  cases hs : st.stopped with
  | true => rw [emit_stopped cfg hd hs]; exact .idle _
  | false =>
  cases n with
  | next v =>
    rw [emit_next cfg hd hs]
    cases hk : cfg.kind with
    | subject => simpa [hk] using Step.next (cfg := cfg) v st.value st.hasValue rfl hd hs (by simp [hk]) (by simp [hk])
    | behavior => simpa [hk] using Step.next (cfg := cfg) v (some v) st.hasValue rfl hd hs (fun _ => rfl) (by simp [hk])
    | async => simpa [hk] using Step.next (cfg := cfg) v (some v) true rfl hd hs (fun _ => rfl) (fun _ => ⟨rfl, rfl⟩)
  | error e => rw [emit_error cfg hd hs]; exact .error e rfl hd
  | completed =>
    rw [emit_completed cfg hd hs]
    refine .completed _ rfl hd hs ?_
    split
    · next v hv =>
      split at hv
      · next h => exact Or.inr ⟨h.1, v, rfl⟩
      · cases hv
    · exact Or.inl rfl

/-- Exhaustive: only an error is not shown, and only without handler. -/
theorem doSub_guards (cfg : Cfg) (st : St α) (j : Id) :
    st.seen j = true ∨ (st.seen j = false ∧ (st.disposed = true ∨ (st.disposed = false ∧ (st.stopped = false ∨
      (st.stopped = true ∧
        (userSees cfg j (termOf st) = true ∨ ∃ e, st.exception = some e ∧ cfg.hasErr j = false)))))) := by
  cases st.seen j <;> cases st.disposed <;> cases st.stopped <;> simp
  unfold userSees termOf
  cases st.exception <;> simp

theorem doSub_step (cfg : Cfg) (st : St α) (who : Option Id) (j : Id) :
    Step cfg st (.act who (.sub j)) (doSub cfg st who j).1 (doSub cfg st who j).2 false := by
  rcases doSub_guards cfg st j with hj | ⟨hj, hd | ⟨hd, hs | ⟨hs, hu | ⟨e, hx, he⟩⟩⟩⟩
  · rw [doSub_seen cfg who hj]; exact .idle _
  · rw [doSub_disposed cfg who hj hd]
    split
    · next he => exact .subRefused who j hj hd he
    · next he => exact .subRaise who j _ _ hj (by simpa using he) (Or.inl ⟨hd, rfl⟩) (fun _ _ => rfl)
  · rw [doSub_live cfg who hj hd hs]
    refine .subLive who j _ hj hs ?_
    split
    · next hk => cases hv : st.value with
      | none => exact Or.inl rfl
      | some v => exact Or.inr ⟨hk, v, rfl⟩
    · exact Or.inl rfl
  · rw [doSub_late cfg who hj hd hs hu]
    refine .subLate who j _ hj hd hs ?_
    split
    · next h => cases hv : st.value with
      | none => exact Or.inl rfl
      | some v => exact Or.inr ⟨h.1, v, rfl⟩
    · exact Or.inl rfl
  · rw [doSub_late_raise cfg who hj hd hs hx he]
    exact .subRaise who j e _ hj he (Or.inr ⟨hd, hs, hx⟩) (fun k hk => if_neg hk)

theorem deliver_step (cfg : Cfg) (st : St α) (i : Id) (n : Notif α) :
    Step cfg st (.deliver i n) (deliver cfg st i n).1 (deliver cfg st i n).2.1 (deliver cfg st i n).2.2 := by
  cases hs : st.adoStopped i with
  | true => rw [deliver_stopped cfg n hs]; exact .idle _
  | false =>
  cases n with
  | next v => rw [deliver_next cfg v hs]; exact .deliverNext i v hs
  | completed => rw [deliver_term cfg hs rfl rfl]; exact .deliverTerm i _ hs rfl rfl
  | error e =>
    cases he : cfg.hasErr i with
    | true => rw [deliver_term cfg (n := .error e) hs rfl he]; exact .deliverTerm i _ hs rfl he
    | false => rw [deliver_raise cfg e hs he]; exact .deliverRaise i e he

theorem mem_reactions {cfg : Cfg} {st : St α} {i : Id} {t : Task α} (h : t ∈ reactions cfg st i) :
    ∃ a, t = .act (some i) a := by
  obtain ⟨a, _, rfl⟩ := List.mem_map.mp h
  exact ⟨a, rfl⟩

theorem Step.new_noEmit {cfg : Cfg} {st st' : St α} {t : Task α} {new : List (Task α)} {b : Bool}
    (h : Step cfg st t st' new b) : ∀ t' ∈ new, t'.isEmit = false := by
  intro t' ht'
  have r : ∀ {s : St α} {i : Id} {l : List (Task α)}, t' ∈ reactions cfg s i ++ l → (∀ x ∈ l, x.isEmit = false) →
      t'.isEmit = false := fun h hl => by
    rcases List.mem_append.mp h with h | h
    · obtain ⟨a, rfl⟩ := mem_reactions h; rfl
    · exact hl _ h
  cases h with
  | idle | raise | subRaise | unsub | dispose | deliverRaise | fin | sad => cases ht'
  | next =>
    split at ht'
    · cases ht'
    · obtain ⟨k, _, rfl⟩ := List.mem_map.mp ht'; rfl
  | error => obtain ⟨k, _, rfl⟩ := List.mem_map.mp ht'; rfl
  | completed new _ _ _ hn =>
    rcases hn with rfl | ⟨_, v, rfl⟩
    · obtain ⟨k, _, rfl⟩ := List.mem_map.mp ht'; rfl
    · obtain ⟨k, _, hk⟩ := List.mem_flatMap.mp ht'
      simp only [List.mem_cons, List.not_mem_nil, or_false] at hk
      rcases hk with rfl | rfl <;> rfl
  | subRefused | deliverTerm => exact r ht' (by simp [Task.isEmit])
  | deliverNext => exact r (l := []) (by simpa using ht') nofun
  | subLive who j new _ _ hn => rcases hn with rfl | ⟨_, v, rfl⟩ <;> simp at ht' <;> rcases ht' with rfl | rfl <;> rfl
  | subLate who j pre _ _ _ hp => rcases hp with rfl | ⟨_, v, rfl⟩ <;> simp at ht' <;> rcases ht' with rfl | rfl | rfl <;> rfl

theorem mem_nextAgenda {r : St α × List (Task α) × Bool} {ts : List (Task α)} {t : Task α} (h : t ∈ nextAgenda r ts) :
    t ∈ r.2.1 ∨ t ∈ ts := by
  unfold nextAgenda at h
  split at h
  · cases h
  · exact List.mem_append.mp h

theorem step1_step (cfg : Cfg) (st : St α) (t : Task α) :
    Step cfg st t (step1 cfg st t).1 (step1 cfg st t).2.1 (step1 cfg st t).2.2 := by
  rcases t with n | ⟨who, j | j | _⟩ | ⟨i, n⟩ | ⟨j, h⟩ | i
  · exact emit_step cfg st n
  · show Step cfg st _ (doUnsub st j) [] false
    cases hh : st.handle j with
    | false => rw [doUnsub_none hh]; exact .idle _
    | true => rw [doUnsub_handle hh]; exact .unsub who j hh
  · exact doSub_step cfg st who j
  · exact .dispose who
  · exact deliver_step cfg st i n
  · exact .fin j h
  · exact .sad i

end Subj
