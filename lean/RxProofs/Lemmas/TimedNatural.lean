import RxProofs.Lemmas.TimedDelay
/-!
# Naturality of the timed operators' models (C08): renaming the elements of the source timeline commutes with
`tfRun`, `delayRun` and the specifications `debSpec`, `sampSpec` (the `Run = Spec` step for debounce and sample is taken
in `C08.lean`; `timestamp` and `time_interval` are proved there directly).
-/
namespace Timed
variable {α β : Type}

def mapTL (ρ : α → β) (l : TL α) : TL β := l.map (fun m => (m.1, m.2.map ρ))

@[simp] theorem mapTL_nil (ρ : α → β) : mapTL ρ ([] : TL α) = [] := rfl
@[simp] theorem mapTL_cons (ρ : α → β) (t : Nat) (n : Notif α) (r : TL α) :
    mapTL ρ ((t, n) :: r) = (t, n.map ρ) :: mapTL ρ r := rfl
theorem mapTL_append (ρ : α → β) (a b : TL α) : mapTL ρ (a ++ b) = mapTL ρ a ++ mapTL ρ b := by
  simp [mapTL]

theorem conform_mapTL (ρ : α → β) (l : TL α) : conform (mapTL ρ l) = mapTL ρ (conform l) := by
  induction l with
  | nil => rfl
  | cons m r ih => obtain ⟨t, n⟩ := m; cases n <;> simp_all [conform, Notif.map]

theorem nexts_mapTL (ρ : α → β) (l : TL α) : nexts (mapTL ρ l) = (nexts l).map (fun e => (e.1, ρ e.2)) := by
  induction l with
  | nil => rfl
  | cons m r ih => obtain ⟨t, n⟩ := m; cases n <;> simp_all [nexts, Notif.map]

theorem firstTerminal_mapTL (ρ : α → β) (l : TL α) :
    firstTerminal (mapTL ρ l) = (firstTerminal l).map (fun m => (m.1, m.2.map ρ)) := by
  induction l with
  | nil => rfl
  | cons m r ih => obtain ⟨t, n⟩ := m; cases n <;> simp_all [firstTerminal, Notif.map]

theorem mono_mapTL (ρ : α → β) (lo : Nat) (l : TL α) (h : Mono lo l) : Mono lo (mapTL ρ l) := by
  induction l generalizing lo with
  | nil => trivial
  | cons m r ih => obtain ⟨t, n⟩ := m; exact ⟨h.1, ih t h.2⟩

theorem tfRun_natural (ρ : α → β) (w : Nat) (last : Option Nat) (l : TL α) :
    tfRun w last (mapTL ρ l) = mapTL ρ (tfRun w last l) := by
  induction l generalizing last with
  | nil => rfl
  | cons m r ih =>
    obtain ⟨t, n⟩ := m
    cases n with
    | next x =>
      simp only [mapTL_cons, Notif.map, tfRun, mapTL_append]
      cases last with
      | none => simp only [tfOnNext]; rw [ih]; rfl
      | some l0 =>
        by_cases h : l0 + w ≤ t
        · simp only [tfOnNext, h, if_true]; rw [ih]; rfl
        · simp only [tfOnNext, h, if_false]; rw [ih]; rfl
    | error e => simp [tfRun, Notif.map]
    | completed => simp [tfRun, Notif.map]

theorem debSpec_cons_cons (d t : Nat) (x : α) (t' : Nat) (n' : Notif α) (r' : TL α) :
    debSpec d ((t, .next x) :: (t', n') :: r') =
      if t + d < t' then (t + d, .next x) :: debSpec d ((t', n') :: r')
      else match n' with
        | .completed => (t', .next x) :: debSpec d ((t', n') :: r')
        | _ => debSpec d ((t', n') :: r') := by
  cases n' <;> simp [debSpec]

theorem debSpec_natural (ρ : α → β) (d : Nat) (l : TL α) :
    debSpec d (mapTL ρ l) = mapTL ρ (debSpec d l) := by
  induction l with
  | nil => rfl
  | cons m r ih =>
    obtain ⟨t, n⟩ := m
    cases n with
    | error e => simp [debSpec, Notif.map]
    | completed => simp [debSpec, Notif.map]
    | next x =>
      cases r with
      | nil => simp [debSpec, Notif.map]
      | cons m' r' =>
        obtain ⟨t', n'⟩ := m'
        rw [mapTL_cons, mapTL_cons] at *
        rw [show Notif.map ρ (Notif.next x) = Notif.next (ρ x) from rfl, debSpec_cons_cons, debSpec_cons_cons, ih]
        by_cases h : t + d < t'
        · simp only [h, if_true]; rfl
        · simp only [h, if_false]
          cases n' <;> rfl

theorem delaySpec_natural (ρ : α → β) (d : Nat) (l : TL α) :
    delaySpec d (mapTL ρ l) = mapTL ρ (delaySpec d l) := by
  unfold delaySpec
  rw [firstTerminal_mapTL, nexts_mapTL]
  cases firstTerminal l with
  | none => simp [mapTL, shiftEl, Notif.map, Function.comp_def]
  | some m =>
    obtain ⟨t, n⟩ := m
    cases n <;>
      simp [mapTL, shiftEl, Notif.map, Function.comp_def, List.filter_map]

theorem delay_natural (ρ : α → β) (d lo : Nat) (l : TL α) (h : Mono lo l) :
    delayRun d (mapTL ρ l) = mapTL ρ (delayRun d l) := by
  rw [delay_run_eq_spec d lo _ (mono_mapTL ρ lo l h), delay_run_eq_spec d lo l h, delaySpec_natural]

theorem takeWhile_time_mapTL (ρ : α → β) (q : Nat → Bool) (l : TL α) :
    (mapTL ρ l).takeWhile (fun m => q m.1) = mapTL ρ (l.takeWhile (fun m => q m.1)) :=
  List.takeWhile_map ..

theorem dropWhile_time_mapTL (ρ : α → β) (q : Nat → Bool) (l : TL α) :
    (mapTL ρ l).dropWhile (fun m => q m.1) = mapTL ρ (l.dropWhile (fun m => q m.1)) :=
  List.dropWhile_map ..

theorem latestOf_mapTL (ρ : α → β) (pend : Option α) (pre : TL α) :
    latestOf (pend.map ρ) (mapTL ρ pre) = (latestOf pend pre).map ρ := by
  unfold latestOf
  rw [nexts_mapTL, List.foldl_map]
  generalize nexts pre = es
  induction es generalizing pend with
  | nil => rfl
  | cons e es ih => simpa using ih (some e.2)

theorem emitAt_map (ρ : α → β) (k : Nat) (o : Option α) : emitAt k (o.map ρ) = mapTL ρ (emitAt k o) := by
  cases o <;> rfl

theorem sampSpec_natural (ρ : α → β) (tf : Bool) (pend : Option α) (l : TL α) (ticks : List (Nat × SampEv)) :
    sampSpec tf (pend.map ρ) (mapTL ρ l) ticks = mapTL ρ (sampSpec tf pend l ticks) := by
  induction ticks generalizing pend l with
  | nil =>
    simp only [sampSpec, firstTerminal_mapTL]
    cases firstTerminal l with
    | none => rfl
    | some m => obtain ⟨t, n⟩ := m; cases n <;> rfl
  | cons tk ticks ih =>
    obtain ⟨k, ev⟩ := tk
    simp only [sampSpec]
    rw [takeWhile_time_mapTL ρ (fun t => !timerBefore tf k t), dropWhile_time_mapTL ρ (fun t => !timerBefore tf k t),
      firstTerminal_mapTL, latestOf_mapTL, emitAt_map]
    have ih0 := ih none (l.dropWhile (fun m => !timerBefore tf k m.1))
    simp only [Option.map_none] at ih0
    cases firstTerminal (l.takeWhile (fun m => !timerBefore tf k m.1)) with
    | none => cases ev <;> simp [ih0, mapTL_append] <;> rfl
    | some m =>
      obtain ⟨t, n⟩ := m
      cases n <;> cases ev <;> simp [Notif.map, ih0, mapTL_append] <;> rfl

end Timed
