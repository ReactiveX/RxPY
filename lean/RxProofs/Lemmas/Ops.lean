import RxModel.Ops
/-!
# The L1 framework (`RxModel/Ops.lean`)

Every way of running an operator — two observers around its handlers (`Op.run`), one between two stages (`Op.comp`) — is
compared with one list function, the handlers' calls without any observer (`Op.emits`), through `cut`.
-/
namespace Ops

@[simp] theorem cut_nil {α} : cut ([] : List (Notif α)) = [] := rfl
@[simp] theorem cut_next {α} (v : α) (r) : cut (.next v :: r) = .next v :: cut r := rfl
@[simp] theorem cut_error {α} (e) (r : List (Notif α)) : cut (.error e :: r) = [.error e] := rfl
@[simp] theorem cut_completed {α} (r : List (Notif α)) : cut (.completed :: r) = [.completed] := rfl
@[simp] theorem hasTerminal_nil {α} : hasTerminal ([] : List (Notif α)) = false := rfl
@[simp] theorem hasTerminal_next {α} (v : α) (r) : hasTerminal (.next v :: r) = hasTerminal r := rfl
@[simp] theorem hasTerminal_error {α} (e) (r : List (Notif α)) : hasTerminal (.error e :: r) = true := rfl
@[simp] theorem hasTerminal_completed {α} (r : List (Notif α)) : hasTerminal (.completed :: r) = true := rfl
@[simp] theorem elems_nil {α} : elems ([] : List (Notif α)) = [] := rfl
@[simp] theorem fin_nil {α} : fin ([] : List (Notif α)) = .open := rfl
@[simp] theorem elems_next {α} (v : α) (r : List (Notif α)) : elems (.next v :: r) = v :: elems r := rfl
@[simp] theorem elems_error {α} (er : Err) (r : List (Notif α)) : elems (.error er :: r) = [] := rfl
@[simp] theorem elems_completed {α} (r : List (Notif α)) : elems (.completed :: r) = [] := rfl
@[simp] theorem fin_next {α} (v : α) (r : List (Notif α)) : fin (.next v :: r) = fin r := rfl
@[simp] theorem fin_error {α} (er : Err) (r : List (Notif α)) : fin (.error er :: r) = .error er := rfl
@[simp] theorem fin_completed {α} (r : List (Notif α)) : fin (.completed :: r) = .completed := rfl

theorem cut_append {α} (a b : List (Notif α)) : cut (a ++ b) = cut a ++ if hasTerminal a then [] else cut b := by
  induction a with
  | nil => rfl
  | cons n a ih =>
    cases n with
    | next v => exact congrArg (Notif.next v :: ·) ih
    | error e => rfl
    | completed => rfl

theorem cut_of_no_terminal {α} (a : List (Notif α)) (h : hasTerminal a = false) : cut a = a := by
  induction a with
  | nil => rfl
  | cons n a ih => cases n <;> simp_all

@[simp] theorem cut_idem {α} (a : List (Notif α)) : cut (cut a) = cut a := by
  induction a with
  | nil => rfl
  | cons n a ih => cases n <;> simp [ih]

@[simp] theorem hasTerminal_cut {α} (a : List (Notif α)) : hasTerminal (cut a) = hasTerminal a := by
  induction a with
  | nil => rfl
  | cons n a ih => cases n <;> simp [ih]

@[simp] theorem hasTerminal_map_next {α} (ys : List α) : hasTerminal (ys.map Notif.next) = false := by
  induction ys with
  | nil => rfl
  | cons y ys ih => simp [ih]

@[simp] theorem hasTerminal_append {α} (a b : List (Notif α)) :
    hasTerminal (a ++ b) = (hasTerminal a || hasTerminal b) := by
  induction a with
  | nil => simp
  | cons n a ih => cases n <;> simp [ih]

theorem cut_map_next_append {β} (ys : List β) (r : List (Notif β)) :
    cut (ys.map Notif.next ++ r) = ys.map Notif.next ++ cut r := by
  rw [cut_append, hasTerminal_map_next, cut_of_no_terminal _ (hasTerminal_map_next ys)]; rfl

@[simp] theorem cut_outSeq {β} (ys : List β) (e : End) : cut (outSeq ys e) = outSeq ys e := by
  unfold outSeq
  rw [cut_map_next_append]
  cases e <;> simp [End.toNotifs]

theorem cut_eq_outSeq {α} (raw : List (Notif α)) : cut raw = outSeq (elems raw) (fin raw) := by
  induction raw with
  | nil => rfl
  | cons n r ih =>
    cases n with
    | next v => simpa [outSeq] using ih
    | error e => simp [outSeq, End.toNotifs]
    | completed => simp [outSeq, End.toNotifs]

@[simp] theorem elems_outSeq {α} (xs : List α) (e : End) : elems (outSeq xs e) = xs := by
  induction xs with
  | nil => cases e <;> rfl
  | cons x xs ih => simpa [outSeq] using ih

@[simp] theorem fin_outSeq {α} (xs : List α) (e : End) : fin (outSeq (β := α) xs e) = e := by
  induction xs with
  | nil => cases e <;> rfl
  | cons x xs ih => simpa [outSeq, fin] using ih

@[simp] theorem elems_toNotifs {α} (e : End) : elems (e.toNotifs : List (Notif α)) = [] := elems_outSeq [] e
@[simp] theorem fin_toNotifs {α} (e : End) : fin (e.toNotifs : List (Notif α)) = e := fin_outSeq [] e
@[simp] theorem elems_cut {α} (raw : List (Notif α)) : elems (cut raw) = elems raw := by
  rw [cut_eq_outSeq]; simp
@[simp] theorem fin_cut {α} (raw : List (Notif α)) : fin (cut raw) = fin raw := by
  rw [cut_eq_outSeq]; simp

/-! What one call does to an `Ado` whose callbacks do not raise: every proof below reads `Ado.step` through these. -/

theorem ado_open {β} (a : Ado) (h : a.stopped = false) (n : Notif β) :
    Ado.step noRaise a (toCall n)
      = ({ stopped := n.isTerminal, cbs := a.cbs + 1 }, ⟨some n, false, if n.isTerminal then 1 else 0⟩) := by
  obtain ⟨_, k⟩ := a; subst h; cases n <;> rfl

theorem ado_stopped {β} (a : Ado) (h : a.stopped = true) (n : Notif β) :
    Ado.step noRaise a (toCall n) = (a, ⟨none, false, 0⟩) := by
  obtain ⟨_, k⟩ := a; subst h; cases n <;> rfl

theorem disposeAdo_eq (a : Ado) : disposeAdo a = { stopped := true, cbs := a.cbs } := rfl

theorem feed_stopped {β} (d : Ado) (h : d.stopped = true) (out : List (Notif β)) : feed d out = (d, [], false) := by
  induction out with
  | nil => rfl
  | cons o out ih => simp [feed, ado_stopped d h, ih]

theorem feed_open {β} (d : Ado) (h : d.stopped = false) (out : List (Notif β)) :
    ∃ d', feed d out = (d', cut out, hasTerminal out) ∧ d'.stopped = hasTerminal out := by
  induction out generalizing d with
  | nil => exact ⟨d, rfl, h⟩
  | cons o out ih =>
    cases o with
    | next v =>
      obtain ⟨d', hf, hd'⟩ := ih { stopped := false, cbs := d.cbs + 1 } rfl
      exact ⟨d', by simp [feed, ado_open d h, Notif.isTerminal, hf], hd'⟩
    | error e => exact ⟨⟨true, d.cbs + 1⟩, by simp [feed, ado_open d h, Notif.isTerminal, feed_stopped], rfl⟩
    | completed => exact ⟨⟨true, d.cbs + 1⟩, by simp [feed, ado_open d h, Notif.isTerminal, feed_stopped], rfl⟩

theorem emits_cut {α β} (op : Op α β) (s : op.σ) (raw : List (Notif α)) :
    op.emits s (cut raw) = op.emits s raw := by
  induction raw generalizing s with
  | nil => rfl
  | cons n r ih => cases n <;> simp [Op.emits, Notif.isTerminal, ih]

theorem emits_eq_emitsSeq {α β} (op : Op α β) (s : op.σ) (raw : List (Notif α)) :
    op.emits s raw = op.emitsSeq s (elems raw) (fin raw) := by
  induction raw generalizing s with
  | nil => rfl
  | cons n r ih =>
    cases n with
    | next v => simp [Op.emits, Notif.isTerminal, Op.emitsSeq, Op.handle, ih]
    | error e => simp [Op.emits, Notif.isTerminal, Op.emitsSeq, Op.handle]
    | completed => simp [Op.emits, Notif.isTerminal, Op.emitsSeq, Op.handle]

theorem sem_eq_seq {α β} (op : Op α β) (raw : List (Notif α)) :
    op.sem raw = cut (op.pre ++ (if op.sub then op.emitsSeq op.init (elems raw) (fin raw) else [])) := by
  simp [Op.sem, emits_eq_emitsSeq]

theorem sem_cut {α β} (op : Op α β) (raw : List (Notif α)) : op.sem (cut raw) = op.sem raw := by
  simp [Op.sem, emits_cut]

@[simp] theorem cut_sem {α β} (op : Op α β) (raw : List (Notif α)) : cut (op.sem raw) = op.sem raw := by
  simp [Op.sem]

theorem visible_cons {β} (x : StepOut β) (r : List (StepOut β)) : visible (x :: r) = x.vis ++ visible r := by
  simp [visible]

theorem runFrom_up_stopped {α β} (lag : Bool) (op : Op α β) (s : RS op.σ) (h : s.up.stopped = true)
    (raw : List (Notif α)) : visible (op.runFrom lag s raw) = [] := by
  induction raw generalizing s with
  | nil => rfl
  | cons n r ih => simpa [Op.runFrom, Op.step, ado_stopped s.up h, visible_cons] using ih _ h

theorem step_down_stopped {α β} (lag : Bool) (op : Op α β) (s : RS op.σ) (h : s.down.stopped = true) (n : Notif α) :
    (op.step lag s n).1.down = s.down ∧ (op.step lag s n).2.vis = [] := by
  simp only [Op.step]
  cases (Ado.step noRaise s.up (toCall n)).2.delivered with
  | none => exact ⟨rfl, rfl⟩
  | some m => simp only [feed_stopped s.down h]; exact ⟨trivial, trivial⟩

theorem runFrom_down_stopped {α β} (lag : Bool) (op : Op α β) (s : RS op.σ) (h : s.down.stopped = true)
    (raw : List (Notif α)) : visible (op.runFrom lag s raw) = [] := by
  induction raw generalizing s with
  | nil => rfl
  | cons n r ih =>
    obtain ⟨hd, hv⟩ := step_down_stopped lag op s h n
    rw [Op.runFrom, visible_cons, hv, ih _ (hd ▸ h)]; rfl

theorem disposeAdo_stopped (a : Ado) : (disposeAdo a).stopped = true := rfl

theorem runFrom_sem {α β} (lag : Bool) (op : Op α β) (s : RS op.σ) (hu : s.up.stopped = false)
    (hd : s.down.stopped = false) (raw : List (Notif α)) :
    visible (op.runFrom lag s raw) = cut (op.emits s.st raw) := by
  induction raw generalizing s with
  | nil => rfl
  | cons n r ih =>
    simp only [Op.runFrom, visible_cons, Op.emits]
    obtain ⟨d', hf, hd'⟩ := feed_open s.down hd (op.handle s.st n).out
    have hstep : op.step lag s n
        = (⟨⟨n.isTerminal || ((hasTerminal (op.handle s.st n).out && !lag) || (op.handle s.st n).disp), s.up.cbs + 1⟩,
              (op.handle s.st n).st, d'⟩,
            ⟨(op.handle s.st n).out, cut (op.handle s.st n).out, (op.handle s.st n).esc⟩) := by
      simp only [Op.step, ado_open s.up hu, hf]
      cases (hasTerminal (op.handle s.st n).out && !lag) || (op.handle s.st n).disp <;> simp [disposeAdo_eq]
    rw [hstep, cut_append]
    congr 1
    cases hT : hasTerminal (op.handle s.st n).out
    · -- downstream still open; upstream closed by a terminal input or by the handler
      cases hc : n.isTerminal || (op.handle s.st n).disp
      · simpa [hc] using ih _ (by simp) (hd'.trans hT)
      · simpa [hc] using runFrom_up_stopped lag op _ (by simp) r
    · exact runFrom_down_stopped lag op _ (hd'.trans hT) r

theorem run_sem {α β} (lag : Bool) (op : Op α β) (raw : List (Notif α)) :
    visible (op.run lag raw) = op.sem raw := by
  simp only [Op.run, visible_cons, Op.start, Op.sem]
  obtain ⟨d', hf, hd'⟩ := feed_open {} rfl op.pre
  rw [hf, cut_append]
  congr 1
  cases hT : hasTerminal op.pre
  · cases hsub : op.sub
    · simpa using runFrom_up_stopped lag op _ (by simp [disposeAdo_eq]) raw
    · simpa using runFrom_sem lag op _ (by simp) (hd'.trans hT) raw
  · exact runFrom_down_stopped lag op _ (hd'.trans hT) raw

def Op.stateAfter {α β} (lag : Bool) (op : Op α β) : RS op.σ → List (Notif α) → RS op.σ
  | s, [] => s
  | s, n :: ns => Op.stateAfter lag op (op.step lag s n).1 ns

theorem runFrom_append {α β} (lag : Bool) (op : Op α β) (s : RS op.σ) (a b : List (Notif α)) :
    op.runFrom lag s (a ++ b) = op.runFrom lag s a ++ op.runFrom lag (op.stateAfter lag s a) b := by
  induction a generalizing s with
  | nil => rfl
  | cons n a ih => simp [Op.runFrom, Op.stateAfter, ih]

theorem runFrom_length {α β} (lag : Bool) (op : Op α β) (s : RS op.σ) (a : List (Notif α)) :
    (op.runFrom lag s a).length = a.length := by
  induction a generalizing s with
  | nil => rfl
  | cons n a ih => simp [Op.runFrom, ih]

theorem runFrom_take {α β} (lag : Bool) (op : Op α β) (s : RS op.σ) (raw : List (Notif α)) (k : Nat) :
    (op.runFrom lag s raw).take k = op.runFrom lag s (raw.take k) := by
  induction raw generalizing s k with
  | nil => simp [Op.runFrom]
  | cons n r ih =>
    cases k with
    | zero => simp [Op.runFrom]
    | succ k => simp [Op.runFrom, ih]

theorem run_take {α β} (lag : Bool) (op : Op α β) (raw : List (Notif α)) (k : Nat) :
    (op.run lag raw).take (k + 1) = op.run lag (raw.take k) := by
  simp only [Op.run, List.take_succ_cons, runFrom_take]

/-- state after the handlers ran over an input list, and whether they stopped being called
(terminal input, or a handler disposed its source) -/
def Op.after {α β} (op : Op α β) : op.σ → List (Notif α) → op.σ × Bool
  | s, [] => (s, false)
  | s, n :: ns =>
    if n.isTerminal || (op.handle s n).disp then ((op.handle s n).st, true)
    else Op.after op (op.handle s n).st ns

theorem emits_append {α β} (op : Op α β) (s : op.σ) (a b : List (Notif α)) :
    op.emits s (a ++ b) = op.emits s a ++
      (if (op.after s a).2 then [] else op.emits (op.after s a).1 b) := by
  induction a generalizing s with
  | nil => simp [Op.emits, Op.after]
  | cons n a ih =>
    simp only [List.cons_append, Op.emits, Op.after]
    split <;> simp [*]

theorem feedMid_stopped {β γ} (b : Op β γ) (m : Ado) (h : m.stopped = true) (sb : b.σ) (ys : List (Notif β)) :
    feedMid b m sb ys = ⟨m, sb, [], none⟩ := by
  induction ys with
  | nil => rfl
  | cons y ys ih => simp [feedMid, ado_stopped m h, ih]

theorem feedMid_open {β γ} (b : Op β γ) (m : Ado) (h : m.stopped = false) (sb : b.σ) (ys : List (Notif β)) :
    ∃ m' esc, feedMid b m sb ys = ⟨m', (b.after sb ys).1, b.emits sb ys, esc⟩ ∧ m'.stopped = (b.after sb ys).2 := by
  induction ys generalizing m sb with
  | nil => exact ⟨m, none, rfl, h⟩
  | cons y ys ih =>
    -- closed by a terminal of the first stage, or by the second stage disposing its source
    cases hu : y.isTerminal || (b.handle sb y).disp
    · obtain ⟨hn, hd⟩ := Bool.or_eq_false_iff.mp hu
      obtain ⟨m', esc, hf, hm'⟩ := ih { stopped := false, cbs := m.cbs + 1 } rfl (b.handle sb y).st
      exact ⟨m', (b.handle sb y).esc.orElse fun _ => esc,
        by simp [feedMid, ado_open m h, Op.emits, Op.after, hn, hd, hf], by simp [Op.after, hu, hm']⟩
    · exact ⟨⟨true, m.cbs + 1⟩, (b.handle sb y).esc.orElse fun _ => none, by
        cases hd : (b.handle sb y).disp <;>
        simp_all [feedMid, ado_open m h, disposeAdo_eq, Op.emits, Op.after, feedMid_stopped], by simp [Op.after, hu]⟩

theorem comp_handle {α β γ} (a : Op α β) (b : Op β γ) (sa : a.σ) (m : Ado) (sb : b.σ) (n : Notif α) :
    (a.comp b).handle (sa, m, sb) n =
      ⟨((a.handle sa n).st, (feedMid b m sb (a.handle sa n).out).mid, (feedMid b m sb (a.handle sa n).out).st),
       (feedMid b m sb (a.handle sa n).out).out,
       (a.handle sa n).esc.orElse (fun _ => (feedMid b m sb (a.handle sa n).out).esc),
       (a.handle sa n).disp || (feedMid b m sb (a.handle sa n).out).mid.stopped⟩ := by
  cases n <;> rfl

theorem emits_comp {α β γ} (a : Op α β) (b : Op β γ) (sa : a.σ) (m : Ado) (hm : m.stopped = false) (sb : b.σ)
    (raw : List (Notif α)) : (a.comp b).emits (sa, m, sb) raw = b.emits sb (a.emits sa raw) := by
  induction raw generalizing sa m sb with
  | nil => simp [Op.emits]
  | cons n r ih =>
    simp only [Op.emits]
    rw [comp_handle, emits_append]
    obtain ⟨m', esc, hf, hm'⟩ := feedMid_open b m hm sb (a.handle sa n).out
    rw [hf]
    congr 1
    cases hE : (b.after sb (a.handle sa n).out).2
    · cases hn : n.isTerminal <;> cases hd : (a.handle sa n).disp <;> simp [Op.emits, hm', hE, ih _ m' (hm'.trans hE)]
    · simp [hm', hE]

theorem sem_comp {α β γ} (a : Op α β) (b : Op β γ) (raw : List (Notif α)) :
    (a.comp b).sem raw = b.sem (a.sem raw) := by
  have hR : b.sem (a.sem raw) = cut (b.pre ++ if b.sub then b.emits b.init (a.pre ++ if a.sub then a.emits a.init raw else []) else []) := by
    simp [Op.sem, emits_cut]
  rw [hR]
  cases hb : b.sub
  · simp [Op.sem, hb]
  · simp only [Op.sem, hb, if_true, Bool.true_and]
    obtain ⟨m', esc, hf, hm'⟩ := feedMid_open b {} rfl b.init a.pre
    rw [emits_append, hf]
    simp only [List.append_assoc]
    congr 2
    cases hE : (b.after b.init a.pre).2
    · cases ha : a.sub
      · simp [Op.emits, hm', hE]
      · simp [hm', hE, emits_comp a b a.init m' (hm'.trans hE)]
    · simp [hm', hE]

end Ops
