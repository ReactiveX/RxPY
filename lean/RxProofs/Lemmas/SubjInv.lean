import RxProofs.Lemmas.SubjStep
/-!
# Invariants of the Subject / BehaviorSubject / AsyncSubject machine

`members` and `detached` are the *declarative* readings of the property text over the ghost trace
("subscribed and not unsubscribed at the time"); `SInv` ties the code-level state (observer list surgery,
AutoDetachObserver flags, SingleAssignmentDisposable contents) to them and is preserved by every step
of every history and every reaction script: along `Reach`, the configurations all properties quantify over.
-/

namespace Subj
variable {α : Type}

/-- Observers *subscribed at the time*, in subscription order: subscribed, not unsubscribed since, the
subject neither terminated nor disposed since.  (Trace is newest-first.) -/
def members : List (Ev α) → List Id
  | [] => []
  | .sub i :: tr => members tr ++ [i]
  | .unsub i :: tr => (members tr).erase i
  | .emit n :: tr => if n.isTerminal then [] else members tr
  | .disp :: _ => []
  | .recv _ _ :: tr => members tr

/-- Observer `i` has been unsubscribed (its handle disposed) or has already been given a terminal. -/
def detached (i : Id) : List (Ev α) → Bool
  | [] => false
  | .unsub j :: tr => decide (j = i) || detached i tr
  | .recv j n :: tr => (decide (j = i) && n.isTerminal) || detached i tr
  | _ :: tr => detached i tr

structure SInv (st : St α) : Prop where
  mem : st.observers = members st.tr
  det : ∀ i, st.adoStopped i = detached i st.tr
  dispStop : st.disposed = true → st.stopped = true
  stopEmpty : st.stopped = true → st.observers = []
  nodup : st.observers.Nodup
  obsSeen : ∀ i ∈ st.observers, st.seen i = true
  -- second case: `i` is still inside its own `subscribe`, before `finish`
  link : ∀ i ∈ st.observers, st.sadDisposed i = false ∧
      (st.cur i = some .inner ∨ (st.handle i = false ∧ st.cur i = none))
  fresh : ∀ i, st.seen i = false →
      st.adoStopped i = false ∧ st.handle i = false ∧ st.sadDisposed i = false ∧ st.cur i = none ∧ st.log i = []

def TaskOK (st : St α) : Task α → Prop
  | .emit _ => True
  | .act _ _ => True
  | .deliver i n => st.seen i = true ∧ (n.isTerminal = true → st.stopped = true)
  | .finish j h => st.seen j = true ∧ (h ≠ some .inner → st.stopped = true)
  | .sadDispose i => st.seen i = true ∧ st.stopped = true

def Mono (st st' : St α) : Prop :=
  (∀ i, st.seen i = true → st'.seen i = true) ∧ (st.stopped = true → st'.stopped = true)

theorem Mono.refl (st : St α) : Mono st st := ⟨fun _ h => h, fun h => h⟩

theorem Mono.trans {a b c : St α} (h1 : Mono a b) (h2 : Mono b c) : Mono a c :=
  ⟨fun i h => h2.1 i (h1.1 i h), fun h => h2.2 (h1.2 h)⟩

theorem TaskOK.mono {st st' : St α} (h : Mono st st') {t : Task α} (ht : TaskOK st t) : TaskOK st' t := by
  obtain ⟨h1, h2⟩ := h
  cases t with
  | emit n => trivial
  | act w a => trivial
  | deliver i n => exact ⟨h1 _ ht.1, fun hn => h2 (ht.2 hn)⟩
  | finish j h => exact ⟨h1 _ ht.1, fun hn => h2 (ht.2 hn)⟩
  | sadDispose i => exact ⟨h1 _ ht.1, h2 ht.2⟩

@[simp, grind =] theorem upd_apply {β : Type} (f : Id → β) (i j : Id) (v : β) : upd f i v j = if j = i then v else f j := rfl

/-! ## What the state-to-state primitives write

One record update each, the case distinctions of the code inside the written fields. -/

theorem innerDispose_eq (st : St α) (i : Id) :
    innerDispose st i = { st with observers := if st.disposed then st.observers else st.observers.erase i } := by
  unfold innerDispose; split <;> rfl

theorem sadDispose_eq (st : St α) (i : Id) :
    sadDispose st i = if st.sadDisposed i then st else
      { st with sadDisposed := upd st.sadDisposed i true, cur := upd st.cur i none,
                observers := if st.cur i = some .inner ∧ st.disposed = false then st.observers.erase i
                             else st.observers } := by
  unfold sadDispose
  split
  · rfl
  · simp only [innerDispose_eq]
    cases hd : st.disposed <;> split <;> simp_all

/-- For those who need not know what: `sadDispose` writes the holder and may erase from the list, nothing else. -/
theorem sadDispose_writes (st : St α) (i : Id) :
    ∃ sd c obs, sadDispose st i = { st with sadDisposed := sd, cur := c, observers := obs } := by
  rw [sadDispose_eq]; split <;> exact ⟨_, _, _, rfl⟩

theorem finish_eq (st : St α) (j : Id) (h : Option Held) :
    finish st j h =
      { st with handle := upd st.handle j true,
                cur := if h.isSome ∧ st.sadDisposed j = false then upd st.cur j h else st.cur,
                observers := if h = some .inner ∧ st.sadDisposed j = true ∧ st.disposed = false
                             then st.observers.erase j else st.observers } := by
  unfold finish
  rcases h with _ | _ | _ <;> cases hs : st.sadDisposed j <;> cases hd : st.disposed <;> simp [*, innerDispose_eq]

/-! ## The invariant under the elementary writes

`{ hI with … }` is accepted at the written state: the clauses that read no written field are the old ones up to
unfolding the record update. -/

namespace SInv
variable {st : St α}

theorem fresh_ado (hI : SInv st) {i : Id} (h : st.seen i = false) : st.adoStopped i = false := (hI.fresh i h).1
theorem fresh_handle (hI : SInv st) {i : Id} (h : st.seen i = false) : st.handle i = false := (hI.fresh i h).2.1
theorem fresh_log (hI : SInv st) {i : Id} (h : st.seen i = false) : st.log i = [] := (hI.fresh i h).2.2.2.2

theorem undisposed (hI : SInv st) (hs : st.stopped = false) : st.disposed = false := by
  cases hd : st.disposed with
  | false => rfl
  | true => rw [hI.dispStop hd] at hs; cases hs

theorem seen_of_handle (hI : SInv st) {i : Id} (hh : st.handle i = true) : st.seen i = true := by
  cases hs : st.seen i with
  | true => rfl
  | false => rw [hI.fresh_handle hs] at hh; exact absurd hh (by simp)

theorem inner_of_mem (hI : SInv st) {i : Id} (hm : i ∈ st.observers) (hh : st.handle i = true) :
    st.cur i = some .inner ∧ st.disposed = false := by
  refine ⟨?_, ?_⟩
  · rcases (hI.link i hm).2 with h | h
    · exact h
    · rw [hh] at h; exact absurd h.1 (by simp)
  · cases hd : st.disposed with
    | false => rfl
    | true => rw [hI.stopEmpty (hI.dispStop hd)] at hm; exact absurd hm (by simp)

theorem fresh_seen (hI : SInv st) {i : Id} (hi : st.seen i = true) {a sd h : Id → Bool} {c : Id → Option Held}
    {l : Id → List (Notif α)}
    (e : ∀ k, k ≠ i → a k = st.adoStopped k ∧ h k = st.handle k ∧ sd k = st.sadDisposed k ∧ c k = st.cur k ∧ l k = st.log k) :
    ∀ k, st.seen k = false → a k = false ∧ h k = false ∧ sd k = false ∧ c k = none ∧ l k = [] := fun k hk => by
  obtain ⟨e1, e2, e3, e4, e5⟩ := e k fun e => by rw [e, hi] at hk; cases hk
  rw [e1, e2, e3, e4, e5]; exact hI.fresh k hk

theorem det_stop (hI : SInv st) (i : Id) (e : Ev α)
    (he : ∀ k, detached k (e :: st.tr) = (decide (i = k) || detached k st.tr)) :
    ∀ k, upd st.adoStopped i true k = detached k (e :: st.tr) := fun k => by
  by_cases h : k = i
  · subst h; simp [he]
  · simp [he, h, Ne.symm h, hI.det k]

theorem see (hI : SInv st) (j : Id) : SInv { st with seen := upd st.seen j true } :=
  { hI with
    obsSeen := fun i hi => by simp [hI.obsSeen i hi]
    fresh := fun i hi => hI.fresh i (by simp only [upd_apply] at hi; split at hi <;> simp_all) }

theorem unread (hI : SInv st) (x : Option Err) (b : Bool) : SInv { st with raisedNow := x, oof := b } :=
  { hI with }

theorem raiseTo (hI : SInv st) (who : Option Id) (e : Err) : SInv (raiseTo who e st) := by
  cases who <;> exact { hI with }

theorem setLog (hI : SInv st) {i : Id} (hi : st.seen i = true) (l : List (Notif α)) (c : Id → Nat) :
    SInv { st with log := upd st.log i l, cbs := c } :=
  { hI with fresh := hI.fresh_seen hi fun k e => by simp [e] }

theorem recvNext (hI : SInv st) (i : Id) (v : α) : SInv { st with tr := .recv i (.next v) :: st.tr } :=
  { hI with det := fun k => by simpa [detached, Notif.isTerminal] using hI.det k }

theorem recvTerm (hI : SInv st) {i : Id} (hi : st.seen i = true) {n : Notif α} (hn : n.isTerminal = true) :
    SInv { st with adoStopped := upd st.adoStopped i true, tr := .recv i n :: st.tr } :=
  { hI with
    det := hI.det_stop i _ fun k => by simp [detached, hn]
    fresh := hI.fresh_seen hi fun k e => by simp [e] }

theorem setHolder (hI : SInv st) {i : Id} (hi : st.seen i = true) (ho : i ∉ st.observers) (sd hd : Id → Bool)
    (c : Id → Option Held)
    (h : ∀ k, k ≠ i → sd k = st.sadDisposed k ∧ c k = st.cur k ∧ hd k = st.handle k) :
    SInv { st with sadDisposed := sd, cur := c, handle := hd } :=
  { hI with
    link := fun k hk => by
      obtain ⟨h1, h2, h3⟩ := h k fun e => ho (e ▸ hk)
      simpa [h1, h2, h3] using hI.link k hk
    fresh := hI.fresh_seen hi fun k e => by simp [h k e] }

theorem attach (hI : SInv st) {j : Id} (hj : st.seen j = true) (hs : st.sadDisposed j = false) :
    SInv { st with handle := upd st.handle j true, cur := upd st.cur j (some .inner) } :=
  { hI with
    link := fun k hk => by
      by_cases e : k = j
      · subst e; simp [hs]
      · simpa [e] using hI.link k hk
    fresh := hI.fresh_seen hj fun k e => by simp [e] }

theorem emitNext (hI : SInv st) (v : α) (x : Option α) (b : Bool) :
    SInv { st with tr := .emit (.next v) :: st.tr, value := x, hasValue := b } :=
  { hI with }

theorem emitTerm (hI : SInv st) {n : Notif α} (hn : n.isTerminal = true) (x : Option Err) :
    SInv { st with tr := .emit n :: st.tr, stopped := true, observers := [], exception := x } :=
  { hI with
    mem := by simp [members, hn], dispStop := fun _ => rfl, stopEmpty := fun _ => rfl, nodup := List.nodup_nil
    obsSeen := nofun, link := nofun }

theorem subjDispose (hI : SInv st) : SInv (subjDispose st) :=
  { hI with
    mem := rfl, dispStop := fun _ => rfl, stopEmpty := fun _ => rfl, nodup := List.nodup_nil
    obsSeen := nofun, link := nofun }

theorem sub (hI : SInv st) {j : Id} (hj : st.seen j = false) (hs : st.stopped = false) :
    SInv { st with seen := upd st.seen j true, observers := st.observers ++ [j], tr := .sub j :: st.tr } := by
  have hjo : j ∉ st.observers := fun hm => by rw [hI.obsSeen j hm] at hj; exact absurd hj (by simp)
  obtain ⟨f1, f2, f3, f4, _⟩ := hI.fresh j hj
  exact { hI with
    mem := by simp [members, hI.mem]
    stopEmpty := fun h => by rw [hs] at h; exact absurd h (by simp)
    nodup := by
      simp only [List.nodup_append, hI.nodup, List.nodup_cons, List.not_mem_nil, not_false_eq_true, List.nodup_nil,
        and_self, List.mem_singleton, true_and]
      exact fun a ha b hb e => hjo (hb ▸ e ▸ ha)
    obsSeen := fun i hi => by
      rcases List.mem_append.mp hi with hi | hi
      · simp [hI.obsSeen i hi]
      · simp [List.mem_singleton.mp hi]
    link := fun i hi => by
      rcases List.mem_append.mp hi with hi | hi
      · exact hI.link i hi
      · rw [List.mem_singleton.mp hi]; exact ⟨f3, Or.inr ⟨f2, f4⟩⟩
    fresh := (hI.see j).fresh }

theorem unsub (hI : SInv st) {j : Id} (hj : st.seen j = true) :
    SInv { st with tr := .unsub j :: st.tr, adoStopped := upd st.adoStopped j true,
                   observers := st.observers.erase j, sadDisposed := upd st.sadDisposed j true,
                   cur := if st.sadDisposed j then st.cur else upd st.cur j none } :=
  { hI with
    mem := by simp [members, hI.mem]
    det := hI.det_stop j _ fun k => by simp [detached]
    stopEmpty := fun h => by simp [hI.stopEmpty h]
    nodup := hI.nodup.erase j
    obsSeen := fun k hk => hI.obsSeen k (List.mem_of_mem_erase hk)
    link := fun k hk => by
      have e : k ≠ j := fun e => (List.Nodup.mem_erase_iff hI.nodup).mp hk |>.1 e
      have := hI.link k (List.mem_of_mem_erase hk)
      split <;> simpa [e] using this
    fresh := hI.fresh_seen hj fun k e => by split <;> simp [e] }

end SInv

theorem sadDispose_of_not_mem {st : St α} {i : Id} (ho : i ∉ st.observers) :
    sadDispose st i = if st.sadDisposed i then st else
      { st with sadDisposed := upd st.sadDisposed i true, cur := upd st.cur i none } := by
  rw [sadDispose_eq, List.erase_of_not_mem ho, ite_self]

theorem sadDispose_inv {st : St α} {i : Id} (hI : SInv st) (hi : st.seen i = true) (ho : i ∉ st.observers) :
    SInv (sadDispose st i) := by
  rw [sadDispose_of_not_mem ho]
  split
  · exact hI
  · exact hI.setHolder hi ho _ _ _ fun k e => by simp [e]

theorem upd_eq_self {β : Type} {f : Id → β} {i : Id} {v : β} (h : f i = v) : upd f i v = f :=
  funext fun k => by by_cases e : k = i <;> simp [upd, e, h]

/-- Disposing the handle removes exactly `j`: an observer still in the list has the live `InnerSubscription` in its
holder, any other is not in the list anyway. -/
theorem SInv.doUnsub_eq {st : St α} (hI : SInv st) (j : Id) (hh : st.handle j = true) :
    doUnsub st j = { st with tr := .unsub j :: st.tr, adoStopped := upd st.adoStopped j true,
                             observers := st.observers.erase j, sadDisposed := upd st.sadDisposed j true,
                             cur := if st.sadDisposed j then st.cur else upd st.cur j none } := by
  rw [doUnsub_handle hh, sadDispose_eq]
  dsimp only
  split
  · next hs =>
    have hm : j ∉ st.observers := fun hm => by rw [(hI.link j hm).1] at hs; exact absurd hs (by simp)
    rw [List.erase_of_not_mem hm, upd_eq_self hs]
  · by_cases hm : j ∈ st.observers
    · rw [if_pos (hI.inner_of_mem hm hh)]
    · rw [List.erase_of_not_mem hm, ite_self]

theorem finish_inv {st : St α} (j : Id) (h : Option Held) (hI : SInv st) (ht : TaskOK st (.finish j h)) :
    SInv (finish st j h) := by
  have hj := ht.1
  rw [finish_eq]
  by_cases hm : j ∈ st.observers
  · -- only an `InnerSubscription` can be assigned while the subject is live
    have hs := (hI.link j hm).1
    have hin : h = some .inner := Decidable.byContradiction fun hn => by
      rw [hI.stopEmpty (ht.2 hn)] at hm; cases hm
    subst hin
    rw [if_pos (show (some Held.inner).isSome = true ∧ st.sadDisposed j = false from ⟨rfl, hs⟩), if_neg (by simp [hs])]
    exact hI.attach hj hs
  · rw [List.erase_of_not_mem hm, ite_self]
    exact hI.setHolder hj hm _ _ _ fun k e => by split <;> simp [e]

theorem reactions_ok (cfg : Cfg) (st st' : St α) (i : Id) : ∀ t ∈ reactions cfg st i, TaskOK st' t := by
  intro t ht
  obtain ⟨a, rfl⟩ := mem_reactions ht
  trivial

theorem deliverAll_ok {st : St α} {l : List Id} (hl : ∀ i ∈ l, st.seen i = true) (n : Notif α)
    (hn : n.isTerminal = true → st.stopped = true) : ∀ t ∈ l.map (Task.deliver · n), TaskOK st t := by
  intro t ht
  obtain ⟨i, hi, rfl⟩ := List.mem_map.mp ht
  exact ⟨hl i hi, hn⟩

/-- Each outcome is a composition of the elementary writes. -/
theorem Step.inv {cfg : Cfg} {st st' : St α} {t : Task α} {new : List (Task α)} {b : Bool}
    (h : Step cfg st t st' new b) (hI : SInv st) (ht : TaskOK st t) : SInv st' ∧ ∀ t' ∈ new, TaskOK st' t' := by
  have nil : ∀ {s : St α}, ∀ t' ∈ ([] : List (Task α)), TaskOK s t' := nofun
  have unseen : ∀ {j}, st.seen j = false → j ∉ st.observers ∧ upd st.seen j true j = true := fun hj =>
    ⟨fun hm => by rw [hI.obsSeen _ hm] at hj; exact absurd hj (by simp), by simp⟩
  have turn : ∀ {s : St α} {i : Id} {t : Task α}, TaskOK s t → ∀ t' ∈ reactions cfg st i ++ [t], TaskOK s t' :=
    fun ht t' h' => (List.mem_append.mp h').elim (reactions_ok _ _ _ _ _) fun h => List.mem_singleton.mp h ▸ ht
  cases h with
  | idle => exact ⟨hI, nil⟩
  | raise => exact ⟨hI.unread _ _, nil⟩
  | next v x b =>
    refine ⟨hI.emitNext v x b, ?_⟩
    split
    · exact nil
    · exact deliverAll_ok hI.obsSeen _ nofun
  | error e => exact ⟨hI.emitTerm rfl _, deliverAll_ok (st := { st with stopped := true }) hI.obsSeen _ fun _ => rfl⟩
  | completed new _ _ _ hn =>
    refine ⟨hI.emitTerm rfl _, ?_⟩
    rcases hn with rfl | ⟨_, v, rfl⟩
    · exact deliverAll_ok (st := { st with stopped := true }) hI.obsSeen _ fun _ => rfl
    · intro t ht
      obtain ⟨i, hi, ht⟩ := List.mem_flatMap.mp ht
      simp only [List.mem_cons, List.not_mem_nil, or_false] at ht
      rcases ht with rfl | rfl
      · exact ⟨hI.obsSeen i hi, nofun⟩
      · exact ⟨hI.obsSeen i hi, fun _ => rfl⟩
  | subRefused who j hj hd he =>
    exact ⟨((hI.see j).recvTerm (n := .error disposedExn) (unseen hj).2 rfl).setLog (unseen hj).2 _ _,
      turn ⟨(unseen hj).2, fun _ => hI.dispStop hd⟩⟩
  | subRaise who j e sd hj he hc hsd =>
    exact ⟨(((hI.see j).recvTerm (unseen hj).2 rfl).setHolder (unseen hj).2 (unseen hj).1 _ _ _
      fun k hk => ⟨hsd k hk, rfl, rfl⟩).raiseTo who _, nil⟩
  | subLive who j new hj hs hn =>
    have hjs : upd st.seen j true j = true := (unseen hj).2
    refine ⟨hI.sub hj hs, ?_⟩
    rcases hn with rfl | ⟨_, v, rfl⟩
    · exact fun t' h' => List.mem_singleton.mp h' ▸ ⟨hjs, fun hn => absurd rfl hn⟩
    · exact List.forall_mem_cons.mpr ⟨⟨hjs, nofun⟩, fun t' h' => List.mem_singleton.mp h' ▸ ⟨hjs, fun hn => absurd rfl hn⟩⟩
  | subLate who j pre hj hd hs hp =>
    have hjs : upd st.seen j true j = true := (unseen hj).2
    have tail : ∀ t' ∈ [Task.deliver j (termOf st), .finish j (some .noop)], TaskOK { st with seen := upd st.seen j true } t' :=
      List.forall_mem_cons.mpr ⟨⟨hjs, fun _ => hs⟩, fun t' h' => List.mem_singleton.mp h' ▸ ⟨hjs, fun _ => hs⟩⟩
    refine ⟨hI.see j, ?_⟩
    rcases hp with rfl | ⟨_, v, rfl⟩
    · exact tail
    · exact List.forall_mem_cons.mpr ⟨⟨hjs, nofun⟩, tail⟩
  | unsub who j hh =>
    rw [← doUnsub_handle hh, hI.doUnsub_eq j hh]
    exact ⟨hI.unsub (hI.seen_of_handle hh), nil⟩
  | dispose => exact ⟨hI.subjDispose, nil⟩
  | deliverNext i v => exact ⟨(hI.recvNext i v).setLog ht.1 _ _, reactions_ok _ _ _ _⟩
  | deliverTerm i n hs hn => exact ⟨(hI.recvTerm ht.1 hn).setLog ht.1 _ _, turn ⟨ht.1, ht.2 hn⟩⟩
  | deliverRaise i e =>
    have ho : i ∉ st.observers := by simp [hI.stopEmpty (ht.2 rfl)]
    exact ⟨(sadDispose_inv (hI.recvTerm ht.1 (n := .error e) rfl) ht.1 ho).unread _ _, nil⟩
  | fin j h => exact ⟨finish_inv j h hI ht, nil⟩
  | sad i => exact ⟨sadDispose_inv hI ht.1 (by simp [hI.stopEmpty ht.2]), nil⟩

/-- The observer whose own fields a task may write. -/
def Task.target : Task α → Option Id
  | .emit _ | .act _ .dispose => none
  | .act _ (.sub k) | .act _ (.unsub k) | .deliver k _ | .finish k _ | .sadDispose k => some k

structure Frame (w : Option Id) (st s' : St α) : Prop where
  oof : s'.oof = st.oof
  disposed : st.disposed = true → s'.disposed = true
  mono : Mono st s'
  ado : ∀ j, st.adoStopped j = true → s'.adoStopped j = true
  other : ∀ j, w ≠ some j → s'.log j = st.log j ∧ s'.adoStopped j = st.adoStopped j ∧
    s'.handle j = st.handle j ∧ s'.seen j = st.seen j

theorem Step.frame {cfg : Cfg} {st st' : St α} {t : Task α} {new : List (Task α)} {b : Bool}
    (h : Step cfg st t st' new b) : Frame t.target st st' := by
  cases h
  case idle | raise | next | error | completed =>
    exact ⟨rfl, id, ⟨fun _ => id, fun h => by simp [h]⟩, fun _ => id, fun _ _ => ⟨rfl, rfl, rfl, rfl⟩⟩
  case dispose => exact ⟨rfl, fun _ => rfl, ⟨fun _ => id, fun _ => rfl⟩, fun _ => id, fun _ _ => ⟨rfl, rfl, rfl, rfl⟩⟩
  -- the other outcomes write the per-observer fields at their own observer `k` only and clear no flag
  case subRaise who k e sd _ _ _ _ =>
    cases who <;> exact ⟨rfl, id, ⟨fun i h => by simp [raiseTo, h], id⟩, fun i h => by simp [raiseTo, h], fun j hj => by
      have e : j ≠ k := fun e => hj (e ▸ rfl)
      simp [raiseTo, e]⟩
  all_goals
    simp only [Task.target, callback, finish_eq, sadDispose_eq]
    try split -- the guard of `sadDispose` in `unsub`, `deliverRaise`, `sad`
  all_goals exact ⟨rfl, id, ⟨fun i h => by simp [h], id⟩, fun i h => by simp [h], fun j hj => by
    have e : ∀ {k}, ¬some k = some j → j ≠ k := fun hj e => hj (e ▸ rfl)
    simp [e hj]⟩

theorem step1_frame (cfg : Cfg) (st : St α) (t : Task α) : Frame t.target st (step1 cfg st t).1 :=
  (step1_step cfg st t).frame

theorem step1_mono (cfg : Cfg) (st : St α) (t : Task α) : Mono st (step1 cfg st t).1 :=
  (step1_frame cfg st t).mono

/-- Configurations (state, agenda) reachable from `(s0, ag0)` by any history of top-level calls, any
reaction scripts (they are part of `cfg`), any amount of fuel. -/
inductive Reach (cfg : Cfg) (s0 : St α) (ag0 : List (Task α)) : St α → List (Task α) → Prop
  | init : Reach cfg s0 ag0 s0 ag0
  | call {st : St α} (c : Call α) : Reach cfg s0 ag0 st [] → Reach cfg s0 ag0 { st with raisedNow := none } [c.toTask]
  | step {st : St α} {t : Task α} {ts : List (Task α)} : Reach cfg s0 ag0 st (t :: ts) →
      Reach cfg s0 ag0 (step1 cfg st t).1 (nextAgenda (step1 cfg st t) ts)
  | oof {st : St α} {ag : List (Task α)} : Reach cfg s0 ag0 st ag → Reach cfg s0 ag0 { st with oof := true } []

/-- Reachable from a fresh subject (`v` = initial value of a BehaviorSubject). -/
abbrev Reachable (cfg : Cfg) (v : Option α) (st : St α) (ag : List (Task α)) : Prop :=
  Reach cfg (init cfg v) [] st ag

theorem Reach.trans {cfg : Cfg} {s0 s1 s2 : St α} {a0 a1 a2 : List (Task α)}
    (h1 : Reach cfg s0 a0 s1 a1) (h2 : Reach cfg s1 a1 s2 a2) : Reach cfg s0 a0 s2 a2 := by
  induction h2 with
  | init => exact h1
  | call c _ ih => exact ih.call c
  | step _ ih => exact ih.step
  | oof _ ih => exact ih.oof

/-- The run principle for predicates on the state alone (no clause may read `raisedNow` or `oof`). -/
theorem Reach.state {cfg : Cfg} {s0 : St α} {ag0 : List (Task α)} {P : St α → Prop} (h0 : P s0)
    (hun : ∀ st x b, P st → P { st with raisedNow := x, oof := b })
    (hstep : ∀ {st t ts}, Reach cfg s0 ag0 st (t :: ts) → P st → P (step1 cfg st t).1)
    {st : St α} {ag : List (Task α)} (h : Reach cfg s0 ag0 st ag) : P st := by
  induction h with
  | init => exact h0
  | call c _ ih => exact hun _ _ _ ih
  | step hr ih => exact hstep hr ih
  | oof _ ih => exact hun _ _ _ ih

theorem reach_inv {cfg : Cfg} {s0 st : St α} {ag0 ag : List (Task α)} (h0 : SInv s0) (ha : ∀ t ∈ ag0, TaskOK s0 t)
    (h : Reach cfg s0 ag0 st ag) : SInv st ∧ ∀ t ∈ ag, TaskOK st t := by
  induction h with
  | init => exact ⟨h0, ha⟩
  | call c _ ih =>
    refine ⟨ih.1.unread _ _, fun t ht => ?_⟩
    rw [List.mem_singleton.mp ht]
    cases c <;> trivial
  | @step st t ts _ ih =>
    have hs := (step1_step cfg st t).inv ih.1 (ih.2 t (List.mem_cons_self ..))
    exact ⟨hs.1, fun t' ht' => (mem_nextAgenda ht').elim (hs.2 t') fun h =>
      (ih.2 t' (List.mem_cons_of_mem _ h)).mono (step1_mono cfg st t)⟩
  | oof _ ih => exact ⟨ih.1.unread _ _, nofun⟩

theorem init_inv (cfg : Cfg) (v : Option α) : SInv (init cfg v) := by
  unfold init
  split <;> refine ⟨?_,?_,?_,?_,?_,?_,?_,?_⟩ <;> simp [members, detached]

theorem reachable_inv {cfg : Cfg} {v : Option α} {st : St α} {ag : List (Task α)} (h : Reachable cfg v st ag) :
    SInv st ∧ ∀ t ∈ ag, TaskOK st t :=
  reach_inv (init_inv cfg v) (by simp) h

theorem exec_reach {cfg : Cfg} {s0 : St α} {ag0 : List (Task α)} (f : Nat) {st : St α} {ag : List (Task α)}
    (h : Reach cfg s0 ag0 st ag) : Reach cfg s0 ag0 (exec cfg f st ag) [] := by
  induction f generalizing st ag with
  | zero =>
    cases ag with
    | nil => simpa [exec] using h
    | cons t ts => simpa [exec] using h.oof
  | succ f ih =>
    cases ag with
    | nil => simpa [exec] using h
    | cons t ts => simpa [exec] using ih h.step

theorem run_reach {cfg : Cfg} {s0 : St α} {ag0 : List (Task α)} (f : Nat) {st : St α} (cs : List (Call α))
    (h : Reach cfg s0 ag0 st []) : Reach cfg s0 ag0 (run cfg f st cs).1 [] := by
  induction cs generalizing st with
  | nil => simpa [run] using h
  | cons c cs ih => exact ih (exec_reach f (h.call c))

/-- A stopped AutoDetachObserver never hands anything on again, whatever happens. -/
theorem Step.silent {cfg : Cfg} {st st' : St α} {t : Task α} {new : List (Task α)} {b : Bool} (h : Step cfg st t st' new b)
    (hI : SInv st) (j : Id) (hs : st.adoStopped j = true) : st'.log j = st.log j ∧ st'.adoStopped j = true := by
  refine ⟨?_, h.frame.ado j hs⟩
  -- only a reception writes a log, and the receiver's flag was not set
  have ne : ∀ {k}, st.adoStopped k = false → j ≠ k := fun hk e => by rw [e, hk] at hs; cases hs
  cases h with
  | idle | raise | next | error | completed | subLive | subLate | dispose => rfl
  | subRaise who => cases who <;> rfl
  | unsub | sad | deliverRaise => simp only [sadDispose_eq]; split <;> rfl
  | fin => rw [finish_eq]
  | subRefused who k hk => simp [callback, ne (hI.fresh_ado hk)]
  | deliverNext i v hi => simp [callback, ne hi]
  | deliverTerm i n hi => simp [callback, ne hi]

theorem reach_silent {cfg : Cfg} {v : Option α} {s0 st : St α} {ag0 ag : List (Task α)} (h0 : Reachable cfg v s0 ag0)
    (h : Reach cfg s0 ag0 st ag) (j : Id) (hs : s0.adoStopped j = true) :
    st.log j = s0.log j ∧ st.adoStopped j = true :=
  h.state (P := fun st => st.log j = s0.log j ∧ st.adoStopped j = true) ⟨rfl, hs⟩ (fun _ _ _ ih => ih) fun hr ih =>
    have := (step1_step cfg _ _).silent (reachable_inv (h0.trans hr)).1 j ih.2
    ⟨this.1.trans ih.1, this.2⟩

theorem reach_disposed {cfg : Cfg} {s0 st : St α} {ag0 ag : List (Task α)} (h : Reach cfg s0 ag0 st ag)
    (hd : s0.disposed = true) : st.disposed = true :=
  h.state (P := fun st => st.disposed = true) hd (fun _ _ _ ih => ih) fun _ ih => (step1_frame cfg _ _).disposed ih

end Subj
