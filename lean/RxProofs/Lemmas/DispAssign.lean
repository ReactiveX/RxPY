import RxProofs.Lemmas.DispBase
/-!
# Invariants behind C26 for SerialDisposable, MultipleAssignmentDisposable and the fixed
SingleAssignmentDisposable (they share `ASh`, `aCommon`)
-/
namespace Disp

def aProgSets (i : Nat) : ATh → Nat
  | (_, p) => p.count (.set i)

def aProgDisp : ATh → Nat
  | (_, p) => p.count .dispose

theorem aOut_sh (s : ASh) (ev l r p) :
    (ASh.out s ev l r p).1 = { s with log := s.log ++ ev :: (if l = [] then [.ret r] else []) } := by
  cases l <;> simp [ASh.out]

theorem aOut_w (s : ASh) (ev l r p) : (∀ i, pendW i (ASh.out s ev l r p).2 = l.count i ∧
    aProgSets i (ASh.out s ev l r p).2 = p.count (.set i)) ∧ aProgDisp (ASh.out s ev l r p).2 = p.count .dispose := by
  cases l <;> simp [ASh.out, pendW, aProgSets, aProgDisp]

def IsAStep (f : ASh → ATh → ASh × ATh) : Prop := f = serStep ∨ f = madStep ∨ f = sadStep

/-- The three classes differ in the assignment only: every other move of a thread is `aCommon`. -/
theorem aStep_eq (f : ASh → ATh → ASh × ATh) (hf : IsAStep f) (t : ATh) :
    (∃ v p, t = (.idle, .set v :: p)) ∨ ∀ s, f s t = aCommon s t := by
  obtain ⟨pc, prog⟩ := t
  rcases hf with rfl | rfl | rfl <;> cases pc <;> rcases prog with _ | ⟨_ | _ | _, _⟩ <;>
    first | exact .inr fun _ => rfl | exact .inl ⟨_, _, rfl⟩

theorem aStep_off_set (f : ASh → ATh → ASh × ATh) (hf : IsAStep f) (t : ATh)
    (h : ∀ v p, t ≠ (.idle, .set v :: p)) (s : ASh) : f s t = aCommon s t :=
  (aStep_eq f hf t).resolve_left (fun ⟨v, p, e⟩ => h v p e) s

theorem aStep_sh (P : ASh → Prop) (hc : ∀ s t, P s → P (aCommon s t).1) (f : ASh → ATh → ASh × ATh) (hf : IsAStep f)
    (hset : ∀ s v p, P s → P (f s (.idle, .set v :: p)).1) (t : ATh) : Sys.Pres f (fun s => P s.sh) t :=
  Sys.pres_sh f P t fun s h => by
    rcases aStep_eq f hf t with ⟨v, p, rfl⟩ | e
    · exact hset s v p h
    · rw [e]; exact hc s t h

/-- as `CConserve`: `item` with `dropped`, `sets` with `rej` -/
structure AConserve (s : ASh) (t : ATh) (r : ASh × ATh) (i : Nat) : Prop where
  item : r.1.cnt i + r.1.current.toList.count i + r.1.dropped i + pendW i r.2 + s.given i
    = s.cnt i + s.current.toList.count i + s.dropped i + pendW i t + r.1.given i
  sets : r.1.given i + r.1.rej i + aProgSets i r.2 = s.given i + s.rej i + aProgSets i t
  calls : r.1.dcalls + aProgDisp r.2 = s.dcalls + aProgDisp t

theorem aCommon_conserve (s : ASh) (t : ATh) (i : Nat) : AConserve s t (aCommon s t) i := by
  obtain ⟨pc, prog⟩ := t
  cases pc with
  | idle =>
    cases prog with
    | nil => exact ⟨rfl, rfl, rfl⟩
    | cons op prog =>
      cases op with
      | set j => exact ⟨rfl, rfl, rfl⟩
      | get => simp only [aCommon]; constructor <;> simp only [aOut_sh, aOut_w] <;> simp [pendW, aProgSets, aProgDisp]
      | dispose =>
        simp only [aCommon]
        split <;> constructor <;> simp only [aOut_sh, aOut_w] <;> simp [pendW, aProgSets, aProgDisp] <;> omega
  | pend l r =>
    match l with
    | [] => exact ⟨rfl, rfl, rfl⟩
    | [j] => constructor <;> simp [aCommon, pendW, aProgSets, aProgDisp, count_bump]; omega
    | j :: k :: l => constructor <;> simp [aCommon, pendW, aProgSets, aProgDisp, count_bump, List.count_cons]; omega
  | chk1 j => exact ⟨rfl, rfl, rfl⟩
  | chk0 => exact ⟨rfl, rfl, rfl⟩
  | after j => exact ⟨rfl, rfl, rfl⟩

theorem aStep_conserve (f : ASh → ATh → ASh × ATh) (hf : IsAStep f) (s : ASh) (t : ATh) (i : Nat) :
    AConserve s t (f s t) i := by
  rcases aStep_eq f hf t with ⟨v, p, rfl⟩ | e
  · -- raised (`rej`: SingleAssignment, assigned), or handed over: to a disposed container → call-outs; else held, and the old item
    -- → call-outs (Serial), `dropped` (MultipleAssignment), none (SingleAssignment)
    rcases hf with rfl | rfl | rfl <;> cases hc : s.current <;>
      simp only [serStep, madStep, sadStep, hc, Option.isSome_none, Option.isSome_some, Bool.false_eq_true, ↓reduceIte] <;>
      repeat' split
    all_goals constructor
    all_goals try simp only [aOut_sh, aOut_w]
    all_goals simp [hc, pendW, aProgSets, aProgDisp, count_bump, count_cons_inj AOp.set (fun _ _ => AOp.set.inj),
      List.count_cons] <;> omega
  · rw [e]; exact aCommon_conserve s t i

/-- `aCommon` writes the flags and `current` in the lock block of `dispose()` only (second disjunct), the other three never -/
structure ACommonSh (s s' : ASh) : Prop where
  flags : (s'.isDisposed = s.isDisposed ∧ s'.current = s.current ∧ s'.tookSome = s.tookSome ∧
      (s'.dcalls = s.dcalls ∨ s.isDisposed = true)) ∨
    (s.isDisposed = false ∧ s'.isDisposed = true ∧ s'.current = none ∧ s'.tookSome = (s.tookSome || s.current.isSome))
  dropped : s'.dropped = s.dropped
  rej : s'.rej = s.rej
  accepted : s'.accepted = s.accepted

theorem aCommon_sh (s : ASh) (t : ATh) : ACommonSh s (aCommon s t).1 := by
  obtain ⟨pc, prog⟩ := t
  unfold aCommon
  split
  · -- the first clause of `aCommon`: `dispose()`
    split <;> constructor <;> simp_all [aOut_sh]
  all_goals constructor <;> simp [aOut_sh]

structure AInv2 (s : ASh) : Prop where
  held : s.isDisposed = true → s.current = none
  dcall : 0 < s.dcalls → s.isDisposed = true

theorem a2_pres (f : ASh → ATh → ASh × ATh) (hf : IsAStep f) : ∀ t, Sys.Pres f (fun s => AInv2 s.sh) t := by
  refine aStep_sh AInv2 (fun s t ⟨h1, h2⟩ => ?_) f hf fun s v p ⟨h1, h2⟩ => ?_
  · rcases (aCommon_sh s t).flags with ⟨e1, e2, _, e4⟩ | ⟨_, e1, e2, _⟩
    · exact ⟨by rw [e1, e2]; exact h1, fun h => e1 ▸ e4.elim (fun e => h2 (e ▸ h)) id⟩
    · exact ⟨fun _ => e2, fun _ => e1⟩
  · -- a `set` stores into a live container only and never touches `dcalls`
    rcases hf with rfl | rfl | rfl <;> simp only [serStep, madStep, sadStep] <;> repeat' split
    all_goals constructor <;> simp only [aOut_sh]
    all_goals simp_all

def aQuiet (s : Sys ASh ATh) : Prop := ∀ t ∈ s.pcs, t = (CPc.idle, [])
instance (s : Sys ASh ATh) : Decidable (aQuiet s) := by unfold aQuiet; infer_instance

structure AInv (progs : List (List AOp)) (s : Sys ASh ATh) : Prop where
  item : ∀ i, s.sh.cnt i + s.sh.current.toList.count i + s.sh.dropped i + wsum (pendW i) s.pcs = s.sh.given i
  flags : AInv2 s.sh
  sets : ∀ i, s.sh.given i + s.sh.rej i + wsum (aProgSets i) s.pcs = wsum (fun p => p.count (AOp.set i)) progs
  calls : s.sh.dcalls + wsum aProgDisp s.pcs = wsum (fun p => p.count AOp.dispose) progs

theorem aInv_run (f : ASh → ATh → ASh × ATh) (hf : IsAStep f) (progs : List (List AOp)) (sched : List Nat) :
    AInv progs ((aInit progs).run f sched) where
  item i := Sys.conserve_run f (fun s => s.cnt i + s.current.toList.count i + s.dropped i) (·.given i) (pendW i)
    (fun s t => (aStep_conserve f hf s t i).item) (aInit progs) (wsum_map_zero _ _ _ fun _ => rfl) (by simp [aInit]) sched
  flags := Sys.run_inv f _ (a2_pres f hf) _ sched ⟨by simp [aInit], by simp [aInit]⟩
  sets i := by
    refine Sys.run_inv f _ (Sys.conserve_const f (fun s => s.given i + s.rej i) (aProgSets i) _
      fun s t => (aStep_conserve f hf s t i).sets) _ sched ?_
    simp [aInit, wsum_map, aProgSets]
  calls := by
    refine Sys.run_inv f _ (Sys.conserve_const f (·.dcalls) aProgDisp _
      fun s t => (aStep_conserve f hf s t 0).calls) _ sched ?_
    simp [aInit, wsum_map, aProgDisp]

theorem AInv.quiet {progs s} (h : AInv progs s) (hq : aQuiet s) (i : Nat) :
    s.sh.cnt i + s.sh.current.toList.count i + s.sh.dropped i + s.sh.rej i = wsum (fun p => p.count (AOp.set i)) progs := by
  have a := h.item i; have b := h.sets i
  rw [wsum_quiet (pendW i) _ _ hq rfl] at a; rw [wsum_quiet (aProgSets i) _ _ hq rfl] at b
  omega

theorem AInv.quiet_calls {progs s} (h : AInv progs s) (hq : aQuiet s) :
    s.sh.dcalls = wsum (fun p => p.count AOp.dispose) progs := by
  have c := h.calls
  rwa [wsum_quiet aProgDisp _ _ hq rfl] at c

theorem noDrop_pres (f : ASh → ATh → ASh × ATh) (hf : f = serStep ∨ f = sadStep) :
    ∀ t, Sys.Pres f (fun s => ∀ i, s.sh.dropped i = 0) t := by
  refine aStep_sh (fun s => ∀ i, s.dropped i = 0) (fun s t h => by rw [(aCommon_sh s t).dropped]; exact h) f
    (hf.elim .inl (.inr ∘ .inr)) fun s v p h i => ?_
  have h := h i
  rcases hf with rfl | rfl <;> simp only [serStep, sadStep] <;> repeat' split
  all_goals (try simp only [aOut_sh]); exact h

theorem noRej_pres (f : ASh → ATh → ASh × ATh) (hf : f = serStep ∨ f = madStep) :
    ∀ t, Sys.Pres f (fun s => ∀ i, s.sh.rej i = 0) t := by
  refine aStep_sh (fun s => ∀ i, s.rej i = 0) (fun s t h => by rw [(aCommon_sh s t).rej]; exact h) f
    (hf.elim .inl (.inr ∘ .inl)) fun s v p h i => ?_
  have h := h i
  rcases hf with rfl | rfl <;> simp only [serStep, madStep] <;> repeat' split
  all_goals (try simp only [aOut_sh]); exact h

/-- fixed SingleAssignmentDisposable: every assignment that was stored is still in `current` or was swapped out by `dispose()`;
the two flag facts are what keeps that through `dispose()` and `set` -/
structure SadOnce (s : ASh) : Prop where
  once : s.accepted = s.current.isSome.toNat + s.tookSome.toNat
  took : s.tookSome = true → s.isDisposed = true
  held : s.isDisposed = true → s.current = none

theorem sadOnce_pres : ∀ t, Sys.Pres sadStep (fun s => SadOnce s.sh) t := by
  refine aStep_sh SadOnce (fun s t ⟨h1, h2, h3⟩ => ?_) sadStep (.inr (.inr rfl)) fun s v p ⟨h1, h2, h3⟩ => ?_
  · have ea := (aCommon_sh s t).accepted
    rcases (aCommon_sh s t).flags with ⟨e1, e2, e3, _⟩ | ⟨hd, e1, e2, e3⟩
    · exact ⟨by rw [ea, e2, e3]; exact h1, by rw [e3, e1]; exact h2, by rw [e1, e2]; exact h3⟩
    · -- the swap: `tookSome` was false (the flag was), and takes over what `current` held
      constructor <;> simp only [ea, e1, e2, e3] <;> cases hc : s.current <;> cases ht : s.tookSome <;> simp_all
  · simp only [sadStep]
    split
    · exact ⟨h1, h2, h3⟩
    · split <;> constructor <;> simp only [aOut_sh] <;> simp_all

end Disp
