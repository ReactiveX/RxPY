import RxModel.Ops
import RxModel.AggBase
import RxProofs.Lemmas.StructFrame
/-!
# The frame theorem for the operator-handler catalogues of the other families (C04 / C44)

The element-wise operators (`RxModel/Ops*.lean`, property C05/C07/C08) and the aggregating operators
(`RxModel/Agg*.lean`, C06) are records `⟨σ, init, onNext, onError, onCompleted⟩`: the state type and
its initial value are fields of the record, i.e. the state is allocated when a subscription starts
(`op.start`), never when the operator is built or applied.  `ofOps` / `ofAgg` turn any such record
into a family of subscriptions (`Struct.Frame.Sys` with trivial shared state).
-/

namespace Struct.Catalogue
open Struct.Frame

variable {α β : Type}

def ofOps (lag : Bool) (op : Ops.Op α β) : Sys Unit (Ops.RS op.σ) (Notif α) (Notif β) where
  create := fun _ => ((op.start lag).1, ())
  step := fun _ s n => ((), (op.step lag s n).1, (op.step lag s n).2.vis)
  createOut := fun _ => (op.start lag).2.vis

theorem ofOps_framed (lag : Bool) (op : Ops.Op α β) : Framed (ofOps lag op) := ⟨fun _ => rfl, fun _ _ _ => rfl⟩

theorem ofOps_runI_from (lag : Bool) (op : Ops.Op α β) (evs : List (Notif α)) (st : Ops.RS op.σ) :
    runI (ofOps lag op) () (some st) (evs.map some) = Ops.visible (op.runFrom lag st evs) :=
  runI_some (ofOps lag op) () (fun st evs => Ops.visible (op.runFrom lag st evs)) (fun _ => rfl)
    (fun _ _ _ => by simp only [Ops.Op.runFrom, Ops.visible, List.flatMap_cons]; rfl) evs st

theorem ofOps_runI (lag : Bool) (op : Ops.Op α β) (evs : List (Notif α)) :
    runI (ofOps lag op) () none (none :: evs.map some) = Ops.visible (op.run lag evs) := by
  simp only [runI, Ops.Op.run, Ops.visible, List.flatMap_cons]
  congr 1
  exact ofOps_runI_from lag op evs _

def ofAgg (lag : Bool) (op : Agg.Op α β) : Sys Unit (Agg.RunSt op.σ) (Notif α) (Notif β) where
  create := fun _ => (op.start, ())
  step := fun _ s n => ((), (op.step lag s n).st, (op.step lag s n).out)

theorem ofAgg_framed (lag : Bool) (op : Agg.Op α β) : Framed (ofAgg lag op) := ⟨fun _ => rfl, fun _ _ _ => rfl⟩

theorem ofAgg_runI_from (lag : Bool) (op : Agg.Op α β) (evs : List (Notif α)) (st : Agg.RunSt op.σ) :
    runI (ofAgg lag op) () (some st) (evs.map some) = (op.steps lag st evs).flatMap (·.out) :=
  runI_some (ofAgg lag op) () (fun st evs => (op.steps lag st evs).flatMap (·.out)) (fun _ => rfl)
    (fun _ _ _ => by simp only [Agg.Op.steps, List.flatMap_cons]; rfl) evs st

theorem ofAgg_runI (lag : Bool) (op : Agg.Op α β) (evs : List (Notif α)) :
    runI (ofAgg lag op) () none (none :: evs.map some) = op.out lag evs := by
  simp only [runI, ofAgg, List.nil_append]
  exact ofAgg_runI_from lag op evs _

end Struct.Catalogue
