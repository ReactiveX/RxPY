import RxProofs.Lemmas.Basics
namespace List

theorem map_modify_comm {A B} (f : A → B) (h : A → A) (h' : B → B) (l : List A) (g : Nat)
    (hh : ∀ a, f (h a) = h' (f a)) : (l.modify g h).map f = (l.map f).modify g h' := by
  induction l generalizing g with
  | nil => simp
  | cons a l ih => cases g <;> simp_all [List.modify]

theorem map_modify_same {A B} (f : A → B) (h : A → A) (l : List A) (g : Nat) (hh : ∀ a, f (h a) = f a) :
    (l.modify g h).map f = l.map f := by
  rw [map_modify_comm f h id l g (by simpa using hh)]
  exact List.modify_id _ _

theorem modify_eq_of_none {A} (l : List A) (g : Nat) (f : A → A) (h : l[g]? = none) : l.modify g f = l := by
  rw [List.modify_eq_self]; exact Nat.le_of_not_lt (fun hl => by simp [List.getElem?_eq_getElem hl] at h)

theorem forall_mem_set {A} {P : A → Prop} {l : List A} {g : Nat} {a : A} (hl : ∀ x ∈ l, P x) (ha : P a) :
    ∀ x ∈ l.set g a, P x :=
  fun x hx => (List.mem_or_eq_of_mem_set hx).elim (hl x) (· ▸ ha)

theorem modify_congr_at {A : Type} (l : List A) (g : Nat) (f h : A → A) (hh : ∀ a, l[g]? = some a → f a = h a) :
    l.modify g f = l.modify g h := by
  cases hg : l[g]? with
  | none => rw [modify_eq_of_none _ _ _ hg, modify_eq_of_none _ _ _ hg]
  | some a => rw [modify_eq_set_of_getElem? hg, modify_eq_set_of_getElem? hg, hh a hg]

theorem all_modify {A : Type} {P : A → Prop} {l : List A} {g : Nat} {f : A → A} (h : ∀ a ∈ l, P a) (hf : ∀ a, P a → P (f a)) :
    ∀ a ∈ l.modify g f, P a := by
  cases hg : l[g]? with
  | none => rw [modify_eq_of_none _ _ _ hg]; exact h
  | some b => rw [modify_eq_set_of_getElem? hg]; exact forall_mem_set h (hf b (h b (mem_of_getElem? hg)))

theorem foldl_modify_get {A} (f : A → A) (hf : ∀ a, f (f a) = f a) (idx : List Nat) (l : List A) (j : Nat) :
    (idx.foldl (fun t g => t.modify g f) l)[j]? = (l[j]?).map (fun a => if j ∈ idx then f a else a) := by
  induction idx generalizing l with
  | nil => simp
  | cons i idx ih =>
    simp only [List.foldl]
    rw [ih, List.getElem?_modify]
    cases h : l[j]? with
    | none => simp
    | some a =>
      simp only [Option.map_some, Option.map_eq_map, Option.some.injEq, List.mem_cons]
      by_cases hij : i = j
      · subst hij; simp [hf]
      · have : ¬ j = i := fun e => hij e.symm
        simp [hij, this]

theorem modify_length_append {A} (l : List A) (a : A) (f : A → A) : (l ++ [a]).modify l.length f = l ++ [f a] := by
  induction l with
  | nil => rfl
  | cons b l ih => simp only [cons_append, length_cons, modify_succ_cons, ih]

theorem pairwise_mem {A} {R : A → A → Prop} {l : List A} {a b : A} (h : l.Pairwise R) (ha : a ∈ l) (hb : b ∈ l) :
    a = b ∨ R a b ∨ R b a := by
  induction l with
  | nil => cases ha
  | cons x l ih =>
    rw [List.pairwise_cons] at h
    rcases List.mem_cons.mp ha with rfl | ha' <;> rcases List.mem_cons.mp hb with rfl | hb'
    · exact Or.inl rfl
    · exact Or.inr (Or.inl (h.1 _ hb'))
    · exact Or.inr (Or.inr (h.1 _ ha'))
    · exact ih h.2 ha' hb'

end List
