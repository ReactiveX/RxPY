import RxProofs.Lemmas.Ops
import RxModel.OpsElem
/-!
# Naturality (C08): renaming the elements commutes with an operator whose handlers do not look at them

Two operators are related handler by handler through a map of their states (`Op.Nat`); one induction makes their
semantics commute with the renaming (`Natural`), which is closed under `Op.comp`.
-/
namespace Ops
variable {α α' β β' γ γ' κ κ' : Type}

def mapN (ρ : α → α') (l : List (Notif α)) : List (Notif α') := l.map (Notif.map ρ)

@[simp] theorem elems_mapN (ρ : α → α') (raw : List (Notif α)) : elems (mapN ρ raw) = (elems raw).map ρ := by
  induction raw with
  | nil => rfl
  | cons n r ih => cases n <;> simp_all [mapN, Notif.map]

@[simp] theorem fin_mapN (ρ : α → α') (raw : List (Notif α)) : fin (mapN ρ raw) = fin raw := by
  induction raw with
  | nil => rfl
  | cons n r ih => cases n <;> simp_all [mapN, fin, Notif.map]

@[simp] theorem mapN_outSeq (ρ : α → α') (ys : List α) (e : End) : mapN ρ (outSeq ys e) = outSeq (ys.map ρ) e := by
  cases e <;> simp [mapN, outSeq, End.toNotifs, Notif.map, Function.comp_def]

@[simp] theorem mapN_toNotifs (ρ : α → α') (e : End) : mapN ρ (e.toNotifs : List (Notif α)) = e.toNotifs := by
  cases e <;> rfl

theorem mapN_cons_next (ρ : α → α') (x : α) (l) : mapN ρ (.next x :: l) = .next (ρ x) :: mapN ρ l := rfl

theorem cut_mapN (ρ : α → α') (l : List (Notif α)) : cut (mapN ρ l) = mapN ρ (cut l) := by
  induction l with
  | nil => rfl
  | cons n l ih => cases n <;> simp_all [mapN, Notif.map]

theorem mapN_append (g : β → β') (a b : List (Notif β)) : mapN g (a ++ b) = mapN g a ++ mapN g b := List.map_append

theorem mapN_id (l : List (Notif β)) : mapN id l = l := by
  induction l with
  | nil => rfl
  | cons n l ih => cases n <;> simp_all [mapN, Notif.map]

theorem isTerminal_map (ρ : α → α') (n : Notif α) : (n.map ρ).isTerminal = n.isTerminal := by cases n <;> rfl

def HOut.rename {σ σ' : Type} (φ : σ → σ') (g : β → β') (h : HOut σ β) : HOut σ' β' :=
  ⟨φ h.st, mapN g h.out, h.esc, h.disp⟩

theorem HOut.rename_emit {σ σ' : Type} (φ : σ → σ') (g : β → β') (s : σ) (out : List (Notif β)) :
    (emit s out).rename φ g = emit (φ s) (mapN g out) := rfl

/-- `op'` does on elements renamed by `ρ` what `op` does, calls renamed by `g`.  The state map `φ` is a function, so that
each field is an equation which the handler's own case tree closes. -/
structure Op.Nat (op : Op α β) (op' : Op α' β') (ρ : α → α') (g : β → β') (φ : op.σ → op'.σ) : Prop where
  init : op'.init = φ op.init := by rfl
  pre : op'.pre = mapN g op.pre := by rfl
  sub : op'.sub = op.sub := by rfl
  onNext : ∀ s x, op'.onNext (φ s) (ρ x) = (op.onNext s x).rename φ g
  onError : ∀ s e, op'.onError (φ s) e = (op.onError s e).rename φ g := by intros; rfl
  onCompleted : ∀ s, op'.onCompleted (φ s) = (op.onCompleted s).rename φ g := by intros; rfl

theorem Op.Nat.emits {op : Op α β} {op' : Op α' β'} {ρ : α → α'} {g : β → β'} {φ : op.σ → op'.σ}
    (h : op.Nat op' ρ g φ) (s : op.σ) (raw : List (Notif α)) :
    op'.emits (φ s) (mapN ρ raw) = mapN g (op.emits s raw) := by
  induction raw generalizing s with
  | nil => rfl
  | cons n r ih =>
    have hh : op'.handle (φ s) (n.map ρ) = (op.handle s n).rename φ g := by
      cases n
      · exact h.onNext s _
      · exact h.onError s _
      · exact h.onCompleted s
    show (op'.handle (φ s) (n.map ρ)).out ++ (if (n.map ρ).isTerminal || (op'.handle (φ s) (n.map ρ)).disp then []
      else op'.emits (op'.handle (φ s) (n.map ρ)).st (mapN ρ r)) = mapN g (_ ++ _)
    rw [hh, isTerminal_map, mapN_append]
    congr 1
    show (if n.isTerminal || (op.handle s n).disp then [] else op'.emits (φ (op.handle s n).st) (mapN ρ r)) = _
    rw [ih]
    split <;> rfl

def Natural (op : Op α β) (op' : Op α' β') (ρ : α → α') (g : β → β') : Prop :=
  ∀ raw, op'.sem (mapN ρ raw) = mapN g (op.sem raw)

theorem Op.Nat.natural {op : Op α β} {op' : Op α' β'} {ρ : α → α'} {g : β → β'} {φ : op.σ → op'.σ}
    (h : op.Nat op' ρ g φ) : Natural op op' ρ g := fun raw => by
  rw [Op.sem, Op.sem, ← cut_mapN, mapN_append, h.pre, h.sub, h.init, h.emits]
  cases op.sub <;> rfl

theorem Natural.comp {a : Op α β} {a' : Op α' β'} {b : Op β γ} {b' : Op β' γ'} {ρ : α → α'} {g : β → β'} {k : γ → γ'}
    (ha : Natural a a' ρ g) (hb : Natural b b' g k) : Natural (a.comp b) (a'.comp b') ρ k := fun raw => by
  rw [sem_comp, sem_comp, ha, hb]

/-- `lag` and `raw` come first so that the goal fixes `op` and `op'` before `h` is elaborated: a state map `φ := id` met
earlier unifies the two operators' state types by identifying the operators. -/
theorem Natural.run {op : Op α β} {op' : Op α' β'} {ρ : α → α'} {g : β → β'} (lag : Bool) (raw : List (Notif α))
    (h : Natural op op' ρ g) : visible (op'.run lag (mapN ρ raw)) = mapN g (visible (op.run lag raw)) := by
  rw [run_sem, run_sem, h]

theorem idOp_nat (ρ : α → α') : (idOp (α := α)).Nat idOp ρ ρ id := { onNext := fun _ _ => rfl }

theorem mapOp_nat (ρ : α → α') (g : β → β') (f : α → Except Err β) (f' : α' → Except Err β')
    (hf : ∀ x, f' (ρ x) = (f x).map g) : (mapOp f).Nat (mapOp f') ρ g id :=
  { onNext := fun s x => by simp only [mapOp, hf]; cases f x <;> rfl }

theorem zipIdx_nat (ρ : α → α') :
    (zipWithIterableOp (α := α) (fun i => some i)).Nat (zipWithIterableOp fun i => some i) ρ (Prod.map ρ id) id :=
  { onNext := fun _ _ => rfl }

theorem skipWhileOp_nat (ρ : α → α') (p : α → Except Err Bool) (p' : α' → Except Err Bool)
    (hp : ∀ x, p' (ρ x) = p x) : (skipWhileOp p).Nat (skipWhileOp p') ρ ρ id :=
  { onNext := fun running x => by
      cases running
      · simp only [skipWhileOp, hp, Bool.not_false, if_true]
        cases p x with
        | error e => rfl
        | ok b => cases b <;> rfl
      · rfl }

theorem pushBounded_map (ρ : α → α') (q : List α) (x : α) (count : Int) :
    pushBounded (q.map ρ) (ρ x) count = (pushBounded q x count).map ρ := by
  unfold pushBounded
  rw [← List.map_singleton, ← List.map_append, List.length_map]
  split <;> simp

theorem mapIndexedOp_natural (ρ : α → α') (g : β → β') (f : α → Nat → Except Err β) (f' : α' → Nat → Except Err β')
    (hf : ∀ x i, f' (ρ x) i = (f x i).map g) : Natural (mapIndexedOp f) (mapIndexedOp f') ρ g :=
  ((zipIdx_nat ρ).natural.comp (mapOp_nat (Prod.map ρ id) g _ _ fun t => hf t.1 t.2).natural).comp (idOp_nat g).natural

theorem skipWhileIndexedOp_natural (ρ : α → α') (p : α → Nat → Except Err Bool) (p' : α' → Nat → Except Err Bool)
    (hp : ∀ x i, p' (ρ x) i = p x i) : Natural (skipWhileIndexedOp p) (skipWhileIndexedOp p') ρ ρ :=
  ((mapIndexedOp_natural ρ (Prod.map ρ id) _ _ fun _ _ => rfl).comp
      (skipWhileOp_nat (Prod.map ρ id) _ _ fun t => hp t.1 t.2).natural).comp
    (mapOp_nat (Prod.map ρ id) ρ _ _ fun _ => rfl).natural

theorem findValueOp_nat (ρ : α → α') (g : β → β') (p : α → Nat → Except Err Bool) (p' : α' → Nat → Except Err Bool)
    (yes : α → Nat → β) (yes' : α' → Nat → β') (no : β) (hp : ∀ x i, p' (ρ x) i = p x i)
    (hy : ∀ x i, yes' (ρ x) i = g (yes x i)) : (findValueOp p yes no).Nat (findValueOp p' yes' (g no)) ρ g id :=
  { onNext := fun s x => by
      obtain ⟨i, found⟩ := s
      cases found
      · simp only [findValueOp, id, hp, Bool.false_eq_true, if_false]
        cases p x i with
        | error e => rfl
        | ok b =>
          cases b
          · rfl
          · simp only [if_true, hy]; rfl
      · rfl }

theorem findMatch_map (τ : κ → κ') (cmp : κ → κ → Except Err Bool) (cmp' : κ' → κ' → Except Err Bool)
    (hc : ∀ a b, cmp' (τ a) (τ b) = cmp a b) (k : κ) (seen : List κ) :
    findMatch cmp' (τ k) (seen.map τ) = findMatch cmp k seen := by
  induction seen with
  | nil => rfl
  | cons a rest ih =>
    simp only [List.map_cons, findMatch, hc]
    cases cmp a k with
    | error er => rfl
    | ok b => cases b <;> simp [ih]

theorem emptyOp_nat (ρ : α → α') (g : β → β') : (emptyOp (α := α) (β := β)).Nat emptyOp ρ g id :=
  { onNext := fun _ _ => rfl }

theorem takePosOp_nat (ρ : α → α') (n : Nat) : (takePosOp (α := α) n).Nat (takePosOp n) ρ ρ id :=
  { onNext := fun _ _ => by simp only [takePosOp, apply_ite (HOut.rename id ρ)]; rfl }

theorem takeOp_natural (ρ : α → α') (n : Nat) : Natural (takeOp (α := α) n) (takeOp n) ρ ρ := by
  cases n with
  | zero => exact (emptyOp_nat ρ ρ).natural
  | succ n => exact (takePosOp_nat ρ (n + 1)).natural

theorem materializeOp_nat (ρ : α → α') : (materializeOp (α := α)).Nat materializeOp ρ (Notif.map ρ) id :=
  { onNext := fun _ _ => rfl, onError := fun _ _ => rfl, onCompleted := fun _ => rfl }

theorem skipOp_nat (ρ : α → α') (n : Nat) :
    (skipOp n).Nat (skipOp n) ρ ρ id :=
  { onNext := fun _ _ => by simp only [skipOp, apply_ite (HOut.rename id ρ)]; rfl }

theorem takeLastOp_nat (ρ : α → α') (n : Int) :
    (takeLastOp n).Nat (takeLastOp n) ρ ρ (List.map ρ) :=
  { onNext := fun q x => congrArg (emit · []) (pushBounded_map ρ q x n)
    onCompleted := fun (q : List α) => by
      simp [takeLastOp, HOut.rename_emit, mapN, List.map_map, Function.comp_def, Notif.map] }

theorem skipLastOp_nat (ρ : α → α') (n : Int) :
    (skipLastOp n).Nat (skipLastOp n) ρ ρ (List.map ρ) :=
  { onNext := fun (q : List α) x => by
      show (skipLastOp n).onNext (q.map ρ) (ρ x) = _
      simp only [skipLastOp]
      rw [← List.map_singleton, ← List.map_append, List.length_map]
      split
      · cases q ++ [x] <;> rfl
      · rfl }

theorem takeLastBufferOp_nat (ρ : α → α') (n : Int) :
    (takeLastBufferOp n).Nat (takeLastBufferOp n) ρ (List.map ρ) (List.map ρ) :=
  { onNext := fun q x => congrArg (emit · []) (pushBounded_map ρ q x n) }

theorem pairwiseOp_nat (ρ : α → α') :
    (pairwiseOp (α := α)).Nat (pairwiseOp (α := α')) ρ (Prod.map ρ ρ) (Option.map ρ) :=
  { onNext := fun prev _ => by cases prev <;> rfl }

theorem startWithOp_nat (ρ : α → α') (args : List α) :
    (startWithOp args).Nat (startWithOp (args.map ρ)) ρ ρ id :=
  { pre := by simp [startWithOp, mapN, List.map_map, Function.comp_def, Notif.map], onNext := fun _ _ => rfl }

theorem defaultIfEmptyOp_nat (ρ : α → α') (d : α) :
    (defaultIfEmptyOp d).Nat (defaultIfEmptyOp (ρ d)) ρ ρ id :=
  { onNext := fun _ _ => rfl, onCompleted := fun found => by cases found <;> rfl }

theorem ignoreElementsOp_nat (ρ : α → α') :
    (ignoreElementsOp (α := α)).Nat (ignoreElementsOp (α := α')) ρ ρ id :=
  { onNext := fun _ _ => rfl }

theorem elementAtOp_nat (ρ : α → α') (i : Nat) (d : Option α) :
    (elementAtOrDefaultOp i d).Nat (elementAtOrDefaultOp i (d.map ρ)) ρ ρ id :=
  { onNext := fun _ _ => by simp only [elementAtOrDefaultOp, apply_ite (HOut.rename id ρ)]; rfl
    onCompleted := fun _ => by cases d <;> rfl }

theorem filterOp_nat (ρ : α → α') (p : α → Except Err Bool) (p' : α' → Except Err Bool) (hp : ∀ x, p' (ρ x) = p x) :
    (filterOp p).Nat (filterOp p') ρ ρ id :=
  { onNext := fun _ x => by
      simp only [filterOp, hp]
      cases p x with
      | error e => rfl
      | ok b => cases b <;> rfl }

theorem filterIndexedOp_nat (ρ : α → α') (p : α → Nat → Except Err Bool) (p' : α' → Nat → Except Err Bool)
    (hp : ∀ x i, p' (ρ x) i = p x i) :
    (filterIndexedOp (some p)).Nat (filterIndexedOp (some p')) ρ ρ id :=
  { onNext := fun (count : Nat) x => by
      simp only [filterIndexedOp, id, hp]
      cases p x count with
      | error e => rfl
      | ok b => cases b <;> rfl }

theorem takeWhileOp_nat (ρ : α → α') (p : α → Except Err Bool) (p' : α' → Except Err Bool)
    (hp : ∀ x, p' (ρ x) = p x) (incl : Bool) :
    (takeWhileOp p incl).Nat (takeWhileOp p' incl) ρ ρ id :=
  { onNext := fun running x => by
      cases running
      · rfl
      · simp only [takeWhileOp, hp, Bool.not_true, Bool.false_eq_true, if_false]
        cases p x with
        | error e => rfl
        | ok b => cases b <;> cases incl <;> rfl }

theorem takeWhileIndexedOp_nat (ρ : α → α') (p : α → Nat → Except Err Bool) (p' : α' → Nat → Except Err Bool)
    (hp : ∀ x i, p' (ρ x) i = p x i) (incl : Bool) :
    (takeWhileIndexedOp p incl).Nat (takeWhileIndexedOp p' incl) ρ ρ id :=
  { onNext := fun s x => by
      obtain ⟨running, i⟩ := s
      cases running
      · rfl
      · simp only [takeWhileIndexedOp, id, hp, Bool.not_true, Bool.false_eq_true, if_false]
        cases p x i with
        | error e => rfl
        | ok b => cases b <;> cases incl <;> rfl }

theorem dematerializeOp_nat (ρ : α → α') :
    (dematerializeOp (α := α)).Nat (dematerializeOp (α := α')) (Notif.map ρ) ρ id :=
  { onNext := fun _ _ => rfl }

theorem distinctOp_nat (ρ : α → α') (τ : κ → κ') (key : α → Except Err κ) (key' : α' → Except Err κ')
    (cmp : κ → κ → Except Err Bool) (cmp' : κ' → κ' → Except Err Bool) (hk : ∀ x, key' (ρ x) = (key x).map τ)
    (hc : ∀ a b, cmp' (τ a) (τ b) = cmp a b) :
    (distinctOp key cmp).Nat (distinctOp key' cmp') ρ ρ (List.map τ) :=
  { onNext := fun (seen : List κ) x => by
      simp only [distinctOp, hk]
      cases key x with
      | error e => rfl
      | ok k =>
        simp only [Except.map, findMatch_map τ cmp cmp' hc]
        cases findMatch cmp k seen with
        | error e => rfl
        | ok b => cases b <;> simp [HOut.rename_emit, mapN, Notif.map] }

theorem ducOp_nat (ρ : α → α') (τ : κ → κ') (key : α → Except Err κ) (key' : α' → Except Err κ')
    (cmp : κ → κ → Except Err Bool) (cmp' : κ' → κ' → Except Err Bool) (hk : ∀ x, key' (ρ x) = (key x).map τ)
    (hc : ∀ a b, cmp' (τ a) (τ b) = cmp a b) :
    (distinctUntilChangedOp key cmp).Nat (distinctUntilChangedOp key' cmp') ρ ρ (Option.map τ) :=
  { onNext := fun cur x => by
      simp only [distinctUntilChangedOp, hk]
      cases key x with
      | error e => rfl
      | ok k =>
        cases cur with
        | none => rfl
        | some c =>
          simp only [Except.map, Option.map_some, hc]
          cases cmp c k with
          | error e => rfl
          | ok eq => cases eq <;> rfl }

end Ops
