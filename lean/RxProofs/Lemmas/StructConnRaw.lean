import RxProofs.Lemmas.StructConn
/-!
# Raw connectable: what only `connect` / `disconnect` can change (C24, multicast(factory, mapper))
-/

namespace Conn
namespace World
variable {α : Type}

theorem raw_stable (b : Bool) (ts : List Nat) :
    Stable (fun w : World α => (w.wrap = .raw ∧ w.hasSub = b) ∧ w.subTimes = ts) :=
  ((wrap_stable .raw).hasSub (fun _ h e => nomatch h.symm.trans e) b).and (subTimes_stable ts)

theorem opSub_raw_keeps {w : World α} (hw : w.wrap = .raw) (t i : Nat) :
    ((w.opSub t i).wrap = .raw ∧ (w.opSub t i).hasSub = w.hasSub) ∧ (w.opSub t i).subTimes = w.subTimes := by
  rw [opSub_raw hw]
  exact (raw_stable w.hasSub w.subTimes).settle w t i ⟨⟨hw, rfl⟩, rfl⟩

theorem applyOp_raw {w : World α} (hw : w.wrap = .raw) (hs : List (Option Nat)) (t : Nat) (op : Op) :
    (w.applyOp hs t op).1.wrap = .raw ∧ (op ≠ .connect → (w.applyOp hs t op).1.subTimes = w.subTimes) := by
  cases op with
  | sub i => have ⟨⟨hw', _⟩, ht'⟩ := opSub_raw_keeps hw t i; exact ⟨hw', fun _ => ht'⟩
  | unsub i => exact ⟨(disposeSub_wrap w t i).trans hw, fun _ => disposeSub_subTimes w t i⟩
  | connect => exact ⟨(connect_wrap w t).trans hw, fun h => absurd rfl h⟩
  | disconnect k =>
    simp only [applyOp]
    split
    · exact ⟨(disposeHandle_wrap w t _).trans hw, fun _ => disposeHandle_subTimes w t _⟩
    · exact ⟨hw, fun _ => rfl⟩

theorem runOps_raw (ops : List (Nat × Op)) {w : World α} (hs : List (Option Nat)) (hw : w.wrap = .raw) :
    (w.runOps hs ops).1.wrap = .raw :=
  (wrap_stable .raw).runOps (fun o _ _ hs h => (applyOp_raw h hs o.1 o.2).1) hs hw

theorem runOps_noConnect {ops : List (Nat × Op)} (hnc : ∀ o ∈ ops, o.2 ≠ .connect) {w : World α}
    (hs : List (Option Nat)) (hw : w.wrap = .raw) : (w.runOps hs ops).1.subTimes = w.subTimes :=
  (((wrap_stable .raw).and (subTimes_stable w.subTimes)).runOps (fun o ho _ hs ⟨hw', ht'⟩ =>
    have ⟨hw'', ht''⟩ := applyOp_raw hw' hs o.1 o.2
    ⟨hw'', (ht'' (hnc o ho)).trans ht'⟩) hs ⟨hw, rfl⟩).2

theorem runOps_subs {l : List (Nat × Op)} (hl : ∀ o ∈ l, ∃ i, o.2 = .sub i) {w : World α}
    (hs : List (Option Nat)) (hw : w.wrap = .raw) :
    ((w.runOps hs l).1.wrap = .raw ∧ (w.runOps hs l).1.hasSub = w.hasSub) ∧ (w.runOps hs l).1.subTimes = w.subTimes :=
  (raw_stable w.hasSub w.subTimes).runOps (fun o ho _ hs k => by
    obtain ⟨t, op⟩ := o
    obtain ⟨i, rfl⟩ := hl _ ho
    obtain ⟨⟨kw, ks⟩, kt⟩ := k
    have ⟨⟨hw', hs'⟩, ht'⟩ := opSub_raw_keeps kw t i
    exact ⟨⟨hw', hs'.trans ks⟩, ht'.trans kt⟩) hs ⟨⟨hw, rfl⟩, rfl⟩

theorem mcastOps_shape (k t : Nat) (tu : Option Nat) :
    ∃ stop, mcastOps k t tu = (List.range k).map (fun a => (t, Op.sub a)) ++ ([(t, Op.connect)] ++ stop) ∧
      ∀ o ∈ stop, o.2 ≠ .connect := by
  cases tu with
  | none => exact ⟨[], by simp [mcastOps], nofun⟩
  | some u =>
    refine ⟨(List.range k).map (fun a => (u, Op.unsub a)) ++ [(u, Op.disconnect 0)], by simp [mcastOps], ?_⟩
    intro o ho
    rcases List.mem_append.mp ho with ho | ho
    · obtain ⟨a, _, rfl⟩ := List.mem_map.mp ho; nofun
    · cases List.mem_singleton.mp ho; nofun

theorem runOps_connect_once {w : World α} (hw : w.wrap = .raw) (hns : w.hasSub = false)
    (pre stop : List (Nat × Op)) (hpre : ∀ o ∈ pre, ∃ i, o.2 = .sub i) (hstop : ∀ o ∈ stop, o.2 ≠ .connect)
    (t : Nat) : (w.runOps [] (pre ++ ([(t, Op.connect)] ++ stop))).1.subTimes = w.subTimes ++ [t] := by
  obtain ⟨⟨hw1, hs1⟩, ht1⟩ := runOps_subs hpre [] hw
  rw [runOps_append]
  generalize (w.runOps [] pre).2 = handles
  generalize (w.runOps [] pre).1 = w1 at hw1 hs1 ht1
  obtain ⟨⟨hwa, hsa⟩, hta⟩ := (raw_stable w1.hasSub w1.subTimes).advance t
    (w1.pendingCount + 1) ⟨⟨hw1, rfl⟩, rfl⟩
  simp only [List.cons_append, List.nil_append, runOps, applyOp]
  rw [runOps_noConnect hstop _ ((connect_wrap _ t).trans hwa), connect_subTimes _ t (hsa.trans (hs1.trans hns)),
    hta, ht1]

theorem run_raw_final (w : World α) (hi : ConnInv w) (hw : w.wrap = .raw) (ops : List (Nat × Op)) (horizon : Nat) :
    (w.run ops horizon).hasSub = false ∧ (w.run ops horizon).srcOpen = [] ∧
    (w.run ops horizon).subTimes = (w.runOps [] ops).1.subTimes := by
  have hw1 : (w.runOps [] ops).1.wrap = .raw := runOps_raw ops [] hw
  have h3 := connInv_stable.toHorizon horizon ((w.runOps [] ops).1.pendingCount + 1) (runOps_inv ops [] hi)
  have hs := ((wrap_stable .raw).and (subTimes_stable _)).toHorizon horizon ((w.runOps [] ops).1.pendingCount + 1) ⟨hw1, rfl⟩
  unfold run
  simp only [hw]
  split
  · rename_i hd _ hcur
    have hc := disposeHandle_hasSub_cur _ horizon hd hcur
    exact ⟨hc, (disposeHandle_inv h3 horizon hd).closed hc, (disposeHandle_subTimes _ horizon hd).trans hs.2⟩
  · rename_i hne
    -- the wrapper is raw, so this branch means there is no live handle, hence no connection
    have hnone : _ = none := Option.eq_none_iff_forall_ne_some.mpr fun h hc => hne h hs.1 hc
    have hns : _ = false := Bool.eq_false_iff.mpr fun hx => by
      have := h3.handle hx
      rw [hnone] at this; cases this
    exact ⟨hns, h3.closed hns, hs.2⟩

end World
end Conn
