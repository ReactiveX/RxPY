/-!
# List facts shared by the model families

Facts about core `List` operations that several families need and that core does not state in this form.
Nothing here mentions a model definition.
-/

namespace List
variable {α β σ : Type}

/-- A predicate kept by every step of a fold is kept by the fold. -/
theorem foldl_pres {P : σ → Prop} (f : σ → β → σ) (hf : ∀ s b, P s → P (f s b)) (l : List β) {s : σ}
    (h : P s) : P (l.foldl f s) :=
  l.foldlRecOn f h fun _ hs _ _ => hf _ _ hs

/-- Core's `List.modify_eq_set` needs `Inhabited` and `getD`; with the element in hand neither is needed. -/
theorem modify_eq_set_of_getElem? {l : List α} {i : Nat} {a : α} (h : l[i]? = some a) (f : α → α) :
    l.modify i f = l.set i (f a) := by
  induction l generalizing i with
  | nil => cases h
  | cons b l ih =>
    cases i with
    | zero => cases h; rfl
    | succ i => simp only [modify_succ_cons, set_cons_succ, ih (by simpa using h)]

/-- Additive form of core's `List.countP_set`, which subtracts. -/
theorem countP_set_add (p : α → Bool) {l : List α} {i : Nat} {a : α} (h : l[i]? = some a) (a' : α) :
    (l.set i a').countP p + (p a).toNat = l.countP p + (p a').toNat := by
  induction l generalizing i with
  | nil => cases h
  | cons b l ih =>
    cases i with
    | zero => cases h; simp only [set_cons_zero, countP_cons]; cases p a <;> cases p a' <;> simp
    | succ i =>
      have := ih (i := i) (by simpa using h)
      simp only [set_cons_succ, countP_cons]; omega

/-- A list with an element at `i` is `l₁ ++ a :: l₂`, and replacing the element replaces the middle. -/
theorem split_at.{u} {γ : Type u} {l : List γ} {i : Nat} {a : γ} (h : l[i]? = some a) :
    ∃ l₁ l₂, l = l₁ ++ a :: l₂ ∧ ∀ b, l.set i b = l₁ ++ b :: l₂ := by
  obtain ⟨hlt, rfl⟩ := List.getElem?_eq_some_iff.mp h
  refine ⟨l.take i, l.drop (i + 1), by simp, fun b => ?_⟩
  rw [List.set_eq_take_append_cons_drop, if_pos hlt]

theorem mem_takeWhile_imp (p : α → Bool) (l : List α) : ∀ x ∈ l.takeWhile p, p x = true := fun x hx =>
  all_eq_true.mp (all_takeWhile (p := p) (l := l)) x hx

/-- Selecting the payloads tagged `i` from a list whose tags are all `i` keeps every payload. -/
theorem filterMap_tag_eq_map {ι : Type} [DecidableEq ι] {i : ι} {l : List (ι × α)} (h : ∀ d ∈ l, d.1 = i) :
    l.filterMap (fun d => if d.1 = i then some d.2 else none) = l.map (·.2) := by
  induction l with
  | nil => rfl
  | cons d l ih =>
    simp only [filterMap_cons, h d mem_cons_self, ↓reduceIte, map_cons, ih fun e he => h e (mem_cons_of_mem _ he)]

/-- Selecting the payloads tagged `i` from a list in which no tag is `i` leaves nothing. -/
theorem filterMap_tag_eq_nil {ι : Type} [DecidableEq ι] {i : ι} {l : List (ι × α)} (h : ∀ d ∈ l, d.1 ≠ i) :
    l.filterMap (fun d => if d.1 = i then some d.2 else none) = [] :=
  filterMap_eq_nil_iff.mpr fun d hd => if_neg (h d hd)

/-- Sums of a weight over a list of per-thread states (`Disp.wsum`, `Thr.sumBy`): what a move of one thread does to the sum. -/
theorem sum_map_set (f : α → Nat) {l : List α} {i : Nat} {a : α} (h : l[i]? = some a) (b : α) :
    ((l.set i b).map f).sum + f a = (l.map f).sum + f b := by
  obtain ⟨hlt, rfl⟩ := getElem?_eq_some_iff.mp h
  rw [set_eq_take_append_cons_drop, if_pos hlt]
  conv => rhs; rw [← take_append_drop i l, drop_eq_getElem_cons hlt]
  simp only [map_append, map_cons, sum_append, sum_cons]; omega

theorem sum_map_eq_zero_iff (f : α → Nat) (l : List α) : (l.map f).sum = 0 ↔ ∀ x ∈ l, f x = 0 := by
  simp [List.sum_eq_zero_iff_forall_eq_nat]

/-- Removing a member: one element fewer, and there was one (in `Int`, where the counts of the models live). -/
theorem length_erase_mem [BEq α] [LawfulBEq α] (l : List α) (a : α) (h : l.contains a = true) :
    ((l.erase a).length : Int) = (l.length : Int) - 1 ∧ (0 : Int) < (l.length : Int) := by
  have hm : a ∈ l := by simpa using h
  have := List.length_erase_of_mem hm
  have hpos : 0 < l.length := List.length_pos_of_mem hm
  omega

theorem erase_sub_singleton [BEq α] [LawfulBEq α] (l : List α) (s : α) (hl : l.length ≤ 1) (hs : ∀ x ∈ l, x = s) :
    l.erase s = [] := by
  match l, hl, hs with
  | [], _, _ => rfl
  | [x], _, hs =>
    have : x = s := hs x (by simp)
    subst this; simp
  | _ :: _ :: _, hl, _ => simp at hl

/-- Two `Option`-valued maps that agree wherever both are defined give the same list when both succeed. -/
theorem mapM_option_agree (f g : α → Option β) :
    ∀ (l : List α) (a b : List β), l.mapM f = some a → l.mapM g = some b →
      (∀ q ∈ l, ∀ x y, f q = some x → g q = some y → x = y) → a = b := by
  intro l
  induction l with
  | nil => intro a b ha hb _; simp at ha hb; subst ha; subst hb; rfl
  | cons q qs ih =>
    intro a b ha hb h
    simp only [List.mapM_cons, Option.bind_eq_bind, Option.pure_def, Option.bind_eq_some_iff,
      Option.some.injEq] at ha hb
    obtain ⟨x, hx, a', ha', rfl⟩ := ha
    obtain ⟨y, hy, b', hb', rfl⟩ := hb
    rw [h q (by simp) x y hx hy, ih a' b' ha' hb' (fun q' hq' => h q' (by simp [hq']))]

end List
