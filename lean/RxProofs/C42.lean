import RxProofs.Lemmas.VtsCatch
import RxProofs.Lemmas.VtsInv
import RxProofs.Lemmas.VtsPeriodicDead
import RxProofs.Lemmas.VtsPeriodicSolo
/-!
# C42 — CatchScheduler routes action exceptions to its handler

Model: `RxModel/Vts.lean` — an item scheduled through a CatchScheduler is `wrapped` (`CatchScheduler._wrap`: `try: action(parent._get_recursive_wrapper(self), state) except
Exception as ex: if not parent._handler(ex): raise; return Disposable()`); a child scheduled by a wrapped
action through the scheduler handed to it is wrapped too (`childWrapped`, the recursive wrapper has the
same handler), one scheduled on the closed-over inner scheduler is not, one on the closed-over outer
CatchScheduler is.  `hlog` records the handler calls.  Periodic: `RxModel/VtsPeriodic.lean`
(`CatchScheduler.schedule_periodic`: `failed` flag, handler, `disp.dispose()`).
The inner scheduler is the virtual-time scheduler of C28/C29.
-/

namespace C42
open Vts

/-- **every_exception_reaches_handler (1): everything stays wrapped.**  If every top-level call goes through
the CatchScheduler (`wrapped = true`) and no action schedules on the raw inner scheduler, then in every
reachable state every pending action — including those scheduled recursively through the scheduler
handed to a wrapped action — is a `wrapped_action`. -/
theorem all_wrapped_reachable (cfg : Cfg) (ops : List Op) (s : St) (h : AllWrapped s) (hq : QAll viaCatch s)
    (hops : ∀ op ∈ ops, op.All viaCatch ∧ (match op with | .sched w _ _ _ _ => w = true | _ => True)) :
    AllWrapped (runOps cfg s ops).1 :=
  ((allWrappedRun cfg).runOps_inv ops s hops h hq).1

/-- **every_exception_reaches_handler (2): one handler call per exception.**  When a wrapped action is
invoked, the handler is called exactly when the action raises, with that exception (`hlog` grows by it),
whatever the action did before raising; the exception is swallowed iff the handler returns True
(`true_swallows`), otherwise re-raised (`false_propagates`). -/
theorem every_exception_reaches_handler (cfg : Cfg) (x : Item) (s : St) (hw : x.wrapped = true) :
    let r := exec true x.body { s with log := s.log ++ [{ id := x.id, at_ := s.clock, due := x.due, seq := x.seq }] }
    (r.2 = none → (invoke cfg x s).1.hlog = s.hlog ∧ (invoke cfg x s).2 = none) ∧
    (∀ e, r.2 = some e → (invoke cfg x s).1.hlog = s.hlog ++ [e] ∧
      (invoke cfg x s).2 = if cfg.handler s.hlog.length e then none else some e) := by
  intro r
  refine ⟨fun hn => ?_, fun e he => ?_⟩
  · rw [invoke_noRaise cfg x s (hw ▸ hn)]; exact ⟨by rw [attachRet_hlog, exec_hlog], rfl⟩
  · rw [invoke_wrapped_raise cfg x s e hw he]; exact ⟨rfl, rfl⟩

/-- **every_exception_reaches_handler (3): nothing escapes unseen.**  On a scheduler where everything is
wrapped, an exception that escapes `start()`/`advance_to()` was passed to the handler and refused by it.
In particular with a handler that always returns True the run never raises. -/
theorem escaped_was_refused (cfg : Cfg) (tgt : Option Int) (s s' : St) (e : Err)
    (h : AllWrapped s) (hq : QAll viaCatch s) (hl : loop cfg tgt s = (s', .raised e)) :
    cfg.handler (s'.hlog.length - 1) e = false ∧ s'.hlog.getLast? = some e := by
  obtain ⟨s1, hP, hi⟩ := loop_raised_inv (allWrapped_iter cfg tgt) s h hq s' e hl
  obtain ⟨x, q', sp, hd, hinv⟩ := iter_raised hi
  have hxw : x.wrapped = true := by
    obtain ⟨⟨c, hxc⟩, _⟩ := PQ.dequeue_mem hd
    exact hP _ hxc
  generalize ({ s1 with clock := tickClock cfg tgt s1 x, spin := sp, queue := q' } : St) = s2 at hinv
  have key := every_exception_reaches_handler cfg x s2 hxw
  simp only at key
  cases hr : (exec true x.body { s2 with log := s2.log ++ [{ id := x.id, at_ := s2.clock, due := x.due, seq := x.seq }] }).2 with
  | none =>
    have := (key.1 hr).2
    rw [hinv] at this; cases this
  | some e' =>
    obtain ⟨h1, h2'⟩ := key.2 e' hr
    rw [hinv] at h1 h2'
    by_cases hh : cfg.handler s2.hlog.length e' = true
    · rw [if_pos hh] at h2'; cases h2'
    · rw [if_neg hh] at h2'
      obtain rfl : e = e' := Option.some.inj h2'
      exact ⟨by rw [h1]; simpa using hh, by rw [h1]; simp⟩

/-- **true_swallows (actions).** A wrapped action raises `e` and the handler returns True: the exception is
swallowed — the handler saw it, the loop goes on with the next item, and what the action did before
raising stays done. -/
theorem true_swallows (cfg : Cfg) (tgt : Option Int) (s s1 : St) (x : Item) (q' : PQ Item) (e : Err)
    (hen : s.enabled = true) (hd : s.queue.dequeue? Item.due = some (x, q')) (hpt : pastTarget tgt x = false)
    (ht : tick cfg tgt s x q' = some s1) (hc : x.cancelled = false) (hw : x.wrapped = true)
    (hr : (exec true x.body { s1 with log := s1.log ++ [{ id := x.id, at_ := s1.clock, due := x.due, seq := x.seq }] }).2 = some e)
    (hh : cfg.handler s1.hlog.length e = true) :
    ∃ s2, iter cfg tgt s = .next x s2 ∧ s2.hlog = s1.hlog ++ [e] ∧ loop cfg tgt s = loop cfg tgt s2 ∧
      s2.queue = (exec true x.body { s1 with log := s1.log ++ [{ id := x.id, at_ := s1.clock, due := x.due, seq := x.seq }] }).1.queue := by
  have hi := iter_invokes hen hd hpt ht hc
  rw [invoke_wrapped_raise cfg x s1 e hw hr, hh] at hi
  simp only [if_true, Iter.ofInvoke] at hi
  exact ⟨_, hi, rfl, by rw [loop_unfold, hi], rfl⟩

/-- **false_propagates.** A wrapped action raises `e` and the handler returns a falsy value: the handler saw
the exception and it propagates out of the loop, hence out of `start()`/`advance_to()`. -/
theorem false_propagates (cfg : Cfg) (tgt : Option Int) (s s1 : St) (x : Item) (q' : PQ Item) (e : Err)
    (hen : s.enabled = true) (hd : s.queue.dequeue? Item.due = some (x, q')) (hpt : pastTarget tgt x = false)
    (ht : tick cfg tgt s x q' = some s1) (hc : x.cancelled = false) (hw : x.wrapped = true)
    (hr : (exec true x.body { s1 with log := s1.log ++ [{ id := x.id, at_ := s1.clock, due := x.due, seq := x.seq }] }).2 = some e)
    (hh : cfg.handler s1.hlog.length e = false) :
    ∃ s2, loop cfg tgt s = (s2, .raised e) ∧ s2.hlog = s1.hlog ++ [e] := by
  have hi := iter_invokes hen hd hpt ht hc
  rw [invoke_wrapped_raise cfg x s1 e hw hr, hh] at hi
  simp only [Bool.false_eq_true, if_false, Iter.ofInvoke] at hi
  exact ⟨_, by rw [loop_unfold, hi], rfl⟩

/-- `start()` passes the exception on to its caller (and, as written, leaves `_is_enabled` set) -/
theorem start_propagates (cfg : Cfg) (s s' : St) (e : Err) (hen : s.enabled = false)
    (h : loop cfg none { s with enabled := true, spin := 0 } = (s', .raised e)) :
    start cfg s = (s', .raised e) := by
  rw [start_eq, if_neg (by simp [hen]), closeRun_of_ne _ (by rw [h]; simp), h]

/-- **non_raising_transparent.** Actions that do not raise behave exactly as on the wrapped scheduler: for
any script of calls and any action trees without `raise` (and without negative sleeps), making every
call through the CatchScheduler or some of them or none (`unwrapOp`: all on the inner scheduler) gives the
same per-call outcomes, the same executed-action log with the same clocks, the same final clock, flags
and pending queue (up to the `wrapped` marks) — and the handler is never called. -/
theorem non_raising_transparent (cfg : Cfg) (ops : List Op) : ∀ (s s' : St), QAll noRaise s →
    (∀ op ∈ ops, op.All noRaise) → eraseW s = eraseW s' →
    eraseW (runOps cfg s ops).1 = eraseW (runOps cfg s' (ops.map unwrapOp)).1 ∧
    (runOps cfg s ops).2 = (runOps cfg s' (ops.map unwrapOp)).2 := by
  induction ops with
  | nil => intro s s' _ _ h; exact ⟨h, rfl⟩
  | cons op ops ih =>
    intro s s' hq hops h
    have hop := hops op (by simp)
    obtain ⟨d1, d2⟩ := doOp_erase cfg s s' op hq h
    have hq' := ((trivRun cfg _).doOp_inv s op hop trivial hq).2
    simp only [runOps, List.map_cons]
    rcases e1 : doOp cfg s op with ⟨a, o⟩
    rcases e2 : doOp cfg s' (unwrapOp op) with ⟨a', o'⟩
    rw [e1, e2] at d1 d2
    rw [e1] at hq'
    simp only at d1 d2 hq'
    subst d2
    have := ih a a' hq' (fun op h => hops op (by simp [h])) d1
    cases o with
    | stuck => exact ⟨d1, rfl⟩
    | ok => simp only; exact ⟨this.1, by rw [this.2]⟩
    | raised e => simp only; exact ⟨this.1, by rw [this.2]⟩

/-- … in particular the observable results coincide, and the handler log stays empty -/
theorem non_raising_observables (cfg : Cfg) (ops : List Op) (c0 : Int) (hops : ∀ op ∈ ops, op.All noRaise) :
    let a := runOps cfg { clock := c0 } ops
    let b := runOps cfg { clock := c0 } (ops.map unwrapOp)
    a.1.log = b.1.log ∧ a.1.clock = b.1.clock ∧ a.1.enabled = b.1.enabled ∧ a.2 = b.2 ∧
    a.1.queue.items.length = b.1.queue.items.length ∧ a.1.hlog = b.1.hlog := by
  intro a b
  obtain ⟨h1, h2⟩ := non_raising_transparent cfg ops { clock := c0 } { clock := c0 }
    (by intro e he; simp at he) hops rfl
  exact ⟨erase_proj St.log (fun _ => rfl) h1, erase_proj St.clock (fun _ => rfl) h1,
    erase_proj St.enabled (fun _ => rfl) h1, h2,
    erase_proj (fun t => t.queue.items.length) (fun t => by simp [eraseW, eraseQ]) h1,
    erase_proj St.hlog (fun _ => rfl) h1⟩

/-! ## disposables RETURNED by actions (`ScheduledItem.invoke`: `self.disposable.disposable = ret`)

`Act.ret c`: the action returns the handle of the follow-up action `c` it scheduled.  `invoke` attaches it to the
item's own handle (`St.attachRet`, `links`), for wrapped and unwrapped actions alike (`wrapped_action` returns
what the action returned); `St.dispose id` then reaches it.  That a non-raising script behaves identically through
the CatchScheduler — including every returned disposable and every later `dispose()` of an outer handle — is
`non_raising_transparent` (its `noRaise` hypothesis allows `ret`). -/

/-- **returned_disposable_attached.**  A non-raising action `x` whose body returns the handle of `c` (`retOf = some c`):
after `invoke`, handle `x.id` holds it (`links`), whether or not `x` is a CatchScheduler `wrapped_action` — unless
handle `x.id` had already been disposed, in which case `c` is disposed on the spot. -/
theorem returned_disposable_attached (cfg : Cfg) (x : Item) (s : St) (c : Nat) (hret : x.body.retOf = some c)
    (hok : (exec x.wrapped x.body { s with log := s.log ++ [{ id := x.id, at_ := s.clock, due := x.due, seq := x.seq }] }).2 = none) :
    let s1 := (exec x.wrapped x.body { s with log := s.log ++ [{ id := x.id, at_ := s.clock, due := x.due, seq := x.seq }] }).1
    (invoke cfg x s).2 = none ∧
    (s1.dead.contains x.id = false → (invoke cfg x s).1 = { s1 with links := (x.id, c) :: s1.links }) ∧
    (s1.dead.contains x.id = true → (invoke cfg x s).1 = ({ s1 with links := (x.id, c) :: s1.links }).dispose c) := by
  intro s1
  rw [invoke_noRaise cfg x s hok, hret]
  refine ⟨rfl, ?_, ?_⟩ <;> intro hd <;> simp only [St.attachRet] <;> simp [s1] at hd <;> simp [hd, s1]

/-- **dispose_cancels_returned.**  If handle `id` holds the returned handle of `c` (the action ran), then
`dispose()` of handle `id` — by the caller, later, from anywhere — cancels the pending follow-up `c`. -/
theorem dispose_cancels_returned (s : St) (id c : Nat) (h : s.links.find? (fun l => l.1 == id) = some (id, c)) :
    ∀ e ∈ (s.dispose id).queue.items, e.1.id = c → e.1.cancelled = true := by
  have hne : s.links.length ≠ 0 := by
    intro h0
    have : s.links = [] := List.eq_nil_of_length_eq_zero h0
    rw [this] at h; simp at h
  obtain ⟨n, hn⟩ := Nat.exists_eq_succ_of_ne_zero hne
  obtain ⟨t, ht⟩ := linkClosure_head s.links n c
  have hcl : linkClosure s.links s.links.length id = id :: c :: t := by
    rw [hn]; simp only [linkClosure, h, ht]
  simp only [St.dispose, hcl, List.foldl_cons]
  have h0 := C28.cancInv_cancel (s.cancel id) c
  have := List.foldl_pres (P := C28.CancInv c (s.cancel id).log) St.cancel
    (fun _ i hh => C28.cancInv_cancel_pres hh i) t h0
  exact this.1

/-! ## periodic actions scheduled through the CatchScheduler -/

/-- **every_exception_reaches_handler (periodic) / true_swallows_and_stops_periodic / false_propagates
(periodic).**  A live periodic task scheduled through `CatchScheduler.schedule_periodic` whose action raises `e`
at some tick: the handler is called with `e` (exactly once: `hlog` grows by `e`); if it returns True the
exception is swallowed — the loop goes on — and the periodic work stops: the task is disposed and its
action is never invoked again, whatever calls follow; if it returns a falsy value the exception
propagates out of `advance_to` (and the periodic work stops as well). -/
theorem true_swallows_and_stops_periodic {σ : Type} (handler : Err → Bool) (f : Nat → σ → Per.Tick σ) (T : Int)
    (s : Per.St σ) (x : Per.Item σ) (q' : PQ (Per.Item σ)) (pid : Nat) (st : σ) (t : Per.Task) (e : Err)
    (hen : s.enabled = true) (hd : s.queue.dequeue? Per.Item.due = some (x, q')) (hdue : x.due ≤ T)
    (hc : x.cancelled = false) (hk : x.kind = .tick pid st) (hg : Per.getTask s pid = some t) (hp : 1 ≤ t.period)
    (hlive : t.disposed = false) (hcatch : t.catch_ = true) (hnf : t.failed = false)
    (he : (f pid st).next = .error e) :
    ∃ s2, s2.hlog = s.hlog ++ [e] ∧
      (handler e = true → Per.iter handler f T s = .next s2) ∧
      (handler e = false → Per.iter handler f T s = .raised s2 e) ∧
      ∀ (ops : List (Per.Op σ)), (∀ op ∈ ops, match op with | .periodic pid' _ _ _ => pid' ≠ pid | _ => True) →
        Per.logOf pid (Per.runOps handler f s2 ops).1 = Per.logOf pid s2 := by
  have hi := Per.iter_tick handler f T s x q' pid st t hen hd hdue hc hk hg hp
  obtain ⟨s2, hrt, hdead, hhl⟩ := Per.runTick_raise_catch handler f
    { s with clock := if x.due > s.clock then x.due else s.clock, queue := q' } pid t st e hg hlive hcatch hnf he
  rw [hrt] at hi
  refine ⟨s2, hhl, ?_, ?_, fun ops hops => (Per.runOps_dead handler f pid ops s2 hops hdead).2⟩
  · intro hh; rw [hh] at hi; exact hi
  · intro hh; rw [hh] at hi; exact hi

/-- a periodic action that never raises behaves through the CatchScheduler exactly as on the inner
scheduler: same invocations at the same clocks with the same states, handler never called
(both are the closed form of C35, which does not depend on the `catch` flag) -/
theorem non_raising_periodic_transparent {σ : Type} (handler : Err → Bool) (f : Nat → σ → Per.Tick σ) (pid : Nat)
    (t0 p : Int) (st0 : σ) (T : Int) (F : σ → σ) (hp : 1 ≤ p) (hT : t0 < T)
    (hf : ∀ st, (f pid st).next = .ok (F st) ∧ (f pid st).dispose = false ∧ ((f pid st).sleep : Int) ≤ p) :
    (Per.advanceTo handler f T (Per.schedulePeriodic { clock := t0 } pid p st0 true)).1.log =
      (Per.advanceTo handler f T (Per.schedulePeriodic { clock := t0 } pid p st0 false)).1.log ∧
    (Per.advanceTo handler f T (Per.schedulePeriodic { clock := t0 } pid p st0 true)).1.hlog = [] := by
  have hf' : ∀ st, (f pid st).next = .ok (F st) ∧ (f pid st).dispose = false := fun st => ⟨(hf st).1, (hf st).2.1⟩
  obtain ⟨_, _, a4, a2⟩ := Per.advanceTo_solo handler f pid t0 p st0 true T F hp hT hf'
  obtain ⟨_, _, _, b2⟩ := Per.advanceTo_solo handler f pid t0 p st0 false T F hp hT hf'
  exact ⟨a2.trans b2.symm, a4⟩

/-! ## Non-vacuity -/

/-- a wrapped action (1) that schedules a child through the scheduler handed to it (2, raises "b"), a child
on the raw inner scheduler (3, raises "c") and then raises "a" itself; handler: True for "a" and "b" only -/
private def demo : St :=
  ({ clock := 0 } : St).enqueue 1 0
    (.sched .handed .rel 1 2 (.raise "b") (.sched .inner .rel 2 3 (.raise "c") (.raise "a"))) true

private def demoCfg : Cfg := { handler := fun _ e => e == "a" || e == "b" }

/-- "a" and "b" reach the handler and are swallowed (the run continues); 3 was scheduled behind the
CatchScheduler's back, so "c" escapes without the handler seeing it -/
example : (start demoCfg demo).2 = .raised "c" ∧ (start demoCfg demo).1.hlog = ["a", "b"] ∧
    (start demoCfg demo).1.log.map (·.id) = [1, 2, 3] := by
  rw [start_eq_fuel demoCfg 20 demo (by decide)]
  decide +kernel

/-- with `handed` only (hypothesis `viaCatch`) everything is wrapped; a refused exception propagates -/
private def demo2 : St :=
  ({ clock := 0 } : St).enqueue 1 0 (.sched .handed .rel 1 2 (.raise "b") (.raise "z")) true

example : AllWrapped demo2 ∧ QAll viaCatch demo2 := by
  constructor
  · intro e he; simp [demo2, St.enqueue, PQ.enqueue] at he; subst he; rfl
  · intro e he; simp [demo2, St.enqueue, PQ.enqueue] at he; subst he; simp [Act.All, viaCatch]

example : (start demoCfg demo2).2 = .raised "z" ∧ (start demoCfg demo2).1.hlog = ["z"] ∧
    (start demoCfg demo2).1.queue.items.length = 1 := by
  rw [start_eq_fuel demoCfg 20 demo2 (by decide)]
  decide +kernel

private def fRaise : Nat → Int → Per.Tick Int := fun _ n => { next := if n = 2 then .error "boom" else .ok (n + 1) }

/-- periodic through the CatchScheduler, handler True: swallowed, no tick after the failing one, and the
cancelled successor item stays in the queue -/
example :
    (Per.runOps (fun _ => true) fRaise { clock := 0 } [.periodic 1 5 (0 : Int) true, .advanceTo 40]).2 = [.ok, .ok] ∧
    (Per.runOps (fun _ => true) fRaise { clock := 0 } [.periodic 1 5 (0 : Int) true, .advanceTo 40]).1.log
      = [⟨1, 5, 0⟩, ⟨1, 10, 1⟩, ⟨1, 15, 2⟩] ∧
    (Per.runOps (fun _ => true) fRaise { clock := 0 } [.periodic 1 5 (0 : Int) true, .advanceTo 40]).1.hlog = ["boom"] := by
  decide +kernel

/-- action 1 (through the CatchScheduler, or not) schedules follow-up 2 six ticks later
and returns its handle; the caller advances past 1, disposes handle 1, and runs on: 2 never runs -/
private def retDemo (w : Bool) : St :=
  let s1 := ({ clock := 0 } : St).enqueue 1 4 (.sched .handed .rel 6 2 .done (.ret 2)) w
  let s2 := (advanceToFuel {} 10 5 s1).1      -- `advance_to(5)` (= `advanceTo`, see `advanceTo_eq_fuel`)
  let s3 := s2.dispose 1                       -- the caller disposes the outer handle
  (advanceToFuel {} 10 20 s3).1

example : (retDemo true).log.map (·.id) = [1] ∧ (retDemo false).log.map (·.id) = [1] ∧
    (retDemo true).skipped = [2] ∧ (retDemo true).links = [(1, 2)] := by decide +kernel

end C42
