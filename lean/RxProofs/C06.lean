import RxProofs.Lemmas.AggRef
import RxProofs.Lemmas.AggSeqEq
/-!
# C06 — aggregating operators match their reference semantics

`op.out lag raw` is what the subscriber of the modelled operator sees when its source
delivers the *raw* notification list `raw` (conforming or not; `elems raw` / `ending raw` are the elements before
the first terminal and how the sequence ends — `open` = not terminated yet), with prompt (`lag = false`) or lagging
(`lag = true`) disposal.  Every theorem holds for unterminated inputs too, so together with `out_prefix` /
`outT_times` (outputs are produced synchronously, at the time of the input that causes them) each of them also says
*when* the operator emits: the value appears at the first prefix of the input on which the right-hand side is
non-empty.  User callbacks are arbitrary functions into `Except Err _` (they may raise at any element).
For `sequence_equal` the theorems are about `seqOut` on a whole event trace; no prefix or timing lemma is stated for that
machine (`seqOutT` occurs in one example only).
-/

namespace C06
open Agg

/-- what the subscriber sees does not depend on how promptly the source is disposed -/
theorem out_lag_irrelevant {α β} (op : Op α β) (lag lag' : Bool) (raw : List (Notif α)) :
    op.out lag raw = op.out lag' raw := by rw [Op.out_eq, Op.out_eq]

/-- `source.pipe(f, g)`: the subscriber sees what `g` produces from what `f` delivers -/
theorem out_comp {α β γ} (f : Op α β) (g : Op β γ) (lag lag₁ lag₂ : Bool) (raw : List (Notif α)) :
    (f ⨾ g).out lag raw = g.out lag₂ (f.out lag₁ raw) := Op.out_comp f g lag lag₁ lag₂ raw

/-- outputs only grow with the input: what was emitted after `a` stays emitted after `a ++ b` -/
theorem out_prefix {α β} (op : Op α β) (lag : Bool) (a b : List (Notif α)) :
    ∃ r, op.out lag (a ++ b) = op.out lag a ++ r := ⟨_, Op.out_prefix op lag a b⟩

/-- the timed run is the untimed run with time tags -/
theorem outT_untimed {α β τ} (op : Op α β) (lag : Bool) (raw : List (τ × Notif α)) :
    (op.outT lag raw).map (·.2) = op.out lag (raw.map (·.2)) := Op.outT_untimed op lag raw

/-- every output caused by the inputs `b` (after `a`) carries the time of one of the inputs in `b` -/
theorem outT_times {α β τ} (op : Op α β) (lag : Bool) (a b : List (τ × Notif α)) :
    ∃ r, op.outT lag (a ++ b) = op.outT lag a ++ r ∧ ∀ p ∈ r, p.1 ∈ b.map (·.1) := Op.outT_append op lag a b

/-- **the run is the C01 observer model around the handlers**: what the subscriber sees is what the downstream
`AutoDetachObserver` (`Core.Ado`, callbacks not raising) delivers of the handlers' calls over what the upstream
`AutoDetachObserver` delivers of the raw source notifications. -/
theorem out_through_ado {α β} (op : Op α β) (lag : Bool) (raw : List (Notif α)) :
    op.out lag raw
      = Ado.delivered (fun _ => false) {}
          ((op.feed op.init (Ado.delivered (fun _ => false) {} (raw.map toCall))).map toCall) := by
  rw [Op.out_eq, cut_eq_ado 0, cut_eq_ado 0]

example : (countO (none : Option (Nat → Except Err Bool))).outT false
    [(210, .next 5), (220, .next 7), (230, .completed), (240, .next 9)] = [(230, .next 2), (230, .completed)] := rfl

/-- `scan` = `itertools.accumulate`, cut by the first raising accumulator call -/
theorem scan_eq {α β} (f : β → α → Except Err β) (seed : Option β) (inj : α → β) (lag : Bool) (raw : List (Notif α)) :
    (scanO f seed inj).out lag raw = (scanC f seed inj none (elems raw) (ending raw)).notifs :=
  scanO_out f seed inj lag raw

example : (scanO (fun a x => if x = 0 then .error "boom" else .ok (a + x)) (some 10) id).out true
    [.next 1, .next 2, .next 0, .next 4, .completed] = [.next 11, .next 13, .error "boom"] := rfl

/-- `reduce(acc, seed)` = `functools.reduce(acc, xs, seed)` at completion; the accumulator's exception at once -/
theorem reduce_eq {α β} (f : β → α → Except Err β) (sd : β) (inj : α → β) (lag : Bool) (raw : List (Notif α)) :
    (reduceO f (some sd) inj).out lag raw = foldRef ((elems raw).foldlM f sd) id (ending raw) := by
  refine ((stage_then_out (scanO_out f _ inj) (lastOrDefaultO_out _) lag raw).trans (lastRef_scanC ..)).trans ?_
  cases elems raw <;> rfl

/-- `reduce(acc)` = `functools.reduce(acc, xs)`; empty input fails with `SequenceContainsNoElementsError` -/
theorem reduce_noseed_eq {α} (f : α → α → Except Err α) (lag : Bool) (raw : List (Notif α)) :
    (reduceO f none id).out lag raw =
      match elems raw with
      | [] => atEnd (ending raw) [.error errNoElements]
      | x :: xs => foldRef (xs.foldlM f x) id (ending raw) := by
  refine ((stage_then_out (scanO_out f _ id) (lastOrDefaultO_out _) lag raw).trans (lastRef_scanC ..)).trans ?_
  cases elems raw <;> rfl

example : (reduceO (fun a x => .ok (a * x)) (some 1) id).out false [.next 2, .next 3, .next 4, .completed]
    = [.next 24, .completed] := rfl
example : (reduceO (fun (a x : Nat) => .ok (a + x)) none id).out false [.completed] = [.error errNoElements] := rfl

/-- `count()` = `len(xs)` -/
theorem count_eq {α} (lag : Bool) (raw : List (Notif α)) :
    (countO none).out lag raw = atEnd (ending raw) [.next (elems raw).length, .completed] := by
  simp only [countO, countAllO]
  rw [reduce_eq, foldlM_pure]
  simp [foldRef, List.foldl_add_const]

/-- `count(pred)` = `len([x for x in xs if pred(x)])`; the predicate's exception at the element where it is raised -/
theorem count_pred_eq {α} (p : α → Except Err Bool) (lag : Bool) (raw : List (Notif α)) :
    (countO (some p)).out lag raw =
      atEnd (filterC p (elems raw) (ending raw)).2 [.next (filterC p (elems raw) (ending raw)).1.length, .completed] := by
  exact stage_then_out (filterO_out p) (R := fun xs t => atEnd t [.next xs.length, .completed]) count_eq lag raw

/-- for a total predicate: `len(list(filter(q, xs)))` -/
theorem count_pred_pure_eq {α} (q : α → Bool) (lag : Bool) (raw : List (Notif α)) :
    (countO (some (fun x => .ok (q x)))).out lag raw
      = atEnd (ending raw) [.next ((elems raw).filter q).length, .completed] := by
  rw [count_pred_eq, filterC_pure]

/-- `sum()` = `sum(xs)` (exact integers) -/
theorem sum_eq (lag : Bool) (raw : List (Notif Int)) :
    (sumPlainO (fun a b => .ok (a + b)) (0 : Int)).out lag raw = atEnd (ending raw) [.next (elems raw).sum, .completed] := by
  simp only [sumPlainO]
  rw [reduce_eq, foldlM_pure]
  have : ∀ (xs : List Int) (n : Int), xs.foldl (fun a b => a + b) n = n + xs.sum := by
    intro xs; induction xs with
    | nil => simp
    | cons x xs ih => intro n; simp [ih]; omega
  simp [foldRef, this]

/-- `sum(key)` = `sum(key(x) for x in xs)`; the key mapper's exception at the element where it is raised -/
theorem sum_by_eq {α} (key : α → Except Err Int) (lag : Bool) (raw : List (Notif α)) :
    (sumByO key (fun a b => .ok (a + b)) (0 : Int)).out lag raw =
      atEnd (mapC key (elems raw) (ending raw)).2 [.next (mapC key (elems raw) (ending raw)).1.sum, .completed] := by
  exact stage_then_out (mapO_out key) (R := fun xs t => atEnd t [.next xs.sum, .completed]) sum_eq lag raw

/-- `average(key)`: the exact rational `sum / count` (as the pair), `SequenceContainsNoElementsError` on empty input -/
theorem average_eq {α} (key : α → Except Err Int) (lag : Bool) (raw : List (Notif α)) :
    (averageO key).out lag raw =
      match (mapC key (elems raw) (ending raw)).1 with
      | [] => atEnd (mapC key (elems raw) (ending raw)).2 [.error errNoElements]
      | k :: ks => atEnd (mapC key (elems raw) (ending raw)).2 [.next ((k :: ks).sum, (k :: ks).length), .completed] := by
  simp only [averageO]
  rw [Op.out_pipe, Op.out_pipe, Op.out_pipe, lastOrDefaultO_out, scanO_out, mapO_out (f := key)]
  simp only [elems_conf_notifs, ending_conf_notifs]
  rw [lastRef_scanC]
  generalize (mapC key (elems raw) (ending raw)) = c
  obtain ⟨ks, t⟩ := c
  cases ks with
  | nil => cases t <;> rfl
  | cons k ks =>
    have hs : (scanProj avgAcc (some (0, 0)) (fun c => (c, 1)) none k).bind (fun v => ks.foldlM avgAcc v)
        = .ok ((k :: ks).sum, (k :: ks).length) := by
      show ks.foldlM avgAcc (0 + k, 0 + 1) = _
      rw [foldlM_avgAcc, List.sum_cons, List.length_cons, Int.zero_add, Nat.zero_add, Nat.add_comm]
    show (mapO avgMapper).out lag (foldRef _ id t) = atEnd t [.next ((k :: ks).sum, (k :: ks).length), .completed]
    rw [hs]
    exact mapO_out_atEnd avgMapper lag t _

example : (averageO (fun (x : Int) => .ok x)).out false [.next 1, .next 2, .next 4, .completed]
    = [.next (7, 3), .completed] := rfl

/-- **fold identity, arbitrary (possibly raising) key mapper and comparer**: `extrema_by` is the left fold of
`extremaStep`; an exception is delivered at the element whose key/comparison raised. -/
theorem extrema_eq_fold {α κ} (key : α → Except Err κ) (cmp : κ → κ → Except Err Int) (lag : Bool)
    (raw : List (Notif α)) :
    (maxByO key cmp).out lag raw = foldRef ((elems raw).foldlM (extremaStep key cmp) (none, [])) (·.2) (ending raw)
    ∧ (minByO key cmp).out lag raw
        = foldRef ((elems raw).foldlM (extremaStep key (fun x y => (cmp x y).map (fun c => -c))) (none, [])) (·.2) (ending raw) :=
  ⟨extremaByO_out key cmp lag raw, extremaByO_out key _ lag raw⟩

/-- `max_by` for a comparer induced by a total preorder `le` (`c a b > 0 ↔ ¬ a ≤ b`, `c a b ≥ 0 ↔ b ≤ a`):
all elements whose key is greatest, in arrival order, at completion. -/
theorem max_by_eq {α κ} (k : α → κ) (c : κ → κ → Int) (le : κ → κ → Bool)
    (hgt : ∀ a b, c a b > 0 ↔ le a b = false) (hge : ∀ a b, c a b ≥ 0 ↔ le b a = true)
    (htot : ∀ a b, le a b = true ∨ le b a = true) (htr : ∀ a b d, le a b = true → le b d = true → le a d = true)
    (lag : Bool) (raw : List (Notif α)) :
    (maxByO (fun x => .ok (k x)) (fun a b => .ok (c a b))).out lag raw
      = atEnd (ending raw)
          [.next ((elems raw).filter (fun x => (elems raw).all (fun y => le (k y) (k x)))), .completed] := by
  rw [(extrema_eq_fold _ _ lag raw).1]
  obtain ⟨m, hm⟩ := extrema_preorder k c le hgt hge htot htr (elems raw)
  rw [hm]; rfl

/-- `min_by` for the same kind of comparer: all elements whose key is least -/
theorem min_by_eq {α κ} (k : α → κ) (c : κ → κ → Int) (le : κ → κ → Bool)
    (hgt : ∀ a b, c a b > 0 ↔ le a b = false) (hge : ∀ a b, c a b ≥ 0 ↔ le b a = true)
    (htot : ∀ a b, le a b = true ∨ le b a = true) (htr : ∀ a b d, le a b = true → le b d = true → le a d = true)
    (lag : Bool) (raw : List (Notif α)) :
    (minByO (fun x => .ok (k x)) (fun a b => .ok (c a b))).out lag raw
      = atEnd (ending raw)
          [.next ((elems raw).filter (fun x => (elems raw).all (fun y => le (k x) (k y)))), .completed] := by
  rw [(extrema_eq_fold _ _ lag raw).2]
  have hgt' : ∀ a b, -(c a b) > 0 ↔ le b a = false := fun a b => by
    rw [← Bool.not_eq_true, ← hge a b]; omega
  have hge' : ∀ a b, -(c a b) ≥ 0 ↔ le a b = true := fun a b => by
    rw [← Bool.not_eq_false, ← hgt a b]; omega
  obtain ⟨m, hm⟩ := extrema_preorder k (fun a b => -(c a b)) (fun a b => le b a) hgt' hge'
    (fun a b => (htot b a)) (fun a b d h1 h2 => htr d b a h2 h1) (elems raw)
  simp only [Except.map] at hm ⊢
  rw [hm]; rfl

/-- integer keys with the default comparer `x - y` -/
example (lag : Bool) (raw : List (Notif (String × Int))) :
    (minByO (fun x => .ok x.2) (fun a b => .ok (a - b))).out lag raw
      = atEnd (ending raw) [.next ((elems raw).filter (fun x => (elems raw).all (fun y => decide (x.2 ≤ y.2)))), .completed] :=
  min_by_eq (α := String × Int) (κ := Int) (fun x => x.2) (fun a b => a - b) (fun a b => decide (a ≤ b))
    (fun a b => by rw [decide_eq_false_iff_not, Int.not_le]; exact Int.sub_pos)
    (fun a b => by rw [decide_eq_true_iff]; exact Int.sub_nonneg)
    (fun a b => by simp only [decide_eq_true_iff]; exact Int.le_total a b)
    (fun a b d => by simp only [decide_eq_true_iff]; exact Int.le_trans) lag raw

example : (minByO (fun (x : String × Int) => .ok x.2) (fun a b => .ok (a - b))).out false
    [.next ("a", 3), .next ("b", 1), .next ("c", 2), .next ("d", 1), .completed] = [.next [("b", 1), ("d", 1)], .completed] := rfl

/-- `max()`: the first greatest element at completion; `SequenceContainsNoElementsError` on empty input -/
theorem max_eq {α} (c : α → α → Int) (le : α → α → Bool)
    (hgt : ∀ a b, c a b > 0 ↔ le a b = false) (hge : ∀ a b, c a b ≥ 0 ↔ le b a = true)
    (htot : ∀ a b, le a b = true ∨ le b a = true) (htr : ∀ a b d, le a b = true → le b d = true → le a d = true)
    (lag : Bool) (raw : List (Notif α)) :
    (maxO (fun a b => .ok (c a b))).out lag raw
      = atEnd (ending raw)
          (match (elems raw).filter (fun x => (elems raw).all (fun y => le y x)) with
           | [] => [.error errNoElements]
           | m :: _ => [.next m, .completed]) := by
  simp only [maxO]
  rw [Op.out_pipe, max_by_eq (fun x => x) c le hgt hge htot htr, mapO_out_atEnd]
  cases (elems raw).filter (fun x => (elems raw).all (fun y => le y x)) <;> rfl

/-- `min()`: the first least element at completion; `SequenceContainsNoElementsError` on empty input -/
theorem min_eq {α} (c : α → α → Int) (le : α → α → Bool)
    (hgt : ∀ a b, c a b > 0 ↔ le a b = false) (hge : ∀ a b, c a b ≥ 0 ↔ le b a = true)
    (htot : ∀ a b, le a b = true ∨ le b a = true) (htr : ∀ a b d, le a b = true → le b d = true → le a d = true)
    (lag : Bool) (raw : List (Notif α)) :
    (minO (fun a b => .ok (c a b))).out lag raw
      = atEnd (ending raw)
          (match (elems raw).filter (fun x => (elems raw).all (fun y => le x y)) with
           | [] => [.error errNoElements]
           | m :: _ => [.next m, .completed]) := by
  simp only [minO]
  rw [Op.out_pipe, min_by_eq (fun x => x) c le hgt hge htot htr, mapO_out_atEnd]
  cases (elems raw).filter (fun x => (elems raw).all (fun y => le x y)) <;> rfl

example : (maxO (fun (a b : Int) => .ok (a - b))).out false [.next 3, .next 7, .next 7, .next 2, .completed] = [.next 7, .completed] := rfl

theorem to_list_eq {α} (lag : Bool) (raw : List (Notif α)) :
    (toListO : Op α (List α)).out lag raw = atEnd (ending raw) [.next (elems raw), .completed] := by
  have hsnoc : ∀ (xs q : List α), xs.foldl (fun s x => s ++ [x]) q = q ++ xs := by
    intro xs; induction xs with
    | nil => intro q; exact (List.append_nil q).symm
    | cons x xs ih => intro q; rw [List.foldl_cons, ih, List.append_assoc]; rfl
  rw [toListO_eq_foldO, foldO_out, foldlM_pure, hsnoc]; rfl

/-- `set(xs)` under Python equality `eq` (first of equal elements is kept) -/
theorem to_set_eq {α} (eq : α → α → Bool) (lag : Bool) (raw : List (Notif α)) :
    (toSetO eq).out lag raw = atEnd (ending raw) [.next ((elems raw).foldl (setAdd eq) []), .completed] := by
  rw [toSetO_eq_foldO, foldO_out, foldlM_pure]; rfl

/-- **to_set with unhashable elements (as repaired)** = `set(xs)`, which raises `TypeError` at the first unhashable element:
the error is delivered as `on_error` at that element; on hashable input it is `to_set_eq`. -/
theorem to_set_hashing_eq {α} (h : α → Bool) (eq : α → α → Bool) (lag : Bool) (raw : List (Notif α)) :
    (toSetHO h eq).out lag raw = foldRef ((elems raw).foldlM (setStepH h eq) []) id (ending raw)
    ∧ ((∀ x ∈ elems raw, h x = true) → (toSetHO h eq).out lag raw = (toSetO eq).out lag raw)
    ∧ (∀ pre x post, elems raw = pre ++ x :: post → (∀ y ∈ pre, h y = true) → h x = false →
        (toSetHO h eq).out lag raw = [.error "TypeError"]) := by
  refine ⟨toSetHO_out h eq lag raw, ?_, ?_⟩
  · intro hh; rw [toSetHO_out, setStepH_hashable h eq _ _ hh, to_set_eq]; rfl
  · intro pre x post he hpre hx
    rw [toSetHO_out, he, setStepH_unhashable h eq pre x post [] hpre hx]; rfl

/-- **to_dict with unhashable keys (as repaired)**: the fold identity only; `dictStepH` fails with `TypeError` at an unhashable
key after both mappers ran for that element -/
theorem to_dict_hashing_eq {α κ ν} (h : κ → Bool) (eq : κ → κ → Bool) (key : α → Except Err κ) (elem : α → Except Err ν) (lag : Bool)
    (raw : List (Notif α)) :
    (toDictHO h eq key elem).out lag raw = foldRef ((elems raw).foldlM (dictStepH h eq key elem) []) id (ending raw) := by
  rw [toDictHO_eq_foldO]; exact foldO_out ..

example : (toSetHO (fun (x : List Nat) => x.length < 2) (· == ·)).out false [.next [1], .next [2, 3], .next [4], .completed]
    = [.error "TypeError"] := rfl

/-- **AsIs witness (before `fixes/C06_toset_todict_unhashable.patch`)**: `s.add` was the handler itself / `m[key] = element`
sat outside the `try`s: an unhashable element raised `TypeError` into the emitter, was skipped, and the subscriber finally got
the set of the *hashable* elements — where the reference `set(xs)` raises.  Third conjunct: the same handler fact for `to_dict`. -/
theorem to_set_unhashable_asis {α} (h : α → Bool) (eq : α → α → Bool) (lag : Bool) (raw : List (Notif α)) :
    (toSetAsIsO h eq).out lag raw = atEnd (ending raw) [.next (((elems raw).filter h).foldl (setAdd eq) []), .completed]
    ∧ (∀ s x, h x = false → (toSetAsIsO h eq).handle s (.next x) = ⟨s, [], some "TypeError"⟩)
    ∧ (∀ {κ ν} (hk : κ → Bool) (eqk : κ → κ → Bool) (key : α → Except Err κ) (elem : α → Except Err ν) s x k v,
        key x = .ok k → elem x = .ok v → hk k = false →
        (toDictAsIsO hk eqk key elem).handle s (.next x) = ⟨s, [], some "TypeError"⟩) := by
  refine ⟨?_, ?_, ?_⟩
  · exact Op.out_follows (toSetAsIsO h eq)
      (fun (s : List α) xs t => atEnd t [.next ((xs.filter h).foldl (setAdd eq) s), .completed]) (fun _ t => by cases t <;> rfl)
      (fun s x xs t rest ih => by
        rw [List.filter_cons]
        revert ih
        simp only [toSetAsIsO]
        cases h x <;> exact id) lag raw
  · intro s x hx; simp [Op.handle, toSetAsIsO, hx]
  · intro κ ν hk eqk key elem s x k v h1 h2 h3; simp [Op.handle, toDictAsIsO, h1, h2, h3]

example : (toSetAsIsO (fun (x : List Nat) => x.length < 2) (· == ·)).escapes false [.next [1], .next [2, 3], .next [4], .completed]
    = ["TypeError"] := rfl

/-- `{key(x): elem(x) for x in xs}` as the fold of `d[k] = v`; a mapper's exception at the element where it is raised -/
theorem to_dict_eq {α κ ν} (eq : κ → κ → Bool) (key : α → Except Err κ) (elem : α → Except Err ν) (lag : Bool)
    (raw : List (Notif α)) :
    (toDictO eq key elem).out lag raw = foldRef ((elems raw).foldlM (dictStep eq key elem) []) id (ending raw) := by
  rw [toDictO_eq_foldO]; exact foldO_out ..

/-- **last wins**: for total mappers and an equality that is symmetric and transitive, looking a key up in the
emitted dict gives the value of the *last* element with that key. -/
theorem to_dict_last_wins {α κ ν} (eq : κ → κ → Bool)
    (hsymm : ∀ a b, eq a b = true → eq b a = true) (htr : ∀ a b d, eq a b = true → eq b d = true → eq a d = true)
    (k : α → κ) (v : α → ν) (lag : Bool) (raw : List (Notif α)) :
    ∃ m, (toDictO eq (fun x => .ok (k x)) (fun x => .ok (v x))).out lag raw = atEnd (ending raw) [.next m, .completed]
      ∧ ∀ q, dictGet eq m q = ((elems raw).reverse.find? (fun x => eq (k x) q)).map v := by
  refine ⟨((elems raw).map (fun x => (k x, v x))).foldl (fun m kv => dictSet eq m kv.1 kv.2) [], ?_, ?_⟩
  · rw [to_dict_eq, dictStep_pure]; rfl
  · intro q
    rw [dictFold_last_wins eq hsymm htr, ← List.map_reverse, List.find?_map]
    simp [Function.comp_def, dictGet]

example : (toDictO (fun (a b : Nat) => a == b) (fun (x : Nat × String) => .ok x.1) (fun x => .ok x.2)).out false
    [.next (1, "a"), .next (2, "b"), .next (1, "c"), .completed] = [.next [(1, "c"), (2, "b")], .completed] := rfl

theorem first_eq {α} (pred : Option (α → Except Err Bool)) (lag : Bool) (raw : List (Notif α)) :
    (firstO pred).out lag raw = firstRef none (afterFilter pred raw).1 (afterFilter pred raw).2 :=
  afterFilter_out _ _ (firstOrDefaultO_out none) pred lag raw

theorem first_or_default_eq {α} (pred : Option (α → Except Err Bool)) (d : α) (lag : Bool) (raw : List (Notif α)) :
    (firstOrDefaultPO pred d).out lag raw = firstRef (some d) (afterFilter pred raw).1 (afterFilter pred raw).2 :=
  afterFilter_out _ _ (firstOrDefaultO_out (some d)) pred lag raw

theorem last_eq {α} (pred : Option (α → Except Err Bool)) (lag : Bool) (raw : List (Notif α)) :
    (lastO pred).out lag raw = lastRef none (afterFilter pred raw).1 (afterFilter pred raw).2 :=
  afterFilter_out _ _ (lastOrDefaultO_out none) pred lag raw

theorem last_or_default_eq {α} (pred : Option (α → Except Err Bool)) (d : α) (lag : Bool) (raw : List (Notif α)) :
    (lastOrDefaultPO pred d).out lag raw = lastRef (some d) (afterFilter pred raw).1 (afterFilter pred raw).2 :=
  afterFilter_out _ _ (lastOrDefaultO_out (some d)) pred lag raw

theorem single_eq {α} (pred : Option (α → Except Err Bool)) (lag : Bool) (raw : List (Notif α)) :
    (singleO pred).out lag raw = singleRef none (afterFilter pred raw).1 (afterFilter pred raw).2 :=
  afterFilter_out _ _ (singleOrDefaultO_out none) pred lag raw

theorem single_or_default_eq {α} (pred : Option (α → Except Err Bool)) (d : α) (lag : Bool) (raw : List (Notif α)) :
    (singleOrDefaultPO pred d).out lag raw = singleRef (some d) (afterFilter pred raw).1 (afterFilter pred raw).2 :=
  afterFilter_out _ _ (singleOrDefaultO_out (some d)) pred lag raw

/-- **single fails on the second element, at that element**: with the second element (time `t₂`) the subscriber
gets the error — stamped `t₂` — and nothing else ever, whatever follows. -/
theorem single_fails_at_second {α τ} (lag : Bool) (t₁ t₂ : τ) (x y : α) (post : List (τ × Notif α)) :
    (singleO none).outT lag ((t₁, .next x) :: (t₂, .next y) :: post) = [(t₂, .error errException)] := by
  exact Op.outT_decisive (singleO none) lag [(t₁, .next x)] t₂ (.next y) post [.error errException]
    (by cases lag <;> rfl) rfl  -- `lag` is split so that `rfl` can run the machine

/-- empty input ⇒ `SequenceContainsNoElementsError` exactly where no default applies (and the default otherwise) -/
theorem empty_no_default_fails {α} (lag : Bool) (raw : List (Notif α)) (h : elems raw = []) (hd : ending raw = .done) (d : α) :
    (firstO none).out lag raw = [.error errNoElements] ∧ (lastO none).out lag raw = [.error errNoElements]
    ∧ (singleO none).out lag raw = [.error errNoElements]
    ∧ (firstOrDefaultPO none d).out lag raw = [.next d, .completed]
    ∧ (lastOrDefaultPO none d).out lag raw = [.next d, .completed]
    ∧ (singleOrDefaultPO none d).out lag raw = [.next d, .completed]
    ∧ (∀ f : α → α → Except Err α, (reduceO f none id).out lag raw = [.error errNoElements])
    ∧ (∀ c : α → α → Except Err Int, (minO c).out lag raw = [.error errNoElements] ∧ (maxO c).out lag raw = [.error errNoElements])
    ∧ (∀ key : α → Except Err Int, (averageO key).out lag raw = [.error errNoElements]) := by
  -- every one of them is run on the one-event input `on_completed`; no callback is ever invoked
  have hraw : ∀ {β} (op : Op α β), op.out lag raw = op.out lag [.completed] := fun op => by
    rw [Op.out_conf, h, hd, Op.out_eq]; rfl
  refine ⟨?_, ?_, ?_, ?_, ?_, ?_, fun f => ?_, fun c => ⟨?_, ?_⟩, fun key => ?_⟩ <;> rw [hraw] <;> rfl

example : (lastOrDefaultPO (some (fun x => .ok (x > 5))) 0).out false [.next 3, .next 9, .next 7, .next 1, .completed]
    = [.next 7, .completed] := rfl

theorem some_eq {α} (pred : Option (α → Except Err Bool)) (lag : Bool) (raw : List (Notif α)) :
    (someO pred).out lag raw = someRef (afterFilter pred raw).1 (afterFilter pred raw).2 :=
  afterFilter_out _ _ someOp_out pred lag raw

/-- **some emits at the first satisfying element**: after elements `ys` on which the predicate is false and an
element `x` (time `t`) on which it is true, the subscriber has `true` and completion stamped `t`, whatever follows;
before `x` it has nothing. -/
theorem some_at_first {α τ} (p : α → Except Err Bool) (lag : Bool) (pre : List (τ × α)) (t : τ) (x : α)
    (post : List (τ × Notif α)) (hpre : ∀ y ∈ pre, p y.2 = .ok false) (hx : p x = .ok true) :
    (someO (some p)).outT lag (pre.map (fun y => (y.1, .next y.2)) ++ (t, .next x) :: post)
      = [(t, .next true), (t, .completed)]
    ∧ (someO (some p)).outT lag (pre.map (fun y => (y.1, Notif.next y.2))) = [] := by
  -- untimed, the elements before `x` are skipped by the filter: the run is that on `x` alone
  have hmap : (pre.map (fun y => (y.1, Notif.next y.2))).map (·.2) = (pre.map (·.2)).map .next := by
    rw [List.map_map, List.map_map]; rfl
  have hskip := filterO_skip p someOp (pre.map (·.2))
    (fun z hz => by obtain ⟨y, hy, rfl⟩ := List.mem_map.1 hz; exact hpre y hy) lag
  have h0 : (someO (some p)).out lag ((pre.map (fun y => (y.1, Notif.next y.2))).map (·.2)) = [] := by
    rw [hmap, ← List.append_nil (List.map _ _)]; exact hskip []
  have h1 : (someO (some p)).out lag ((pre.map (fun y => (y.1, Notif.next y.2))).map (·.2) ++ [.next x])
      = [.next true, .completed] := by
    rw [hmap]
    exact (hskip [.next x]).trans ((stage_then_out (filterO_out p) someOp_out lag _).trans (by simp [filterC, hx, someRef]))
  have hnil := List.map_eq_nil_iff.1 ((Op.outT_untimed (someO (some p)) lag _).trans h0)
  exact ⟨by rw [Op.outT_decisive _ lag _ t (.next x) post _ (h1.trans (by rw [h0]; rfl)) rfl, hnil]; rfl, hnil⟩

/-- `all(pred)`: `false` at the first element on which the predicate is false; `true` at completion otherwise -/
theorem all_eq {α} (p : α → Except Err Bool) (lag : Bool) (raw : List (Notif α)) :
    (allO p).out lag raw =
      match (filterC (fun v => (p v).map (fun b => !b)) (elems raw) (ending raw)).1 with
      | _ :: _ => [.next false, .completed]
      | [] => atEnd (filterC (fun v => (p v).map (fun b => !b)) (elems raw) (ending raw)).2 [.next true, .completed] := by
  simp only [allO]
  rw [Op.out_pipe, stage_then_out (filterO_out _) someOp_out]
  exact notB_someRef lag _ _

/-- for a total predicate: `all(q(x) for x in xs)` -/
theorem all_pure_eq {α} (q : α → Bool) (lag : Bool) (raw : List (Notif α)) :
    (allO (fun x => .ok (q x))).out lag raw =
      if (elems raw).all q then atEnd (ending raw) [.next true, .completed] else [.next false, .completed] := by
  rw [all_eq]
  have : (fun v => ((.ok (q v) : Except Err Bool)).map (fun b => !b)) = fun v => .ok (!q v) := rfl
  rw [this, filterC_pure]
  simp only
  cases h : (elems raw).filter (fun v => !q v) with
  | nil =>
    have : (elems raw).all q = true := by
      rw [List.all_eq_true]; intro x hx
      have := List.filter_eq_nil_iff.1 h x hx
      simpa using this
    simp [this]
  | cons y ys =>
    have hy : y ∈ (elems raw).filter (fun v => !q v) := by rw [h]; simp
    have : (elems raw).all q = false := by
      rw [List.all_eq_false]
      exact ⟨y, (List.mem_filter.1 hy).1, by simpa using (List.mem_filter.1 hy).2⟩
    simp [this]

/-- `contains(value, comparer)`: `any(comparer(x, value) for x in xs)` -/
theorem contains_eq {α} (v : α) (cmp : α → α → Except Err Bool) (lag : Bool) (raw : List (Notif α)) :
    (containsO v cmp).out lag raw
      = someRef (filterC (fun x => cmp x v) (elems raw) (ending raw)).1 (filterC (fun x => cmp x v) (elems raw) (ending raw)).2 := by
  exact stage_then_out (filterO_out _) someOp_out lag raw

/-- **contains emits at the first match** (consequence of `some_at_first`: `contains` is `filter(cmp(·, v)) | some()`) -/
theorem contains_at_first_match {α τ} (v : α) (cmp : α → α → Except Err Bool) (lag : Bool) (pre : List (τ × α)) (t : τ) (x : α)
    (post : List (τ × Notif α)) (hpre : ∀ y ∈ pre, cmp y.2 v = .ok false) (hx : cmp x v = .ok true) :
    (containsO v cmp).outT lag (pre.map (fun y => (y.1, .next y.2)) ++ (t, .next x) :: post)
      = [(t, .next true), (t, .completed)]
    ∧ (containsO v cmp).outT lag (pre.map (fun y => (y.1, Notif.next y.2))) = [] :=
  some_at_first (fun x => cmp x v) lag pre t x post hpre hx

/-- `is_empty()`: `false` at the first element, `true` at completion of an empty source -/
theorem is_empty_eq {α} (lag : Bool) (raw : List (Notif α)) :
    (isEmptyO : Op α Bool).out lag raw =
      match elems raw with
      | _ :: _ => [.next false, .completed]
      | [] => atEnd (ending raw) [.next true, .completed] := by
  simp only [isEmptyO]
  rw [Op.out_pipe, someOp_out]
  exact notB_someRef lag _ _

example : (containsO 3 (fun a b => .ok (a == b))).outT false [(210, .next 1), (220, .next 3), (230, .next 3), (240, .completed)]
    = [(220, .next true), (220, .completed)] := rfl
example : (allO (fun (x : Nat) => if x = 9 then .error "p" else .ok (x < 5))).out false [.next 1, .next 9, .next 7]
    = [.error "p"] := rfl

/-- **arbitrary (asymmetric) comparer — what the code computes.**  The code always calls `comparer(queued, arriving)`:
on both sides the element that **arrived first** is the first argument.  With every event tagged by its position in the trace
(`tagFrom 0 tr`) and `orient c p q` = `c` applied with the earlier-tagged value first, the output for *every* interleaving is the
declarative decision `seqSpec (orient c)` on the tagged sequences.  (For a symmetric `c` this is `seqeq_eq_spec`; for an
asymmetric one the verdict on a pair genuinely depends on which side delivered it first.) -/
theorem seqeq_asymmetric_spec {α} (c : α → α → Bool) (lag : Bool) (tr : List (Side × Notif α))
    (hne : ∀ ev ∈ tr, ∀ e, ev.2 ≠ .error e) :
    seqOut (fun a b => .ok (c a b)) lag tr
      = specOut (seqSpec (orient c) (elems (sideOf .L (tagFrom 0 tr))) (elems (sideOf .R (tagFrom 0 tr)))
          (isDone (sideOf .L (tagFrom 0 tr))) (isDone (sideOf .R (tagFrom 0 tr)))) :=
  seqOutFrom_ahead c lag tr hne 0 .L [] false nofun

/-- **For every interleaving** of the two sides' events (error-free trace, total symmetric comparer), what the
subscriber sees is the declarative decision `seqSpec` of what each side has delivered and whether it has
completed — independent of the interleaving and of the disposal timing. -/
theorem seqeq_eq_spec {α} (eq : α → α → Bool) (hsym : ∀ a b, eq a b = eq b a) (lag : Bool)
    (tr : List (Side × Notif α)) (hne : ∀ ev ∈ tr, ∀ e, ev.2 ≠ .error e) :
    seqOut (fun a b => .ok (eq a b)) lag tr
      = specOut (seqSpec eq (elems (sideOf .L tr)) (elems (sideOf .R tr)) (isDone (sideOf .L tr)) (isDone (sideOf .R tr))) := by
  rw [seqeq_asymmetric_spec eq lag tr hne, seqSpec_tagFrom eq hsym]

/-- **sequence_equal_correct**: when both sides complete, for *every* interleaving the result is `true` iff the two
conforming sequences are equal under the comparer (`len` equal and pairwise equal). -/
theorem sequence_equal_correct {α} (eq : α → α → Bool) (hsym : ∀ a b, eq a b = eq b a) (lag : Bool)
    (tr : List (Side × Notif α)) (hne : ∀ ev ∈ tr, ∀ e, ev.2 ≠ .error e)
    (hl : ending (sideOf .L tr) = .done) (hr : ending (sideOf .R tr) = .done) :
    seqOut (fun a b => .ok (eq a b)) lag tr
      = [.next (listEq eq (elems (sideOf .L tr)) (elems (sideOf .R tr))), .completed] := by
  rw [seqeq_eq_spec eq hsym lag tr hne]
  rw [isDone_of_done hl, isDone_of_done hr, seqSpec_done]; rfl

/-- a `true` verdict needs both sides to have completed within the trace (which event emits it is not stated) -/
theorem seqeq_true_only_when_both_done {α} (eq : α → α → Bool) (hsym : ∀ a b, eq a b = eq b a) (lag : Bool)
    (tr : List (Side × Notif α)) (hne : ∀ ev ∈ tr, ∀ e, ev.2 ≠ .error e)
    (h : seqOut (fun a b => .ok (eq a b)) lag tr = [.next true, .completed]) :
    isDone (sideOf .L tr) = true ∧ isDone (sideOf .R tr) = true := by
  rw [seqeq_eq_spec eq hsym lag tr hne] at h
  cases hs : seqSpec eq (elems (sideOf .L tr)) (elems (sideOf .R tr)) (isDone (sideOf .L tr)) (isDone (sideOf .R tr)) with
  | none => rw [hs] at h; cases h
  | some b =>
    rw [hs] at h
    cases b
    · cases h
    · exact seqSpec_true eq _ _ _ _ hs

/-- **seqeq_false_at_mismatch**: on every trace in which both sides deliver their k-th elements and these differ
(all earlier pairs being equal) the subscriber sees `false` and completion, whatever else the trace contains. -/
theorem seqeq_false_at_mismatch {α} (eq : α → α → Bool) (hsym : ∀ a b, eq a b = eq b a) (lag : Bool)
    (tr : List (Side × Notif α)) (hne : ∀ ev ∈ tr, ∀ e, ev.2 ≠ .error e)
    (pl pr : List α) (x y : α) (ls rs : List α)
    (hL : elems (sideOf .L tr) = pl ++ x :: ls) (hR : elems (sideOf .R tr) = pr ++ y :: rs)
    (hp : listEq eq pl pr = true) (hxy : eq x y = false) :
    seqOut (fun a b => .ok (eq a b)) lag tr = [.next false, .completed] := by
  rw [seqeq_eq_spec eq hsym lag tr hne, hL, hR, seqSpec_mismatch eq pl pr x y ls rs _ _ hp hxy]; rfl

/-- **error forwarding**: after an error-free prefix `pre`, an `on_error` from a side that has not completed is what the
subscriber gets — unless the comparison was already decided during `pre`, in which case it keeps that decision;
nothing follows in either case (`post` arbitrary). -/
theorem seqeq_error {α} (eq : α → α → Bool) (hsym : ∀ a b, eq a b = eq b a) (lag : Bool) (sd : Side) (e : Err)
    (pre post : List (Side × Notif α)) (hne : ∀ ev ∈ pre, ∀ e, ev.2 ≠ .error e) (hnc : ∀ ev ∈ pre, ev ≠ (sd, .completed)) :
    seqOut (fun a b => .ok (eq a b)) lag (pre ++ (sd, .error e) :: post)
      = match seqSpec eq (elems (sideOf .L pre)) (elems (sideOf .R pre)) (isDone (sideOf .L pre)) (isDone (sideOf .R pre)) with
        | some b => [.next b, .completed]
        | none => [.error e] := by
  rw [seqOut_error eq lag sd e pre post hne hnc, seqSpec_tagFrom eq hsym]
  cases seqSpec eq (elems (sideOf .L pre)) (elems (sideOf .R pre)) (isDone (sideOf .L pre)) (isDone (sideOf .R pre)) <;> rfl

example : seqOut (fun (a b : Nat) => .ok (decide (a ≤ b))) false [(.L, .next 1), (.R, .next 2), (.L, .completed), (.R, .completed)]
    = [.next true, .completed] := rfl
example : seqOut (fun (a b : Nat) => .ok (decide (a ≤ b))) false [(.R, .next 2), (.L, .next 1), (.L, .completed), (.R, .completed)]
    = [.next false, .completed] := rfl

/-- for every event trace and every (possibly raising, asymmetric) comparer the output does not depend on how promptly
the two source subscriptions are disposed -/
theorem seqeq_lag_irrelevant {α} (cmp : α → α → Except Err Bool) (tr : List (Side × Notif α)) :
    seqOut cmp true tr = seqOut cmp false tr :=
  seqOutFrom_lag cmp tr {} {} rfl rfl (fun _ => ⟨rfl, rfl⟩)

example : seqOut (fun (a b : Nat) => .ok (a == b)) false [(.L, .next 1), (.R, .next 1), (.R, .error "r"), (.L, .next 2)]
    = [.error "r"] := rfl

example : seqOutT (fun (a b : Nat) => .ok (a == b)) false
    [(210, .L, .next 1), (215, .R, .next 1), (220, .R, .next 2), (230, .L, .next 3), (240, .L, .completed), (250, .R, .completed)]
    = [(230, .next false), (230, .completed)] := rfl
example : seqOut (fun (a b : Nat) => .ok (a == b)) true
    [(.R, .next 1), (.R, .next 2), (.R, .completed), (.L, .next 1), (.L, .next 2), (.L, .completed), (.L, .next 9)]
    = [.next true, .completed] := rfl

end C06
