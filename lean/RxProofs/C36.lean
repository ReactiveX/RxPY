import RxProofs.Lemmas.PureRd
/-!
# C36 — time values convert consistently between representations

`timedelta` and aware `datetime` are exact integer microsecond counts; a
float is the exact rational value of the double.  The float legs are stated for ANY rounding
function `rn` with the properties of IEEE-754 round-to-nearest in the normal range
(`Pure.TimeConv.Rounding`: monotone, exact on integers up to 2^53, relative error ≤ 2^-53); the
executable `rd` of the driver is tied to CPython's doubles by the exact differential check.
-/
open Pure.TimeConv

namespace C36

/-- **td_dt_roundtrip.** `to_timedelta(to_datetime(td)) == td`, exactly, for every timedelta. -/
theorem td_dt_roundtrip (rn : Rat → Rat) (us : Int) :
    toTimedelta rn (.dt (toDatetime rn (.td us))) = us := by
  simp [toTimedelta, toDatetime]

/-- **dt_td_roundtrip.** `to_datetime(to_timedelta(dt)) == dt`, exactly, for every aware datetime. -/
theorem dt_td_roundtrip (rn : Rat → Rat) (us : Int) :
    toDatetime rn (.td (toTimedelta rn (.dt us))) = us := by
  simp [toTimedelta, toDatetime]

/-- **int_legs_exact.** Values already in the target representation come back unchanged; int seconds
convert exactly.  (By definition of the model.) -/
theorem int_legs_exact (rn : Rat → Rat) (us k : Int) (x : Rat) :
    toTimedelta rn (.td us) = us ∧ toDatetime rn (.dt us) = us ∧ toSeconds rn (.flt x) = .flt x ∧
    toSeconds rn (.int k) = .int k ∧ toTimedelta rn (.int k) = k * 1000000 ∧ toDatetime rn (.int k) = k * 1000000 :=
  ⟨rfl, rfl, rfl, rfl, rfl, rfl⟩

/-- **to_seconds_monotone.** Order of timedeltas / datetimes is preserved by `to_seconds`. -/
theorem to_seconds_monotone {rn} (R : Rounding rn) {a b : Int} (h : a ≤ b) :
    (toSeconds rn (.td a)).val ≤ (toSeconds rn (.td b)).val ∧
    (toSeconds rn (.dt a)).val ≤ (toSeconds rn (.dt b)).val := by
  have hab : (a : Rat) ≤ (b : Rat) := Rat.intCast_le_intCast.2 h
  have : (a : Rat) / e6 ≤ (b : Rat) / e6 := by
    rw [Rat.div_def, Rat.div_def]; exact Rat.mul_le_mul_of_nonneg_right hab (by decide +kernel)
  refine ⟨R.mono _ _ this, ?_⟩
  simp only [toSeconds, Secs.val, Int.sub_zero]
  exact R.mono _ _ this

/-- **to_timedelta_monotone.** Order is preserved by `to_timedelta` on floats, datetimes and ints. -/
theorem to_timedelta_monotone {rn} (R : Rounding rn) :
    (∀ x y : Rat, x ≤ y → toTimedelta rn (.flt x) ≤ toTimedelta rn (.flt y)) ∧
    (∀ a b : Int, a ≤ b → toTimedelta rn (.dt a) ≤ toTimedelta rn (.dt b)) ∧
    (∀ a b : Int, a ≤ b → toTimedelta rn (.int a) ≤ toTimedelta rn (.int b)) := by
  refine ⟨fun x y h => usOfFloat_mono R h, fun a b h => by simp [toTimedelta]; omega,
    fun a b h => by simp [toTimedelta]; omega⟩

/-- **fromTimestamp_eq_usOfFloat.** `datetime.fromtimestamp(x, tz=utc)` lands on the same microsecond as
`timedelta(seconds=x)`, with its microsecond field normalised into `[0, 10^6)`. -/
theorem fromTimestamp_eq_usOfFloat {rn} (R : Rounding rn) (x : Rat) :
    toDatetime rn (.flt x) = toTimedelta rn (.flt x) ∧
    0 ≤ (fromTimestamp rn x).2 ∧ (fromTimestamp rn x).2 < 1000000 := by
  obtain ⟨lo, hi, _⟩ := fracUs_bounds R x
  simp only [toDatetime, toTimedelta, fromTimestamp_eq, usOfFloat_eq]
  split
  · simp only; omega
  · split <;> simp only [true_and] <;> omega

/-- **to_datetime_monotone.** Order is preserved by `to_datetime` on floats, timedeltas and ints. -/
theorem to_datetime_monotone {rn} (R : Rounding rn) :
    (∀ x y : Rat, x ≤ y → toDatetime rn (.flt x) ≤ toDatetime rn (.flt y)) ∧
    (∀ a b : Int, a ≤ b → toDatetime rn (.td a) ≤ toDatetime rn (.td b)) ∧
    (∀ a b : Int, a ≤ b → toDatetime rn (.int a) ≤ toDatetime rn (.int b)) := by
  refine ⟨fun x y h => ?_, fun a b h => by simp [toDatetime]; omega, fun a b h => by simp [toDatetime]; omega⟩
  rw [(fromTimestamp_eq_usOfFloat R x).1, (fromTimestamp_eq_usOfFloat R y).1]
  exact usOfFloat_mono R h

/-- **float_roundtrip_us.** For every microsecond count with `|us| ≤ 2^52 − 2^20`, going to float seconds
and back — as a timedelta or as a datetime — returns exactly `us` (error budget:
`|us|·2^-53 + 1/2 + 10^6·2^-53 < 1`). -/
theorem float_roundtrip_us {rn} (R : Rounding rn) (us : Int)
    (hlo : -(4503599627370496 - 1048576) ≤ us) (hhi : us ≤ 4503599627370496 - 1048576) :
    toTimedelta rn (.flt (toSeconds rn (.td us)).val) = us ∧
    toDatetime rn (.flt (toSeconds rn (.dt us)).val) = us := by
  have h := float_roundtrip R us hlo hhi
  constructor
  · exact h
  · rw [(fromTimestamp_eq_usOfFloat R _).1]
    simpa [toSeconds, Secs.val, toTimedelta] using h

/-- **rd_is_rounding.** The executable IEEE-754 binary64 round-to-nearest-even used by the driver (and
compared exactly with CPython's doubles on every run) IS a `Rounding`: monotone, exact on the
integers up to 2^53, relative error at most 2^-53 — for every rational (normal range model). -/
theorem rd_is_rounding : Rounding rd where
  mono := rd_mono
  fixInt := rd_int
  errPos := rd_errPos
  errNeg := rd_errNeg

/-- the float-leg theorems instantiated with the executable rounding -/
theorem float_legs_rd :
    (∀ a b : Int, a ≤ b → (toSeconds rd (.td a)).val ≤ (toSeconds rd (.td b)).val) ∧
    (∀ x y : Rat, x ≤ y → toTimedelta rd (.flt x) ≤ toTimedelta rd (.flt y)) ∧
    (∀ x y : Rat, x ≤ y → toDatetime rd (.flt x) ≤ toDatetime rd (.flt y)) ∧
    (∀ us : Int, -(4503599627370496 - 1048576) ≤ us → us ≤ 4503599627370496 - 1048576 →
      toTimedelta rd (.flt (toSeconds rd (.td us)).val) = us ∧ toDatetime rd (.flt (toSeconds rd (.dt us)).val) = us) :=
  ⟨fun _ _ h => (to_seconds_monotone rd_is_rounding h).1, (to_timedelta_monotone rd_is_rounding).1,
   (to_datetime_monotone rd_is_rounding).1, fun us h1 h2 => float_roundtrip_us rd_is_rounding us h1 h2⟩

/-! ## non-vacuity: exact arithmetic is a `Rounding` (as is `rd`: `rd_is_rounding`), and the bounds are met -/
theorem rounding_id : Rounding (fun x => x) where
  mono := fun _ _ h => h
  fixInt := fun _ _ _ => rfl
  errPos := fun x h => by grind
  errNeg := fun x h => by grind

example : toTimedelta (fun x => x) (.flt (toSeconds (fun x => x) (.td 1700000000123457)).val) = 1700000000123457 :=
  (float_roundtrip_us rounding_id 1700000000123457 (by decide) (by decide)).1
example : toTimedelta (fun x : Rat => x) (.dt (toDatetime (fun x => x) (.td (-5)))) = -5 := td_dt_roundtrip _ _

end C36
