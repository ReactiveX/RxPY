import RxProofs.Lemmas.OpsSlice
/-!
# C07 — slicing an observable behaves like slicing a list

`Slice.pipeline true a b c` is the stage list `_slice.py: slice_` builds
(with the `fix:` for a negative start combined with a positive stop; `Slice.pipeline false` is the
pinned tree).  `Slice.pipeOp stages` is `source.pipe(*stages)` built from the **C05 handler models**
with the real observer/disposal chain between the stages; `Slice.evalStages` evaluates the same
stage list with the C05 list semantics; `Slice.pySlice` is Python's `list[a:b:c]` (clamp the bounds
as `slice.indices(len)` does, take the segment, keep every `c`-th element).

`hlen : xs.length ≤ sys.maxsize` is a fact about every Python list (`stop=None` becomes
`take(sys.maxsize)` in the code).
-/
open Ops Ops.Slice

deriving instance DecidableEq for Except

namespace C07
variable {α : Type}

/-- **slice_eq_pyslice.** For all lists, all `start`/`stop` (None, negative, zero, positive) and every
step ≥ 1 (or None), the stage list of `slice_` evaluates to Python's `xs[start:stop:step]`. -/
theorem slice_eq_pyslice (xs : List α) (start stop step : Option Int)
    (hstep : 1 ≤ step.getD 1) (hlen : (xs.length : Int) ≤ maxsize) :
    ∃ stages, pipeline true start stop step = .ok stages ∧
      evalStages stages xs = pySlice xs start stop (step.getD 1) := by
  by_cases h1 : step.getD 1 > 1
  · refine ⟨headStages true start stop ++ tailStages stop ++ [.everyNth (step.getD 1).toNat], by simp [pipeline, h1], ?_⟩
    rw [evalStages_eq, List.foldl_append, segment_eq xs start stop hlen]
    simp [evalList, pySlice]
  · have h2 : step.getD 1 = 1 := by omega
    refine ⟨headStages true start stop ++ tailStages stop, by simp [pipeline, h2], ?_⟩
    rw [evalStages_eq, segment_eq xs start stop hlen, h2]
    simp [pySlice, stride_one]

/-- **pyslice_eq_index_form.** The clamp-segment-stride form of `pySlice` is the index comprehension
`[xs[i] for i in range(s, e) if (i - s) % step == 0]` over the clamped bounds, for every list, bounds and step. -/
theorem pyslice_eq_index_form (xs : List α) (start stop : Option Int) (step : Int) :
    pySlice xs start stop step = pySliceIdx xs start stop step := by
  unfold pySlice pySliceIdx stride
  have he := clampIdx_le xs.length stop xs.length (Nat.le_refl _)
  generalize clampIdx xs.length start 0 = s at *
  generalize clampIdx xs.length stop xs.length = e at *
  simp only []
  rw [filter_zipIdx_eq_range' (fun i => i % step.toNat == 0)]
  simp only [List.length_drop, List.length_take, Nat.min_eq_left he]
  rw [List.range'_eq_map_range (s := s), List.range'_eq_map_range (s := 0), List.filterMap_map, List.filterMap_map]
  apply filterMap_congr'
  intro i hi
  have hi' : i < e - s := List.mem_range.mp hi
  simp only [Function.comp, Nat.sub_zero, Nat.zero_add, Nat.add_sub_cancel_left]
  cases (i % step.toNat == 0)
  · rfl
  · simp only [if_true, List.getElem?_drop, List.getElem?_take]
    rw [if_pos (by omega)]

/-- **pipe_eq_eval.** Running the composed operator models on any raw input (conforming or not, lagging
disposal or not) gives the list semantics of the stage list on the conforming view. -/
theorem pipe_eq_eval (lag : Bool) (stages : List Stage) (raw : List (Notif α)) :
    visible ((pipeOp stages).run lag raw)
      = outSeq (evalSeqStages stages (elems raw, fin raw)).1 (evalSeqStages stages (elems raw, fin raw)).2 := by
  rw [run_sem, sem_pipeOp]

/-- **slice_ops_eq.** `source.pipe(ops.slice(start, stop, step))` over a source that emits `xs` and
completes: the subscriber sees exactly `xs[start:stop:step]` and then completion. -/
theorem slice_ops_eq (lag : Bool) (raw : List (Notif α)) (start stop step : Option Int)
    (hc : fin raw = .completed) (hstep : 1 ≤ step.getD 1) (hlen : ((elems raw).length : Int) ≤ maxsize) :
    ∃ stages, pipeline true start stop step = .ok stages ∧
      visible ((pipeOp stages).run lag raw)
        = outSeq (pySlice (elems raw) start stop (step.getD 1)) .completed := by
  obtain ⟨stages, hp, he⟩ := slice_eq_pyslice (elems raw) start stop step hstep hlen
  refine ⟨stages, hp, ?_⟩
  rw [pipe_eq_eval, hc, ← he, evalStages, evalSeqStages_completed]

/-- a negative step is rejected with `TypeError`, as the code does -/
theorem slice_negative_step (fixed : Bool) (start stop : Option Int) (step : Int) (h : step < 0) :
    pipeline fixed start stop (some step) = .error "TypeError" := by
  have h1 : ¬ step > 1 := by omega
  simp [pipeline, h1, h]

theorem evalSeq_end (s : Stage) (p : List α × End) :
    (s.evalSeq p).2 = p.2 ∨ (s.evalSeq p).2 = .completed := by
  obtain ⟨xs, e⟩ := p
  cases s with
  | take n => by_cases h : n ≤ xs.length <;> simp [Stage.evalSeq, h]
  | skip n => simp [Stage.evalSeq]
  | takeLast n => simp [Stage.evalSeq]
  | skipLast n => simp [Stage.evalSeq]
  | everyNth n => simp [Stage.evalSeq]
  | taggedTail k st => simp [Stage.evalSeq]

theorem evalSeqStages_end (stages : List Stage) (p : List α × End) :
    (evalSeqStages stages p).2 = p.2 ∨ (evalSeqStages stages p).2 = .completed := by
  induction stages generalizing p with
  | nil => left; rfl
  | cons s rest ih =>
    have h1 : evalSeqStages (s :: rest) p = evalSeqStages rest (s.evalSeq p) := rfl
    rw [h1]
    rcases ih (s.evalSeq p) with h | h
    · rcases evalSeq_end s p with h2 | h2
      · left; rw [h, h2]
      · right; rw [h, h2]
    · right; exact h

/-- **slice_error_passthrough.** When the source fails, the sliced sequence ends with that same error —
unless a `take(stop)` stage had already completed it. Nothing else can happen. -/
theorem slice_error_passthrough (lag : Bool) (stages : List Stage) (raw : List (Notif α)) (e : Err)
    (he : fin raw = .error e) :
    ∃ ys, visible ((pipeOp stages).run lag raw) = outSeq ys (.error e) ∨
          visible ((pipeOp stages).run lag raw) = outSeq ys .completed := by
  rw [pipe_eq_eval, he]
  rcases evalSeqStages_end stages (elems raw, .error e) with h | h
  · exact ⟨_, Or.inl (by rw [h])⟩
  · exact ⟨_, Or.inr (by rw [h])⟩

/-- **getitem_int_nonneg.** `source[i]` is `slice_(i, i+1, 1)`; for `i ≥ 0` that is the `i`-th element (if any). -/
theorem getitem_int_nonneg (xs : List α) (i : Int) (hi : 0 ≤ i) :
    pySlice xs (getitemInt i).1 (getitemInt i).2.1 ((getitemInt i).2.2.getD 1) = (xs[i.toNat]?).toList := by
  show stride 1 ((xs.take (clampIdx xs.length (some (i + 1)) xs.length)).drop (clampIdx xs.length (some i) 0)) = _
  rw [stride_one, clampIdx_nonneg _ _ hi, clampIdx_nonneg _ _ (by omega), ← List.take_eq_take_min,
    drop_min_of_length_le _ _ (List.length_take_le' _ _), show (i + 1).toNat = i.toNat + 1 by omega, List.drop_take, Nat.add_sub_cancel_left,
    List.take_one, List.head?_drop]

/-- `source[-1]` is `slice_(-1, 0, 1)`, i.e. `list[-1:0]`, which is empty (documented desugaring; the
property does not ask for more). -/
theorem getitem_minus_one (xs : List α) :
    pySlice xs (getitemInt (-1)).1 (getitemInt (-1)).2.1 ((getitemInt (-1)).2.2.getD 1) = [] := by
  simp [getitemInt, pySlice, clampIdx, stride]

/-! ## The pinned tree (before the fix): negative start with a positive stop is wrong

`take(stop)` runs first, so `take_last(-start)` counts from the cut, not from the end. -/
section AsIs

theorem slice_asis_stages : pipeline false (some (-2)) (some 9) none = .ok [.take 9, .takeLast 2] := by decide

/-- replay of DESIGN.md §6 #2: `range(10)[-2:9]` is `[8]`, the pinned `slice_` yields `[7, 8]`. -/
theorem slice_neg_start_counter :
    evalStages [.take 9, .takeLast 2] (List.range 10) = [7, 8] ∧
    pySlice (List.range 10) (some (-2)) (some 9) 1 = [8] := by decide

/-- `range(10)[-3:5]` is `[]`, the pinned `slice_` yields `[2, 3, 4]`. -/
theorem slice_neg_start_counter2 :
    pipeline false (some (-3)) (some 5) none = .ok [.take 5, .takeLast 3] ∧
    evalStages [.take 5, .takeLast 3] (List.range 10) = [2, 3, 4] ∧
    pySlice (List.range 10) (some (-3)) (some 5) 1 = [] := by decide

end AsIs

/-! ## Non-vacuity -/
example : pipeline true (some (-2)) (some 9) none = .ok [.taggedTail 2 9] := by decide
example : pipeline true (some 1) (some (-1)) (some 2) = .ok [.skip 1, .skipLast 1, .everyNth 2] := by decide
example : visible ((pipeOp [.taggedTail 2 9]).run true
      ((List.range 10).map Notif.next ++ [.completed, .next 99, .error "late"]))
    = [.next 8, .completed] := by decide
example : visible ((pipeOp [.skip 1, .skipLast 1, .everyNth 2]).run false
      ((List.range 7).map Notif.next ++ [.completed]))
    = [.next 1, .next 3, .next 5, .completed] := by decide

end C07
