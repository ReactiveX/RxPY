import RxProofs.Lemmas.SubjReplayNat
import RxProofs.Lemmas.SubjReplayReach
/-!
# C22 — a ReplaySubject replays exactly its retained values, in order

Model: `RxModel/SubjReplay.lean` — `ReplaySubject` (`queue` of `(time, value)`, `_trim`), one
`ScheduledObserver` + `AutoDetachObserver` per subscriber, the virtual-time scheduler's queue, clock and
spin counter; a history is any list of timed calls scheduled up front; reaction scripts as in C20, plus
re-entrant emission into the subject (`RAction.emit`).
All theorems are about every state `Reach`able by `start()` from any such history (any length, any times,
any buffer size incl. `0` and `None`, any window incl. `None`), by induction over the scheduler's steps.

Vocabulary.  Ghost fields (the machine writes them and never reads them): `allVals` — every `(now, value)` the
subject accepted; `enq i` — everything that was to be handed to observer `i` (queued on its ScheduledObserver);
`fed i` — what has been handed to its AutoDetachObserver so far; `lastNow`; `evs` — the observable events,
which only `specOf` reads.  `log i` is what `i`'s user has seen, with the virtual time of each callback.
-/

namespace C22
open SubjReplay
open Subj (Call)
variable {α : Type}

/-- **replay_retained_spec.**  In every reachable state of an undisposed subject the queue is exactly the
retained part of everything ever accepted — the *longest* suffix of `allVals` with at most `buffer_size`
items all of whose ages (at the last `now` the subject read) are within the window — and trimming it at
any later instant `now` (what `subscribe` does) again yields exactly the part retained at `now`.
Values dropped once never come back, because the clock (`allVals` is time-sorted, `lastNow ≤ clock`) only
moves forward.  Age exactly equal to the window is *retained* (the code drops on `>`; `Good` is `≤`). -/
theorem replay_retained_spec {cfg : Cfg α} {calls : List (Nat × Call α)} {st : St α} (h : Reach cfg calls st)
    (hd : st.disposed = false) :
    Sorted st.allVals ∧ st.lastNow ≤ st.clock ∧
    IsRetained cfg st.lastNow st.allVals st.queue ∧
    ∀ now, st.lastNow ≤ now → IsRetained cfg now st.allVals (trim cfg now st.queue) := by
  have hI := (reach_Inv h).r
  exact ⟨hI.sorted, hI.lastNow_le, hI.retained hd, fun now hn => trim_of_retained hI.sorted (hI.retained hd) hn⟩

theorem retained_unique {cfg : Cfg α} {now : Nat} {all r1 r2 : List (Nat × α)}
    (h1 : IsRetained cfg now all r1) (h2 : IsRetained cfg now all r2) : r1 = r2 :=
  h1.unique h2

/-- **replay_prefix_then_live** (1: the replayed prefix).  A new subscriber `j` of an undisposed subject
(subscribing at top level or from inside a callback, at virtual time `clock`) is queued — in order — the
values retained at `clock`, followed by the terminal notification if the subject has terminated; it is
appended to the observers; and no user code runs inside `subscribe`. -/
theorem replay_prefix {cfg : Cfg α} {calls : List (Nat × Call α)} {st : St α} (h : Reach cfg calls st)
    (who : Option Id) (j : Id) (hj : st.seen j = false) (hd : st.disposed = false) :
    IsRetained cfg st.clock st.allVals (trim cfg st.clock st.queue) ∧
    (doSub cfg st who j).1.enq j =
      (trim cfg st.clock st.queue).map (fun it => Notif.next it.2) ++ terminalOf st ∧
    (doSub cfg st who j).1.observers = st.observers ++ [j] ∧
    (doSub cfg st who j).2 = [] ∧
    (∀ k, k ≠ j → (doSub cfg st who j).1.enq k = st.enq k) := by
  have hI := (reach_Inv h).r
  have hs := doSub_enq cfg hI who j hj hd
  exact ⟨trim_of_retained hI.sorted (hI.retained hd) hI.lastNow_le, hs.1, hs.2.1, hs.2.2,
    fun k hk => doSub_enq_other cfg hI who j k hk⟩

/-- **replay_prefix_then_live** (2: live notifications).  A notification accepted by the subject — from a
history call (`who = none`) or re-entrantly from inside a subscriber's own callback (`who = some i`, a
feedback loop) — is queued exactly once for exactly the current observers, and for nobody else.  In any state, reachable or
not, a `run` action (`soRun`) and every task that is neither a subscription nor an emission queue nothing.  The scheduler's own
bookkeeping (dequeuing, the clock, recording a history call) is not in the statement. -/
theorem replay_live {cfg : Cfg α} {calls : List (Nat × Call α)} {st : St α} (h : Reach cfg calls st) :
    (∀ who n, st.disposed = false → st.stopped = false →
      ∀ k, (emit cfg st who n).enq k = if k ∈ st.observers then st.enq k ++ [n] else st.enq k) ∧
    (∀ i, (soRun cfg st i).enq = st.enq) ∧
    (∀ t, (∀ who j, t ≠ Task.act who (.base (.sub j))) → (∀ who n, t ≠ Task.act who (.emit n)) →
      (doTask cfg st t).enq = st.enq) :=
  ⟨fun who n hd hs k => emit_enq cfg (reach_Inv h).r who n hd hs k, fun i => soRun_enq cfg st i,
   fun t ht he => doTask_enq cfg st t ht he⟩

/-- **replay_prefix_then_live** (3: nothing duplicated or reordered on the way to the user).
The ScheduledObserver is a FIFO: what has been handed to the AutoDetachObserver, followed by what is
still queued, is what was queued (unless the observer's own callback raised); the user has seen exactly
what was handed over as long as the observer is live, and a prefix of it afterwards. -/
theorem replay_fifo {cfg : Cfg α} {calls : List (Nat × Call α)} {st : St α} (h : Reach cfg calls st) (i : Id) :
    (st.faulted i = false → st.fed i ++ st.soQueue i = st.enq i) ∧
    (st.adoStopped i = false → notifs (st.log i) = st.fed i) ∧
    notifs (st.log i) <+: st.fed i :=
  ⟨(reach_Inv h).r.fifo i, (reach_Inv h).u.all i, (reach_Inv h).u.pre i⟩

/-- **replay_prefix_then_live** (4: everything arrives — for an observer still subscribed).  When `start()` has returned
normally, every observer whose ScheduledObserver was not disposed (`serDisposed i = false`) has been handed everything queued
for it; if its AutoDetachObserver is not stopped either, its user has seen exactly that sequence.  An observer that was handed
a terminal is not reached: the `dispose()` after the delivery sets `serDisposed i`, so on a terminated subject this speaks of
nobody; for those observers only `replay_fifo` and the prefix part of `replay_one_formula` hold. -/
theorem replay_all_delivered {cfg : Cfg α} {calls : List (Nat × Call α)} {st : St α} (h : Reach cfg calls st)
    (hidle : st.agenda = [] ∧ st.pending = []) (hc : st.crashed = none) (i : Id) (hd : st.serDisposed i = false) :
    st.soQueue i = [] ∧ st.fed i = st.enq i ∧ (st.adoStopped i = false → notifs (st.log i) = st.enq i) := by
  have hq := quiescent_drained (reach_Inv h).r (reach_Inv h).l hidle hc i hd
  exact ⟨hq.1, hq.2, fun ha => by rw [← hq.2]; exact (reach_Inv h).u.all i ha⟩

/-- **replay_prefix_then_live** (one formula).  `specOf cfg st.evs` is computed from the *observable* event
order alone (the history calls with their contents and times, re-entrant emissions, subscription attempts,
unsubscriptions, disposals — the very list the correspondence check compares with the real code), by the
property text: `exp i` = at `i`'s subscription the values retained at that instant (`trim` of everything
accepted so far) ++ the terminal if the subject has terminated ++ every notification accepted afterwards
while `i` stays subscribed (cut at its unsubscription / at termination / at `dispose`).
In every reachable state: what was queued for `i` is exactly `exp i`; what `i`'s user has seen is a prefix of
it, in order, nothing twice; and when `start()` has returned normally an observer that was neither unsubscribed nor handed a
terminal (`serDisposed i = false`, `adoStopped i = false`: see `replay_all_delivered`) has seen exactly `exp i`. -/
theorem replay_one_formula {cfg : Cfg α} {calls : List (Nat × Call α)} {st : St α} (h : Reach cfg calls st) (i : Id) :
    st.enq i = (specOf cfg st.evs).exp i ∧
    (st.faulted i = false → notifs (st.log i) <+: (specOf cfg st.evs).exp i) ∧
    (st.agenda = [] ∧ st.pending = [] → st.crashed = none → st.serDisposed i = false → st.adoStopped i = false →
      notifs (st.log i) = (specOf cfg st.evs).exp i) := by
  obtain ⟨hI, hU, hS, -⟩ := reach_Inv h
  refine ⟨hS.sim.exp i, ?_, ?_⟩
  · intro hf
    rw [← hS.sim.exp i, ← hI.fifo i hf]
    exact (hU.pre i).trans (List.prefix_append _ _)
  · intro hidle hc hd ha
    rw [← hS.sim.exp i]
    exact (replay_all_delivered h hidle hc i hd).2.2 ha

/-- The specification's reading of a subscription, spelled out: on an undisposed subject the expected
sequence of a new subscriber starts with `trim` (= the retained part, `replay_retained_spec`) of all values
accepted so far, then the accepted terminal if any; it is subscribed for later notifications iff the subject
has not terminated. -/
theorem spec_subscription (cfg : Cfg α) (s : Spec α) (j now : Nat) (hd : s.disp = false) :
    (Spec.step cfg s (.sub j now)).exp j =
      (trim cfg now s.vals).map (fun it => Notif.next it.2) ++ s.term.toList ∧
    (Spec.step cfg s (.sub j now)).subs = if s.term.isNone then s.subs ++ [j] else s.subs := by
  rw [Spec.step_sub cfg j now hd]; exact ⟨upd_self .., rfl⟩

/-- …and of an emission: an accepted notification is appended to the expected sequence of exactly the
currently subscribed observers. -/
theorem spec_emission (s : Spec α) (now : Nat) (n : Notif α) (hd : s.disp = false) (ht : s.term = none) (i : Id) :
    (s.emit now n).exp i = if i ∈ s.subs then s.exp i ++ [n] else s.exp i := by
  rw [Spec.emit_accepted now n hd ht]

/-- **replay_dispose_stops.**  Once an observer's subscription has been disposed (or it was handed a
terminal) its user sees nothing more — not even replayed values still queued in its ScheduledObserver —
whatever the rest of the run does; and a disposed subject raises `DisposedException` on emission.  (The first and the last
conjunct hold of any state, reachable or not.) -/
theorem replay_dispose_stops {cfg : Cfg α} {calls : List (Nat × Call α)} {st : St α} (h : Reach cfg calls st) :
    (∀ j, st.handle j = true → (doUnsub st j).adoStopped j = true) ∧
    (∀ i, st.adoStopped i = true → ∀ f, (steps cfg f st).log i = st.log i ∧ (steps cfg f st).adoStopped i = true) ∧
    (st.disposed = true → ∀ who n, emit cfg st who n = SubjReplay.raiseTo who Subj.disposedExn st) := by
  refine ⟨fun j hj => ?_, fun i hs f => steps_silent (reach_Inv h).r i hs f, fun hd who n => by rw [emit_eq, if_pos hd]⟩
  rw [doUnsub_eq, if_pos hj, (sadDispose_writes (logUnsub st j) j).uframe.adoStopped]
  exact upd_self ..

/-- **replay_natural** (C08 for ReplaySubject: no value is special).  Renaming every value of a timed
history — and of the re-entrant emissions in the reaction scripts — with an arbitrary function `g` renames the
(timed) notifications every observer sees and the retained queue, and changes nothing else: same times, same
exceptions per call, same caught exceptions, same crash status.  `_trim` looks at times and counts only. -/
theorem replay_natural {β : Type} (cfg : Cfg α) (g : α → β) (fuel : Nat) (calls : List (Nat × Call α)) (i : Id) :
    (run (cfg.map g) fuel (calls.map (tc g))).log i = ((run cfg fuel calls).log i).map (tn g) ∧
    (run (cfg.map g) fuel (calls.map (tc g))).raised = (run cfg fuel calls).raised ∧
    (run (cfg.map g) fuel (calls.map (tc g))).xlog = (run cfg fuel calls).xlog ∧
    (run (cfg.map g) fuel (calls.map (tc g))).crashed = (run cfg fuel calls).crashed ∧
    (run (cfg.map g) fuel (calls.map (tc g))).queue = (run cfg fuel calls).queue.map (tv g) := by
  rw [run_map]
  exact ⟨rfl, rfl, rfl, rfl, rfl⟩

/-- What the correspondence check executes (`SubjReplay.run`, any fuel, any history) is reachable. -/
theorem run_reachable (cfg : Cfg α) (fuel : Nat) (calls : List (Nat × Call α)) : Reach cfg calls (run cfg fuel calls) :=
  steps_inv (fun _ h => h.step) fuel Reach.init

/-! ### Non-vacuity: buffer 2, window 10.  Values at t=1,2,3 (the falsy `0` among them); observer 0
subscribes at t=12: only the last two are candidates and `(2, _)` has age exactly 10 = window: retained;
observer 1 subscribes at t=13: age 11 > 10: dropped, only `(3, _)` is replayed, then completion.  (Both observers end
auto-detached by `completed`, so `replay_all_delivered` is silent about them: the lines below show the run itself.) -/
def exCfg : Cfg Nat := { bufferSize := some 2, window := some 10, hasErr := fun _ => true, react := fun _ _ => [] }

def exRun := run exCfg 200 [(1, Call.next 5), (2, .next 0), (3, .next 7), (12, .sub 0), (12, .completed), (13, .sub 1), (14, .next 9)]

example : exRun.log 0 = [(12, .next 0), (12, .next 7), (12, .completed)] := by decide
example : exRun.log 1 = [(13, .next 7), (13, .completed)] := by decide
example : exRun.enq 0 = [.next 0, .next 7, .completed] ∧ exRun.fed 0 = exRun.enq 0 := by decide
example : idle exRun = true ∧ exRun.crashed = none := by decide
example : exRun.allVals = [(1, 5), (2, 0), (3, 7)] ∧ exRun.queue = [(3, 7)] := by decide

/-! `buffer_size = 0` retains nothing; `None`/`None` retains everything; unsubscribing with replay pending. -/
example : (run { exCfg with bufferSize := some 0, window := none } 200 [(1, Call.next 5), (2, .sub 0), (3, .next 6)]).log 0
    = [(3, .next 6)] := by decide
example : (run { exCfg with bufferSize := none, window := none } 200 [(1, Call.next 5), (1, .next 6), (2, .sub 0), (2, .unsub 0)]).log 0
    = [] := by decide
example : (run { exCfg with bufferSize := none, window := none } 200 [(1, Call.next 5), (1, .next 6), (2, .sub 0), (2, .unsub 0)]).enq 0
    = [.next 5, .next 6] := by decide

/-- Feedback (re-entrant emission): observer 0 answers the value `1` by pushing `2` into the subject from
inside its callback — while it is processing the last item queued for it — and answers `2` by completing
the subject.  Everybody (the producer itself, the passive observer 1, the late observer 2) sees all of it. -/
def fbCfg : Cfg Nat :=
  { bufferSize := none, window := none, hasErr := fun _ => true
    react := fun i k => if i = 0 ∧ k = 0 then [.emit (.next 2)] else if i = 0 ∧ k = 1 then [.emit .completed] else [] }

def fbRun := run fbCfg 200 [(210, Call.sub 0), (215, .sub 1), (220, .next 1), (300, .sub 2)]

example : fbRun.log 0 = [(220, .next 1), (220, .next 2), (220, .completed)] := by decide
example : fbRun.log 1 = [(220, .next 1), (220, .next 2), (220, .completed)] := by decide
example : fbRun.log 2 = [(300, .next 1), (300, .next 2), (300, .completed)] := by decide
example : (specOf fbCfg fbRun.evs).exp 1 = [.next 1, .next 2, .completed] := by decide
example : (specOf exCfg exRun.evs).exp 0 = [.next 0, .next 7, .completed] ∧ (specOf exCfg exRun.evs).exp 1 = [.next 7, .completed] := by decide

end C22
