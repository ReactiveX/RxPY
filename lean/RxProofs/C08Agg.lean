import RxProofs.Lemmas.AggNatural
/-!
# C08 (aggregating family) — falsy values are ordinary elements: naturality of the Agg operators

The aggregating family's part of C08 (an audit target of its own, `harness/props/C08.py`).  `op'.out lag (mapN ρ raw) = mapN σ (op.out lag raw)`: renaming
the elements by **any** `ρ` (so also sending `None, 0, 0.0, False, '', (), [], {}` to arbitrary values), with the callbacks
composed accordingly, renames the output — for every raw input and disposal timing.  No model of this family inspects an
element except through its callbacks and (to_set / contains / sequence_equal) the supplied equality; for `sequence_equal`
no naturality theorem is stated.
-/
namespace C08Agg
open Agg
variable {α α' β β' κ κ' ν ν' : Type} (ρ : α → α') (lag : Bool) (raw : List (Notif α))

theorem scan_natural (σ : β → β') (f : β → α → Except Err β) (f' : β' → α' → Except Err β') (seed : Option β) (inj : α → β) (inj' : α' → β')
    (hf : ∀ a x, f' (σ a) (ρ x) = (f a x).map σ) (hinj : ∀ x, inj' (ρ x) = σ (inj x)) :
    (scanO f' (seed.map σ) inj').out lag (mapN ρ raw) = mapN σ ((scanO f seed inj).out lag raw) :=
  natural_out (scanO_nat ρ σ f f' seed inj inj' hf hinj).natural lag raw

theorem reduce_natural (σ : β → β') (f : β → α → Except Err β) (f' : β' → α' → Except Err β') (seed : Option β) (inj : α → β) (inj' : α' → β')
    (hf : ∀ a x, f' (σ a) (ρ x) = (f a x).map σ) (hinj : ∀ x, inj' (ρ x) = σ (inj x)) :
    (reduceO f' (seed.map σ) inj').out lag (mapN ρ raw) = mapN σ ((reduceO f seed inj).out lag raw) :=
  natural_out (reduceO_natural ρ σ f f' seed inj inj' hf hinj) lag raw

/-- `count` does not look at the elements at all -/
theorem count_natural (p : Option (α → Except Err Bool)) (p' : Option (α' → Except Err Bool))
    (hp : match p, p' with | none, none => True | some q, some q' => ∀ x, q' (ρ x) = q x | _, _ => False) :
    (countO p').out lag (mapN ρ raw) = (countO p).out lag raw := by
  have hc : ∀ {γ γ'} (τ : γ → γ'), Ops.Natural (countAllO : Op γ Nat).toOps (countAllO : Op γ' Nat).toOps τ id :=
    fun τ => reduceO_natural τ id _ _ (some 0) _ _ (fun a x => rfl) (fun x => rfl)
  cases p <;> cases p' <;> simp only at hp
  · exact (natural_out (hc ρ) lag raw).trans (mapN_id _)
  · exact (natural_out ((filterO_natural ρ _ _ hp).aggComp (hc ρ)) lag raw).trans (mapN_id _)

theorem sum_by_natural (key : α → Except Err β) (key' : α' → Except Err β) (add : β → β → Except Err β) (zero : β)
    (hkey : ∀ x, key' (ρ x) = key x) :
    (sumByO key' add zero).out lag (mapN ρ raw) = (sumByO key add zero).out lag raw :=
  (natural_out ((map_key_natural ρ key key' hkey).aggComp (.refl _)) lag raw).trans (mapN_id _)

theorem average_natural (key : α → Except Err Int) (key' : α' → Except Err Int) (hkey : ∀ x, key' (ρ x) = key x) :
    (averageO key').out lag (mapN ρ raw) = (averageO key).out lag raw :=
  (natural_out ((((map_key_natural ρ key key' hkey).aggComp (.refl _)).aggComp (.refl _)).aggComp (.refl _)) lag raw).trans
    (mapN_id _)

theorem max_by_natural (κρ : κ → κ') (key : α → Except Err κ) (key' : α' → Except Err κ') (cmp : κ → κ → Except Err Int)
    (cmp' : κ' → κ' → Except Err Int) (hkey : ∀ x, key' (ρ x) = (key x).map κρ) (hcmp : ∀ a b, cmp' (κρ a) (κρ b) = cmp a b) :
    (maxByO key' cmp').out lag (mapN ρ raw) = mapN (List.map ρ) ((maxByO key cmp).out lag raw) :=
  natural_out (extremaByO_nat ρ κρ key key' cmp cmp' hkey hcmp).natural lag raw

theorem min_by_natural (κρ : κ → κ') (key : α → Except Err κ) (key' : α' → Except Err κ') (cmp : κ → κ → Except Err Int)
    (cmp' : κ' → κ' → Except Err Int) (hkey : ∀ x, key' (ρ x) = (key x).map κρ) (hcmp : ∀ a b, cmp' (κρ a) (κρ b) = cmp a b) :
    (minByO key' cmp').out lag (mapN ρ raw) = mapN (List.map ρ) ((minByO key cmp).out lag raw) :=
  natural_out (extremaByO_nat ρ κρ key key' _ _ hkey (fun a b => by rw [hcmp])).natural lag raw

theorem max_natural (cmp : α → α → Except Err Int) (cmp' : α' → α' → Except Err Int) (hcmp : ∀ a b, cmp' (ρ a) (ρ b) = cmp a b) :
    (maxO cmp').out lag (mapN ρ raw) = mapN ρ ((maxO cmp).out lag raw) :=
  natural_out ((extremaByO_nat ρ ρ _ _ cmp cmp' (fun x => rfl) hcmp).natural.aggComp
    (mapO_natural (List.map ρ) ρ firstOnly firstOnly (firstOnly_map ρ))) lag raw

theorem min_natural (cmp : α → α → Except Err Int) (cmp' : α' → α' → Except Err Int) (hcmp : ∀ a b, cmp' (ρ a) (ρ b) = cmp a b) :
    (minO cmp').out lag (mapN ρ raw) = mapN ρ ((minO cmp).out lag raw) :=
  natural_out ((extremaByO_nat ρ ρ _ _ _ _ (fun x => rfl) (fun a b => by rw [hcmp])).natural.aggComp
    (mapO_natural (List.map ρ) ρ firstOnly firstOnly (firstOnly_map ρ))) lag raw

theorem to_list_natural : (toListO : Op α' (List α')).out lag (mapN ρ raw) = mapN (List.map ρ) ((toListO : Op α (List α)).out lag raw) :=
  natural_out (toListO_nat ρ).natural lag raw

theorem to_set_natural (eq : α → α → Bool) (eq' : α' → α' → Bool) (heq : ∀ a b, eq' (ρ a) (ρ b) = eq a b) :
    (toSetO eq').out lag (mapN ρ raw) = mapN (List.map ρ) ((toSetO eq).out lag raw) :=
  natural_out (toSetO_nat ρ eq eq' heq).natural lag raw

theorem to_dict_natural (eq : κ → κ → Bool) (τ : ν → ν') (key : α → Except Err κ) (key' : α' → Except Err κ)
    (elem : α → Except Err ν) (elem' : α' → Except Err ν') (hkey : ∀ x, key' (ρ x) = key x) (helem : ∀ x, elem' (ρ x) = (elem x).map τ) :
    (toDictO eq key' elem').out lag (mapN ρ raw)
      = mapN (List.map (fun p => (p.1, τ p.2))) ((toDictO eq key elem).out lag raw) :=
  natural_out (toDictO_nat ρ eq τ key key' elem elem' hkey helem).natural lag raw

/-- first / last / single, with or without default (a default `d` is renamed too — `None` as default is like any other) -/
theorem first_last_single_natural (d : Option α) :
    (firstOrDefaultO (d.map ρ)).out lag (mapN ρ raw) = mapN ρ ((firstOrDefaultO d).out lag raw)
    ∧ (lastOrDefaultO (d.map ρ)).out lag (mapN ρ raw) = mapN ρ ((lastOrDefaultO d).out lag raw)
    ∧ (singleOrDefaultO (d.map ρ)).out lag (mapN ρ raw) = mapN ρ ((singleOrDefaultO d).out lag raw) :=
  ⟨natural_out (firstOrDefaultO_nat ρ d).natural lag raw, natural_out (lastOrDefaultO_nat ρ d).natural lag raw,
    natural_out (singleOrDefaultO_nat ρ d).natural lag raw⟩

theorem predicate_forms_natural (p : α → Except Err Bool) (p' : α' → Except Err Bool) (hp : ∀ x, p' (ρ x) = p x) (d : Option α) :
    (filterO p' ⨾ firstOrDefaultO (d.map ρ)).out lag (mapN ρ raw) = mapN ρ ((filterO p ⨾ firstOrDefaultO d).out lag raw)
    ∧ (filterO p' ⨾ lastOrDefaultO (d.map ρ)).out lag (mapN ρ raw) = mapN ρ ((filterO p ⨾ lastOrDefaultO d).out lag raw)
    ∧ (filterO p' ⨾ singleOrDefaultO (d.map ρ)).out lag (mapN ρ raw) = mapN ρ ((filterO p ⨾ singleOrDefaultO d).out lag raw)
    ∧ (filterO p' ⨾ someOp).out lag (mapN ρ raw) = mapN id ((filterO p ⨾ someOp).out lag raw) :=
  have hf := filterO_natural ρ p p' hp
  ⟨natural_out (hf.aggComp (firstOrDefaultO_nat ρ d).natural) lag raw,
    natural_out (hf.aggComp (lastOrDefaultO_nat ρ d).natural) lag raw,
    natural_out (hf.aggComp (singleOrDefaultO_nat ρ d).natural) lag raw, natural_out (hf.aggComp (someOp_nat ρ).natural) lag raw⟩

theorem some_natural : (someOp : Op α' Bool).out lag (mapN ρ raw) = (someOp : Op α Bool).out lag raw :=
  (natural_out (someOp_nat ρ).natural lag raw).trans (mapN_id _)

theorem is_empty_natural : (isEmptyO : Op α' Bool).out lag (mapN ρ raw) = (isEmptyO : Op α Bool).out lag raw :=
  (natural_out ((someOp_nat ρ).natural.aggComp (.refl _)) lag raw).trans (mapN_id _)

theorem all_natural (p : α → Except Err Bool) (p' : α' → Except Err Bool) (hp : ∀ x, p' (ρ x) = p x) :
    (allO p').out lag (mapN ρ raw) = (allO p).out lag raw :=
  (natural_out (((filterO_natural ρ _ _ (fun x => by rw [hp])).aggComp (someOp_nat ρ).natural).aggComp (.refl _))
    lag raw).trans (mapN_id _)

theorem contains_natural (v : α) (cmp : α → α → Except Err Bool) (cmp' : α' → α' → Except Err Bool)
    (hcmp : ∀ a b, cmp' (ρ a) (ρ b) = cmp a b) :
    (containsO (ρ v) cmp').out lag (mapN ρ raw) = (containsO v cmp).out lag raw :=
  (natural_out ((filterO_natural ρ (fun x => cmp x v) (fun x => cmp' x (ρ v)) (fun x => hcmp x v)).aggComp
    (someOp_nat ρ).natural) lag raw).trans (mapN_id _)

/-- a concrete renaming of the falsy values: the result is the renamed result -/
example : (lastOrDefaultO (some (0 : Nat))).out false (mapN (fun n => n + 7) [.next 0, .next 3, .next 0, .completed])
    = mapN (fun n => n + 7) ((lastOrDefaultO (some 0)).out false [.next 0, .next 3, .next 0, .completed]) := rfl

end C08Agg
