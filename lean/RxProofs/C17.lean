import RxProofs.Lemmas.TimedWin
import RxProofs.Lemmas.TimedMap
import RxProofs.Lemmas.TimedSim
/-!
# C17 — time-window operators respect their window boundaries

Models: `RxModel/TimedWin.lean`, `RxModel/TimedMap.lean` (timeout_with_mapper), `RxModel/TimedSim.lean` (the scheduler queue).
Every theorem is for **all** timelines whose times are non-decreasing (`Mono`; what a virtual-time scheduler
delivers), all durations, all element types; the tie between a source message and the operator's timer due at
the same instant is the inlined `(due, seq)` rule `timerBefore` (hot source: the source wins).

The model of take_last_with_time is the **repaired** code (`fixes/C17_take_last_with_time_boundary.patch`);
the code as it is on the pinned tree is treated in the section `AsIs` at the end.
-/

namespace C17
open Timed

/-- **twt_before_boundary** (take_with_time and take_until_with_time; `due` = the instant the completion timer
is queued for, `fireAt = max due sub` when it runs).  The subscriber gets exactly the source notifications that
the timer does not precede, then the timer's completion at `fireAt` — unless the source terminated first. -/
theorem twt_before_boundary {α} (timerFirst : Bool) (due fireAt lo : Nat) (msgs : TL α) (h : Mono lo msgs) :
    twtRun timerFirst due fireAt msgs = twtSpec timerFirst due fireAt msgs := by
  induction msgs generalizing lo with
  | nil => simp [timeline_simp, twtRun, twtSpec, conform]
  | cons a r ih =>
    obtain ⟨t, n⟩ := a
    by_cases hb : timerBefore timerFirst due t = true
    · have : r.filter (fun m => !timerBefore timerFirst due m.1) = [] :=
        List.filter_eq_nil_iff.2 fun m hm => by simp [tb_mono (Mono.mem_ge h.2 m hm) hb]
      simp [timeline_simp, twtRun, twtSpec, hb, this, conform]
    · have ih' := ih t h.2
      simp only [Bool.not_eq_true] at hb
      cases n with
      | next v =>
        simp only [timeline_simp, twtRun, hb, Bool.false_eq_true, if_false, ih', twtSpec, List.filter_cons, Bool.not_false,
          if_true, conform, Bool.not_true, Bool.false_or]
        split <;> simp      -- on `hasTerminal` of what the rest relays
      | error e => simp [timeline_simp, twtRun, twtSpec, hb, conform]
      | completed => simp [timeline_simp, twtRun, twtSpec, hb, conform]

/-- hot source, relative duration: elements at `t ≤ sub + d` pass, completion at `sub + d` -/
example : twtRun false 230 230 [(210, Notif.next 1), (230, .next 2), (231, .next 3)]
    = [(210, .next 1), (230, .next 2), (230, .completed)] := by decide
/-- cold source (the timer was armed first): the element at the boundary instant is cut -/
example : twtRun true 230 230 [(210, Notif.next 1), (230, .next 2)] = [(210, .next 1), (230, .completed)] := by decide
/-- absolute end time in the past: completes at the subscription instant -/
example : twtRun false 150 200 [(210, Notif.next 1)] = [(200, .completed)] := by decide

/-- **swt_after_boundary** (skip_with_time and skip_until_with_time).  The subscriber gets exactly the elements
that the opening timer precedes; terminals always pass. -/
theorem swt_after_boundary {α} (timerFirst : Bool) (due lo : Nat) (msgs : TL α) (h : Mono lo msgs) :
    swtRun timerFirst due false msgs = swtSpec timerFirst due msgs :=
  swt_run_eq_spec timerFirst due msgs lo false h (by simp)

example : swtRun false 230 false [(210, Notif.next 1), (230, .next 2), (231, .next 3), (240, .completed)]
    = [(231, .next 3), (240, .completed)] := by decide
example : swtRun true 230 false [(230, Notif.next 2), (231, .error "e")] = [(230, .next 2), (231, .error "e")] := by decide

/-- the test by which `twtSpec` keeps a notification and the one by which `swtSpec` keeps an element are complementary
(about the test alone: neither spec occurs) -/
theorem take_skip_partition {α} (timerFirst : Bool) (due : Nat) (m : Nat × Notif α) :
    (!timerBefore timerFirst due m.1) ≠ (timerBefore timerFirst due m.1) := by
  cases timerBefore timerFirst due m.1 <;> simp

/-- **tlwt_age_rule** (take_last_with_time, repaired code).  At completion `T` exactly the elements with
`T - t < d` are emitted, in arrival order, then the completion; an error passes at once and nothing else
is emitted.  The rule mentions only the element's own arrival time, `T` and `d`. -/
theorem tlwt_age_rule {α} (d lo : Nat) (msgs : TL α) (h : Mono lo msgs) :
    tlwtRun keepFixed d [] msgs = tlwtSpec d msgs := by
  rw [tlwt_run_eq_G d msgs [] lo h]
  unfold tlwtG tlwtSpec
  rcases firstTerminal_cases h with hf | ⟨T, -, hf⟩ | ⟨T, e, -, hf⟩ <;> simp [hf, keepFixed]

/-- **tlwt_independent_of_arrivals.**  Whether an element is emitted depends on nothing but its own age at
completion — in particular not on other arrivals. -/
theorem tlwt_independent_of_arrivals {α} (d lo T : Nat) (msgs : TL α) (h : Mono lo msgs)
    (hf : firstTerminal msgs = some (T, .completed)) (τ : Nat) (v : α) :
    (τ, Notif.next v) ∈ tlwtRun keepFixed d [] msgs ↔ τ = T ∧ ∃ t, (t, v) ∈ nexts msgs ∧ T < t + d := by
  rw [tlwt_age_rule d lo msgs h]
  simp only [tlwtSpec, hf, List.mem_append, List.mem_map, List.mem_filter, decide_eq_true_eq, List.mem_singleton,
    Prod.mk.injEq, reduceCtorEq, and_false, or_false]
  constructor
  · rintro ⟨⟨t, w⟩, ⟨hm, hlt⟩, rfl, hw⟩
    simp only [Notif.next.injEq] at hw
    subst hw
    exact ⟨rfl, t, hm, hlt⟩
  · rintro ⟨rfl, t, hm, hlt⟩
    exact ⟨(t, v), ⟨hm, hlt⟩, rfl, rfl⟩

example : tlwtRun keepFixed 10 [] [(300, Notif.next "a"), (301, .next "b"), (310, .completed)]
    = [(310, .next "b"), (310, .completed)] := by decide
/-- the boundary element is treated the same with or without another arrival at the completion instant -/
example : tlwtRun keepFixed 10 [] [(300, Notif.next "a"), (310, .next "b"), (310, .completed)]
    = [(310, .next "b"), (310, .completed)] := by decide
example : tlwtRun keepFixed 10 [] [(300, Notif.next "a"), (310, .completed)] = [(310, .completed)] := by decide

/-- **slwt_age_rule** (skip_last_with_time).  When the source completes at `T`, the elements delivered (before
or at `T`) are exactly those with `T - t ≥ d`, in arrival order. -/
theorem slwt_age_rule {α} (d lo T : Nat) (msgs : TL α) (h : Mono lo msgs)
    (hf : firstTerminal msgs = some (T, .completed)) :
    vals (slwtRun d [] msgs) = ((nexts msgs).filter (fun e => decide (e.1 + d ≤ T))).map (·.2) := by
  have := slwt_vals d msgs [] lo T h List.Pairwise.nil (by simp) hf
  simpa using this

/-- **slwt_emit_when_aged** (timed form).  At every source notification at `τ` (element or completion) the elements
whose age reached `d` since the previous notification are emitted, oldest first (`slwtSpec`). -/
theorem slwt_emit_when_aged {α} (d lo : Nat) (msgs : TL α) (h : Mono lo msgs) :
    slwtRun d [] msgs = slwtSpec d [] 0 msgs := by
  have := slwt_run_eq_spec d msgs [] 0 lo h List.Pairwise.nil (by simp) (Nat.zero_le _)
  simpa using this

example : slwtRun 10 [] [(300, Notif.next "a"), (301, .next "b"), (310, .next "c"), (311, .completed)]
    = [(310, .next "a"), (311, .next "b"), (311, .completed)] := by decide

/-- take_last and skip_last split the elements of a completed source by the same boundary `T - t < d`. -/
theorem last_partition (T t d : Nat) : keepFixed T t d = !decide (t + d ≤ T) := by
  simp only [keepFixed]
  by_cases h : T < t + d <;> simp [h] <;> omega

/-- **timeout_fires_exactly.**  With relative due time `d` (`Due.rel d`) or an absolute one (`Due.abs D`), from the
state right after subscription: the source is relayed while every notification arrives no later than the deadline
(subscription or last element + `d`); the first notification the deadline precedes — or the end of the source — is
replaced by the fallback, subscribed at the deadline (`toSpec`).  For all timelines. -/
theorem timeout_fires_exactly {α} (mode : Due) (cold1 : Bool) (other : Nat → TL α) (sub : Nat) (msgs : TL α) :
    toRun mode cold1 other (toInit mode sub) msgs
      = toSpec mode cold1 other (mode.at sub) (max (mode.at sub) sub) true msgs :=
  to_run_eq_spec mode cold1 other msgs _ _ _ _ (toInit_ok mode sub)

/-- **timeout_never_after_terminal.**  The output is a prefix of the source followed by the fallback (if a switch
happens).  If it happens, nothing but elements were relayed before it (no source terminal); if it does not, the
subscriber got the whole source up to and including its terminal. -/
theorem timeout_never_after_terminal {α} (mode : Due) (cold1 : Bool) (other : Nat → TL α) (sub : Nat) (msgs : TL α) :
    let due := mode.at sub
    let fireAt := max (mode.at sub) sub
    toRun mode cold1 other (toInit mode sub) msgs
        = toPrefix mode cold1 due true msgs ++
          (match toSwitchAt mode cold1 due fireAt true msgs with | some S => other S | none => [])
      ∧ (∀ S, toSwitchAt mode cold1 due fireAt true msgs = some S →
            ∀ m ∈ toPrefix mode cold1 due true msgs, isNext m.2 = true)
      ∧ (toSwitchAt mode cold1 due fireAt true msgs = none →
            toPrefix mode cold1 due true msgs = conform msgs ∧ hasTerminal (conform msgs) = true) := by
  intro due fireAt
  rw [timeout_fires_exactly]
  exact toSpec_outcome mode cold1 other msgs due fireAt true

/-- **timeout_switch_at_first_large_gap** (relative due time `d`, source wins ties).  If the source first delivers the
elements `pre`, each at most `d` after the previous one (the first at most `d` after the subscription), and then nothing
arrives within `d` of the last of them (the next notification, if any, is later than `last + d`), the fallback is
subscribed exactly at `last + d` — "when the time since subscription or the last element reaches the due time". -/
theorem timeout_switch_at_first_large_gap {α} (d sub : Nat) (other : Nat → TL α) (pre rest : TL α)
    (hn : ∀ m ∈ pre, isNext m.2 = true) (hg : GapsOk d sub pre)
    (hr : rest = [] ∨ ∃ t n r, rest = (t, n) :: r ∧ lastTime sub pre + d < t) :
    toRun (.rel d) false other (toInit (.rel d) sub) (pre ++ rest) = pre ++ other (lastTime sub pre + d) := by
  have hsw := to_switch_at_gap d pre rest sub true hn hg hr
  rw [(to_run_rel d sub other _).1, hsw.1, hsw.2]

/-- **timeout_no_switch_small_gaps.**  If every notification up to and including the source's terminal arrives at most
`d` after the previous one, the timeout never fires: the subscriber gets the source, nothing else. -/
theorem timeout_no_switch_small_gaps {α} (d sub : Nat) (other : Nat → TL α) (pre post : TL α) (T : Nat) (n : Notif α)
    (hn : ∀ m ∈ pre, isNext m.2 = true) (hterm : isNext n = false) (hg : GapsOk d sub (pre ++ [(T, n)])) :
    toRun (.rel d) false other (toInit (.rel d) sub) (pre ++ (T, n) :: post) = conform (pre ++ (T, n) :: post) := by
  have hsw := to_no_switch_small_gaps d pre post T n sub true hn hterm hg
  have hrun := to_run_rel d sub other (pre ++ (T, n) :: post)
  rw [hrun.1, hsw, hrun.2 hsw]
  simp

example : GapsOk 10 200 [(210, Notif.next 1), (220, .next 2)] ∧ lastTime 200 [(210, Notif.next 1), (220, .next 2)] = 220 := by
  simp [GapsOk, lastTime]

/-- **timeout_timer_current.**  Right after `on_next` in an unswitched state the pending timer belongs to the current
`_id` (SerialDisposable: arming a timer disposes the previous one).  One handler call; the invariant of the run is
`Timed.ToOk`. -/
theorem timeout_timer_current {α} (mode : Due) (now : Nat) (s : ToSt) (v : α) (h : s.switched = false) :
    ∃ tm, (toOnNext mode now s v).1.timer = some tm ∧ tm.myId = (toOnNext mode now s v).1.id
      ∧ tm.due = mode.at now := by
  simp [toOnNext, h, toCreateTimer]

/-- gap exactly `d`: the element arrives at the deadline instant and wins the tie (hot source) -/
example : toRun (.rel 10) false (fun S => [(S, Notif.error "Timeout")]) (toInit (.rel 10) 200)
    [(210, Notif.next 1), (220, .next 2), (231, .next 3)]
    = [(210, .next 1), (220, .next 2), (230, .error "Timeout")] := by decide
example : toRun (.rel 10) false (fun S => [(S, Notif.error "Timeout")]) (toInit (.rel 10) 200)
    [(210, Notif.next 1), (215, .completed)] = [(210, .next 1), (215, .completed)] := by decide
/-- cold source: the first timer was armed before the source was subscribed and wins the tie -/
example : toRun (.rel 10) true (fun S => [(S, Notif.error "Timeout")]) (toInit (.rel 10) 200)
    [(210, Notif.next 1)] = [(210, .error "Timeout")] := by decide

/-- **towm_fires_exactly** (timeout_with_mapper).  For every event trace the code (`_id`, `my_id`, the Serial `timer`,
the never-written `switched`) behaves as the rule `towmSpec`: every source notification is relayed; the timer observable
of the latest element (`first_timeout` before any element) is *the* current timer; its first signal (element or
completion) subscribes the fallback at that instant, its error is forwarded; signals of older timer observables are
ignored. -/
theorem towm_fires_exactly {α} (raises : Nat → α → Option Err) (other : Nat → TL α) (tr : List (Nat × MEv α)) :
    towmRun raises other tr = towmSpec raises other tr :=
  (runTrace_map (step1 := towmStep raises) (step2 := towmAbsStep raises) (d1 := (·.done)) (d2 := (·.done)) other
    (f := towmAbs) (Inv := TowmOk) (fun _ => rfl) (fun s ev h hd => towm_step_abs raises s ev h hd) tr {}
    (fun _ => ⟨rfl, rfl⟩)).symm

/-- **towm_never_after_terminal.**  Once a source terminal (or any error) went downstream, or the fallback took over,
nothing else is produced, whatever events follow — in particular no timer observable can switch after the source ended. -/
theorem towm_never_after_terminal {α} (raises : Nat → α → Option Err) (other : Nat → TL α) (s : TowmSt)
    (hd : s.done = true) (tr : List (Nat × MEv α)) : runTrace (towmStep raises) (·.done) other s tr = [] :=
  runTrace_done _ _ other s hd tr

theorem towm_terminal_sets_done {α} (raises : Nat → α → Option Err) (s : TowmSt) (n : Notif α) (hs : s.switched = false)
    (hn : isNext n = false) : (towmStep raises s (.src n)).st.done = true ∧ (towmStep raises s (.src n)).out = [n] := by
  cases n with
  | next v => simp [timeline_simp] at hn
  | error e => simp [towmStep, hs]
  | completed => simp [towmStep, hs]

/-- first_timeout (index 0) is replaced by the timer of element "a" (index 1); the stale signal of index 0 at 230 is
ignored; timer 1 fires at 240 and the fallback takes over -/
example : towmRun (fun _ _ => none) (fun S => [(S, Notif.error "Timeout")])
    [(210, MEv.src (.next "a")), (230, .inner 0 .next), (240, .inner 1 .next), (250, .src (.next "b"))]
    = [(210, .next "a"), (240, .error "Timeout")] := by decide

/-! ## The bridge: the scheduler's `(due, seq)` rule is derived, not assumed (hot source; the queue of `RxModel/TimedSim.lean`) -/

/-- **timeout_sim_bridge.**  Subscribed at `sub`: `create_timer()` schedules the first action, then the source's
messages and the re-armed timers compete in the queue. -/
theorem timeout_sim_bridge {α} (mode : Due) (other : Nat → TL α) (sub lo : Nat) (msgs : TL α) (h : Mono lo msgs)
    (hs : sub ≤ lo) :
    simStart (toOp mode) other sub
        (some (mode.at sub, { due := mode.at sub, fireAt := max (mode.at sub) sub, myId := 0, first := true }))
        (toInit mode sub) msgs
      = toRun mode false other (toInit mode sub) msgs := by
  rw [simStart_eq_twoStream]
  exact to_twoStream_eq_run mode other msgs (toInit mode sub) sub
    { due := mode.at sub, fireAt := max (mode.at sub) sub, myId := 0, first := true } (h.weaken hs) rfl rfl rfl rfl

/-- **take_with_time_sim_bridge** (also take_until_with_time: `due` absolute, `fireAt = max sub due`). -/
theorem take_with_time_sim_bridge {α} (sub due lo : Nat) (msgs : TL α) (h : Mono lo msgs) (hs : sub ≤ lo) :
    simStart (twtOp (α := α)) (fun _ => []) sub (some (due, ())) () msgs = twtRun false due (max sub due) msgs := by
  rw [simStart_eq_twoStream]
  exact twt_twoStream_eq_run _ due (max sub due) msgs sub (h.weaken hs) rfl

/-- **skip_with_time_sim_bridge** (also skip_until_with_time). -/
theorem skip_with_time_sim_bridge {α} (sub due lo : Nat) (msgs : TL α) (h : Mono lo msgs) (hs : sub ≤ lo) :
    simStart (swtOp (α := α)) (fun _ => []) sub (some (due, ())) false msgs = swtRun false due false msgs := by
  rw [simStart_eq_twoStream]
  exact swt_twoStream_eq_run _ due msgs sub (h.weaken hs)

/-- the queue at work: the element at 230 was scheduled before the timer due at 230 and runs first -/
example : simStart (twtOp (α := Nat)) (fun _ => []) 200 (some (230, ())) () [(210, .next 1), (230, .next 2), (231, .next 3)]
    = [(210, .next 1), (230, .next 2), (230, .completed)] := by decide

/-! ## AsIs — the pinned tree (before `fix: take_last_with_time …`)

`on_next` drops an element once `now - t >= d`, `on_completed` keeps it while `now - t <= d`: an element exactly `d`
old at completion is emitted — unless some unrelated element happens to arrive at that very instant, whose `on_next`
has then already dropped it.  So the as-is boundary rule depends on unrelated arrivals, which the property forbids. -/
namespace AsIs

theorem tlwt_boundary_counter :
    tlwtRun keepAsIs 10 [] [(300, Notif.next "a"), (310, .completed)]
        = [(310, .next "a"), (310, .completed)]
      ∧ tlwtRun keepAsIs 10 [] [(300, Notif.next "a"), (310, .next "b"), (310, .completed)]
        = [(310, .next "b"), (310, .completed)] := by decide

/-- hence no rule of the form "emit iff age ⋈ d" describes the as-is code -/
theorem tlwt_no_age_rule :
    ¬ ∃ rule : Nat → Bool, ∀ msgs : TL String, Mono 0 msgs → ∀ T, firstTerminal msgs = some (T, .completed) →
        ∀ v, ((T, Notif.next v) ∈ tlwtRun keepAsIs 10 [] msgs ↔ ∃ t, (t, v) ∈ nexts msgs ∧ rule (T - t) = true) := by
  rintro ⟨rule, h⟩
  have h1 := (h [(300, .next "a"), (310, .completed)] (by decide) 310 (by decide) "a").1
    (by rw [tlwt_boundary_counter.1]; simp)
  have h2 := (h [(300, .next "a"), (310, .next "b"), (310, .completed)] (by decide) 310 (by decide) "a").2
  obtain ⟨t, ht, hr⟩ := h1
  simp [nexts] at ht
  obtain ⟨rfl, -⟩ := ht
  have : (310, Notif.next "a") ∈ tlwtRun keepAsIs 10 [] [(300, Notif.next "a"), (310, .next "b"), (310, .completed)] :=
    h2 ⟨300, by simp [nexts], hr⟩
  rw [tlwt_boundary_counter.2] at this
  simp at this

end AsIs

end C17
