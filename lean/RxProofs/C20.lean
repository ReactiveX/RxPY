import RxProofs.Lemmas.SubjThm
import RxProofs.Lemmas.SubjNat
import RxProofs.Lemmas.SubjFlat
import RxProofs.Lemmas.SubjOrder
/-!
# C20 — a Subject broadcasts to exactly the observers subscribed at the time

Model: `RxModel/Subj.lean` (`kind = .subject`).  All theorems are about *every* configuration reachable
from a fresh subject by *any* history of top-level calls `sub/unsub/next/error/completed/dispose`, under
*any* reaction scripts (`cfg.react`: what each observer's callbacks do at each of their invocations —
unsubscribe themselves or others, subscribe new observers, dispose the subject), with and without
`on_error` handlers, for any amount of fuel: `Reachable cfg v st ag` (no bound on anything).

The declarative vocabulary (`RxProofs/Lemmas/SubjInv.lean`, `SubjLog.lean`) is read off the ghost trace
of events `sub i | unsub i | emit n | recv i n | disp`:
* `members tr` — the observers *subscribed at the time*: subscribed, not unsubscribed since, the subject
  neither terminated nor disposed since (in subscription order);
* `detached i tr` — `i` has been unsubscribed or has already been handed a terminal notification;
* `recvs i tr` — what observer `i` was handed so far, oldest first; `terminated tr` — the terminal
  notification the subject accepted, if any.

Re-entrant *emission* from inside a callback is outside the property's quantifier and not modelled.
-/

namespace C20
open Subj
variable {α : Type}

/-- The list the delivery loop iterates over (the snapshot copy of `self.observers`) is, in every
reachable configuration — in particular in the middle of a delivery, after callbacks have unsubscribed
and subscribed observers — exactly the observers subscribed at that time. -/
theorem snapshot_is_members {cfg : Cfg} {v : Option α} {st : St α} {ag : List (Subj.Task α)}
    (h : Reachable cfg v st ag) : st.observers = members st.tr :=
  (reachable_inv h).1.mem

/-- An observer's AutoDetachObserver is stopped exactly when the observer has been unsubscribed or has
been handed a terminal notification. -/
theorem stopped_iff_detached {cfg : Cfg} {v : Option α} {st : St α} {ag : List (Subj.Task α)}
    (h : Reachable cfg v st ag) (i : Id) : st.adoStopped i = detached i st.tr :=
  (reachable_inv h).1.det i

/-- **subject_broadcast_exact.**  In every reachable configuration:
(1) a notification accepted by a live Subject is queued for delivery to exactly the observers
    subscribed when the call is made, in subscription order;
(2) when the delivery loop reaches observer `i`, `i` is handed the notification iff it has not been
    unsubscribed (by anyone, including an earlier observer's callback during this same delivery) nor
    already been handed a terminal; otherwise the call changes nothing at all;
(3) nobody else's log is touched by that step. -/
theorem subject_broadcast_exact {cfg : Cfg} {v : Option α} {st : St α} {ag : List (Subj.Task α)}
    (hk : cfg.kind = .subject) (h : Reachable cfg v st ag) :
    (∀ n, st.disposed = false → st.stopped = false →
        (emit cfg st n).2 = (members st.tr).map (Subj.Task.deliver · n)) ∧
    (∀ i n,
      (detached i st.tr = true → deliver cfg st i n = (st, [], false)) ∧
      (detached i st.tr = false →
        (deliver cfg st i n).1.tr = .recv i n :: st.tr ∧
        (deliver cfg st i n).1.log i = if userSees cfg i n then st.log i ++ [n] else st.log i) ∧
      (∀ k, k ≠ i → (deliver cfg st i n).1.log k = st.log k)) :=
  ⟨fun n hd hs => emit_audience h (by simp [hk]) n hd hs, fun i n => deliver_turn h i n⟩

/-- **received_in_call_order** (per-observer order = call order, nothing twice).  In every reachable
configuration what observer `i` has been handed is a *subsequence* of the notifications the subject
accepted, in the order they were accepted — or, for an observer that subscribed to an already disposed
subject, just the `DisposedException`.  Moreover a pending delivery always carries the *latest* accepted
notification, its observer has so far only been handed earlier ones, and pending deliveries are for
pairwise distinct observers: no observer is handed the same call twice. -/
theorem received_in_call_order {cfg : Cfg} {v : Option α} (hv : InitOK cfg v) (hk : cfg.kind = .subject)
    {st : St α} {ag : List (Subj.Task α)} (h : Reachable cfg v st ag) :
    (∀ i, List.Sublist (recvs i st.tr) (emits st.tr) ∨
        (recvs i st.tr = [.error disposedExn] ∧ st.disposed = true)) ∧
    (∀ i n, Subj.Task.deliver i n ∈ ag →
        (emits st.tr).getLast? = some n ∧ List.Sublist (recvs i st.tr) (emits st.tr).dropLast) ∧
    (ag.filterMap deliverId).Nodup :=
  let o := reachable_oinv hk h
  ⟨o.sub, o.pend, o.distinct⟩

/-- **flat_history_closed_form.**  When callbacks only record (no reactions; every observer has an
`on_error` handler) observers do not interact, and after *any* history — any length, any mix of
`sub/unsub/next/error/completed/dispose` — observer `i` has seen exactly what its own three-state reading
(`fresh → live → done`, `Subj.flatStep`) of that history says: every notification accepted while it is
subscribed-and-not-unsubscribed, in call order, each once; only the terminal if it subscribes after
termination; only `DisposedException` if it subscribes after `dispose()`.  (`fuel` only has to be large
enough to run the history: twice its length plus four.) -/
theorem flat_history_closed_form {cfg : Cfg} (hc : FlatCfg cfg) (i : Id) (calls : List (Call α)) (fuel : Nat)
    (hf : 2 * calls.length + 4 ≤ fuel) :
    (run cfg fuel (init cfg none) calls).1.log i = flatLog i {} calls := by
  have hinit : (init cfg (none : Option α)) = {} := by simp [init, hc.kind]
  have := run_flat_aux hc i fuel calls (init cfg none) {} {} Reach.init (init_rel hc.unsub)
    ⟨rfl, rfl, by simp, by simp, nofun⟩ (by rw [hinit]) (by rw [hinit]; simp; omega)
  rw [this, hinit]; simp

/-- What the user of observer `i` has seen is what its AutoDetachObserver was handed (minus errors
when it has no `on_error` handler: those are raised by `default_error`). -/
theorem log_is_received {cfg : Cfg} {v : Option α} (hv : InitOK cfg v) {st : St α} {ag : List (Subj.Task α)}
    (h : Reachable cfg v st ag) (i : Id) : st.log i = (recvs i st.tr).filter (userSees cfg i) :=
  (reachable_vinv h).log i

/-- A detached observer (unsubscribed, or handed a terminal) never sees anything again, whatever the rest
of the history and whatever the other observers' callbacks do. -/
theorem detached_observer_silent {cfg : Cfg} {v : Option α} {st st' : St α} {ag ag' : List (Subj.Task α)}
    (h : Reachable cfg v st ag) (h' : Reach cfg st ag st' ag') (j : Id) (hs : detached j st.tr = true) :
    st'.log j = st.log j :=
  (reach_silent h h' j (by rw [(reachable_inv h).1.det j, hs])).1

/-- **late_gets_terminal_only.**  An observer subscribing (at top level or from inside a callback) to a
Subject that has terminated and is not disposed is handed exactly the terminal notification the subject
accepted — and, whatever happens afterwards, nothing else, ever. -/
theorem late_gets_terminal_only {cfg : Cfg} {v : Option α} (hv : InitOK cfg v) {st : St α} {rest : List (Subj.Task α)}
    (hk : cfg.kind = .subject) (who : Option Id) (j : Id)
    (h : Reachable cfg v st (.act who (.sub j) :: rest))
    (hs : st.stopped = true) (hd : st.disposed = false) (hj : st.seen j = false)
    (he : cfg.hasErr j = true ∨ st.exception = none) :
    let r1 := step1 cfg st (.act who (.sub j))
    let r2 := step1 cfg r1.1 (.deliver j (termOf st))
    terminated st.tr = some (termOf st) ∧
    r1.2.1 = [.deliver j (termOf st), .finish j (some .noop)] ∧ r1.2.2 = false ∧ r1.1.log j = [] ∧
    r2.1.log j = [termOf st] ∧
    ∀ st' ag', Reach cfg r2.1 (nextAgenda r2 (.finish j (some .noop) :: rest)) st' ag' → st'.log j = [termOf st] :=
  late_terminal (by simp [hk]) who j h hs hd hj he

/-- A late subscriber without an `on_error` handler to a Subject terminated by an error: `subscribe`
raises that error to its caller (`default_error`), and the observer never sees anything. -/
theorem late_handlerless_raises {cfg : Cfg} {v : Option α} {st : St α} {rest : List (Subj.Task α)}
    (who : Option Id) (j : Id) (e : Err)
    (h : Reachable cfg v st (.act who (.sub j) :: rest))
    (hs : st.stopped = true) (hd : st.disposed = false) (hj : st.seen j = false)
    (he : cfg.hasErr j = false) (hx : st.exception = some e) :
    let r1 := step1 cfg st (.act who (.sub j))
    r1.2.1 = [] ∧ r1.1.log j = [] ∧
    (who = none → r1.1.raisedNow = some e) ∧ (∀ i, who = some i → r1.1.xlog = st.xlog ++ [(i, e)]) ∧
    ∀ st' ag', Reach cfg r1.1 (nextAgenda r1 rest) st' ag' → st'.log j = [] :=
  sub_raises who j e h hj he (Or.inr ⟨hd, hs, hx⟩)

/-- **after_dispose_raises.**  Once the subject is disposed (it stays disposed forever):
(1) `on_next` / `on_error` / `on_completed` raise `DisposedException` to their caller and do nothing else;
(2) subscribing an observer *with* an `on_error` handler does not raise: the `DisposedException` goes
    through `subscribe`'s fail path to that handler, and is all this observer ever sees;
(3) subscribing an observer *without* one raises `DisposedException` to the caller of `subscribe`
    (the top-level caller, or the reacting callback), and the observer never sees anything. -/
theorem after_dispose_raises {cfg : Cfg} {v : Option α} {st : St α} {rest : List (Subj.Task α)} (hd : st.disposed = true) :
    (∀ n, emit cfg st n = ({ st with raisedNow := some disposedExn }, [])) ∧
    (∀ st' ag' ag, Reach cfg st ag st' ag' → st'.disposed = true) ∧
    (∀ who j, Reachable cfg v st (.act who (.sub j) :: rest) → st.seen j = false → cfg.hasErr j = true →
      let r1 := step1 cfg st (.act who (.sub j))
      r1.1.log j = [.error disposedExn] ∧ r1.1.raisedNow = st.raisedNow ∧ r1.1.xlog = st.xlog ∧
      ∀ st' ag', Reach cfg r1.1 (nextAgenda r1 rest) st' ag' → st'.log j = [.error disposedExn]) ∧
    (∀ who j, Reachable cfg v st (.act who (.sub j) :: rest) → st.seen j = false → cfg.hasErr j = false →
      let r1 := step1 cfg st (.act who (.sub j))
      r1.2.1 = [] ∧ r1.1.log j = [] ∧
      (who = none → r1.1.raisedNow = some disposedExn) ∧ (∀ i, who = some i → r1.1.xlog = st.xlog ++ [(i, disposedExn)]) ∧
      ∀ st' ag', Reach cfg r1.1 (nextAgenda r1 rest) st' ag' → st'.log j = []) :=
  ⟨emit_disposed cfg hd, fun _ _ _ hr => reach_disposed hr hd, sub_disposed_handled hd,
    fun who j h hj he => sub_raises who j disposedExn h hj he (Or.inl ⟨hd, rfl⟩)⟩

/-- **subject_natural** (C08 for this subject: no value is special).  Renaming every value of a history (and the
initial value) with an arbitrary function `g` renames the notifications every observer sees and changes nothing
else: same exceptions per call, same exceptions caught by reacting callbacks, same observers.  Subject. -/
theorem subject_natural {β : Type} (cfg : Cfg) (g : α → β) (fuel : Nat) (v : Option α) (calls : List (Call α)) (i : Id) :
    (run cfg fuel (init cfg (v.map g)) (calls.map (Call.map g))).1.log i =
      ((run cfg fuel (init cfg v) calls).1.log i).map (Notif.map g) ∧
    (run cfg fuel (init cfg (v.map g)) (calls.map (Call.map g))).2 = (run cfg fuel (init cfg v) calls).2 ∧
    (run cfg fuel (init cfg (v.map g)) (calls.map (Call.map g))).1.xlog = (run cfg fuel (init cfg v) calls).1.xlog ∧
    (run cfg fuel (init cfg (v.map g)) (calls.map (Call.map g))).1.observers = (run cfg fuel (init cfg v) calls).1.observers :=
  run_natural_log cfg g fuel v calls i

/-- **unsub_reactions_closed_form.**  Histories whose callbacks *unsubscribe* (themselves or any other
observer, at any of their invocations, any number of them; every observer has an `on_error`): whenever the
run did not exhaust its fuel — which the correspondence check requires of every case it compares — every
observer's final log, the subject's final observer list and the set of detached observers are what
`Subj.absRun` computes: the property text as a plain recursive function over the history, described at the
head of `RxProofs/Lemmas/SubjReact.lean`. -/
theorem unsub_reactions_closed_form {cfg : Cfg} (hc : UnsubCfg cfg) (calls : List (Call α)) (fuel : Nat)
    (hoof : (run cfg fuel (init cfg none) calls).1.oof = false) :
    (∀ i, (run cfg fuel (init cfg none) calls).1.log i = (absRun cfg ({} : AbsSt α) calls).log i) ∧
    (run cfg fuel (init cfg none) calls).1.observers = (absRun cfg ({} : AbsSt α) calls).members ∧
    (∀ i, (run cfg fuel (init cfg none) calls).1.adoStopped i = (absRun cfg ({} : AbsSt α) calls).detached i) :=
  run_unsub_closed_form' hc calls fuel hoof

/-- … and enough fuel always exists. -/
theorem unsub_reactions_enough_fuel {cfg : Cfg} (hc : UnsubCfg cfg) (calls : List (Call α)) :
    ∃ N, ∀ fuel, N ≤ fuel → (run cfg fuel (init cfg (none : Option α)) calls).1.oof = false :=
  run_unsub_total hc calls

/-- What the correspondence check executes (`Subj.run`, any fuel, any history) stays inside the
reachable configurations all theorems above quantify over. -/
theorem run_reachable (cfg : Cfg) (v : Option α) (fuel : Nat) (calls : List (Call α)) :
    Reachable cfg v (run cfg fuel (init cfg v) calls).1 [] :=
  run_reach fuel calls Reach.init

/-! ### Non-vacuity: a concrete history with reactions.
Observer 0's first callback unsubscribes observer 1 (which is after it in the same delivery and therefore
misses that very notification) and subscribes observer 4 (which misses it too: not in the snapshot);
observer 2's second callback disposes the subject and then subscribes 3 (no `on_error`: raises into the
callback) and 5 (gets `DisposedException` through `on_error`). -/
def exCfg : Cfg :=
  { kind := .subject
    hasErr := fun i => i != 3
    react := fun i k =>
      if i = 0 ∧ k = 0 then [.unsub 1, .sub 4] else if i = 2 ∧ k = 1 then [.dispose, .sub 3, .sub 5] else [] }

def exRun := run exCfg 100 (init exCfg (none : Option Nat))
  [.sub 0, .sub 1, .sub 2, .next 7, .next 8, .next 9, .sub 6, .sub 3]

example : exRun.1.log 0 = [.next 7, .next 8] := by decide
example : exRun.1.log 1 = [] := by decide
example : exRun.1.log 2 = [.next 7, .next 8] := by decide
example : exRun.1.log 4 = [.next 8] := by decide          -- still in the snapshot when 2 disposed the subject
example : exRun.1.log 5 = [.error "DisposedException"] := by decide
example : exRun.1.log 6 = [.error "DisposedException"] := by decide
example : exRun.1.xlog = [(2, "DisposedException")] := by decide
example : exRun.2 = [none, none, none, none, none, some "DisposedException", none, none] := by decide
example : exRun.1.oof = false := by decide
example : emits exRun.1.tr = [.next 7, .next 8] ∧ recvs 4 exRun.1.tr = [.next 8] := by decide
/-- the closed form on a concrete flat history: 1 subscribes between `1` and `2`, is unsubscribed before `3` -/
example : flatLog 1 {} [Call.sub 0, .next 1, .sub 1, .next 2, .unsub 1, .next 3, .completed, .sub 2, .sub 1] =
    [Notif.next 2] := by decide
example : flatLog 2 {} [Call.sub 0, .next 1, .sub 1, .next 2, .unsub 1, .next 3, .completed, .sub 2, .sub 1] =
    [Notif.completed] := by decide
example : flatLog 0 {} [Call.sub 0, .next 1, .sub 1, .next 2, .unsub 1, .next (3 : Nat), .completed, .sub 2, .sub 1] =
    [.next 1, .next 2, .next 3, .completed] := by decide
/-- closed form with unsubscribing callbacks: 0's first callback unsubscribes 1 (after it in the same
delivery: misses `7`), 2's second callback unsubscribes itself and 0 -/
def unCfg : Cfg :=
  { kind := .subject, hasErr := fun _ => true
    react := fun i k => if i = 0 ∧ k = 0 then [.unsub 1] else if i = 2 ∧ k = 1 then [.unsub 2, .unsub 0] else [] }

theorem unCfg_ok : UnsubCfg unCfg where
  kind := rfl
  err := fun _ => rfl
  react := by
    intro i k a h
    simp only [unCfg] at h
    split at h
    · exact ⟨1, by simpa using h⟩
    · split at h
      · simp only [List.mem_cons, List.not_mem_nil, or_false] at h
        rcases h with h | h
        · exact ⟨2, h⟩
        · exact ⟨0, h⟩
      · simp at h

def unCalls : List (Call Nat) := [.sub 0, .sub 1, .sub 2, .next 7, .next 8, .next 9, .sub 3, .completed, .sub 4]
example : (absRun unCfg ({} : AbsSt Nat) unCalls).log 0 = [.next 7, .next 8] := by decide
example : (absRun unCfg ({} : AbsSt Nat) unCalls).log 1 = [] := by decide
example : (absRun unCfg ({} : AbsSt Nat) unCalls).log 2 = [.next 7, .next 8] := by decide
example : (absRun unCfg ({} : AbsSt Nat) unCalls).log 3 = [.completed] := by decide
example : (absRun unCfg ({} : AbsSt Nat) unCalls).log 4 = [.completed] := by decide
example : (run unCfg 100 (init unCfg none) unCalls).1.oof = false := by decide
example : (run unCfg 100 (init unCfg none) unCalls).1.log 2 = [.next 7, .next 8] := by decide

/-- the hypotheses of `late_gets_terminal_only` are satisfiable -/
example : (run { exCfg with react := fun _ _ => [] } 100 (init exCfg (none : Option Nat))
    [.sub 0, .next 1, .error "boom", .sub 1, .next 2]).1.log 1 = [.error "boom"] := by decide

end C20
