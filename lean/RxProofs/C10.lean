import RxProofs.Lemmas.CombSeq
/-!
# C10 — sequential composition runs one source at a time, in order

Trace machine `seqM kind items` of `concat_with_iterable_` / `catch_with_iterable_` / `on_error_resume_next_`
(kinds `concat`, `catch`, `oern`) for an ARBITRARY source iterator `items` (position j yields a source / raises
StopIteration / raises / yields a source that fails at once: `Item.fail`), fed an ARBITRARY list of events (source
notifications, `tick` = the operator's scheduled action running, `dispose`).  rx.concat, ops.concat, start_with, for_in, repeat, while_do, do_while are the `concat`
kind with the corresponding `items`; rx.catch, ops.catch(obs), retry the `catch` kind.  `seqInlineM` is the same operator
under the inline hand-over (the action runs inside the terminal handler that armed it), `chM` is `ops.catch(handler)`.

A statement given for `seqM` and again for `seqInlineM` is an instance of one lemma about `IsSeq` machines;
`seq_next_after_terminal` and `oern_factory_argument` are about the queued hand-over's own steps only.
-/
open Comb

namespace C10

/-- **seq_one_live.** In every reachable state at most one source subscription is live, and it is the one of the most
recently yielded source. -/
theorem seq_one_live {α} (kind : SeqKind) (items : Nat → Item) (es : List (Ev α)) :
    (final (seqM (α := α) kind items) seqInit es).p.live.length ≤ 1 ∧
    ∀ k, k ∈ (final (seqM (α := α) kind items) seqInit es).p.live →
      k + 1 = (final (seqM (α := α) kind items) seqInit es).s.idx :=
  (final_inv _ (seq_step_inv (seqM_isSeq kind items)) es _ seq_init_inv).one_live

/-- `ops.catch(handler)` (catch_handler: no scheduler hop, the handler's result replaces the source inside the error
handler): at most one of the two subscriptions is live in every reachable state — the source before the switch, the
handler's result after it. -/
theorem seq_one_live_catch_handler {α} (res : Except Err Unit) (es : List (Ev α)) :
    let st := final (chM (α := α) res) chInit es
    st.p.live = [] ∨ (st.p.live = [0] ∧ st.s.switched = false) ∨ (st.p.live = [1] ∧ st.s.switched = true) :=
  (final_inv _ (ch_step_inv res) es _ ch_init_inv).one

/-- **seq_one_live_inline, seq_output_concat_inline, seq_output_sorted_inline.** `seq_one_live` and `seq_output_concat` for
the INLINE hand-over (`seqInlineM`: the subscription was made with a scheduler that runs the operator's action re-entrantly
inside the previous source's terminal handler, e.g. ImmediateScheduler; sources may terminate synchronously inside
subscribe): in every reachable state at most the most recently yielded source is live — in particular the action's `subscription.disposable = d` never closes the source it has just
subscribed — and the output is exactly the delivered elements, in order, with non-decreasing source ids. -/
theorem seq_one_live_inline {α} (kind : SeqKind) (items : Nat → Item) (es : List (Ev α)) :
    (final (seqInlineM (α := α) kind items) seqInit es).p.live.length ≤ 1 ∧
    ∀ k, k ∈ (final (seqInlineM (α := α) kind items) seqInit es).p.live →
      k + 1 = (final (seqInlineM (α := α) kind items) seqInit es).s.idx :=
  (final_inv _ (seq_step_inv (seqInlineM_isSeq kind items)) es _ seq_init_inv).one_live

theorem seq_output_concat_inline {α} (kind : SeqKind) (items : Nat → Item) (es : List (Ev α)) :
    outVals (run (seqInlineM (α := α) kind items) seqInit es)
      = (accepted (seqInlineM (α := α) kind items) seqInit es).filterMap nextOf :=
  seq_run_out (seqInlineM_isSeq kind items) es _ seq_init_inv.wf

/-- the source ids of the delivered notifications are non-decreasing for the inline hand-over too -/
theorem seq_output_sorted_inline {α} (kind : SeqKind) (items : Nat → Item) (es : List (Ev α)) :
    ((accepted (seqInlineM (α := α) kind items) seqInit es).map (·.1)).Pairwise (· ≤ ·) :=
  seq_ids_sorted (seqInlineM_isSeq kind items) es _ seq_init_inv

/-- **repeat_n_subscribes_n_inline.** repeat(n) under the inline hand-over: subscribe ids `0,1,…` without gaps, at most n,
exactly n when the output completes. -/
theorem repeat_n_subscribes_n_inline {α} (n : Nat) (es : List (Ev α)) :
    let m := seqInlineM (α := α) .concat (itemsCount (some n))
    (∃ c, c ≤ n ∧ subsOf (run m seqInit es) = List.range c) ∧
    (Notif.completed ∈ emits (run m seqInit es) → subsOf (run m seqInit es) = List.range n) := by
  intro m
  have hm := seqInlineM_isSeq (α := α) .concat (itemsCount (some n))
  exact ⟨⟨_, count_subs_le hm es⟩, count_subs_completed hm es⟩

/-- `retry_at_most_n` and `retry_stops_on_completion` for the inline hand-over -/
theorem retry_at_most_n_inline {α} (n : Nat) (es : List (Ev α)) :
    ∃ c, c ≤ n ∧ subsOf (run (seqInlineM (α := α) .catch (itemsCount (some n))) seqInit es) = List.range c :=
  ⟨_, count_subs_le (seqInlineM_isSeq .catch _) es⟩

theorem retry_stops_on_completion_inline {α} (items : Nat → Item) (pre post : List (Ev α)) (k : Nat)
    (hk : k ∈ (final (seqInlineM (α := α) .catch items) seqInit pre).p.live) :
    let m := seqInlineM (α := α) .catch items
    subsOf (run m seqInit (pre ++ .src k .completed :: post)) = subsOf (run m seqInit pre) ∧
    emits (run m seqInit (pre ++ .src k .completed :: post)) = emits (run m seqInit pre) ++ [.completed] :=
  catch_completed_stops (seqInlineM_isSeq .catch items) pre post k hk

/-- non-vacuity (inline): source 0 completes inside its subscribe, the action runs inside that completion and subscribes
source 1, which stays subscribed and delivers later -/
example :
    run (seqInlineM (α := Nat) .concat (itemsCount (some 2))) seqInit
      [.tick, .src 0 (.next 1), .src 0 .completed, .src 1 (.next 2), .src 1 .completed]
      = [.sub 0, .emit (.next 1), .unsub 0, .sub 1, .emit (.next 2), .emit .completed, .unsub 1] := by decide

/-- **seq_next_after_terminal.** From any reachable state: (a) a subscribe effect is produced only by the scheduled action
(`tick`), while an action is pending and nothing is live, and it subscribes the next source of the iterator; (b) an
action becomes pending only in the step in which the live source delivers a terminal of the kind the operator continues
on (that step also closes that source). So source k+1 is subscribed only after source k delivered its continuing
terminal. (The machine has no clock: nothing here is about time.) -/
theorem seq_next_after_terminal {α} (kind : SeqKind) (items : Nat → Item) (es : List (Ev α)) (e : Ev α) :
    let m := seqM (α := α) kind items
    let st := final m seqInit es
    (∀ j, Eff.sub j ∈ (step m st e).2 →
        e = .tick ∧ st.s.pending = true ∧ st.p.live = [] ∧ j = st.s.idx ∧ items j = .src) ∧
    (st.s.pending = false → (step m st e).1.s.pending = true →
        ∃ k n, e = .src k n ∧ st.p.live = [k] ∧ k + 1 = st.s.idx ∧ kind.continues n = true ∧ (step m st e).1.p.live = []) := by
  intro m st
  have h : SInv st := final_inv _ (seq_step_inv (seqM_isSeq kind items)) es _ seq_init_inv
  constructor
  · intro j hj
    rw [← mem_subsOf, subsOf_step] at hj
    cases e with
    | tick =>
      obtain ⟨hp, _, hj', hi⟩ := (seqTick_act kind items st.s st.p.done).subs_src j hj
      have hl : st.p.live = [] := h.one.resolve_right (fun h' => by rw [h'.2.2] at hp; cases hp)
      exact ⟨rfl, hp, hl, hj', by rw [hj']; exact hi⟩
    | src k n =>
      by_cases hk : k ∈ st.p.live
      · rw [fired_src _ _ _ _ hk] at hj
        simp [m, seqM, seq_handler_no_sub] at hj
      · rw [fired_src_not_live _ _ _ _ hk] at hj; cases hj
    | dispose => cases hj
  · intro hp hp'
    rw [step_state] at hp'
    cases e with
    | dispose => rw [fired_dispose, hp] at hp'; cases hp'
    | tick => rw [fired_tick, show m.tick = seqTick kind items from rfl, seqTick_idle _ _ _ _ hp, hp] at hp'; cases hp'
    | src k n =>
      by_cases hk : k ∈ st.p.live
      · rcases h.one with h1 | ⟨h1, h2, _⟩
        · simp [h1] at hk
        · have hk' : k = st.s.idx - 1 := by simpa [h1] using hk
          rw [fired_src _ _ _ _ hk] at hp'
          have hn : n.isTerminal = true := by
            cases n with
            | next v => rw [show (m.handler st.s k (.next v)).1 = st.s from rfl, hp] at hp'; cases hp'
            | _ => rfl
          refine ⟨k, n, rfl, by rw [h1, hk'], by omega, ?_⟩
          rcases seqHandler_terminal kind st.s k n hn with ⟨hh, _⟩ | ⟨hh, _, hc⟩
          · rw [show m.handler st.s k n = seqHandler kind st.s k n from rfl, hh, hp] at hp'; cases hp'
          · refine ⟨hc, ?_⟩
            have hh' : (m.handler st.s k n).2 = [] := hh
            rw [step_src_live m st k n h.wf hk, hh']
            simp [hn, actEmits, h1, ← hk']
      · rw [fired_src_not_live _ _ _ _ hk, hp] at hp'; cases hp'

/-- **seq_output_concat.** The values that go out are exactly the elements delivered by the sources while subscribed, in
order, each in the step that delivers it; the source ids of the delivered notifications are non-decreasing — so the output
is the concatenation, in source order, of the consumed sources' elements. -/
theorem seq_output_concat {α} (kind : SeqKind) (items : Nat → Item) (es : List (Ev α)) :
    let m := seqM (α := α) kind items
    outVals (run m seqInit es) = (accepted m seqInit es).filterMap nextOf ∧
    ((accepted m seqInit es).map (·.1)).Pairwise (· ≤ ·) := by
  intro m
  exact ⟨seq_run_out (seqM_isSeq kind items) es _ seq_init_inv.wf,
    seq_ids_sorted (seqM_isSeq kind items) es _ seq_init_inv⟩

/-- **repeat_n_subscribes_n.** `repeat(n)` (= concat kind over n copies): the subscribe effects are always `0, 1, …` without
gaps, never more than `n`; and if the output completes they are exactly `0 … n-1`: n subscriptions. -/
theorem repeat_n_subscribes_n {α} (n : Nat) (es : List (Ev α)) :
    let m := seqM (α := α) .concat (itemsCount (some n))
    (∃ c, c ≤ n ∧ subsOf (run m seqInit es) = List.range c) ∧
    (Notif.completed ∈ emits (run m seqInit es) → subsOf (run m seqInit es) = List.range n) := by
  intro m
  have hm := seqM_isSeq (α := α) .concat (itemsCount (some n))
  exact ⟨⟨_, count_subs_le hm es⟩, count_subs_completed hm es⟩

/-- **retry_at_most_n.** `retry(n)` (= catch kind over n copies) subscribes at most n times (ids `0, 1, …` without gaps). -/
theorem retry_at_most_n {α} (n : Nat) (es : List (Ev α)) :
    ∃ c, c ≤ n ∧ subsOf (run (seqM (α := α) .catch (itemsCount (some n))) seqInit es) = List.range c :=
  ⟨_, count_subs_le (seqM_isSeq .catch _) es⟩

/-- **retry_stops_on_completion.** Once a run of the source completes (its completion is delivered while it is subscribed)
the completion goes out in that step and no further subscription is ever made, whatever follows, for any retry count. -/
theorem retry_stops_on_completion {α} (items : Nat → Item) (pre post : List (Ev α)) (k : Nat)
    (hk : k ∈ (final (seqM (α := α) .catch items) seqInit pre).p.live) :
    let m := seqM (α := α) .catch items
    subsOf (run m seqInit (pre ++ .src k .completed :: post)) = subsOf (run m seqInit pre) ∧
    emits (run m seqInit (pre ++ .src k .completed :: post)) = emits (run m seqInit pre) ++ [.completed] :=
  catch_completed_stops (seqM_isSeq .catch items) pre post k hk

/-- non-vacuity: repeat(2) over a source that emits one element and completes; a third run never happens -/
example :
    run (seqM (α := Nat) .concat (itemsCount (some 2))) seqInit
      [.tick, .src 0 (.next 1), .src 0 .completed, .tick, .src 1 (.next 1), .src 0 (.next 9), .src 1 .completed, .tick, .tick]
      = [.sub 0, .emit (.next 1), .unsub 0, .sub 1, .emit (.next 1), .unsub 1, .emit .completed] := by decide

/-- non-vacuity: retry(3): two failing runs, the third completes -/
example :
    run (seqM (α := Nat) .catch (itemsCount (some 3))) seqInit
      [.tick, .src 0 (.error "a"), .tick, .src 1 (.next 5), .src 1 (.error "b"), .tick, .src 2 .completed, .tick]
      = [.sub 0, .unsub 0, .sub 1, .emit (.next 5), .unsub 1, .sub 2, .emit .completed, .unsub 2] := by decide

/-- **oern_factory_argument.** on_error_resume_next hands to a source FACTORY the error of the source that just failed, and None
when the previous source completed normally (or at the start) — never an older error. In the machine: (a) a delivered error
sets the argument of the next action to that error, a delivered completion resets it to none, an element leaves it alone;
(b) the action that consumes position `idx` (yielding a source or a raising factory) records exactly the current argument. -/
theorem oern_factory_argument {α} (items : Nat → Item) (st : St SeqSt) (k : Nat) (hk : k ∈ st.p.live) :
    (∀ e, (step (seqM (α := α) .oern items) st (.src k (.error e))).1.s.arg = some e) ∧
    (step (seqM (α := α) .oern items) st (.src k .completed)).1.s.arg = none ∧
    (∀ v, (step (seqM (α := α) .oern items) st (.src k (.next v))).1.s.arg = st.s.arg) ∧
    (st.s.pending = true → st.p.done = false → (items st.s.idx = .src ∨ ∃ e, items st.s.idx = .raise e) →
      (step (seqM (α := α) .oern items) st .tick).1.s.calls = st.s.calls ++ [(st.s.idx, st.s.arg)]) := by
  refine ⟨fun e => ?_, ?_, fun v => ?_, ?_⟩
  · rw [step_src_state _ _ _ _ hk]; rfl
  · rw [step_src_state _ _ _ _ hk]; rfl
  · rw [step_src_state _ _ _ _ hk]; rfl
  · intro hp hd hi
    rw [step_state]
    rcases hi with hi | ⟨e, hi⟩ <;> simp [seqM, seqTick, hp, hd, hi]

/-- non-vacuity: source 0 fails, source 1 completes normally, the factory at position 2 gets None (not source 0's old error) -/
example :
    (final (seqM (α := Nat) .oern (itemsCount (some 3))) seqInit
      [.tick, .src 0 (.error "boom"), .tick, .src 1 .completed, .tick]).s.calls
      = [(0, none), (1, some "boom"), (2, none)] := by decide

/-- non-vacuity: an UNLOGGED failing source (`fail`, e.g. `rx.throw(ex)` in the list) under catch is continued over — it takes
position 1, nothing is subscribed for it in the trace, the next action subscribes source 2, whose completion ends the result -/
example :
    run (seqM (α := Nat) .catch (fun j => if j = 1 then .fail "x" else if j < 3 then .src else .stop)) seqInit
      [.tick, .src 0 (.next 1), .src 0 (.error "a"), .tick, .tick, .src 2 (.next 3), .src 2 .completed]
      = [.sub 0, .emit (.next 1), .unsub 0, .sub 2, .emit (.next 3), .emit .completed, .unsub 2] := by decide

/-- … and if nothing follows it, its error is the one catch reports (last_exception) -/
example :
    run (seqM (α := Nat) .catch (fun j => if j = 1 then .fail "x" else if j < 1 then .src else .stop)) seqInit
      [.tick, .src 0 (.error "a"), .tick, .tick]
      = [.sub 0, .unsub 0, .emit (.error "x")] := by decide

end C10
