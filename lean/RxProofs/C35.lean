import RxProofs.Lemmas.VtsPeriodicDead
import RxProofs.Lemmas.VtsPeriodicSolo
import RxProofs.Lemmas.VtsTimer
/-!
# C35 — periodic scheduling threads state, keeps the period and stops

Model: `RxModel/VtsPeriodic.lean` — `PeriodicScheduler.schedule_periodic` (the
self-rescheduling `periodic` closure with its drift term and its `MultipleAssignmentDisposable`) and
`CatchScheduler.schedule_periodic`, running on the virtual-time scheduler's `advance_to` loop.  The user
action is an ARBITRARY function `f : task id → state → (sleep, dispose-own-handle?, new state | raise)`.
`interval(p)`/`timer(p, p)` are `schedule_periodic(p, λ count. on_next(count); count + 1, state = 0)`.

Scope: virtual time only.  The real-thread periodic schedulers (event-loop, new-thread) are not modelled.
-/

namespace C35
open Per Vts

variable {σ : Type}

/-- **advance_terminates.** The loop of `advance_to(T)` over self-rescheduling periodic work is total: one
iteration strictly decreases `Σ (T + 1 - due)` over the pending items (periods ≥ 1), so the fuel
`weight + 1` handed to it by `advanceTo` is never exhausted — more fuel changes nothing. -/
theorem advance_terminates (handler : Err → Bool) (f : Nat → σ → Tick σ) (T : Int) (s : St σ) :
    (∀ s', iter handler f T s = .next s' → weight T s'.queue.items < weight T s.queue.items) ∧
    (∀ m, weight T s.queue.items < m →
      loopFuel handler f T (weight T s.queue.items + 1) s = loopFuel handler f T m s) :=
  ⟨fun _ h => iter_next_weight h, fun m hm => loopFuel_enough handler f T _ m s (by omega) hm⟩

/-- **ticks_at_k_period.**  A periodic action scheduled at clock `t0` with period
`p ≥ 1` and initial state `st0`, on an otherwise idle virtual-time scheduler (directly or through a
CatchScheduler), whose calls return `F state` (and may sleep up to one period inside the call — the drift
term absorbs it): `advance_to(T)` invokes it exactly `k` times, where `k` is the number of multiples
`t0 + p, t0 + 2p, …` at or before `T`; the `i`-th invocation (from 0) happens at clock exactly
`t0 + (i+1)·p` and receives the state `F^i st0` returned by the previous call; the handler is not called
and the clock ends at `T`. -/
theorem ticks_at_k_period (handler : Err → Bool) (f : Nat → σ → Tick σ) (pid : Nat) (t0 p : Int) (st0 : σ) (c : Bool)
    (T : Int) (F : σ → σ) (hp : 1 ≤ p) (hT : t0 < T)
    (hf : ∀ st, (f pid st).next = .ok (F st) ∧ (f pid st).dispose = false ∧ ((f pid st).sleep : Int) ≤ p) :
    ∃ k : Nat,
      let r := advanceTo handler f T (schedulePeriodic { clock := t0 } pid p st0 c)
      r.2 = .ok ∧ r.1.clock = T ∧ r.1.hlog = [] ∧ r.1.log.length = k ∧
      (∀ i : Nat, i < k → t0 + (i + 1) * p ≤ T) ∧ t0 + (k + 1) * p > T ∧
      (∀ i : Nat, i < k → r.1.log[i]? = some { pid, at_ := t0 + (i + 1) * p, st := iterate F i st0 }) := by
  obtain ⟨h1, h3, h4, h2⟩ := advanceTo_solo handler f pid t0 p st0 c T F hp hT (fun st => ⟨(hf st).1, (hf st).2.1⟩)
  obtain ⟨g1, g2⟩ := idealG_grid pid T p F (fun x => (f pid x).sleep) hp (fun st => (hf st).2.2)
    ((T + 1 - (t0 + p)).toNat + 2) t0 (t0 + p) st0 (by omega) (by omega)
  rw [← h2] at g1 g2
  have hi : ∀ i : Nat, t0 + p + i * p = t0 + (i + 1) * p := fun i => by rw [Int.add_mul]; omega
  simp only [hi] at g1 g2
  refine ⟨_, h1, h3, h4, rfl, fun i hi => (g2 i _ (List.getElem?_eq_getElem hi)).2, g1, fun i hi => ?_⟩
  rw [List.getElem?_eq_getElem hi, ← (g2 i _ (List.getElem?_eq_getElem hi)).1]

/-- **interval_emits_naturals.**  `interval(p)` / `timer(p, p)` on a virtual-time scheduler: the periodic action
is `count ↦ on_next(count); count + 1` from state 0, so the `i`-th emission is the number `i`, at clock
`t0 + (i+1)·p`. -/
theorem interval_emits_naturals (handler : Err → Bool) (f : Nat → Int → Tick Int) (pid : Nat) (t0 p : Int) (c : Bool)
    (T : Int) (hp : 1 ≤ p) (hT : t0 < T)
    (hf : ∀ n, f pid n = { next := .ok (n + 1) }) :
    ∃ k : Nat,
      let r := advanceTo handler f T (schedulePeriodic { clock := t0 } pid p (0 : Int) c)
      r.2 = .ok ∧ r.1.log.length = k ∧ t0 + (k + 1) * p > T ∧ (∀ i : Nat, i < k → t0 + (i + 1) * p ≤ T) ∧
      (∀ i : Nat, i < k → r.1.log[i]? = some { pid, at_ := t0 + (i + 1) * p, st := (i : Int) }) := by
  obtain ⟨k, hk⟩ := ticks_at_k_period handler f pid t0 p 0 c T (fun v => v + 1) hp hT
    (by intro n; rw [hf n]; exact ⟨rfl, rfl, by show ((0 : Nat) : Int) ≤ p; omega⟩)
  simp only at hk
  obtain ⟨h1, _, _, h4, h5, h6, h7⟩ := hk
  refine ⟨k, h1, h4, h6, h5, ?_⟩
  intro i hi
  rw [h7 i hi, iterate_succ_int]
  simp

/-- **tick_rule (any number of tasks, any in-call sleep).**  What the code guarantees at every tick of every
run, whatever else is pending: when the loop of `advance_to(T)` gets the live tick of task `pid` (due `d ≤ T`,
state `st`) and the action returns `st'` without disposing its handle, then the action was invoked at
`now = max clock d` with `st`; afterwards the clock is `now + (time slept inside the call)`, and the task's
next tick is pending, live, with state `st'` and due time exactly `now + period` — i.e. measured from the START
of this call: the drift term cancels the sleep whatever its length (if the call slept longer than a period the
next tick is already overdue and runs as soon as the queue reaches it, at `max clock due` again). -/
theorem tick_rule (handler : Err → Bool) (f : Nat → σ → Tick σ) (T : Int) (s : St σ) (x : Item σ)
    (q' : PQ (Item σ)) (pid : Nat) (st st' : σ) (t : Task)
    (hen : s.enabled = true) (hd : s.queue.dequeue? Item.due = some (x, q')) (hdue : x.due ≤ T)
    (hc : x.cancelled = false) (hk : x.kind = .tick pid st) (hg : getTask s pid = some t) (hp : 1 ≤ t.period)
    (hlive : t.disposed = false) (hcf : (t.catch_ && t.failed) = false)
    (hok : (f pid st).next = .ok st') (hnd : (f pid st).dispose = false) :
    iter handler f T s = .next
      (enqueue { s with clock := (if x.due > s.clock then x.due else s.clock) + (f pid st).sleep, queue := q',
                        log := s.log ++ [{ pid, at_ := if x.due > s.clock then x.due else s.clock, st }] }
        { due := (if x.due > s.clock then x.due else s.clock) + t.period, kind := .tick pid st', cancelled := false }) := by
  have hi := iter_tick handler f T s x q' pid st t hen hd hdue hc hk hg hp
  rw [runTick_ok handler f { s with clock := if x.due > s.clock then x.due else s.clock, queue := q' }
    pid t st st' hg hlive hcf hok hnd] at hi
  exact hi

/-- **closed form with arbitrary in-call sleeps.**  One periodic task (period `p ≥ 1`, scheduled at `t0`, through a
CatchScheduler or not) on an otherwise idle scheduler, whose call with state `st` returns `F st` after
sleeping `sl st` — ANY length: the invocation log of `advance_to(T)` is `idealG`, i.e. the first call is at
`t0 + p`, every call gets the state returned by the previous one, and call `i+1` starts
`max p (sl (state of call i))` after call `i` started (`idealG_chain`): on the multiples of the period while the
calls are shorter than a period, late by exactly the overrun otherwise. -/
theorem closed_form_any_sleep (handler : Err → Bool) (f : Nat → σ → Tick σ) (pid : Nat) (t0 p : Int) (st0 : σ) (c : Bool)
    (T : Int) (F : σ → σ) (hp : 1 ≤ p) (hT : t0 < T)
    (hf : ∀ st, (f pid st).next = .ok (F st) ∧ (f pid st).dispose = false) :
    ∃ n, (advanceTo handler f T (schedulePeriodic { clock := t0 } pid p st0 c)).1.log =
        idealG pid T p F (fun x => (f pid x).sleep) n t0 (t0 + p) st0 ∧
      (advanceTo handler f T (schedulePeriodic { clock := t0 } pid p st0 c)).1.hlog = [] ∧
      (∀ (i : Nat) (a b : Ran σ),
        (advanceTo handler f T (schedulePeriodic { clock := t0 } pid p st0 c)).1.log[i]? = some a →
        (advanceTo handler f T (schedulePeriodic { clock := t0 } pid p st0 c)).1.log[i + 1]? = some b →
        b.st = F a.st ∧ b.at_ = a.at_ + (if ((f pid a.st).sleep : Int) > p then ((f pid a.st).sleep : Int) else p)) ∧
      (∀ r, (advanceTo handler f T (schedulePeriodic { clock := t0 } pid p st0 c)).1.log[0]? = some r →
        r.st = st0 ∧ r.at_ = t0 + p) := by
  obtain ⟨_, _, hh, hlog⟩ := advanceTo_solo handler f pid t0 p st0 c T F hp hT hf
  have hch := idealG_chain pid T p F (fun x => (f pid x).sleep) ((T + 1 - (t0 + p)).toNat + 2) t0 (t0 + p) st0
  rw [← hlog] at hch
  refine ⟨_, hlog, hh, hch.2, fun r hr => ?_⟩
  obtain ⟨h1, h2⟩ := hch.1 r hr
  exact ⟨h1, by rw [h2, if_pos (by omega)]⟩

/-- the state part on its own: consecutive invocations are chained through the action's return value -/
theorem periodic_state_threaded (handler : Err → Bool) (f : Nat → σ → Tick σ) (pid : Nat) (t0 p : Int) (st0 : σ) (c : Bool)
    (T : Int) (F : σ → σ) (hp : 1 ≤ p) (hT : t0 < T)
    (hf : ∀ st, (f pid st).next = .ok (F st) ∧ (f pid st).dispose = false ∧ ((f pid st).sleep : Int) ≤ p) :
    let log := (advanceTo handler f T (schedulePeriodic { clock := t0 } pid p st0 c)).1.log
    (∀ r, log[0]? = some r → r.st = st0) ∧
    (∀ (i : Nat) (a b : Ran σ), log[i]? = some a → log[i + 1]? = some b → b.st = F a.st ∧ b.at_ = a.at_ + p) := by
  obtain ⟨_, _, _, hch, hfirst⟩ := closed_form_any_sleep handler f pid t0 p st0 c T F hp hT
    (fun st => ⟨(hf st).1, (hf st).2.1⟩)
  refine ⟨fun r hr => (hfirst r hr).1, fun i a b ha hb => ?_⟩
  obtain ⟨h1, h2⟩ := hch i a b ha hb
  exact ⟨h1, by rw [h2, if_neg (by have := (hf a.st).2.2; omega)]⟩

/-- **stops_on_dispose.**  After `dispose()` of the handle returned by `schedule_periodic` — called from
outside, from another scheduled action at some time, or by the periodic action itself — the action is never
invoked again, whatever calls follow (`advance_to` any number of times, other periodic tasks, their
failures): the invocation log of that task never grows.  (`Dead pid` is what `dispose()` establishes:
`disposeTask_dead`.) -/
theorem stops_on_dispose (handler : Err → Bool) (f : Nat → σ → Tick σ) (pid : Nat) (s : St σ) (t : Task)
    (hg : getTask s pid = some t) (ops : List (Op σ))
    (hops : ∀ op ∈ ops, match op with | .periodic pid' _ _ _ => pid' ≠ pid | _ => True) :
    logOf pid (runOps handler f (disposeTask s pid) ops).1 = logOf pid s := by
  have h := runOps_dead handler f pid ops (disposeTask s pid) hops (disposeTask_dead s pid t hg)
  exact h.2.trans (logOf_congr pid (disposeTask_log s pid))

/-- … including when the dispose happens in the middle of a run (a scheduled dispose action, or the
periodic action disposing itself): one loop iteration that leaves the task `Dead` is followed by no
further invocation. -/
theorem stops_on_dispose_during_run (handler : Err → Bool) (f : Nat → σ → Tick σ) (T : Int) (pid : Nat) (n : Nat)
    (s : St σ) (h : Dead pid s) :
    logOf pid (loopFuel handler f T n s).1 = logOf pid s :=
  (loopFuel_dead handler f T pid n s h).2

/-- **stops_after_raise.**  When the periodic action of a live task raises `e` (plain scheduler): that call is
the last entry of its invocation log, the exception propagates out of the loop (`advance_to` raises), the
task's disposable is disposed, and no later call ever invokes the action again. -/
theorem stops_after_raise (handler : Err → Bool) (f : Nat → σ → Tick σ) (T : Int) (s : St σ) (x : Item σ)
    (q' : PQ (Item σ)) (pid : Nat) (st : σ) (t : Task) (e : Err)
    (hen : s.enabled = true) (hd : s.queue.dequeue? Item.due = some (x, q')) (hdue : x.due ≤ T)
    (hc : x.cancelled = false) (hk : x.kind = .tick pid st) (hg : getTask s pid = some t) (hp : 1 ≤ t.period)
    (hlive : t.disposed = false) (hplain : t.catch_ = false) (he : (f pid st).next = .error e) :
    ∃ s2, iter handler f T s = .raised s2 e ∧
      s2.log = s.log ++ [{ pid, at_ := if x.due > s.clock then x.due else s.clock, st }] ∧
      ∀ (ops : List (Op σ)), (∀ op ∈ ops, match op with | .periodic pid' _ _ _ => pid' ≠ pid | _ => True) →
        logOf pid (runOps handler f s2 ops).1 = logOf pid s2 := by
  have hi := iter_tick handler f T s x q' pid st t hen hd hdue hc hk hg hp
  obtain ⟨s2, hrt, hdead, hlog⟩ := runTick_raise_plain handler f
    { s with clock := if x.due > s.clock then x.due else s.clock, queue := q' } pid t st e hg hlive hplain he
  rw [hrt] at hi
  exact ⟨s2, hi, hlog, fun ops hops => (runOps_dead handler f pid ops s2 hops hdead).2⟩

/-! ## `timer(duetime, period)`, `duetime ≠ period` — its own re-basing loop (`observable/timer.py`)

Model: `RxModel/VtsTimer.lean`.  The run may contain any number of other actions that take virtual time
(`block`: they call `scheduler.sleep`), scheduled at any times, and the observer's `on_next(k)` may itself sleep
`cost k` — for an ARBITRARY `cost` — so the statements hold for every sequence of lateness values. -/

/-- **timer_tick_rule.**  One tick, as written: when the loop of `advance_to(T)` gets the timer's tick `k` (due `dt`),
it delivers `k` at `now = max clock dt`, then the clock moves by what the observer slept, and the next tick `k+1`
is scheduled for `dt + p` — the grid — unless that is not after `now` (the tick ran a period or more late), in
which case for `now + p`. -/
theorem timer_tick_rule (p : Int) (cost : Nat → Nat) (T : Int) (s : Tmr.St) (x : Tmr.Item) (q' : PQ Tmr.Item) (k : Nat)
    (hp : 1 ≤ p) (hen : s.enabled = true) (hd : s.queue.dequeue? Tmr.Item.due = some (x, q')) (hdue : x.due ≤ T)
    (hk : x.kind = .tick k) :
    Tmr.iter p cost T s = .next (Tmr.enqueue
      { s with clock := (if x.due > s.clock then x.due else s.clock) + cost k, queue := q',
               log := s.log ++ [{ k, at_ := if x.due > s.clock then x.due else s.clock, due := x.due }] }
      { due := if x.due + p ≤ (if x.due > s.clock then x.due else s.clock)
               then (if x.due > s.clock then x.due else s.clock) + p else x.due + p,
        kind := .tick (k + 1) }) := by
  have h1 : ¬ x.due > T := by omega
  have h2 : ¬ p ≤ 0 := by omega
  simp only [Tmr.iter, hen, hd, h1, hk, h2, Tmr.nextDue]
  simp

/-- **timer_ticks (the reference rule, for every sequence of lateness values).**  Subscribe `timer(duetime, period)`
(first due time `d0`, relative or absolute, possibly already in the past) on a scheduler on which any blocking
actions `blocks` were scheduled before, and `advance_to(T)`.  Then the emissions are `0, 1, 2, …` in order
(`Tmr.ChainOK`): emission 0 had due time `d0`; every emission is delivered at or after its due time; for consecutive
emissions `a`, `b`: `b` was due at `a.due + p` if `a` was delivered less than a period late, and at
`a.at_ + p` (the grid is re-based at `a`'s `now`) if `a` was delivered a period or more late.  In particular,
as long as no emission was a period or more late, emission `k` was due at exactly `d0 + k·p`. -/
theorem timer_ticks (p : Int) (cost : Nat → Nat) (T c0 d0 : Int) (blocks : List (Int × Nat)) :
    let s0 := Tmr.subscribe (blocks.foldl (fun s b => Tmr.scheduleBlock s b.1 b.2) { clock := c0 }) d0
    let log := (Tmr.advanceTo p cost T s0).1.log
    Tmr.ChainOK p 0 d0 log ∧
    (∀ (i : Nat) (a b : Tmr.Ran), log[i]? = some a → log[i + 1]? = some b →
      b.k = a.k + 1 ∧ a.due ≤ a.at_ ∧
      (a.at_ < a.due + p → b.due = a.due + p) ∧ (a.due + p ≤ a.at_ → b.due = a.at_ + p)) ∧
    ((∀ e ∈ log, e.at_ < e.due + p) → ∀ e ∈ log, e.due = d0 + (e.k : Int) * p) := by
  intro s0 log
  have hb := Tmr.log_blocks blocks { clock := c0 }
  have hinit : Tmr.GInv p d0 s0 := by
    refine ⟨?_, ?_⟩
    · show Tmr.ChainOK p 0 d0 (blocks.foldl (fun s b => Tmr.scheduleBlock s b.1 b.2) { clock := c0 }).log
      rw [hb]; trivial
    · show Tmr.ticks (Tmr.subscribe _ d0).queue.items =
        [Tmr.chainEnd p 0 d0 (blocks.foldl (fun s b => Tmr.scheduleBlock s b.1 b.2) ({ clock := c0 } : Tmr.St)).log]
      rw [hb]
      simp only [Tmr.subscribe, Tmr.enqueue, PQ.enqueue, Tmr.ticks_append, Tmr.ticks_blocks]
      simp [Tmr.ticks, Tmr.chainEnd]
  have hchain : Tmr.ChainOK p 0 d0 log :=
    (Tmr.advanceTo_inv (Tmr.GInv p d0) (Tmr.ginv_iter p cost T d0) (fun _ _ _ h => h) s0 hinit).1
  refine ⟨hchain, ?_, ?_⟩
  · intro i a b ha hb'
    obtain ⟨h1, h2, h3⟩ := Tmr.chain_step p log 0 d0 hchain i a b ha hb'
    refine ⟨h1, h3, ?_, ?_⟩
    · intro hlt; rw [h2]; simp only [Tmr.nextDue]; split <;> omega
    · intro hge; rw [h2]; simp only [Tmr.nextDue]; split <;> omega
  · intro hall e he
    have := Tmr.chain_on_grid p log 0 d0 hchain hall e he
    simpa using this

/-- the timer loop terminates: the fuel `weight + 1` that `advanceTo` hands to the loop is never exhausted -/
theorem timer_terminates (p : Int) (cost : Nat → Nat) (T : Int) (s : Tmr.St) :
    (∀ s', Tmr.iter p cost T s = .next s' → Tmr.weight T s'.queue.items < Tmr.weight T s.queue.items) ∧
    (∀ m, Tmr.weight T s.queue.items < m →
      Tmr.loopFuel p cost T (Tmr.weight T s.queue.items + 1) s = Tmr.loopFuel p cost T m s) :=
  ⟨fun _ h => Tmr.iter_next_weight h, fun m hm => Tmr.loopFuel_enough p cost T _ m s (by omega) hm⟩

/-! ## Non-vacuity -/

private def fDemo : Nat → Int → Tick Int := fun _ n => { next := .ok (n + 1), sleep := if n = 1 then 2 else 0 }

/-- period 5 from clock 0, the call with state 1 sleeps 2: ticks at 5, 10, 15 with states 0, 1, 2 (the sleep
does not shift the next tick), nothing at 20 > 17 -/
example : (advanceTo (fun _ => false) fDemo 17 (schedulePeriodic { clock := 0 } 1 5 (0 : Int) false)).1.log =
    [⟨1, 5, 0⟩, ⟨1, 10, 1⟩, ⟨1, 15, 2⟩] := by decide +kernel

private def fRaise : Nat → Int → Tick Int := fun _ n => { next := if n = 2 then .error "boom" else .ok (n + 1) }

/-- raising at the third call: `advance_to` raises, later runs invoke nothing more -/
example :
    (runOps (fun _ => false) fRaise { clock := 0 } [.periodic 1 5 (0 : Int) false, .advanceTo 40, .stop, .advanceTo 80]).2
      = [.ok, .raised "boom", .ok, .ok] ∧
    (runOps (fun _ => false) fRaise { clock := 0 } [.periodic 1 5 (0 : Int) false, .advanceTo 40, .stop, .advanceTo 80]).1.log
      = [⟨1, 5, 0⟩, ⟨1, 10, 1⟩, ⟨1, 15, 2⟩] := by decide +kernel

/-- a dispose action at time 12 stops the ticks after the one at 10 -/
example : (runOps (fun _ => false) fDemo { clock := 0 } [.periodic 1 5 (0 : Int) false, .disposeAt 12 1, .advanceTo 40]).1.log
    = [⟨1, 5, 0⟩, ⟨1, 10, 1⟩] := by decide +kernel

private def fSlow : Nat → Int → Tick Int := fun _ n => { next := .ok (n + 1), sleep := if n = 1 then 12 else 0 }

/-- period 5, the call with state 1 (at 10) sleeps 12 > period: the next call is overdue and runs at 22, then 27 -/
example : (advanceTo (fun _ => false) fSlow 30 (schedulePeriodic { clock := 0 } 1 5 (0 : Int) false)).1.log =
    [⟨1, 5, 0⟩, ⟨1, 10, 1⟩, ⟨1, 22, 2⟩, ⟨1, 27, 3⟩] := by decide +kernel

/-- timer(duetime → first due 3, period 10) from clock 0; a blocker at 13 sleeps 4 (tick 1 is late by 4 < period:
the grid is kept), the observer sleeps 25 inside on_next(2) (tick 3, due 33, runs at 48 ≥ 33 + 10: re-based, tick 4
due 58) -/
example : ((Tmr.advanceTo 10 (fun k => if k = 2 then 25 else 0) 60
      (Tmr.subscribe (Tmr.scheduleBlock { clock := 0 } 13 4) 3)).1.log.map fun r => (r.k, r.at_, r.due)) =
    [(0, 3, 3), (1, 17, 13), (2, 23, 23), (3, 48, 33), (4, 58, 58)] := by decide +kernel

end C35
