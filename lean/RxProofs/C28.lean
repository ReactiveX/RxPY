import RxProofs.Lemmas.VtsInv
/-!
# C28 — virtual time runs actions in due order on a monotone clock

Model: `RxModel/VtsPQ.lean` (`PriorityQueue`),
`RxModel/Vts.lean` (`VirtualTimeScheduler`/`TestScheduler`/`HistoricalScheduler`; actions are arbitrary
finite trees that schedule, cancel, stop, sleep and raise).

How the statements quantify.  `iter cfg tgt s` is ONE iteration of the `while True:` loop of `start`
(`tgt = none`) or `advance_to(T)` (`tgt = some T`) from an ARBITRARY state `s`; `loop` is that loop,
`runOps` an arbitrary script of top-level calls.  A statement about `iter` for all `s` therefore holds at
every iteration of every run.  Nothing is bounded.
-/

namespace C28
open Vts

/-- **pq_dequeue_min_stable.** `dequeue` hands out the entry of least due time, first-enqueued among those of that
due time. -/
theorem pq_dequeue_min_stable {α : Type} (due : α → Int) {q q' : PQ α} {x : α} (hwf : q.WF)
    (h : q.dequeue? due = some (x, q')) :
    ∃ pre post c, q.items = pre ++ (x, c) :: post ∧ q'.items = pre ++ post ∧
      (∀ y ∈ pre, due x < due y.1) ∧ (∀ y ∈ post, due x ≤ due y.1) := by
  obtain ⟨pre, post, c, h1, h2, h3, h4, _⟩ := PQ.dequeue_split due hwf h
  exact ⟨pre, post, c, h1, h2, h3, h4⟩

/-- The queue invariant `PQ.WF` (distinct, insertion-ordered counts) holds in every state reachable by
any script of calls from a state where it holds (in particular from a fresh scheduler). -/
theorem pq_wf_reachable (cfg : Cfg) (ops : List Op) (s : St) (h : s.queue.WF) :
    (runOps cfg s ops).1.queue.WF :=
  ((wfRun cfg).runOps_inv ops s (fun _ _ => trivial) h (qall_any s)).1

/-- **run_picks_min.** Whatever one loop iteration of `start`/`advance_to` appends to the executed-action
log is the entry of an item that (a) was the stable minimum of the pending queue at that moment, (b) was
not cancelled, (c) was not beyond the target. -/
theorem run_picks_min (cfg : Cfg) (tgt : Option Int) (s : St) (hwf : s.queue.WF) :
    (iter cfg tgt s).st.log = s.log ∨
    ∃ x, StableMin x s.queue ∧ x.cancelled = false ∧ pastTarget tgt x = false ∧
      ∃ at_, (iter cfg tgt s).st.log = s.log ++ [{ id := x.id, at_ := at_, due := x.due, seq := x.seq }] := by
  rcases iter_log cfg tgt s with h | ⟨x, q', hd, hpt, hc, hl⟩
  · exact Or.inl h
  · exact Or.inr ⟨x, stableMin_of_dequeue hwf hd, hc, hpt, _, hl⟩

/-- **clock_at_run.** The clock stamped on an executed action is `tickClock`: its due time if that is
later than the current clock; otherwise the current clock — except on the spin branch of `start` (more
than `MAX_SPINNING` consecutive actions without the clock advancing), where it is the clock plus the bump. -/
theorem clock_at_run (cfg : Cfg) (tgt : Option Int) (s : St) :
    (iter cfg tgt s).st.log = s.log ∨
    ∃ x q', s.queue.dequeue? Item.due = some (x, q') ∧
      (iter cfg tgt s).st.log = s.log ++ [{ id := x.id, at_ := tickClock cfg tgt s x, due := x.due, seq := x.seq }] ∧
      tickClock cfg tgt s x =
        (if x.due > s.clock then x.due
         else if (tgt.isNone && decide (s.spin > cfg.maxSpin)) = true then s.clock + cfg.bump
         else s.clock) := by
  rcases iter_log cfg tgt s with h | ⟨x, q', hd, _, _, hl⟩
  · exact Or.inl h
  · exact Or.inr ⟨x, q', hd, hl, rfl⟩

/-- corollary in the property's words: the stamped clock is at least `max clock due`, equals the due time
when that is later than the clock, and equals `max clock due` whenever the spin branch is not taken
(always in `advance_to`; in `start` while at most `MAX_SPINNING` actions ran without the clock moving). -/
theorem clock_at_run_ge (cfg : Cfg) (hb : 0 ≤ cfg.bump) (tgt : Option Int) (s : St) (r : Ran)
    (h : (iter cfg tgt s).st.log = s.log ++ [r]) :
    max s.clock r.due ≤ r.at_ ∧ (s.clock < r.due → r.at_ = r.due) ∧
    ((tgt.isSome ∨ s.spin ≤ cfg.maxSpin) → r.at_ = max s.clock r.due) := by
  rcases iter_log cfg tgt s with h' | ⟨x, q', _, _, _, hl⟩
  · rw [h'] at h; simp at h
  · obtain rfl : _ = r := List.singleton_inj.1 (List.append_cancel_left (hl.symm.trans h))
    have := tickClock_ge cfg hb tgt s x
    exact ⟨by simp only; omega, fun hlt => by simp only [tickClock, if_pos hlt], tickClock_eq_max cfg tgt s x⟩

/-- **clock_monotone (one loop).** `start` and the loop of `advance_to` never move the clock backwards,
whatever the actions do (schedule, cancel, stop, sleep, raise). -/
theorem clock_monotone_loop (cfg : Cfg) (hb : 0 ≤ cfg.bump) (tgt : Option Int) (s : St) :
    s.clock ≤ (loop cfg tgt s).1.clock :=
  (IterInv.loop (clockGeInv cfg hb tgt anyStep s.clock) s (Int.le_refl _) (qall_any s)).1

theorem clock_monotone (cfg : Cfg) (hb : 0 ≤ cfg.bump) (ops : List Op) (c0 : Int)
    (hops : ∀ op ∈ ops, op.All noSleep) :
    c0 ≤ (runOps cfg { clock := c0 } ops).1.clock :=
  ((clockRun cfg hb c0).runOps_inv ops { clock := c0 } hops ⟨Int.le_refl _, by simp, by simp⟩
    (by intro e he; simp at he)).1.1

theorem log_clock_sorted (cfg : Cfg) (hb : 0 ≤ cfg.bump) (ops : List Op) (c0 : Int)
    (hops : ∀ op ∈ ops, op.All noSleep) :
    ((runOps cfg { clock := c0 } ops).1.log.map (·.at_)).Pairwise (· ≤ ·) := by
  have := ((clockRun cfg hb c0).runOps_inv ops { clock := c0 } hops ⟨Int.le_refl _, by simp, by simp⟩
    (by intro e he; simp at he)).1.2.1
  simpa [List.pairwise_map] using this

/-- **cancelled_never_run.** After `dispose()` of the handle of action `i` (here: `s.cancel i`), whatever
script of calls follows, `i` is never executed again — provided no later call or action schedules a new
action under the same id (ids name handles). -/
theorem cancelled_never_run (cfg : Cfg) (s : St) (i : Nat) (ops : List Op)
    (hops : ∀ op ∈ ops, op.AllT (fun id _ _ => id ≠ i) (notSched i)) (hq : QAll (notSched i) s) :
    ∀ r ∈ (runOps cfg (s.cancel i) ops).1.log, r.id = i → r ∈ s.log :=
  ((cancRun cfg i s.log).runOps_inv ops (s.cancel i) hops (cancInv_cancel s i) (qall_cancel hq i)).1.2

/-- **sorted_if_no_past_scheduling.** If no action schedules before the clock (inside actions only
`schedule` and `schedule_relative(t ≥ 0)`; they may also cancel, stop, sleep, raise), then from any state
satisfying `SortInv` — e.g. a scheduler on which nothing has run yet, with any set of top-level
`schedule_absolute/relative/schedule` calls (`sortInv_fresh`) — the whole executed log of `start` /
`advance_to` is strictly sorted by (due time, scheduling number): non-decreasing due times and
first-scheduled-first among equal due times. -/
theorem sorted_if_no_past_scheduling (cfg : Cfg) (hb : 0 ≤ cfg.bump) (tgt : Option Int) (s : St)
    (h : SortInv s) (hq : QAll nonPast s) :
    (loop cfg tgt s).1.log.Pairwise (fun a b => a.due < b.due ∨ (a.due = b.due ∧ a.seq < b.seq)) :=
  (IterInv.loop (sortInv_iter cfg hb tgt) s h hq).1.logSorted

/-- **advance_to_runs_exactly_due_partial.**  The property reads: `advance_to(T)` on a scheduler that is not running,
returning normally, runs exactly the pending actions due at or before `T`.  It holds, and is proved here, only
under the extra hypothesis `s.clock ≠ T` (and no action calls `stop()`): every action executed
by the call was due at or before `T`, and when it returns nothing due at or before `T` is left pending.
For `T = s.clock` the code returns immediately — see `advance_to_now_counter`. -/
theorem advance_to_runs_exactly_due_partial (cfg : Cfg) (T : Int) (s s' : St) (hwf : s.queue.WF)
    (hq : QAll noStop s) (hen : s.enabled = false) (hne : s.clock ≠ T)
    (h : advanceTo cfg T s = (s', .ok)) :
    (∀ e ∈ s'.queue.items, T < e.1.due) ∧ (∀ r ∈ s'.log, r ∈ s.log ∨ r.due ≤ T) := by
  obtain ⟨s'', hl, rfl⟩ := advanceTo_ok hen hne h
  have hP := (IterInv.loop ((wfInv cfg (some T) noStop).and (dueLogInv cfg T noStop s.log)) { s with enabled := true }
    ⟨hwf, fun r hr => Or.inl hr⟩ hq).1
  rw [hl] at hP
  obtain ⟨hwf'', hlog⟩ := hP
  refine ⟨?_, hlog⟩
  rcases loop_ok_drained (s := { s with enabled := true }) hq rfl hl with h1 | ⟨x, q', hd, hpt⟩
  · intro e he; simp only at he; rw [h1] at he; simp at he
  · obtain ⟨pre, post, c, hl', _, hpre, hpost, _⟩ := PQ.dequeue_split Item.due hwf'' hd
    simp only [pastTarget, decide_eq_true_eq] at hpt
    intro e he
    simp only at he
    rw [hl'] at he
    simp only [List.mem_append, List.mem_cons] at he
    rcases he with he | rfl | he
    · have := hpre e he; omega
    · exact hpt
    · have := hpost e he; omega

/-- **advance_to_leaves_clock_at_target.** `advance_to(T)` on a scheduler that is not running, returning
normally, leaves the clock at exactly `T` (also when `T` is the current clock, and whatever the actions did). -/
theorem advance_to_leaves_clock_at_target (cfg : Cfg) (T : Int) (s s' : St) (hen : s.enabled = false)
    (h : advanceTo cfg T s = (s', .ok)) : s'.clock = T := by
  by_cases hne : s.clock = T
  · rw [advanceTo_eq, if_neg (by omega), if_pos (Or.inl hne)] at h
    cases h; exact hne
  · obtain ⟨s'', _, rfl⟩ := advanceTo_ok hen hne h
    rfl

/-- `advance_by(t)` is `advance_to(clock + t)` -/
theorem advance_by_leaves_clock_at_target (cfg : Cfg) (t : Int) (s s' : St) (hen : s.enabled = false)
    (h : advanceBy cfg t s = (s', .ok)) : s'.clock = s.clock + t :=
  advance_to_leaves_clock_at_target cfg _ s s' hen h

/-- **sleep_runs_nothing.** `sleep(t)` returning normally moves the clock by `t ≥ 0` and touches nothing else:
no action runs, nothing is dequeued or skipped. -/
theorem sleep_runs_nothing (t : Int) (s s' : St) (h : sleep t s = (s', .ok)) :
    0 ≤ t ∧ s'.clock = s.clock + t ∧ s'.log = s.log ∧ s'.queue = s.queue ∧ s'.skipped = s.skipped ∧
    s'.enabled = s.enabled := by
  simp only [sleep] at h
  split at h
  · simp at h
  · simp at h; subst h; exact ⟨by omega, rfl, rfl, rfl, rfl, rfl⟩

/-! ## AS-IS deviation (known finding C28-advance-to-now)

`advance_to(now)`: the code returns at `if self.now == dt or self._is_enabled: return` without looking at
the queue, so an action due exactly now stays pending.  (Repairing this breaks the repository's own
`test_historicalscheduler.py::test_advance_by`, which asserts that `advance_by(0)` runs nothing; it is
therefore recorded as a known finding and the model keeps the code as written.) -/

def counterState : St := ({ clock := 10 } : St).enqueue 1 10 .done false

/-- **advance_to_now_counter.** At clock 10 with action 1 due at 10, `advance_to(10)` returns normally,
runs nothing and leaves the due action pending — the first conclusion of `advance_to_runs_exactly_due_partial` fails
without its hypothesis `s.clock ≠ T`. -/
theorem advance_to_now_counter :
    (advanceTo {} 10 counterState).2 = .ok ∧ (advanceTo {} 10 counterState).1.log = [] ∧
    ¬ (∀ e ∈ (advanceTo {} 10 counterState).1.queue.items, (10 : Int) < e.1.due) := by
  have : advanceTo {} 10 counterState = (counterState, .ok) := by
    simp [advanceTo, counterState, St.enqueue]
  rw [this]
  refine ⟨rfl, rfl, ?_⟩
  simp [counterState, St.enqueue, PQ.enqueue]

/-! ## AS-IS deviation (known finding C28-sleep-past-target)

An action that calls `sleep()` past the target of the `advance_to` that runs it: the loop ends with the
clock beyond the target and the epilogue `self._clock = dt` moves it BACK.  This is why `clock_monotone` /
`log_clock_sorted` over scripts assume that no action sleeps (`clock_monotone_loop` needs no such
assumption: inside the loop the clock only grows). -/
def sleeper : St := ({ clock := 0 } : St).enqueue 1 1 (.sleep 10 .done) false

/-- **sleep_past_target_counter.** clock 0; action 1 (due 1) sleeps 10; `advance_to(5)`: the action runs at
clock 1, the loop ends with the clock at 11, and `advance_to` returns normally with the clock at 5. -/
theorem sleep_past_target_counter :
    (loop {} (some 5) { sleeper with enabled := true }).1.clock = 11 ∧
    (advanceTo {} 5 sleeper).2 = .ok ∧ (advanceTo {} 5 sleeper).1.clock = 5 ∧
    (advanceTo {} 5 sleeper).1.log.map (fun r => (r.id, r.at_)) = [(1, 1)] := by
  rw [advanceTo_eq_fuel {} 10 5 sleeper (by decide), loop_eq_loopFuel {} (some 5) 10 _ (by decide)]
  decide +kernel

/-! ## Non-vacuity -/

/-- three entries with due times 5,3,3 (enqueued in that order): the first of the two 3s comes out -/
example : (((((({} : PQ (Int × Nat)).enqueue (5, 0)).enqueue (3, 1)).enqueue (3, 2)).dequeue? (·.1)).map (·.1))
    = some (3, 1) := by decide +kernel

private def demo : St :=
  ((({ clock := 0 } : St).enqueue 1 5 (.sched .handed .imm 0 4 .done (.sleep 2 .done)) false).enqueue 2 5 .done false).enqueue 3 2
    (.cancel 2 (.sched .handed .rel 3 5 .done .done)) false

/-- equal due times (1, 2, 5 all due at 5), cancellation from inside an action (3 cancels 2), a child
scheduled at the current time (4) and an in-action sleep (1 sleeps 2, so 5 and 4 run late, at clock 7). -/
example : (start {} demo).1.log.map (fun r => (r.id, r.at_)) = [(3, 2), (1, 5), (5, 7), (4, 7)] ∧
    (start {} demo).1.skipped = [2] ∧ (start {} demo).1.clock = 7 := by
  rw [start_eq_fuel {} 20 demo (by decide)]
  decide +kernel

/-- the hypotheses of `sorted_if_no_past_scheduling` hold for `demo` -/
example : SortInv demo ∧ QAll nonPast demo := by
  refine ⟨sortInv_fresh 0 [(1, 5, _, false), (2, 5, _, false), (3, 2, _, false)], ?_⟩
  intro e he
  simp [demo, St.enqueue, PQ.enqueue] at he
  rcases he with rfl | rfl | rfl <;> simp [Act.All, nonPast]

/-- `advance_to(4)` from clock 0 runs exactly the actions due ≤ 4 and stops at 4 -/
example : (advanceTo {} 4 demo).1.log.map (fun r => (r.id, r.at_)) = [(3, 2)] ∧
    (advanceTo {} 4 demo).1.clock = 4 ∧ (advanceTo {} 4 demo).2 = .ok ∧
    (advanceTo {} 4 demo).1.queue.items.map (·.1.due) = [5, 5, 5] := by
  rw [advanceTo_eq_fuel {} 20 4 demo (by decide)]
  decide +kernel

end C28
