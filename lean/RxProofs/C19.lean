import RxProofs.Lemmas.WinGrpRelease
import RxProofs.Lemmas.WinGrpDerived
import RxProofs.Lemmas.WinGrpPart
import RxProofs.Lemmas.CoreAdo
/-!
# C19 — grouping routes each element to exactly one live group; partition

The property theorems (model: `RxModel/WinGrp.lean`).  Those of the second
half (release, derived durations, re-entrancy) are proved in `WinGrpRelease`/`WinGrpDerived` under the same names and restated here.

`group_by_until` / `group_by` are the trace machine `WinGrp.step` over tagged events
(source notification, notification of the duration observable of group #g, disposal of the outer
subscription, late subscription to / disposal of a group's subscriber).  The theorems about `run` quantify over
**every** finite event list `evs` (any interleaving, non-conforming sources, disposals anywhere), every
key / element / subject / duration mapper (arbitrary functions that may raise) and every choice of
immediate / late / absent group subscribers; the key equality `cfg.keyEq` (Python `==`/hash in the
driver) is only assumed to be an equivalence relation.  Proof: the invariant `WinGrp.Inv`
(`writers` = the non-expired groups in creation order with pairwise different keys; reference count =
number of subscribers holding a reference; while the source is subscribed the stopped writers are
exactly the expired ones; a live duration subscription belongs to a non-expired group) is preserved
by every step (`WinGrp.stp_step`), by induction over the event list (`WinGrp.stp_run`, `WinGrp.inv_reach`).

`r.wlog` is the list of notifications accepted by the writer `Subject` of a group — what an observer
attached at creation sees; the correspondence check compares it (and the timed effect log) with taps
on the real subjects.  `LiveFor cfg s k j` : group #j exists, its key equals `k`, it has not expired.
-/
namespace C19
open WinGrp
variable {α κ β : Type}

/-- **expire_never_keyerror.** `expire()` evaluates `writers[key]`; whenever a duration subscription is live
the key is present, so an `expire()` triggered by that duration cannot raise.  (The call from `announce` for a duration that
fires inside its own subscribe, `cfg.dsync g = some n`, happens before the subscription is live and is not covered.) -/
theorem expire_never_keyerror (cfg : Cfg α κ β) (hrefl : ∀ k, cfg.keyEq k k = true) (evs : List (Ev α))
    (g : Nat) (r : Grp κ β) :
    let s := run cfg (init : St κ β) evs
    s.groups[g]? = some r → r.dur = .live →
      (s.writers.find? (fun p => cfg.keyEq p.1 r.key)).isSome = true := by
  intro s hg hl
  have hi := inv_reach hrefl (cfg := cfg) (β := β) evs
  have he := hi.dl g r hg hl
  exact List.find?_isSome.mpr ⟨_, (mem_writers_iff hi.wf (r.key, g)).mpr ⟨r, hg, he, rfl⟩, hrefl _⟩

/-- **group_new_iff_unseen_or_expired.** When an element with key `k` arrives (source subscribed, key mapper
succeeds), a new group is created — index = number of groups so far, key `k` — iff no live group has a
key equal to `k` (never seen, or every earlier group of that key has expired) and `subject_mapper` does not
raise; otherwise the set of groups is unchanged. -/
theorem group_new_iff_unseen_or_expired (cfg : Cfg α κ β) (hrefl : ∀ k, cfg.keyEq k k = true)
    (evs : List (Ev α)) (x : α) (k : κ) (hk : cfg.keyMapper x = .ok k) :
    let s := run cfg (init : St κ β) evs
    let s' := step cfg s (.src (.next x))
    s.srcStopped = false →
      (keys s' = keys s ++ [k] ↔ (¬ ∃ j, LiveFor cfg s k j) ∧ cfg.subjMapper s.groups.length = .ok ()) ∧
      (keys s' = keys s ++ [k] ∨ keys s' = keys s) := by
  intro s s' hs
  have hi := inv_reach hrefl (cfg := cfg) (β := β) evs
  have hne : keys s ++ [k] ≠ keys s := by
    intro h; have := congrArg List.length h; simp at this
  have hs' : s' = srcNext cfg s x := step_src_next cfg s x hs
  rw [hs']
  have out := srcNext_out cfg s x
  generalize srcNext cfg s x = u at out ⊢
  cases out with
  | keyErr e hk' => rw [hk] at hk'; cases hk'
  | found k' p hk' hf =>
    cases hk.symm.trans hk'
    have hl : ∃ j, LiveFor cfg s k j := ⟨p.2, find_some_live hi.wf k p hf⟩
    rw [keys_pushElem]
    exact ⟨⟨fun h => absurd h.symm hne, fun h => absurd hl h.1⟩, Or.inr rfl⟩
  | subjErr k' e hk' hf hsm =>
    rw [keys_errorAll]
    exact ⟨⟨fun h => absurd h.symm hne, fun h => by rw [hsm] at h; cases h.2⟩, Or.inr rfl⟩
  | durErr k' e hk' hf hsm hdm =>
    cases hk.symm.trans hk'
    have : keys (errorAll (addGroup s k) e) = keys s ++ [k] := by rw [keys_errorAll, keys_addGroup]
    exact ⟨⟨fun _ => ⟨(find_none_iff hi.wf k).mp hf, hsm⟩, fun _ => this⟩, Or.inl this⟩
  | created k' hk' hf hsm hdm =>
    cases hk.symm.trans hk'
    have : keys (pushElem cfg (announce cfg (addGroup s k) s.groups.length k) s.groups.length x) = keys s ++ [k] := by
      rw [keys_pushElem, keys_announce, keys_addGroup]
    exact ⟨⟨fun _ => ⟨(find_none_iff hi.wf k).mp hf, hsm⟩, fun _ => this⟩, Or.inl this⟩

/-- **new_group_announced.** In the situation where `group_new_iff_unseen_or_expired` creates a group, and
`duration_mapper` does not raise and the outer subscriber is not stopped, the outer subscriber is handed the new
group (index = number of groups so far, key `k`) during that very step. -/
theorem new_group_announced (cfg : Cfg α κ β) (hrefl : ∀ k, cfg.keyEq k k = true)
    (evs : List (Ev α)) (x : α) (k : κ) (hk : cfg.keyMapper x = .ok k) :
    let s := run cfg (init : St κ β) evs
    let s' := step cfg s (.src (.next x))
    s.srcStopped = false → (¬ ∃ j, LiveFor cfg s k j) →
    cfg.subjMapper s.groups.length = .ok () → cfg.durMapper s.groups.length = .ok () → s.outStopped = false →
      Eff.outer (.next (s.groups.length, k)) ∈ s'.out := by
  intro s s' hs hl hsm hdm ho
  have hi := inv_reach hrefl (cfg := cfg) (β := β) evs
  have hs' : s' = srcNext cfg s x := step_src_next cfg s x hs
  rw [hs']
  have out := srcNext_out cfg s x
  generalize srcNext cfg s x = u at out ⊢
  cases out with
  | keyErr e hk' => rw [hk] at hk'; cases hk'
  | found k' p hk' hf => cases hk.symm.trans hk'; exact absurd ⟨p.2, find_some_live hi.wf k p hf⟩ hl
  | subjErr k' e _ _ h => rw [hsm] at h; cases h
  | durErr k' e _ _ _ h => rw [hdm] at h; cases h
  | created k' hk' _ _ _ =>
    cases hk.symm.trans hk'
    exact (OutExt_pushElem cfg _ _ x).mem (announce_mem cfg (addGroup s k) s.groups.length k ho)

/- FULL STATEMENT (DESIGN.md `C19.group_routes_to_key`) — **false of the code as written**, see the known finding
   `C19-sync-duration-drops-element` and the decided counter-example `sync_duration_drops_element` below:

     for every arriving element x (source subscribed) with key k and mapped value v (mappers not raising):
       ∃ g, LiveFor cfg s' k g ∧ (∀ j, LiveFor cfg s' k j → j = g) ∧
            wlogOf s' g = wlogOf s g ++ [.next v] ∧ (∀ j, j ≠ g → wlogOf s' j = wlogOf s j)

   What is missing in the proved `_partial` version: the case where the group is *created by this element* and its
   duration observable fires synchronously inside its own subscribe call (`cfg.dsync g ≠ none`, e.g. `rx.empty()`):
   `_groupbyuntil.py` subscribes the duration before `writer.on_next(element)`, the group expires first and the
   element reaches no group.  Everything else (existing groups, new groups with asynchronous durations — including
   durations firing later in the same instant —, all tie orders, disposals, re-created groups) is covered. -/
/-- **group_routes_to_key_partial.** An arriving element `x` (source subscribed) with key `k` and mapped value `v`
is appended (`next v`, at the end = arrival order) to the writer log of exactly one group `g`; that group is
the unique live group whose key equals `k` (the existing one, or the one created for this element); no other
group's log changes.  Hypotheses: the mappers involved do not raise, and — only when the group has to be
created for this element — its duration does not fire synchronously inside its own subscription
(`sync_duration_drops_element` below shows that the hypothesis is necessary). -/
theorem group_routes_to_key_partial (cfg : Cfg α κ β) (hrefl : ∀ k, cfg.keyEq k k = true)
    (hsymm : ∀ a b, cfg.keyEq a b = true → cfg.keyEq b a = true)
    (htrans : ∀ a b c, cfg.keyEq a b = true → cfg.keyEq b c = true → cfg.keyEq a c = true)
    (evs : List (Ev α)) (x : α) (k : κ) (v : β) (hk : cfg.keyMapper x = .ok k) (hv : cfg.elemMapper x = .ok v) :
    let s := run cfg (init : St κ β) evs
    let s' := step cfg s (.src (.next x))
    s.srcStopped = false →
    ((¬ ∃ j, LiveFor cfg s k j) →
      cfg.subjMapper s.groups.length = .ok () ∧ cfg.durMapper s.groups.length = .ok () ∧ cfg.dsync s.groups.length = none) →
    ∃ g, LiveFor cfg s' k g ∧ (∀ j, LiveFor cfg s' k j → j = g) ∧
      wlogOf s' g = wlogOf s g ++ [.next v] ∧ (∀ j, j ≠ g → wlogOf s' j = wlogOf s j) ∧
      ((∃ j, LiveFor cfg s k j) → LiveFor cfg s k g) := by
  intro s s' hs hnew
  have hi := inv_reach hrefl (cfg := cfg) (β := β) evs
  have hi' : Inv cfg s' := (stp_step hrefl hi _).inv
  have hs' : s' = srcNext cfg s x := step_src_next cfg s x hs
  have huniq : ∀ g, LiveFor cfg s' k g → ∀ j, LiveFor cfg s' k j → j = g :=
    fun g hg j hj => live_unique hsymm htrans hi'.wf k j g hj hg
  have out := srcNext_out cfg s x
  generalize e : srcNext cfg s x = u at out
  cases out with
  | keyErr e' hk' => rw [hk] at hk'; cases hk'
  | found k' p hk' hf =>
    cases hk.symm.trans hk'
    have hl := find_some_live hi.wf k p hf
    obtain ⟨r, hr, hkr, her⟩ := hl
    have hst : r.stopped = false := hi.open_of_live hs hr her
    have ht : trk s' = (trk s).modify p.2 (pushT (.next v)) := by
      rw [hs', e, pushElem_ok hv]; exact trk_writerNext s p.2 v
    have hg0 : (trk s)[p.2]? = some (tg r) := by rw [trk_getElem?, hr]; rfl
    have hg1 : (trk s')[p.2]? = some { tg r with wlog := r.wlog ++ [.next v] } := by
      rw [ht, List.getElem?_modify, hg0]; simp [pushT, tg, hst]
    have hlive' : LiveFor cfg s' k p.2 := (liveFor_trk cfg s' k p.2).mpr ⟨_, hg1, hkr, her⟩
    refine ⟨p.2, hlive', huniq _ hlive', ?_, ?_, fun _ => ⟨r, hr, hkr, her⟩⟩
    · rw [wlogOf_trk, hg1, wlogOf_trk, hg0]; rfl
    · exact fun j hj => wlogOf_modify_ne ht hj
  | subjErr k' e' hk' hf h =>
    cases hk.symm.trans hk'
    rw [(hnew ((find_none_iff hi.wf k).mp hf)).1] at h; cases h
  | durErr k' e' hk' hf _ h =>
    cases hk.symm.trans hk'
    rw [(hnew ((find_none_iff hi.wf k).mp hf)).2.1] at h; cases h
  | created k' hk' hf _ _ =>
    cases hk.symm.trans hk'
    have hl : ¬ ∃ j, LiveFor cfg s k j := (find_none_iff hi.wf k).mp hf
    obtain ⟨hsm, hdm, hds⟩ := hnew hl
    have ht : trk s' = (trk s ++ [(⟨k, false, false, []⟩ : TG κ β)]).modify s.groups.length (pushT (.next v)) := by
      rw [hs', e, pushElem_ok hv, trk_writerNext, trk_announce_nosync _ _ _ _ hds, trk_addGroup]
    have hlen : (trk s).length = s.groups.length := length_trk s
    have hg1 : (trk s')[s.groups.length]? = some (⟨k, false, false, [.next v]⟩ : TG κ β) := by
      rw [ht, List.getElem?_modify, List.getElem?_append_right (by omega)]
      simp [hlen, pushT]
    have hlive' : LiveFor cfg s' k s.groups.length := (liveFor_trk cfg s' k _).mpr ⟨_, hg1, hrefl k, rfl⟩
    refine ⟨s.groups.length, hlive', huniq _ hlive', ?_, ?_, fun h => absurd h hl⟩
    · rw [wlogOf_trk, hg1]
      have : wlogOf s s.groups.length = [] := by simp [wlogOf]
      rw [this]; rfl
    · intro j hj
      rw [wlogOf_trk, wlogOf_trk, ht, List.getElem?_modify]
      have hne : ¬ s.groups.length = j := fun e => hj e.symm
      by_cases hjl : j < s.groups.length
      · rw [List.getElem?_append_left (by omega)]
        cases (trk s)[j]? <;> simp [hne]
      · have h1 : (trk s ++ [(⟨k, false, false, []⟩ : TG κ β)])[j]? = none := by
          rw [List.getElem?_eq_none]; simp; omega
        have h2 : (trk s)[j]? = none := by rw [List.getElem?_eq_none]; omega
        rw [h1, h2]; rfl

/-- **groups_end_with_source.** When the source terminates (error `e` / completion) while subscribed, every group
whose writer is still open receives exactly that terminal as the last entry of its log and is stopped, every
other group is untouched, no group is created, and — unless the outer subscriber has already been stopped — the
outer subscriber receives the same terminal *after* all of that: only unsubscriptions follow it in the effect log. -/
theorem groups_end_with_source (cfg : Cfg α κ β) (hrefl : ∀ k, cfg.keyEq k k = true) (evs : List (Ev α))
    (n : Notif α) (hn : n.isTerminal = true) :
    let s := run cfg (init : St κ β) evs
    let s' := step cfg s (.src n)
    let nb : Notif β := match n with | .error e => .error e | _ => .completed
    let no : Notif (Nat × κ) := match n with | .error e => .error e | _ => .completed
    s.srcStopped = false →
      (∀ (j : Nat) (r : Grp κ β), s.groups[j]? = some r → ∃ r' : Grp κ β, s'.groups[j]? = some r' ∧ r'.stopped = true ∧ r'.key = r.key ∧
          r'.wlog = if r.stopped then r.wlog else r.wlog ++ [nb]) ∧
      s'.groups.length = s.groups.length ∧
      (s.outStopped = false → ∃ pre post, s'.out = pre ++ Eff.outer no :: post ∧ ∀ e ∈ post, Eff.isUnsub e = true) := by
  intro s s' nb no hs
  have hi := inv_reach hrefl (cfg := cfg) (β := β) evs
  have hcommon : ∃ d f, s' = closeSrc (termOuter { s with srcStopped := true, srcDone := d, failed := f } nb no) := by
    cases n with
    | next v => cases hn
    | error e => exact ⟨true, true, by simp [s', step, hs, errorAll, nb, no]⟩
    | completed => exact ⟨true, s.failed, by simp [s', step, hs, nb, no]⟩
  obtain ⟨d, f, hcommon⟩ := hcommon
  obtain ⟨ht, hout⟩ := srcTerminal_trk cfg s hi.wf nb no d f
  rw [← hcommon] at ht hout
  refine ⟨?_, ?_, hout⟩
  · intro j r hr
    have h1 : (trk s')[j]? = some (termT nb (tg r)) := by
      rw [ht, List.getElem?_map, trk_getElem?, hr]; rfl
    rw [trk_getElem?] at h1
    cases hg : s'.groups[j]? with
    | none => simp [hg] at h1
    | some r' =>
      simp only [hg, Option.map_some, Option.some.injEq] at h1
      refine ⟨r', rfl, ?_, ?_, ?_⟩
      · exact (congrArg TG.stopped h1).trans (termT_stopped nb _)
      · exact (congrArg TG.key h1).trans (termT_key nb _)
      · exact (congrArg TG.wlog h1).trans (termT_wlog nb _)
  · have := congrArg List.length ht
    simpa [length_trk] using this

/-- open writer: only elements so far; stopped writer: elements then exactly one terminal, which is last -/
abbrev LogOK (t : TG κ β) : Prop :=
  (t.stopped = false → ∀ n ∈ t.wlog, n.isTerminal = false) ∧
  (t.stopped = true → ∃ pre n, t.wlog = pre ++ [n] ∧ n.isTerminal = true ∧ ∀ m ∈ pre, m.isTerminal = false)

theorem logOK_term (t : TG κ β) (n : Notif β) (hn : n.isTerminal = true) (h : LogOK t) : LogOK (termT n t) := by
  unfold LogOK
  rw [termT_stopped, termT_wlog]
  refine ⟨nofun, fun _ => ?_⟩
  split
  next hs => exact h.2 hs
  next hs => exact ⟨t.wlog, n, rfl, hn, h.1 (by simpa using hs)⟩

theorem logOK_push (t : TG κ β) (v : β) (h : LogOK t) : LogOK (pushT (.next v) t) := by
  unfold LogOK
  rw [pushT_stopped, pushT_wlog]
  refine ⟨fun hs n hn => ?_, fun hs => by rw [if_pos hs]; exact h.2 hs⟩
  rw [if_neg (by simp [hs])] at hn
  rcases List.mem_append.mp hn with h1 | h1
  · exact h.1 hs n h1
  · rw [List.mem_singleton.mp h1]; rfl

/-- **group_log_wellformed.** In every reachable state every group's log is `next* (error|completed)?`
(nothing is ever delivered to a group after its terminal, a terminal is delivered at most once), the writer is
stopped exactly when the log ends with a terminal, and an expired group is stopped. -/
theorem group_log_wellformed (cfg : Cfg α κ β) (hrefl : ∀ k, cfg.keyEq k k = true) (evs : List (Ev α))
    (j : Nat) (r : Grp κ β) :
    let s := run cfg (init : St κ β) evs
    s.groups[j]? = some r →
      Grammar r.wlog ∧ (r.stopped = false → ∀ n ∈ r.wlog, n.isTerminal = false) ∧
      (r.stopped = true → ∃ pre n, r.wlog = pre ++ [n] ∧ n.isTerminal = true ∧ ∀ m ∈ pre, m.isTerminal = false) ∧
      (r.expired = true → r.stopped = true) := by
  intro s hr
  have hP : ∀ t ∈ trk s, LogOK t := by
    obtain ⟨_, hrun⟩ := tev_run cfg (init : St κ β) evs
    apply tev_pointwise (P := LogOK) ?_ ?_ ?_ ?_ hrun (by simp [trk, init])
    · exact logOK_push
    · exact logOK_term
    · intro t h
      unfold expT
      apply logOK_term _ _ rfl
      exact h
    · intro k; exact ⟨fun _ n hn => (by simp at hn), fun h => (by simp at h)⟩
  have hmem : tg r ∈ trk s := List.mem_map.mpr ⟨r, List.mem_of_getElem? hr, rfl⟩
  obtain ⟨h1, h2⟩ := hP _ hmem
  have hes := ((inv_reach hrefl (cfg := cfg) (β := β) evs).wf.gok hr).es
  refine ⟨?_, h1, h2, hes⟩
  cases hs : r.stopped with
  | false => exact Grammar.of_nonterminal _ (h1 hs)
  | true =>
    obtain ⟨pre, n, e, _, hpre⟩ := h2 hs
    have : r.wlog = pre ++ [n] := e
    rw [this]; exact Grammar.snoc pre n hpre

abbrev Evolves (t t' : TG κ β) : Prop :=
  t'.key = t.key ∧ (∃ suf, t'.wlog = t.wlog ++ suf) ∧ (t.stopped = true → t'.stopped = true ∧ t'.wlog = t.wlog) ∧
  (t.expired = true → t'.expired = true)

theorem Evolves.of_append {t t' : TG κ β} {l : List (Notif β)} (hk : t'.key = t.key)
    (hw : t'.wlog = if t.stopped then t.wlog else t.wlog ++ l) (hs : t.stopped = true → t'.stopped = true)
    (he : t.expired = true → t'.expired = true) : Evolves t t' :=
  ⟨hk, ⟨if t.stopped then [] else l, by rw [hw]; split <;> simp⟩, fun h => ⟨hs h, by rw [hw, if_pos h]⟩, he⟩

/-- **group_log_monotone.** From *any* state and along any further events a group keeps its index and key, its
log only grows at the end (arrival order is never disturbed), an expired group stays expired, and once the writer
is stopped the log never changes again. -/
theorem group_log_monotone (cfg : Cfg α κ β) (s : St κ β) (evs : List (Ev α)) (j : Nat) (r : Grp κ β)
    (hr : s.groups[j]? = some r) :
    ∃ r', (run cfg s evs).groups[j]? = some r' ∧ r'.key = r.key ∧ (∃ suf, r'.wlog = r.wlog ++ suf) ∧
      (r.stopped = true → r'.stopped = true ∧ r'.wlog = r.wlog) ∧ (r.expired = true → r'.expired = true) := by
  obtain ⟨_, hrun⟩ := tev_run cfg s evs
  have h := tev_rel (R := Evolves (κ := κ) (β := β)) ?_ ?_ ?_ ?_ ?_ hrun j (tg r) (by rw [trk_getElem?, hr]; rfl)
  · obtain ⟨t', ht', hk, hsuf, hst, hex⟩ := h
    rw [trk_getElem?] at ht'
    cases hg : (run cfg s evs).groups[j]? with
    | none => simp [hg] at ht'
    | some r' =>
      simp only [hg, Option.map_some, Option.some.injEq] at ht'; subst ht'
      exact ⟨r', rfl, hk, hsuf, hst, hex⟩
  · intro t; exact ⟨rfl, ⟨[], by simp⟩, fun h => ⟨h, rfl⟩, id⟩
  · rintro a b c ⟨k1, ⟨s1, w1⟩, st1, e1⟩ ⟨k2, ⟨s2, w2⟩, st2, e2⟩
    refine ⟨k2.trans k1, ⟨s1 ++ s2, by rw [w2, w1, List.append_assoc]⟩, fun h => ?_, fun h => e2 (e1 h)⟩
    obtain ⟨h1, h1'⟩ := st1 h
    obtain ⟨h2, h2'⟩ := st2 h1
    exact ⟨h2, h2'.trans h1'⟩
  · exact fun t v => Evolves.of_append (pushT_key _ t) (pushT_wlog _ t) (fun h => (pushT_stopped _ t).trans h) fun h => (pushT_expired _ t).trans h
  · exact fun t n _ => Evolves.of_append (termT_key n t) (termT_wlog n t) (fun _ => termT_stopped n t) fun h => (termT_expired n t).trans h
  · exact fun t => Evolves.of_append (expT_key t) (termT_wlog .completed _) (fun _ => termT_stopped _ _) fun _ => termT_expired _ _

/-- **duration_expires_group.** When the duration observable of group `g` fires (a value — `take(1)` — or its
completion) while its subscription is live and the source is subscribed, group `g` receives `completed` as the
last entry of its log exactly now, is marked expired (so the next element of that key creates a new group, by
`group_new_iff_unseen_or_expired`), and no other group's log changes. -/
theorem duration_expires_group (cfg : Cfg α κ β) (hrefl : ∀ k, cfg.keyEq k k = true) (evs : List (Ev α))
    (g : Nat) (r : Grp κ β) (n : Notif Unit) (hn : ∀ e, n ≠ .error e) :
    let s := run cfg (init : St κ β) evs
    let s' := step cfg s (.dur g n)
    s.groups[g]? = some r → r.dur = .live → s.srcStopped = false →
      wlogOf s' g = r.wlog ++ [.completed] ∧ (∀ j, j ≠ g → wlogOf s' j = wlogOf s j) ∧
      (∀ k, ¬ LiveFor cfg s' k g) := by
  intro s s' hg hl hs
  have hi := inv_reach hrefl (cfg := cfg) (β := β) evs
  have hexp : r.expired = false := hi.dl g r hg hl
  have hst : r.stopped = false := hi.open_of_live hs hg hexp
  have hfound := expire_never_keyerror cfg hrefl evs g r hg hl
  have hs' : s' = closeDur (expire cfg s g) g := by
    show step cfg s (.dur g n) = _
    simp only [step, durEvent, hg, hl, if_true]
    cases n with
    | error e => exact absurd rfl (hn e)
    | next v => rfl
    | completed => rfl
  have ht : trk s' = (trk s).modify g expT := by
    rw [hs', trk_closeDur]; exact trk_expire_found cfg s g r hg hfound
  have hg0 : (trk s)[g]? = some (tg r) := by rw [trk_getElem?, hg]; rfl
  have hg1 : (trk s')[g]? = some ⟨r.key, true, true, r.wlog ++ [.completed]⟩ := by
    rw [ht, List.getElem?_modify, hg0]; simp [expT, termT, tg, hst]
  refine ⟨?_, ?_, ?_⟩
  · rw [wlogOf_trk, hg1]; rfl
  · exact fun j hj => wlogOf_modify_ne ht hj
  · intro k hlive
    obtain ⟨t, ht', _, he⟩ := (liveFor_trk cfg s' k g).mp hlive
    rw [hg1] at ht'; cases ht'; cases he

/-! ### non-vacuity: concrete runs (key = parity, element ↦ 10·x) -/
def exCfg (dsync : Nat → Option (Notif Unit)) : Cfg Nat Nat Nat :=
  { keyEq := fun a b => a == b, keyMapper := fun x => .ok (x % 2), elemMapper := fun x => .ok (x * 10),
    subjMapper := fun _ => .ok (), durMapper := fun _ => .ok (), dsync := dsync, imm := fun _ => true }

def view (s : St Nat Nat) : List (Nat × List (Notif Nat) × Bool) := s.groups.map fun r => (r.key, r.wlog, r.expired)

/-- two keys, the group of key 1 expires (its duration fires) and is re-created by the next odd element; the
source's completion ends the two groups that are open (premises of the group theorems above are met on this run) -/
example : view (run (exCfg fun _ => none) init
    [.src (.next 1), .src (.next 2), .src (.next 3), .dur 0 (.next ()), .src (.next 5), .dur 0 (.next ()), .src .completed, .src (.next 7)]) =
    [(1, [.next 10, .next 30, .completed], true), (0, [.next 20, .completed], false), (1, [.next 50, .completed], false)] := by
  decide

/-- a source error reaches every open group, an expired group is left alone -/
example : view (run (exCfg fun _ => none) init
    [.src (.next 1), .src (.next 2), .dur 1 .completed, .src (.next 4), .src (.error "boom")]) =
    [(1, [.next 10, .error "boom"], false), (0, [.next 20, .completed], true), (0, [.next 40, .error "boom"], false)] := by
  decide

/-- the outer subscriber sees: group 0 (key 1), group 1 (key 0), completion — and the source is unsubscribed -/
example : ((run (exCfg fun _ => none) init [.src (.next 1), .src (.next 2), .src .completed]).out.filterMap fun e =>
    match e with | .outer n => some n | _ => none) = [.next (0, 1), .next (1, 0), .completed] := by decide

/-- **sync_duration_drops_element** (why `group_routes_to_key_partial` needs `dsync = none` for a new group): a duration
that fires inside its own subscribe call expires the group before the creating element is pushed — the element
reaches no group at all (replayed on the real code with `duration_mapper = lambda g: reactivex.empty()`). -/
theorem sync_duration_drops_element :
    view (run (exCfg fun _ => some .completed) init [.src (.next 1), .src (.next 3)]) =
      [(1, [.completed], true), (1, [.completed], true)] := by decide

/-- the hypotheses of `expire_never_keyerror` / `duration_expires_group` are satisfiable: a live duration -/
example : ((run (exCfg fun _ => none) init [.src (.next 1)]).groups.map fun r => decide (r.dur = .live)) = [true] := by decide

/-- **source_released_iff** (state form, every event list).  The source subscription is closed exactly when the source's
terminal reached the operator, or an operator failure (error-all: raising mapper, failing duration, source error)
happened, or the outer subscriber is stopped (terminated, or its subscription disposed) and no group subscriber holds a
reference of the RefCountDisposable (each group subscription made through the GroupedObservable holds one; a subscriber
whose group terminated or who unsubscribed has given it back; after disposal the getter hands out an empty Disposable). -/
theorem source_released_iff (cfg : Cfg α κ β) (hrefl : ∀ k, cfg.keyEq k k = true) (evs : List (Ev α)) :
    let s := run cfg (init : St κ β) evs
    s.srcOpen = false ↔
      (s.srcDone = true ∨ s.failed = true ∨ (s.outStopped = true ∧ ∀ r ∈ s.groups, r.holdsRef = false)) :=
  WinGrp.source_released_iff cfg hrefl evs

/-- **source_kept_while_holder** ("not earlier"): while the source has not terminated, no failure happened and some group
subscriber still holds its reference, the source stays subscribed — also after the outer subscription was disposed. -/
theorem source_kept_while_holder (cfg : Cfg α κ β) (hrefl : ∀ k, cfg.keyEq k k = true) (evs : List (Ev α)) (r : Grp κ β) :
    let s := run cfg (init : St κ β) evs
    s.srcDone = false → s.failed = false → r ∈ s.groups → r.holdsRef = true → s.srcOpen = true :=
  WinGrp.source_kept_while_holder cfg hrefl evs r

/-- **source_released_with_last_holder** ("not later"): whatever event leaves the outer subscriber stopped and no group
subscriber holding a reference (the last holder's group terminates, the last holder unsubscribes, or the outer dispose
itself when there is no holder), the source and every duration subscription are closed in the resulting state.  (The
statement is `terminal_releases_all` for the run `evs ++ [e]`: it does not say that a holder left in `e`.) -/
theorem source_released_with_last_holder (cfg : Cfg α κ β) (hrefl : ∀ k, cfg.keyEq k k = true) (evs : List (Ev α)) (e : Ev α) :
    let s' := step cfg (run cfg (init : St κ β) evs) e
    s'.outStopped = true → (∀ r ∈ s'.groups, r.holdsRef = false) → Released s' :=
  WinGrp.source_released_with_last_holder cfg hrefl evs e

/-- **live_subscriber_keeps_receiving.**  On every run `pre ++ [disposeOuter] ++ post`: the outer subscriber stays stopped,
and a group subscriber still attached to its group while the source is subscribed (i) receives every further element
whose key equals the group's key (mapped; appended to its record and to the writer log = arrival order) and stays
attached, (ii) receives the source's terminal as its last notification, after which the source subscription is closed. -/
theorem live_subscriber_keeps_receiving (cfg : Cfg α κ β) (hrefl : ∀ k, cfg.keyEq k k = true)
    (hsymm : ∀ a b, cfg.keyEq a b = true → cfg.keyEq b a = true)
    (htrans : ∀ a b c, cfg.keyEq a b = true → cfg.keyEq b c = true → cfg.keyEq a c = true)
    (pre post : List (Ev α)) (g : Nat) (r : Grp κ β) :
    let s := run cfg (init : St κ β) (pre ++ .disposeOuter :: post)
    s.groups[g]? = some r → r.sub = .active → s.srcStopped = false →
      s.outStopped = true ∧ s.primary = true ∧
      (∀ (x : α) (k : κ) (v : β), cfg.keyMapper x = .ok k → cfg.elemMapper x = .ok v → cfg.keyEq r.key k = true →
        ∃ r', (step cfg s (.src (.next x))).groups[g]? = some r' ∧ r'.seen = r.seen ++ [.next v] ∧
          r'.wlog = r.wlog ++ [.next v] ∧ r'.sub = .active ∧ r'.stopped = false) ∧
      (∀ n : Notif α, n.isTerminal = true →
        ∃ r', (step cfg s (.src n)).groups[g]? = some r' ∧
          r'.seen = r.seen ++ [match n with | .error e => .error e | _ => .completed] ∧ r'.sub = .ended ∧
          (step cfg s (.src n)).srcOpen = false) :=
  WinGrp.live_subscriber_keeps_receiving cfg hrefl hsymm htrans pre post g r

/-- non-vacuity (the demo shape: elements, outer disposed "@250" with the group of key 1 subscribed, more elements, source
terminal "@300"): after the dispose the source is still subscribed and the subscriber keeps receiving; the terminal ends
it and closes the source; with no subscriber the dispose closes the source at once -/
example : (let s := run (exCfg fun _ => none) init [.src (.next 1), .src (.next 3), .disposeOuter, .src (.next 5)]
    (s.srcOpen, s.primary, s.count, s.groups.map (·.seen))) = (true, true, 1, [[.next 10, .next 30, .next 50]]) := by decide
example : (let s := run (exCfg fun _ => none) init [.src (.next 1), .src (.next 3), .disposeOuter, .src (.next 5), .src .completed]
    (s.srcOpen, s.srcDone, s.groups.map (·.seen))) = (false, true, [[.next 10, .next 30, .next 50, .completed]]) := by decide
example : (let s := run { exCfg (fun _ => none) with imm := fun _ => false } init [.src (.next 1), .disposeOuter]
    (s.srcOpen, s.srcDone, s.failed, s.outStopped, s.groups.map (·.holdsRef))) = (false, false, false, true, [false]) := by decide
example : (let s := run (exCfg fun _ => none) init [.src (.next 1), .disposeOuter, .disposeGroup 0]
    (s.srcOpen, s.srcDone, s.failed)) = (false, false, false) := by decide

/-! ### durations derived from the group itself (`duration_mapper = lambda g: g.pipe(ops.skip(n))`): machine `stepD` -/

/-- **stepD_eq_step / runD_eq_run.** The machine `stepD` is the machine `step` of the
theorems above whenever no duration is derived from its group: every theorem above transfers to `runD`. -/
theorem stepD_eq_step (cfg : Cfg α κ β) (hnod : ∀ g, cfg.dgrp g = none) (s : St κ β) (e : Ev α) :
    stepD cfg s e = step cfg s e := WinGrp.stepD_eq_step hnod s e
theorem runD_eq_run (cfg : Cfg α κ β) (hnod : ∀ g, cfg.dgrp g = none) (s : St κ β) (evs : List (Ev α)) :
    runD cfg s evs = run cfg s evs := WinGrp.runD_eq_run hnod s evs

/-- **group_announced_before_duration_before_element.** In the step that creates group `g` (any state with the source
and the outer subscriber live and the RefCountDisposable not disposed; mappers not raising; duration derived from the
group or at least not firing inside its own subscribe) the effects occur in this order: the outer subscriber is handed
the group, the duration is subscribed, the element is pushed to the writer (tap) and — if the subscriber attached
itself inside the outer `on_next` — delivered to it.  (So a group-derived duration sees the creating element, and the
early subscriber is in front of the duration observer: seeded change C19_1 swaps the first two and is refuted.) -/
theorem group_announced_before_duration_before_element (cfg : Cfg α κ β) (s : St κ β) (x : α) (k : κ) (v : β)
    (hs : s.srcStopped = false) (ho : s.outStopped = false) (hd : s.rcdDisposed = false)
    (hk : cfg.keyMapper x = .ok k) (hf : s.writers.find? (fun p => cfg.keyEq p.1 k) = none)
    (hsm : cfg.subjMapper s.groups.length = .ok ()) (hdm : cfg.durMapper s.groups.length = .ok ())
    (hv : cfg.elemMapper x = .ok v)
    (hdur : (cfg.dgrp s.groups.length).isSome = true ∨ cfg.dsync s.groups.length = none) :
    ∃ rest, (stepD cfg s (.src (.next x))).out =
      s.out ++ (.outer (.next (s.groups.length, k)) :: .subDur s.groups.length :: .tap s.groups.length (.next v) ::
        (if cfg.imm s.groups.length then [.grp s.groups.length (.next v)] else []) ++ rest) :=
  WinGrp.group_announced_before_duration_before_element cfg s x k v hs ho hd hk hf hsm hdm hv hdur

/-- **derived_duration_counts.** While `g.pipe(skip n)` still has elements to skip, an element of the group is delivered
(tap, subscriber), the counter decreases by one, nothing else happens. -/
theorem derived_duration_counts (cfg : Cfg α κ β) (s : St κ β) (g : Nat) (v : β) (r : Grp κ β) (m : Nat)
    (hg : s.groups[g]? = some r) (hst : r.stopped = false) (hl : r.dur = .live) (hdg : (cfg.dgrp g).isSome = true)
    (hc : r.dcnt = m + 1) (hsub : r.sub = .active) :
    (writerNextD cfg s g v).out = s.out ++ [.tap g (.next v), .grp g (.next v)] ∧
    (writerNextD cfg s g v).groups[g]? = some { r with dcnt := m, wlog := r.wlog ++ [.next v], seen := r.seen ++ [.next v] } :=
  WinGrp.derived_duration_counts cfg s g v r m hg hst hl hdg hc hsub

/-- **derived_duration_expires_with_element.** When the counter is exhausted (`announceD` sets it to `n`, so this is the
(n+1)-th element of the group), that element is delivered to the tap and to the early subscriber first and the group's
`completed` follows immediately, inside the same `writer.on_next`; after it only unsubscriptions happen. -/
theorem derived_duration_expires_with_element (cfg : Cfg α κ β) (s : St κ β) (g : Nat) (v : β) (r : Grp κ β)
    (hg : s.groups[g]? = some r) (hst : r.stopped = false) (hl : r.dur = .live) (hdg : (cfg.dgrp g).isSome = true)
    (hc : r.dcnt = 0) (hsub : r.sub = .active) (hearly : r.subLate = false)
    (hkey : (s.writers.find? (fun p => cfg.keyEq p.1 r.key)).isSome = true) :
    ∃ l, (writerNextD cfg s g v).out =
        s.out ++ [.tap g (.next v), .grp g (.next v), .tap g .completed, .grp g .completed] ++ l ∧
      ∀ e ∈ l, Eff.isUnsub e = true :=
  WinGrp.derived_duration_expires_with_element cfg s g v r hg hst hl hdg hc hsub hearly hkey

/-- non-vacuity: `skip(1)` durations — every group of key 1 ends right after its second element, which its subscriber
sees before the completion; a group-derived duration still pending at the source's completion (the loops run over
`list(writers.values())`): every group completes, then the outer; a late subscriber (after the
duration observer) gets the completion without the expiring element -/
example : view (runD { exCfg (fun _ => none) with dgrp := fun _ => some 1 } init
    [.src (.next 1), .src (.next 3), .src (.next 5), .src (.next 7), .src .completed]) =
    [(1, [.next 10, .next 30, .completed], true), (1, [.next 50, .next 70, .completed], true)] := by decide
example : ((runD { exCfg (fun _ => none) with dgrp := fun _ => some 1 } init
    [.src (.next 1), .src (.next 3)]).groups.map (·.seen)) = [[.next 10, .next 30, .completed]] := by decide
example : view (runD { exCfg (fun _ => none) with dgrp := fun _ => some 5 } init
    [.src (.next 1), .src (.next 2), .src (.next 3), .src .completed]) =
    [(1, [.next 10, .next 30, .completed], true), (0, [.next 20, .completed], true)] := by decide
example : ((runD { exCfg (fun _ => none) with dgrp := fun _ => some 5 } init
    [.src (.next 1), .src (.next 2), .src (.next 3), .src .completed]).out.filterMap fun e =>
      match e with | .outer n => some n | .escaped _ => some (.error "escaped") | _ => none) =
    [.next (0, 1), .next (1, 0), .completed] := by decide
example : ((runD { exCfg (fun _ => none) with dgrp := fun _ => some 1, imm := fun _ => false } init
    [.src (.next 1), .subGroup 0, .src (.next 3)]).groups.map (·.seen)) = [[.completed]] := by decide

/-! ### re-entrancy: the outer subscriber feeds the source from inside `on_next(group)` (machine `stepN`) -/

/-- **stepN_eq_stepD / runN_eq_runD.** Without feedback (`cfg.nest = fun _ => []`) the machine the driver runs is `stepD`. -/
theorem stepN_eq_stepD (cfg : Cfg α κ β) (hn : ∀ g, cfg.nest g = []) (s : St κ β) (e : Ev α) :
    stepN cfg s e = stepD cfg s e := by
  cases e with
  | src n => cases n <;> simp [stepN, stepD, srcNextN_eq hn]
  | dur g n => rfl
  | disposeOuter => rfl
  | subGroup g => rfl
  | disposeGroup g => rfl
theorem runN_eq_runD (cfg : Cfg α κ β) (hn : ∀ g, cfg.nest g = []) (s : St κ β) (evs : List (Ev α)) :
    runN cfg s evs = runD cfg s evs := by
  induction evs generalizing s with
  | nil => rfl
  | cons e es ih => simp [runN, runD, stepN_eq_stepD cfg hn, ih]

/-- **nested_same_key_element_routed.** If, while handling the freshly emitted group `g` (created for element `x`, key `k`),
the outer subscriber synchronously pushes an element `y` with the same key into the source, then — because
`writers[key] = writer` is executed before `observer.on_next(group)` — `y` finds the registered writer: it is delivered to
group `g` (tap, and the subscriber if it attached itself first), no second group is created, the duration is subscribed
only afterwards, and the creating element follows: the group's log is exactly `[y', x']`.  (Any state with source and outer
subscriber live and the RefCountDisposable not disposed; mappers not raising; duration neither group-derived nor firing
inside its own subscribe.  Seeded change C19r2_1 registers the writer after `on_next(group)` and is refuted by this.) -/
theorem nested_same_key_element_routed (cfg : Cfg α κ β) (hrefl : ∀ k, cfg.keyEq k k = true) (s : St κ β)
    (x y : α) (k : κ) (v vy : β)
    (hs : s.srcStopped = false) (ho : s.outStopped = false) (hd : s.rcdDisposed = false)
    (hk : cfg.keyMapper x = .ok k) (hf : s.writers.find? (fun p => cfg.keyEq p.1 k) = none)
    (hsm : cfg.subjMapper s.groups.length = .ok ()) (hdm : cfg.durMapper s.groups.length = .ok ())
    (hv : cfg.elemMapper x = .ok v)
    (hnest : cfg.nest s.groups.length = [y]) (hky : cfg.keyMapper y = .ok k) (hvy : cfg.elemMapper y = .ok vy)
    (hplain : cfg.dgrp s.groups.length = none ∧ cfg.dsync s.groups.length = none) :
    (stepN cfg s (.src (.next x))).out =
      s.out ++ (.outer (.next (s.groups.length, k)) :: .tap s.groups.length (.next vy) ::
        (if cfg.imm s.groups.length then [.grp s.groups.length (.next vy)] else []) ++
        .subDur s.groups.length :: .tap s.groups.length (.next v) ::
        (if cfg.imm s.groups.length then [.grp s.groups.length (.next v)] else [])) ∧
    (stepN cfg s (.src (.next x))).groups.length = s.groups.length + 1 ∧
    ((stepN cfg s (.src (.next x))).groups[s.groups.length]?).map (·.wlog) = some [.next vy, .next v] :=
  WinGrp.nested_same_key_element_routed cfg hrefl s x y k v vy hs ho hd hk hf hsm hdm hv hnest hky hvy hplain

/-- non-vacuity (the demo of C19r2_1): the handler of group #0 (key 1) feeds back 3 (same key), that of group #1 (key 0) feeds
back 4: one group per key, follow-up first; everything ends with the source -/
example : view (runN { exCfg (fun _ => none) with nest := fun g => if g = 0 then [3] else if g = 1 then [4] else [] } init
    [.src (.next 1), .src (.next 2), .src (.next 5), .src .completed]) =
    [(1, [.next 30, .next 10, .next 50, .completed], false), (0, [.next 40, .next 20, .completed], false)] := by decide

/-- **partition_exactly_one.** `partition(pred)`: with both outputs subscribed, the first output receives exactly the
source elements satisfying the predicate, the second exactly those that do not — each in source order — and
both then receive the source's terminal (and are ended).  Hence every element reaches exactly one output:
the two outputs are sublists of the source whose concatenation is a permutation of it. -/
theorem partition_exactly_one (p : α → Bool) (xs : List α) (n : Notif α) (hn : n.isTerminal = true) :
    (Part.run false (fun v _ => .ok (p v)) partInit
        ([.sub 0, .sub 1] ++ xs.map (fun v => .src (.next v)) ++ [.src n])).slots.map (fun r => (r.st, r.seen)) =
      [(.ended, (xs.filter p).map .next ++ [n]), (.ended, (xs.filter fun v => !p v).map .next ++ [n])] ∧
    (xs.filter p ++ xs.filter fun v => !p v).Perm xs ∧ (xs.filter p).Sublist xs ∧ (xs.filter fun v => !p v).Sublist xs := by
  refine ⟨?_, List.filter_append_perm p xs, List.filter_sublist, List.filter_sublist⟩
  have := partition_core false (fun v _ => p v) xs n hn
  rw [Part.sel_filter, Part.sel_filter] at this
  simpa using this

/-- **partition_indexed_exactly_one.** Same for `partition_indexed`: the predicate gets the per-subscription index,
which (both outputs subscribed from the start, predicate not raising) is the element's position. -/
theorem partition_indexed_exactly_one (p : α → Nat → Bool) (xs : List α) (n : Notif α) (hn : n.isTerminal = true) :
    (Part.run true (fun v i => .ok (p v i)) partInit
        ([.sub 0, .sub 1] ++ xs.map (fun v => .src (.next v)) ++ [.src n])).slots.map (fun r => (r.st, r.seen)) =
      [(.ended, ((xs.zipIdx.filter fun q => p q.1 q.2).map (·.1)).map .next ++ [n]),
       (.ended, ((xs.zipIdx.filter fun q => !p q.1 q.2).map (·.1)).map .next ++ [n])] := by
  have := partition_core true p xs n hn
  rw [Part.sel_indexed, Part.sel_indexed] at this
  simpa using this

/-- non-vacuity: 1..6 partitioned by evenness, then an error; and a run where the second output subscribes late
and the first is disposed early (general machine, not covered by the theorem's scenario) -/
example : (Part.run false (fun v _ => .ok (v % 2 == 0)) (partInit : Part.St Nat)
      ([.sub 0, .sub 1] ++ [1, 2, 3, 4, 5, 6].map (fun v => .src (.next v)) ++ [.src (.error "e")])).slots.map (·.seen) =
    [[.next 2, .next 4, .next 6, .error "e"], [.next 1, .next 3, .next 5, .error "e"]] := by decide
example : (Part.run false (fun v _ => .ok (v % 2 == 0)) (partInit : Part.St Nat)
      [.sub 0, .src (.next 1), .src (.next 2), .sub 1, .src (.next 3), .disp 0, .src (.next 4), .src .completed]).slots.map (·.seen) =
    [[.next 2], [.next 3, .completed]] := by decide
example : (Part.run true (fun v i => .ok (i % 2 == 0 && v > 0)) (partInit : Part.St Nat)
      ([.sub 0, .sub 1] ++ [7, 8, 9].map (fun v => .src (.next v)) ++ [.src .completed])).slots.map (·.seen) =
    [[.next 7, .next 9, .completed], [.next 8, .completed]] := by decide
end C19
