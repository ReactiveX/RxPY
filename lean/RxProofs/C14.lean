import RxModel.PipeSubscribe
import RxProofs.Lemmas.PipeProducers
/-!
# C14 — early termination cancels synchronous infinite sources

* `shared_deferred` / `trampoline_assign_before_emit` — on the default (shared current-thread) trampoline a
  producer's scheduled action runs only after `subscribe` has handed the subscription to the
  AutoDetachObserver; with an immediate / fresh current-thread scheduler it runs before (`fresh_emit_before_assign`).
* `early_term_bounded` — default scheduler, `take n` (n ≥ 1) over a never-ending synchronous producer:
  exactly n elements are pulled, the producer's flag is set, and more
  budget changes nothing (`subscribe()` returns after bounded work).
* `immediate_scheduler_diverges` — with an explicit immediate / fresh current-thread scheduler the loop never
  sees its flag: for every budget all of it is consumed (the recorded known findings of C14).
Partial: proved for the producer → pass-through stages → counting terminator shape; shapes in which the
terminator depends on another *scheduled* source (take_until(of(…)), combine_latest, flat_map with the infinite
source as outer) are explored by the oracle only — on the current code they diverge (known findings); what is
proved about them here is the queue discipline behind it: `loop_starves_queued`, `resched_producer_fair`.
-/
namespace C14
open Pipe

/-- **shared_deferred.** Whatever is scheduled on the busy shared trampoline contributes nothing inline. -/
theorem shared_deferred (pre post b : List Cmd) :
    (execAll (pre ++ Cmd.sched true b :: post)).1 = (execAll pre).1 ++ (execAll post).1 := by
  induction pre with
  | nil => simp [execAll, Cmd.exec]
  | cons c cs ih => simp [execAll, ih, List.append_assoc]

/-- **trampoline_assign_before_emit.** Default scheduler: the subscription is assigned before the producer emits. -/
theorem trampoline_assign_before_emit : subscribeEvents true = [.assign, .emit] := by decide +kernel

/-- **fresh_emit_before_assign.** Immediate / fresh current-thread scheduler: the producer emits first. -/
theorem fresh_emit_before_assign : subscribeEvents false = [.emit, .assign] := by decide +kernel

theorem loop_stopped (f : Nat) (s : St) (h : s.flag = true) : loopRun f s = s := by
  cases f <;> simp [loopRun, h]

theorem loop_assigned (r f p : Nat) (hr : 1 ≤ r) (hf : r ≤ f) :
    loopRun f { assigned := true, flag := false, remaining := r, pulls := p } =
      { assigned := true, flag := true, remaining := 0, pulls := p + r } := by
  induction r generalizing f p with
  | zero => omega
  | succ r ih =>
    cases f with
    | zero => omega
    | succ f =>
      by_cases h1 : r = 0
      · subst h1
        simp [loopRun, emitOne, loop_stopped]
      · have := ih f (p + 1) (by omega) (by omega)
        simp [loopRun, emitOne, h1]
        rw [this]; simp; omega

/-- **early_term_bounded.** Exactly `n` pulls, then the flag is set and more budget changes nothing. -/
theorem early_term_bounded (n fuel : Nat) (hn : 1 ≤ n) (hf : n ≤ fuel) :
    Pipe.subscribeRun true n fuel = { assigned := true, flag := true, remaining := 0, pulls := n } := by
  have h : Pipe.subscribeRun true n fuel = loopRun fuel { assigned := true, flag := false, remaining := n, pulls := 0 } := by
    simp [Pipe.subscribeRun, trampoline_assign_before_emit]
  rw [h, loop_assigned n fuel 0 hn hf]; simp

theorem emitOne_unassigned (r p : Nat) :
    ∃ r', emitOne { assigned := false, flag := false, remaining := r, pulls := p } =
      { assigned := false, flag := false, remaining := r', pulls := p + 1 } := by
  by_cases h0 : r = 0
  · exact ⟨0, by simp [emitOne, h0]⟩
  · by_cases h1 : r = 1
    · exact ⟨0, by simp [emitOne, h1]⟩
    · exact ⟨r - 1, by simp [emitOne, h0, h1]⟩

theorem loop_unassigned (f r p : Nat) :
    (loopRun f { assigned := false, flag := false, remaining := r, pulls := p }).pulls = p + f ∧
    (loopRun f { assigned := false, flag := false, remaining := r, pulls := p }).flag = false := by
  induction f generalizing r p with
  | zero => simp [loopRun]
  | succ f ih =>
    obtain ⟨r', hr'⟩ := emitOne_unassigned r p
    simp only [loopRun, Bool.false_eq_true, if_false, hr']
    have := ih r' (p + 1)
    exact ⟨by rw [this.1]; omega, this.2⟩

/-- **immediate_scheduler_diverges.** The loop never sees its flag and consumes every budget. -/
theorem immediate_scheduler_diverges (n fuel : Nat) :
    (Pipe.subscribeRun false n fuel).pulls = fuel ∧ (Pipe.subscribeRun false n fuel).flag = false := by
  have h : Pipe.subscribeRun false n fuel = loopRun fuel { assigned := false, flag := false, remaining := n, pulls := 0 } := by
    have e : (Ev.emit == Ev.assign) = false := by decide
    simp [Pipe.subscribeRun, fresh_emit_before_assign, e]
  rw [h]; simpa using loop_unassigned fuel n 0

/-- link to the loop model of C03: the polling loop with the downstream disposing at its n-th element. -/
theorem fromIter_take (xs : List Nat) (n : Nat) (hn : 1 ≤ n) (hlen : n ≤ xs.length) :
    (fromIter (fun i => i + 1 == n) 0 false xs).2 = n := by
  have := Pipe.fromIterable_polls (fun i => i + 1 == n) xs (n - 1) 0 (by omega)
    (by intro j hj; simp; omega) (by simp; omega)
  rw [this]; simp; omega

example : Pipe.subscribeRun true 3 40 = { assigned := true, flag := true, remaining := 0, pulls := 3 } := by decide +kernel
example : (Pipe.subscribeRun false 3 50).pulls = 50 := by decide +kernel

/-- **loop_starves_queued.** `from_iterable` over a never-ending iterator runs as ONE trampoline action: whatever
is queued behind it (the `of(1)` of `take_until(of(1))`, the other side of `combine_latest`, the inners of `flat_map`)
never runs, for every budget — the recorded finding C14-loop-starves-queued. -/
theorem loop_starves_queued (fuel : Nat) (q : List Prog) :
    QEv.otherRan ∉ drainQ fuel (Prog.loop :: q) := by
  induction fuel generalizing q with
  | zero => simp [drainQ]
  | succ f ih =>
    simp only [drainQ, List.mem_cons, not_or]
    exact ⟨by decide, ih []⟩

/-- **resched_producer_fair.** A re-scheduling producer (range / generate / repeat_value / repeat) emits one element
per trampoline turn and re-queues itself BEHIND what is already queued: a source queued behind it runs after exactly
one produced element, however many elements the producer still has. -/
theorem resched_producer_fair (fuel k : Nat) (q : List Prog) :
    drainQ (fuel + 2) (Prog.step (k + 1) :: Prog.other :: q) =
      QEv.produced :: QEv.otherRan :: drainQ fuel (q ++ [Prog.step k]) := by
  simp [drainQ]

example : drainQ 6 [Prog.step 3, Prog.other] = [.produced, .otherRan, .produced, .produced, .produced] := by decide +kernel
example : drainQ 6 [Prog.loop, Prog.other] = [.produced, .produced, .produced, .produced, .produced, .produced] := by decide +kernel

end C14
