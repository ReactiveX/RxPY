import RxProofs.Lemmas.PureSources
/-!
# C37 — source factories emit their specified sequences

Each factory is a `Pure.Sources.Producer` mirroring its file action by
action; `chain P n t` is what a subscriber at virtual time `t` receives from the producer's own
scheduler recursion over at most `n` scheduled actions (each theorem says how many it needs).
Callbacks are arbitrary functions that may raise (`Except`).
-/
open Pure.Sources

namespace C37

/-- **pyLen_spec.** The number of values CPython computes for `range(lo, hi, step)` is exactly the
number of `i ≥ 0` with `lo + i·step` on the proper side of `hi` (any sign of `step`, also 0). -/
theorem pyLen_spec (lo hi step : Int) (i : Nat) :
    i < pyLen lo hi step ↔
      (0 < step ∧ lo + (i : Int) * step < hi) ∨ (step < 0 ∧ hi < lo + (i : Int) * step) := by
  rcases Int.lt_trichotomy step 0 with hs | hs | hs
  · rw [pyLen_neg lo hi step hs, pyLen_pos_spec (-lo) (-hi) (-step) (by omega) i, Int.mul_neg]
    omega
  · subst hs
    simp [pyLen]
  · rw [pyLen_pos_spec lo hi step hs i]
    omega

/-- **range_eq_pyrange.** `range(start, stop, step)` (in the 1-, 2- and 3-argument forms, as `range_`
resolves them) emits exactly `list(range(...))` and then completes, all at the subscription
instant — for every start/stop/step, negative steps and empty ranges included. -/
theorem range_eq_pyrange (start : Int) (stop step : Option Int) (t : Int) :
    match rangeArgs start stop step with
    | .error _ => step = some 0          -- Python's `range()` raises ValueError
    | .ok (lo, hi, st) =>
      st ≠ 0 ∧ ∀ n, pyLen lo hi st + 1 ≤ n →
        chain (rangeP lo hi st) n t =
          (pyRange lo hi st).map (fun x => (t, Notif.next x)) ++ [(t, .completed)] := by
  cases stop <;> cases step <;> simp only [rangeArgs]
  · exact ⟨by decide, fun n hn => range_chain _ _ _ n hn t⟩
  · rename_i st
    by_cases h0 : st = 0
    · simp [h0]
    · simp only [h0, if_false]
      exact ⟨h0, fun n hn => range_chain _ _ _ n hn t⟩
  · exact ⟨by decide, fun n hn => range_chain _ _ _ n hn t⟩
  · rename_i b st
    by_cases h0 : st = 0
    · simp [h0]
    · simp only [h0, if_false]
      exact ⟨h0, fun n hn => range_chain _ _ _ n hn t⟩

/-- `pyRange` really is the list of the values on the proper side of `stop`, in order. -/
theorem pyRange_mem (lo hi step x : Int) :
    x ∈ pyRange lo hi step ↔
      ∃ i : Nat, x = lo + (i : Int) * step ∧
        ((0 < step ∧ x < hi) ∨ (step < 0 ∧ hi < x)) := by
  simp only [pyRange, List.mem_map, List.mem_range]
  constructor
  · rintro ⟨i, hi', rfl⟩; exact ⟨i, rfl, (pyLen_spec lo hi step i).1 hi'⟩
  · rintro ⟨i, rfl, h⟩; exact ⟨i, (pyLen_spec lo hi step i).2 h, rfl⟩

/-- `range(...)` with step 0 fails in the factory (Python's `range()` raises ValueError). -/
theorem range_step_zero (start : Int) (stop : Option Int) :
    rangeArgs start stop (some 0) = .error "ValueError" := by
  cases stop <;> rfl

/-- **from_iterable_emits_items.** `of(*xs)` / `from_iterable(xs)` emit the iterable's items in order,
then complete — or deliver the iterator's exception after the items it produced. -/
theorem from_iterable_emits_items {α} (it : Iter α) (n : Nat) (t : Int) :
    chain (fromIterableP it) (n + 1) t =
      it.items.map (fun x => (t, Notif.next x)) ++
        [(t, match it.fails with | none => Notif.completed | some e => Notif.error e)] := by
  cases h : it.fails <;> simp [chain, chainFrom, fromIterableP, wait, List.map_map, Function.comp_def, h]

/-- **return_empty_never_throw.** `return_value(v)` emits `v` and completes, `empty()` completes, `never()` emits
nothing, `throw(e)` delivers the error — each in its single action, at the subscription instant. -/
theorem return_empty_never_throw {α} (v : α) (e : Err) (n : Nat) (t : Int) :
    chain (returnValueP v) (n + 1) t = [(t, .next v), (t, .completed)] ∧
    chain (emptyP (α := α)) (n + 1) t = [(t, .completed)] ∧
    chain (neverP (α := α)) n t = [] ∧
    chain (throwP (α := α) e) (n + 1) t = [(t, .error e)] := by
  simp [chain, chainFrom, returnValueP, emptyP, neverP, throwP, wait]

/-- **generate_eq_loop.** `generate(init, cond, iter)` emits exactly the states of the loop
`s = init; while cond(s): yield s; s = iter(s)` — with `cond`/`iter` arbitrary and possibly raising
(the exception ends the sequence as `on_error`) — observed over any number `n` of actions. -/
theorem generate_eq_loop {α} (init : α) (f : GenFns α) (n : Nat) (t : Int) :
    chain (generateP init f) n t = (whileLoop f n init).map (fun x => (t, x)) := by
  have := generate_chainFrom f init n t init
  simpa [chain, generateP, wait] using this

/-- **gwrt_delays.** `generate_with_relative_time` emits each loop state after the relative delay
computed for it, exactly as the reference loop `delayLoop` does (the delays add up; non-positive delays wait
nothing), and the terminal notification at the instant the loop ends. -/
theorem gwrt_delays {α} (init : α) (f : GenFns α) (tm : α → Except Err Int) (n : Nat) (t : Int) :
    chain (gwrtP init f tm) n t = delayLoop f tm n t init := by
  have := gwrt_chainFrom f tm init n t init init
  simp only [chain, gwrtP, wait, Int.lt_irrefl, if_false, Int.add_zero] at this ⊢
  exact this

/-- **gwrt_zero_delay_ok.** (repaired code) No action of `generate_with_relative_time` lets an
exception escape into the scheduler, whatever the delay — zero included. -/
theorem gwrt_zero_delay_ok {α} (init : α) (f : GenFns α) (tm : α → Except Err Int) (q : State4 α) :
    ((gwrtP init f tm).step q).escapes = none := by
  rcases gwrtStep_shape f tm q with ⟨x, _, h⟩ | ⟨s, d, h⟩ <;> exact congrArg Step.escapes h

/-- **timer_emits_zero_at_d.** `timer(d)` emits 0 and completes at `t + d` (`t` for `d ≤ 0`). -/
theorem timer_emits_zero_at_d (d : Int) (n : Nat) (t : Int) :
    chain (timerP d) (n + 1) t =
      [(t + (if d > 0 then d else 0), .next 0), (t + (if d > 0 then d else 0), .completed)] := by
  by_cases h : d ≤ 0
  · have : ¬ d > 0 := by omega
    simp [chain, chainFrom, timerP, wait, h, this]
  · have : d > 0 := by omega
    simp [chain, chainFrom, timerP, wait, h, this]

/-- **repeat_value_n.** `repeat_value(v, k)` for `k ≥ 0` emits `v` exactly `k` times and completes. -/
theorem repeat_value_n {α} (v : α) (k : Nat) (n : Nat) (hn : 2 * k + 1 ≤ n) (t : Int) :
    chain (repeatValueP v (some (k : Int))) n t = List.replicate k (t, Notif.next v) ++ [(t, .completed)] := by
  have hne : (some (k : Int)) ≠ some (-1) := by
    intro h; injection h with h; omega
  have := repeat_chainFrom v (some (k : Int)) k n hn t
  simpa [chain, repeatValueP, hne, wait] using this

/-- `repeat_value(v)` / `repeat_value(v, -1)` never completes: after `2m` actions, `m` copies of `v`. -/
theorem repeat_value_forever {α} (v : α) (m : Nat) (t : Int) :
    chain (repeatValueP v none) (2 * m) t = List.replicate m (t, Notif.next v) ∧
    chain (repeatValueP v (some (-1))) (2 * m) t = List.replicate m (t, Notif.next v) := by
  constructor
  · simpa [chain, repeatValueP, wait] using repeat_forever_chainFrom v none m t
  · simpa [chain, repeatValueP, wait] using repeat_forever_chainFrom v (some (-1)) m t

/-- **sim_eq_chainSpin.** In general — with a dispose cutting the run and beyond the scheduler's 100-item spin
limit — the recording of the scheduler model equals `chainSpin`: the same chain of actions, where an
action due at or after the dispose time never runs, and the clock moves to the due time or, after
more than 100 consecutive same-instant items, by one. -/
theorem sim_eq_chainSpin {σ α} (P : Producer σ α) (fuel : Nat) (sub disp : Int) (h0 : 0 ≤ sub) (hlt : sub < disp) :
    (Sim.record P (fuel + 1) sub disp).out =
      match P.first with
      | none => []
      | some (s, d) => chainSpin P disp fuel sub 1 (sub + d.getD 0) s := by
  have hq0 : Sim.enqueue (Sim.enqueue ([] : List (Int × Sim.Act σ)) (disp, .disp)) (sub, .sub) =
      [(sub, .sub), (disp, .disp)] := by
    simp [Sim.enqueue, hlt]
  have hclock : (if sub > 0 then (sub, 0) else if (0 : Nat) > 100 then ((0 : Int) + 1, 0) else ((0 : Int), (0 : Nat))) =
      (sub, 0) := by
    by_cases h : sub > 0
    · simp [h]
    · have : sub = 0 := by omega
      subst this; simp
  simp only [Sim.record, hq0, Sim.run, hclock]
  cases hfirst : P.first with
  | none =>
    simp only [Sim.schedule]
    rw [run_disp_head P fuel _ disp [] rfl rfl]
  | some sd =>
    obtain ⟨s, d⟩ := sd
    simp only [Sim.schedule]
    have := run_eq_chainSpin P disp fuel sub (0 + 1) (sub + d.getD 0) s []
    simpa using this

/-- **sim_eq_chain_quiet.** The recording of the virtual-time scheduler model (what the correspondence
compares with the real TestScheduler run: subscribe action at `sub ≥ 0`, dispose action at `disp`)
is exactly the producer's chain — the object of the theorems above — whenever the run is *quiet*
(`Pure.Sources.quiet`: every action runs before the dispose time, never more than 100 consecutive
same-instant actions so that the scheduler's spin counter does not move the clock, well-formed
emissions, no escaping exception, and the chain ends within `n` actions). -/
theorem sim_eq_chain_quiet {σ α} (P : Producer σ α) (n fuel : Nat) (sub disp : Int) (h0 : 0 ≤ sub) (hlt : sub < disp)
    (hq : match P.first with
          | none => True
          | some (s, d) => quiet P disp n (sub + wait d) (if sub + d.getD 0 > sub then 0 else 1) s = true)
    (hf : n + 2 ≤ fuel) :
    (Sim.record P fuel sub disp).out = chain P n sub := by
  obtain ⟨f, rfl⟩ : ∃ f, fuel = f + 1 := ⟨fuel - 1, by omega⟩
  rw [sim_eq_chainSpin P f sub disp h0 hlt, chain]
  cases hfirst : P.first with
  | none => rfl
  | some sd =>
    obtain ⟨s, d⟩ := sd
    simp only [hfirst] at hq ⊢
    rw [wait_eq] at hq ⊢
    exact chainSpin_quiet P disp n f sub 1 (sub + d.getD 0) s (by omega) hq

/-- **sim_values_prefix_of_chain.** Dispose and spin change only WHEN and HOW MUCH is delivered, never
WHAT: for every well-formed producer (five of the factories: `factories_wellformed`) the notifications
recorded on the scheduler are a prefix of the notifications of the producer's chain, i.e. of the
sequences characterised by the theorems above. -/
theorem sim_values_prefix_of_chain {σ α} (P : Producer σ α) (hP : WFP P) (fuel : Nat) (sub disp : Int)
    (h0 : 0 ≤ sub) (hlt : sub < disp) :
    ((Sim.record P (fuel + 1) sub disp).out.map (·.2)) <+: ((chain P fuel sub).map (·.2)) := by
  rw [sim_eq_chainSpin P fuel sub disp h0 hlt]
  simp only [chain]
  cases P.first with
  | none => simp
  | some sd => obtain ⟨s, d⟩ := sd; exact chainSpin_prefix P hP disp fuel _ _ _ _ _

/-- five of the ten factories are well-formed producers (the other five are too; it is not stated) -/
theorem factories_wellformed {α} (lo hi st d : Int) (init : α) (f : GenFns α) (tm : α → Except Err Int) (v : α)
    (count : Option Int) :
    WFP (rangeP lo hi st) ∧ WFP (generateP init f) ∧ WFP (gwrtP init f tm) ∧ WFP (timerP d) ∧
    WFP (repeatValueP v count) :=
  ⟨wfp_range lo hi st, wfp_generate init f, wfp_gwrt init f tm, wfp_timer d, wfp_repeat v count⟩

/-! ## AS-IS section: the defect of the pinned tree (DEFECT, not part of the claimed behaviour)

`generate_with_relative_time` tests `assert time`; a zero delay (0, 0.0, timedelta(0)) is falsy, so
the AssertionError leaves the action and the scheduler, and the subscriber gets nothing more. -/

def asisFns : GenFns Nat := { cond := fun s => .ok (s < 2), iter := fun s => .ok (s + 1) }

/-- counter-example on the as-is model: `generate_with_relative_time(0, x < 2, x + 1, lambda x: 0)` -/
theorem gwrt_asis_zero_delay_counter :
    ((gwrtAsIs 0 asisFns (fun _ => .ok 0)).step ⟨true, 0, false, 0⟩).escapes = some "AssertionError" ∧
    chain (gwrtAsIs 0 asisFns (fun _ => .ok 0)) 10 0 = [] ∧
    chain (gwrtP 0 asisFns (fun _ => .ok 0)) 10 0 = [(0, .next 0), (0, .next 1), (0, .completed)] := by
  decide +kernel

example : rangeArgs 5 (some 0) (some (-2)) = .ok (5, 0, -2) := rfl
example : pyRange 5 0 (-2) = [5, 3, 1] := by decide +kernel
example : chain (rangeP 5 0 (-2)) 10 7 = [(7, .next 5), (7, .next 3), (7, .next 1), (7, .completed)] := by decide +kernel
example : pyRange 3 3 1 = [] := by decide +kernel
/-- a loop whose `iter` raises on the third state -/
example : whileLoop { cond := fun (s : Nat) => .ok (s < 5), iter := fun s => if s = 2 then .error "boom" else .ok (s + 1) } 10 0
    = [.next 0, .next 1, .next 2, .error "boom"] := by decide +kernel
example : delayLoop asisFns (fun s => .ok (if s = 0 then 0 else 3)) 10 100 0
    = [(100, .next 0), (103, .next 1), (103, .completed)] := by decide +kernel
/-- `quiet` holds on a concrete run: range(5, 0, -2) subscribed at 200, disposed at 1000 -/
example : (Sim.record (rangeP 5 0 (-2)) 12 200 1000).out = chain (rangeP 5 0 (-2)) 10 200 :=
  sim_eq_chain_quiet _ 10 12 200 1000 (by decide +kernel) (by decide +kernel) (by show quiet _ _ _ _ _ _ = true; decide) (by decide +kernel)
/-- a dispose cut: range(0, 5) subscribed at 200 but disposed at 200 … nothing; disposed at 201 … everything -/
example : (Sim.record (rangeP 0 5 1) 20 200 201).out.length = 6 := by decide +kernel
example : chain (repeatValueP 'x' (some 2)) 5 0 = [(0, .next 'x'), (0, .next 'x'), (0, .completed)] := by decide +kernel

end C37
