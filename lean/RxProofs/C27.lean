import RxProofs.Lemmas.DispRefCount
/-!
# C27 — RefCountDisposable releases its resource only after all dependents

Model: `Disp.rStep` (atomic steps of `RefCountDisposable.dispose/release/disposable`
and `InnerDisposable.dispose`).  Threads run arbitrary programs of `get` (request a dependent),
`rel h` / `relMine j` (dispose a dependent, possibly repeatedly, possibly one obtained by another thread),
`dispose` (primary); the schedule is an arbitrary list of thread indices.  One thread = a call history.
-/

namespace C27
open Disp

/-- **refcount_count_invariant.** In every reachable state `count` = (dependents that still point to the parent)
+ (threads between `InnerDisposable` giving up its parent and the decrement in `release()`), and every
increment is matched: `incs = decs + live + in-flight`. -/
theorem refcount_count_invariant (progs : List (List ROp)) (sched : List Nat) :
    let s := (rInit progs).run rStep sched
    s.sh.count = (wsum depLive s.sh.deps : Int) + (wsum rInflight s.pcs : Int) ∧
    s.sh.incs = s.sh.decs + wsum depLive s.sh.deps + wsum rInflight s.pcs := by
  intro s
  have h : RInv s := (rInv_run progs sched).1
  exact ⟨h.count_eq, h.incdec⟩

/-- **underlying_at_most_once.** The underlying resource is never disposed twice. -/
theorem underlying_at_most_once (progs : List (List ROp)) (sched : List Nat) :
    ((rInit progs).run rStep sched).sh.und ≤ 1 := by
  have h := (rInv_run progs sched).1.und_eq
  have : ((rInit progs).run rStep sched).sh.isDisposed.toNat ≤ 1 := Bool.toNat_le _
  omega

/-- **only_after_primary_and_all_dependents.** In every reachable state (mid-call states included): if the
underlying resource has been disposed, or some thread has decided to dispose it, then the primary `dispose()`
has executed its lock block, no dependent handed out so far still points to the parent, and no release is in
flight (`count = 0`). -/
theorem only_after_primary_and_all_dependents (progs : List (List ROp)) (sched : List Nat) :
    let s := (rInit progs).run rStep sched
    0 < s.sh.und + wsum rUndPend s.pcs →
      s.sh.isPrimaryDisposed = true ∧ wsum depLive s.sh.deps = 0 ∧ wsum rInflight s.pcs = 0 ∧ s.sh.count = 0 := by
  intro s hpos
  have h : RInv s := (rInv_run progs sched).1
  have hd : s.sh.isDisposed = true := by
    cases hx : s.sh.isDisposed
    · have := h.und_eq; rw [hx] at this; simp at this; omega
    · rfl
  obtain ⟨hp, hc⟩ := h.disposed hd
  have := h.count_eq
  exact ⟨hp, by omega, by omega, hc⟩

/-- **underlying_exactly_once.** When all threads have finished, some thread called the primary `dispose()`
and every dependent handed out has been disposed at least once, the underlying resource has been disposed
exactly once. -/
theorem underlying_exactly_once (progs : List (List ROp)) (sched : List Nat)
    (hq : rQuiet ((rInit progs).run rStep sched))
    (hdisp : 0 < wsum (fun p => p.count ROp.dispose) progs)
    (hall : wsum depLive ((rInit progs).run rStep sched).sh.deps = 0) :
    ((rInit progs).run rStep sched).sh.und = 1 := by
  obtain ⟨h, h2⟩ := rInv_run progs sched
  obtain ⟨z1, z2, z3⟩ := rQuiet_zero _ hq
  rw [z3] at h2
  have hp := h.pcalls (by omega)
  have hc := h.count_eq
  rw [z1, hall] at hc
  have hd : ((rInit progs).run rStep sched).sh.isDisposed = true := by
    rcases h.primary hp with hd | hd
    · exact hd
    · omega
  have := h.und_eq
  rw [z2, hd] at this
  simpa using this

/-- **underlying_kept_while_needed.** Conversely, in every reachable state the resource is still alive if the primary was
never disposed or some dependent is still live. -/
theorem underlying_kept_while_needed (progs : List (List ROp)) (sched : List Nat) :
    let s := (rInit progs).run rStep sched
    (s.sh.isPrimaryDisposed = false ∨ 0 < wsum depLive s.sh.deps) → s.sh.und = 0 := by
  intro s hneed
  have h := only_after_primary_and_all_dependents progs sched
  simp only at h
  cases hu : s.sh.und with
  | zero => rfl
  | succ n =>
    have := h (by simp only [s] at hu; omega)
    rcases hneed with hn | hn
    · simp only [s] at hn; rw [this.1] at hn; cases hn
    · simp only [s] at hn; omega

/-- **inner_double_dispose_releases_once.** Disposing a dependent that was already disposed changes nothing
(no decrement, no flag, no disposal) — together with `refcount_count_invariant` (`incs = decs + live + in-flight`)
each dependent decrements the count at most once however often and from however many threads it is disposed. -/
theorem inner_double_dispose_releases_once (s : RSh) (t : RTh) (p : List ROp) (h : Nat)
    (hd : s.deps[h]? = some (Dep.inner false)) :
    let r := rRel s t p h
    r.1.count = s.count ∧ r.1.decs = s.decs ∧ r.1.und = s.und ∧ r.1.isDisposed = s.isDisposed ∧
    r.1.isPrimaryDisposed = s.isPrimaryDisposed ∧ r.1.deps = s.deps ∧ r.2.pc = .idle := by
  simp [rRel, hd, RSh.ev]

/-- **late_dependents_inert.** (a) A dependent requested after the resource was released is a plain inert
disposable and does not touch the count; (b) disposing an inert dependent changes no field of the
RefCountDisposable; (c) `is_disposed` is stable under every step of every thread, so (a)/(b) apply forever
and by `underlying_at_most_once` nothing is disposed again. -/
theorem late_dependents_inert :
    (∀ (s : RSh) (mine : List Nat) (p : List ROp), s.isDisposed = true →
        let r := rStep s ⟨.idle, .get :: p, mine⟩
        r.1.deps = s.deps ++ [Dep.inert false] ∧ r.1.count = s.count ∧ r.1.incs = s.incs ∧ r.1.und = s.und) ∧
    (∀ (s : RSh) (t : RTh) (p : List ROp) (h : Nat) (b : Bool), s.deps[h]? = some (Dep.inert b) →
        let r := rRel s t p h
        r.1.count = s.count ∧ r.1.und = s.und ∧ r.1.isDisposed = s.isDisposed ∧
        r.1.isPrimaryDisposed = s.isPrimaryDisposed ∧ r.2.pc = .idle) ∧
    (∀ (s : Sys RSh RTh) (tid : Nat), s.sh.isDisposed = true → (s.step rStep tid).sh.isDisposed = true) := by
  refine ⟨?_, ?_, ?_⟩
  · intro s mine p hd; simp [rStep, hd, RSh.ev]
  · intro s t p h b hd; simp [rRel, hd, RSh.ev]
  · intro s tid hd
    exact Sys.step_inv rStep (fun s' => s'.sh.isDisposed = true) (fun t => Sys.pres_sh rStep (·.isDisposed = true) t fun sh => (rStep_conserve sh t).released) s tid hd

/-- thread 0 obtains two dependents (setup); then thread 1 disposes the primary while threads 2 and 3 dispose
dependent 0 (twice) and dependent 1, with the last release overlapping: disposed exactly once, by the last one -/
example : let s := (rInit [[.get, .get], [.dispose], [.rel 0, .rel 0], [.rel 1]]).run rStep [0, 0, 1, 2, 3, 2, 1, 3, 2, 2, 3, 3]
    rQuiet s ∧ s.sh.und = 1 ∧ s.sh.decs = 2 ∧ s.sh.incs = 2 ∧ s.sh.count = 0 := by decide +kernel

/-- primary disposed and one of two dependents released twice: the resource must still be alive -/
example : let s := (rInit [[.get, .get, .dispose, .rel 0, .rel 0]]).run rStep (List.replicate 12 0)
    rQuiet s ∧ s.sh.und = 0 ∧ s.sh.count = 1 ∧ s.sh.isPrimaryDisposed = true := by decide +kernel

/-- a dependent requested after the release is inert -/
example : let s := (rInit [[.dispose, .get, .relMine 0, .relMine 0]]).run rStep (List.replicate 8 0)
    rQuiet s ∧ s.sh.und = 1 ∧ s.sh.deps = [Dep.inert true] ∧ s.sh.count = 0 := by decide +kernel

end C27
