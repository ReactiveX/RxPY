import RxProofs.Lemmas.StructConnRc
import RxProofs.Lemmas.StructConnAc
import RxProofs.Lemmas.StructSubj
import RxProofs.Lemmas.StructConnSync
import RxProofs.Lemmas.StructConnRaw
/-!
# C24 — multicasting shares one source subscription per connection

The theorems about connect / ref_count / auto_connect are about the model `RxModel/Conn.lean`, for
**every** history of subscribe / unsubscribe / connect / disconnect calls at any virtual times, any
source (cold or hot, any messages, terminating or not) and any subject kind; so is the last section,
`multicast(subject_factory, mapper)`, where every outer subscription is a private raw connectable.  The two
subject theorems are about `Conn.Subj` alone; the section on synchronous sources is about `RxModel/ConnSync.lean`.
-/

namespace C24
open Conn Conn.World Conn.Subj

variable {α : Type}

/-- **connect_one_sub_per_connection.** From a freshly built multicast observable, after any history
(and at every point of it, since the history is arbitrary), and also after the run to the horizon:
at most one source subscription is open, an open one belongs to the live connection handle
(`has_subscription` is set), and nothing is open while not connected. -/
theorem connect_one_sub_per_connection (w : World α) (hf : Fresh w) (ops : List (Nat × Op)) (horizon : Nat) :
    let w' := (w.runOps [] ops).1
    w'.srcOpen.length ≤ 1 ∧ (w'.srcOpen ≠ [] → w'.hasSub = true) ∧ (w'.hasSub = false → w'.srcOpen = []) ∧
    (w.run ops horizon).srcOpen.length ≤ 1 := by
  intro w'
  have h : ConnInv w' := runOps_inv ops [] hf.inv
  refine ⟨h.length_le_one, ?_, h.closed, (run_inv hf.inv ops horizon).length_le_one⟩
  intro hne
  cases hs : w'.hasSub with
  | true => rfl
  | false => exact absurd (h.closed hs) hne

/-- an effective `connect()` (not connected before) subscribes the source exactly once, now -/
theorem connect_effective (w : World α) (t : Nat) (hs : w.hasSub = false) :
    (w.connect t).srcOpen.length = w.srcOpen.length + 1 ∧
    (w.connect t).srcLog = w.srcLog ++ [(w.nextSrc, t, none)] ∧ (w.connect t).hasSub = true := by
  simp [connect, hs]

/-- **connect_idempotent_while_connected.** `connect()` on a connected observable does nothing
(returns the same handle): no second source subscription. -/
theorem connect_idempotent_while_connected (w : World α) (t : Nat) (hs : w.hasSub = true) : w.connect t = w := by
  unfold connect; simp only [hs, if_true]

/-- disposing the live handle unsubscribes the source and only then allows a new connection -/
theorem disconnect_closes (w : World α) (hi : ConnInv w) (t h : Nat) (hc : w.curHandle = some h) :
    (w.disposeHandle t h).hasSub = false ∧ (w.disposeHandle t h).srcOpen = [] := by
  have h2 := disposeHandle_inv hi t h
  have h3 := disposeHandle_hasSub_cur w t h hc
  exact ⟨h3, h2.closed h3⟩

/-- **refcount_connected_iff.** Under `ref_count` / `share`, after any history of subscribe and
unsubscribe calls (source messages, terminals and the auto-detach of terminated subscribers
included): the count is the number of live subscribers and the source connection exists exactly
while the count is positive. -/
theorem refcount_connected_iff (w : World α) (hf : Fresh w) (hw : w.wrap = .refCount)
    (ops : List (Nat × Op)) (hso : subOnly ops = true) :
    let w' := (w.runOps [] ops).1
    w'.count = (w'.live.length : Int) ∧ w'.hasSub = decide (w'.count > 0) ∧ w'.srcOpen.length ≤ 1 := by
  intro w'
  have h : RcInv w' := rc_runOps ops [] (hf.rc hw) hso
  exact ⟨h.cnt, h.iff, h.conn.length_le_one⟩

/-- **refcount_edges.** In any reachable `ref_count` state: a subscribe call makes a new source
subscription iff the count was 0 (the 0→1 edge), and then the observable is connected; after an
unsubscribe call of a live subscriber the count is one less and the observable is connected iff
the count is still positive (disconnect at →0). -/
theorem refcount_edges (w : World α) (h : RcInv w) (t i : Nat) :
    ((w.opSub t i).srcLog.length = w.srcLog.length + (if w.count = 0 then 1 else 0)) ∧
    (w.hasSub = false ↔ w.count = 0) ∧
    (w.live.contains i = true → (w.disposeSub t i).count = w.count - 1) ∧
    (w.disposeSub t i).hasSub = decide ((w.disposeSub t i).count > 0) := by
  have hcnt := h.cnt
  have hlog : ∀ v : World α, (w.settle t i v).subTimes = v.subTimes := fun v =>
    (subTimes_stable v.subTimes).settle w t i rfl
  refine ⟨?_, by rw [h.iff]; simp; omega, fun hi => ?_, (rc_disposeSub h t i).iff⟩
  · rw [srcLog_length, srcLog_length]
    cases rc_join h t i with
    | first hc hs e =>
      rw [e, hlog, if_pos hc]
      exact (congrArg List.length (connect_subTimes (w.joined t i (w.count + 1)) t hs)).trans List.length_append
    | more hc hs e => rw [e, hlog, if_neg (by omega)]; rfl
  · cases rc_leave h t i with
    | absent hi' => rw [hi'] at hi; cases hi
    | stay _ _ e => rw [e]; rfl
    | last hd _ _ _ e => rw [e]; exact disposeHandle_count _ t hd

/-- **autoconnect_at_n.** `auto_connect(n)`, `n ≥ 1`, as written: in any reachable state that is not
yet connected, a subscribe call connects iff it makes the number of present subscribers equal `n`;
until then fewer than `n` are present. -/
theorem autoconnect_at_n (n : Nat) (w : World α) (hf : Fresh w) (hw : w.wrap = .autoConnect n) (hn : 0 < n)
    (ops : List (Nat × Op)) (hso : subOnly ops = true) (t i : Nat) :
    let w' := (w.runOps [] ops).1
    (w'.hasSub = false → w'.count < (n : Int)) ∧
    (w'.hasSub = false → ((w'.opSub t i).hasSub = true ↔ w'.count + 1 = (n : Int))) := by
  intro w'
  have h : AcInv n w' := ac_runOps ops [] (hf.ac hw hn) hso
  exact ⟨h.lt, (ac_opSub h t i).2.2⟩

/-- **autoconnect_stays_connected.** Once connected, `auto_connect` never disconnects, whatever the
subscribers do (and never has more than one source subscription). -/
theorem autoconnect_stays_connected (n : Nat) (w : World α) (h : AcInv n w) (hs : w.hasSub = true)
    (ops : List (Nat × Op)) (hso : subOnly ops = true) :
    (w.runOps [] ops).1.hasSub = true ∧ (w.runOps [] ops).1.srcOpen.length ≤ 1 :=
  ⟨ac_runOps_hasSub ops [] h hs hso, (ac_runOps ops [] h hso).conn.length_le_one⟩

/-- **late_subscriber_gets_terminal.** Subscribing to a stopped plain/behavior subject yields just
its terminal; to a stopped replay subject the buffer and then the terminal. -/
theorem late_subscriber_gets_terminal (s : Subj α) (i : Nat) (t : Notif α) (ht : s.term = some t) :
    (s.isReplay = false → (s.subscribe i).2 = [(i, t)]) ∧
    (s.isReplay = true → (s.subscribe i).2 = (trim s.bufSize s.queue).map (fun v => (i, Notif.next v)) ++ [(i, t)]) :=
  subscribe_of_stopped s i t ht

/-- **multicast_subscriber_sees_subject_suffix.** A subscriber that subscribes to the subject of a
multicast observable (in any state `s`, after any prefix) receives what `subscribe` hands out at
once (nothing / the current value / the replay buffer, and the terminal of a stopped subject), and
then exactly the subject's input from then on — up to and including the first terminal, or until
it unsubscribes; nothing if the subject was already stopped.  (About `Subj.runEv`, the subject alone:
no theorem ties it to the runs of `World`.) -/
theorem multicast_subscriber_sees_subject_suffix (s : Subj α) (i : Nat) (post : List (SEv α))
    (hwf : ∀ t, s.term = some t → t.isTerminal = true)
    (hc : s.obs.count i = 0) (hn : noSub i post = true) :
    seenBy i (runEv s (.sub i :: post)) =
      (s.subscribe i).2.map (·.2) ++ (if s.term.isSome then [] else suffixFor i post) := by
  simp only [runEv, seenBy_append]
  rw [seenBy_self i _ (subscribe_ids s i)]
  congr 1
  cases ht : s.term with
  | none =>
    simp only [Option.isSome_none, Bool.false_eq_true, if_false]
    have h := afterSub_running s i ht
    apply member_sees_suffix i post _ h.1 _ hn
    rw [h.2]; simp [List.count_append, hc]
  | some t =>
    simp only [Option.isSome_some, if_true]
    exact absent_sees_nothing i post _ (afterSub_stopped s i t ht (hwf t ht) hc) hn

/-! ### Synchronously emitting sources and calls made from inside callbacks (`RxModel/ConnSync.lean`) -/
section sync
open Conn.Sync

/-- **sync_one_source_subscription.** With a source that emits from inside its `subscribe`, and
subscribers that call `connect()` / subscribe (through any `ref_count` view) / dispose other
subscriptions from inside `on_next`, to any depth: never more than one source subscription is open,
over the whole history (`maxOpen` is the high-water mark), and none while not connected. -/
theorem sync_one_source_subscription (w : SW) (hf : SFresh w) (ops : List SOp) (fuel : Nat) :
    (Sync.run w ops fuel).maxOpen ≤ 1 ∧ (Sync.run w ops fuel).srcOpen.length ≤ 1 ∧
    ((Sync.run w ops fuel).hasSub = false → (Sync.run w ops fuel).srcOpen = []) := by
  have h := Sync.run_inv ops fuel w hf.inv
  exact ⟨h.mx, h.len, fun hs => (h.off hs).1⟩

/-- **connect_reentrant_noop.** A `connect()` reached while a connection exists or is being made
(the flag is set before the source is subscribed) subscribes nothing. -/
theorem connect_reentrant_noop (w : SW) (hs : w.hasSub = true) : Sync.step w .connect = (w, []) := by
  simp [Sync.step, hs]

/-- the first subscriber of `share()` over a source emitting 1,2,3 inside `subscribe` receives all
three (it is attached to the subject before the connection is made) -/
example :
    Sync.outputsOf (Sync.run { subj := {}, syncMsgs := [.next 1, .next 2, .next 3] } [.sub 0 (some 0) none] 100) 0
    = [.next 101, .next 102, .next 103] := by decide +kernel

/-- two `ref_count` views of one published source; the second view's first subscriber arrives while
the first value is being delivered: one source subscription, it sees the rest -/
example :
    let r := Sync.run { subj := {}, syncMsgs := [.next 1, .next 2], actions := [.sub 1 (some 1) none] }
      [.sub 0 (some 0) (some (1, 0))] 100
    r.nSrc = 1 ∧ Sync.outputsOf r 0 = [.next 101, .next 102] ∧ Sync.outputsOf r 1 = [.next 102] := by decide +kernel

/-- an explicit re-entrant `connect()` from the first delivery does not subscribe the source again -/
example :
    let r := Sync.run { subj := {}, syncMsgs := [.next 1, .next 2], actions := [.connect] }
      [.sub 0 none (some (1, 0)), .connect] 100
    r.nSrc = 1 ∧ r.maxOpen = 1 ∧ Sync.outputsOf r 0 = [.next 101, .next 102] := by decide +kernel
end sync

/-! ### `multicast(subject_factory, mapper)` -/

/-- **multicast_factory_one_source_subscription.** `multicast(subject_factory, mapper)` (hence
`publish(mapper)`, `replay(mapper=…)`, `publish_value(v, mapper)`): every outer subscription — made at
any time `t`, with a mapper that subscribes the private connectable `k` times, disposed at any time
or never, over any source and subject kind — subscribes the source **exactly once, at `t`**, and when
it is over (disposed, or at the horizon) its connection is released: not connected, no source
subscription open. -/
theorem multicast_factory_one_source_subscription (w : World α) (hf : Fresh w) (hw : w.wrap = .raw)
    (hlog : w.srcLog = []) (k t : Nat) (tu : Option Nat) (horizon : Nat) :
    (w.mcastWorld k t tu horizon).subTimes = [t] ∧ (w.mcastWorld k t tu horizon).hasSub = false ∧
    (w.mcastWorld k t tu horizon).srcOpen = [] := by
  unfold mcastWorld
  obtain ⟨stop, hshape, hstop⟩ := mcastOps_shape k t tu
  have hfin := run_raw_final w hf.inv hw (mcastOps k t tu) horizon
  refine ⟨?_, hfin.1, hfin.2.1⟩
  rw [hfin.2.2, hshape, runOps_connect_once hw hf.1 _ stop
    (by intro o ho; simp only [List.mem_map] at ho; obtain ⟨a, _, rfl⟩ := ho; exact ⟨a, rfl⟩) hstop t]
  simp [subTimes, hlog]

/-- two outer subscribers of `publish(mapper)` with a mapper that uses the connectable twice: two
source subscriptions, one each -/
example :
    let w : World Nat := { subj := {}, coldMsgs := [(10, .next 1), (30, .completed)] }
    (w.mcastWorld 2 200 none 1000).srcLog = [(0, 200, some 230)] ∧
    (w.mcastWorld 2 215 (some 220) 1000).srcLog = [(0, 215, some 220)] := by decide +kernel

section examples
private def cold3 : List (Nat × Notif Nat) := [(10, .next 1), (20, .next 2), (30, .completed)]

/-- share(): two subscribers, one source subscription; a late third one gets the terminal and a
transient re-connection (as the code behaves) -/
example :
    let r := ({ subj := {}, wrap := .refCount, coldMsgs := cold3 } : World Nat).run
      [(200, .sub 0), (215, .sub 1), (300, .sub 2)] 1000
    r.srcLog = [(0, 200, some 230), (1, 300, some 300)] ∧
    r.outputsOf 1 = [(220, .next 2), (230, .completed)] ∧ r.outputsOf 2 = [(300, .completed)] := by decide +kernel

/-- publish(): connect twice = one subscription; disconnect, reconnect = a second one -/
example :
    let r := ({ subj := {}, coldMsgs := cold3 } : World Nat).run
      [(200, .sub 0), (205, .connect), (206, .connect), (212, .disconnect 1), (240, .connect)] 1000
    r.srcLog = [(0, 205, some 212), (1, 240, some 270)] ∧
    r.outputsOf 0 = [(250, .next 1), (260, .next 2), (270, .completed)] := by decide +kernel

/-- auto_connect(2) connects at the second present subscriber and stays connected -/
example :
    let r := ({ subj := {}, wrap := .autoConnect 2, coldMsgs := cold3 } : World Nat).run
      [(200, .sub 0), (210, .sub 1), (215, .unsub 0), (216, .unsub 1)] 1000
    r.srcLog = [(0, 210, some 240)] ∧ r.outputsOf 0 = [] ∧ r.hasSub = true := by decide +kernel

/-- a fresh world is `Fresh`; the subject suffix theorem's hypotheses are satisfiable -/
example : Fresh ({ subj := {}, coldMsgs := cold3 } : World Nat) := by
  refine ⟨rfl, rfl, rfl, rfl, rfl, rfl, rfl, rfl⟩
example : seenBy 7 (runEv ({ isBehavior := true, value := some 9 } : Subj Nat)
      [.sub 7, .inp (.next 1), .sub 8, .inp (.next 2), .unsub 7, .inp (.next 3)])
    = [.next 9, .next 1, .next 2] := by decide +kernel
end examples

end C24
