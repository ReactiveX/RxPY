import RxProofs.Lemmas.PureMarblesRender
import RxProofs.Lemmas.PureMarblesDeliver
/-!
# C38 — marble diagrams mean what the documented syntax says

`Pure.Marbles.parse` is the hand-written scanner that mirrors the regex
tokenizer of `reactivex/observable/marbles.py:parse` (same alternation order, frame counter, group
handling, `try_number`, lookup, `raise_stopped`).  `Pure.Marbles.spec` is the documented reading of a
token list (`Tok`): a marble gets the time `index · timespan + shift` of the character that starts
its token in the space-free string, group items the time of the opening parenthesis, terminal
checks in reading order.  Integer timespans and shifts only (float timespans are not modelled).
-/
open Pure.Marbles

namespace C38

/-- **parse_render_spaced.** For EVERY well-formed token list and EVERY string that differs from its
rendering only by spaces (anywhere, also inside values and groups), the scanner yields the
documented reading — messages, times and errors. -/
theorem parse_render_spaced {α} (cfg : Cfg α) (toks : List Tok) (hwf : WF toks = true)
    (s : List Char) (hs : s.filter (· != ' ') = render toks) :
    parse cfg s = spec cfg toks := by
  simp only [parse, spec, hs]
  exact scan_render cfg toks hwf 0 false

/-- **parse_render.** `parse (render toks) = spec toks` for every well-formed token list. -/
theorem parse_render {α} (cfg : Cfg α) (toks : List Tok) (hwf : WF toks = true) :
    parse cfg (render toks) = spec cfg toks :=
  parse_render_spaced cfg toks hwf (render toks) (render_nospace toks hwf)

/-- **spec_position_is_index.** In the documented reading every non-empty marble of a token carries the
time `frame · timespan + shift`, where `frame` is the number of characters before the token that
advance time — for a diagram within the documented syntax (no unbalanced parenthesis before it)
that is exactly the index `(render pre).length` of the token's first character in the space-free
string; all items of a group get the index of its opening parenthesis. -/
theorem spec_position_is_index {α} (cfg : Cfg α) (pre post : List Tok) (t : Tok) (ms : List (Msg α))
    (h : spec cfg (pre ++ t :: post) = .ok ms) (m : List Char) (hm : m ∈ marblesOf t) (hne : m ≠ []) :
    mapElement cfg ((frame pre : Int) * cfg.timespan + cfg.shift) m ∈ ms ∧
    (noStray pre = true → frame pre = (render pre).length) := by
  refine ⟨?_, frame_eq_length pre⟩
  rw [specGo_ok h, allMarbles_append, allMarbles, emit]
  refine List.mem_map.2 ⟨(frame pre, m), List.mem_filter.2 ⟨?_, by simpa using hne⟩, by rw [time]⟩
  simp [hm]

/-- **stray_parens_skipped.** Outside the documented syntax: a `)` outside a group is skipped WITHOUT advancing
time (the regex matches nothing there), so what follows is timed as if the character were absent.  (Only `.strayClose` is
stated; the second conjunct is `parse_render` for this list.) -/
theorem stray_parens_skipped {α} (cfg : Cfg α) (pre post : List Tok)
    (h1 : WF (pre ++ .strayClose :: post) = true) :
    frame (pre ++ .strayClose :: post) = frame (pre ++ post) ∧
    parse cfg (render (pre ++ .strayClose :: post)) = spec cfg (pre ++ .strayClose :: post) := by
  refine ⟨?_, parse_render cfg _ h1⟩
  induction pre with
  | nil => simp [frame, width]
  | cons t ts ih =>
    have := ih (WF_tail t _ h1)
    simp only [List.cons_append, frame, this]

/-- **parse_units.** The reading is independent of the time unit: with timespan and shift expressed in a
unit `k` times finer (the harness passes float / timedelta / datetime timespans and shifts that are
multiples of a quarter second and runs the model in quarter-second units, `k = 4`), ANY string
parses to the same messages with all times multiplied by `k` — and to the same error. -/
theorem parse_units {α} (k : Int) (cfg : Cfg α) (s : List Char) :
    parse (scaleCfg k cfg) s = (parse cfg s).map (scaleMsgs k) := by
  rw [parse_eq_spec_lex, parse_eq_spec_lex]
  exact specGo_scale k cfg _ 0 false

/-- **spec_accepts.** Without a top-level comma, and when either `raise_stopped` is off or no marble
follows a terminal one, the reading is exactly: every non-empty marble, in reading order, at
the time of its index. -/
theorem spec_accepts {α} (cfg : Cfg α) (toks : List Tok) (hc : noComma toks = true)
    (hok : cfg.raiseStopped = false ∨
      (((allMarbles toks 0).map (·.2)).dropLast.all (fun m => !isTerm m)) = true) :
    spec cfg toks =
      .ok (((allMarbles toks 0).filter (fun pm => !pm.2.isEmpty)).map
            (fun pm => mapElement cfg ((pm.1 : Int) * cfg.timespan + cfg.shift) pm.2)) := by
  simp only [spec]
  rw [specGo_noComma cfg toks hc 0 false]
  rcases hok with h | h
  · rw [checkAll_noraise cfg h]; rfl
  · obtain ⟨st', hst⟩ := checkAll_ok_of_no_term_before_last cfg _ h
    rw [hst]; rfl

/-- **parse_rejects_after_terminal.** With `raise_stopped`, a diagram (no top-level comma) in which
some marble — even an empty group item — follows a `#` or `|` marble is rejected with the
"Elements cannot be declared after a # or | symbol." error. -/
theorem parse_rejects_after_terminal {α} (cfg : Cfg α) (hr : cfg.raiseStopped = true)
    (toks : List Tok) (hwf : WF toks = true) (hc : noComma toks = true)
    (a : List (List Char)) (b : List Char) (c : List (List Char))
    (hsplit : (allMarbles toks 0).map (·.2) = a ++ b :: c) (hb : isTerm b = true) (hcne : c ≠ []) :
    parse cfg (render toks) = .error .stopped := by
  rw [parse_render cfg toks hwf]
  simp only [spec]
  rw [specGo_noComma cfg toks hc 0 false, hsplit, checkAll_after_term cfg hr a b c hb hcne]

/-- **parse_no_raise_never_rejects.** Without `raise_stopped`, NO string whatsoever is rejected for
marbles after a terminal (the only possible error is the top-level comma). -/
theorem parse_no_raise_never_rejects {α} (cfg : Cfg α) (hr : cfg.raiseStopped = false) (s : List Char) :
    parse cfg s ≠ .error .stopped := by
  rw [parse_eq_spec_lex]
  exact specGo_noraise cfg hr _ 0 false

/-- **parse_times_sorted.** For a non-negative timespan the parsed messages of ANY string are in
non-decreasing time order and none is earlier than the shift. -/
theorem parse_times_sorted {α} (cfg : Cfg α) (h : 0 ≤ cfg.timespan) (s : List Char) (ms : List (Msg α))
    (hs : parse cfg s = .ok ms) :
    ms.Pairwise (fun a b => a.1 ≤ b.1) ∧ ∀ m ∈ ms, cfg.shift ≤ m.1 := by
  rw [parse_eq_spec_lex] at hs
  have := specGo_sorted cfg h _ 0 false ms hs
  refine ⟨this.2, fun m hm => ?_⟩
  have := this.1 m hm
  simpa [time] using this

/-- **cold_delivers_parsed.** `from_marbles` (its actions in the scheduler's `(due, seq)` queue):
a subscriber at `sub` records exactly the parsed messages, each at `sub + its parsed time`, up to
the dispose time — for any string and non-negative timespan (shift 0). -/
theorem cold_delivers_parsed {α} (cfg : Cfg α) (h : 0 ≤ cfg.timespan) (hsh : cfg.shift = 0)
    (s : List Char) (ms : List (Msg α)) (hs : parse cfg s = .ok ms) (sub disp : Int) :
    coldDeliver ms sub disp = (ms.map fun m => (sub + m.1, m.2)).filter (fun m => m.1 < disp) := by
  obtain ⟨h1, h2⟩ := parse_times_sorted cfg h s ms hs
  exact coldDeliver_sorted ms sub disp h1 (fun m hm => by have := h2 m hm; omega)

/-- **hot_delivers_parsed_after_subscription.** `hot` created at `created`: a subscriber arriving at
`sub ≥ created` records exactly the parsed messages whose (absolute) time is after `sub` and not
after its dispose time, at exactly those times. -/
theorem hot_delivers_parsed_after_subscription {α} (cfg : Cfg α) (h : 0 ≤ cfg.timespan)
    (s : List Char) (ms : List (Msg α)) (hs : parse cfg s = .ok ms) (created sub disp : Int)
    (hc : created ≤ sub) :
    hotDeliver ms created sub disp =
      (ms.map fun m => (created + m.1, m.2)).filter (fun m => decide (sub < m.1) && decide (m.1 ≤ disp)) :=
  hotDeliver_sorted ms created sub disp (parse_times_sorted cfg h s ms hs).1 hc

/-- **hot_created_in_action.** `hot` built at a non-zero clock from inside a scheduled action (its own
actions are then the youngest in the queue): a subscriber at `sub` records exactly the parsed
messages due in `[sub, disp)`, each at `created + index·timespan + shift` — the times are relative
to the instant `hot()` was called. -/
theorem hot_created_in_action {α} (cfg : Cfg α) (h : 0 ≤ cfg.timespan)
    (s : List Char) (ms : List (Msg α)) (hs : parse cfg s = .ok ms) (created sub disp : Int) :
    hotDeliverLate ms created sub disp =
      (ms.map fun m => (created + m.1, m.2)).filter (fun m => decide (sub ≤ m.1) && decide (m.1 < disp)) :=
  hotDeliverLate_sorted ms created sub disp (parse_times_sorted cfg h s ms hs).1

/-- **hot_loop_fixed_calls_all.** The repaired delivery loop of `hot` (iterating over a snapshot)
calls every subscribed observer, whether or not observers unsubscribe during the delivery. -/
theorem hot_loop_fixed_calls_all (terminal : Bool) (obs : List Nat) : calledFixed terminal obs = obs :=
  loopFixed_all terminal obs obs

/-- **tryNumber_digits.** A non-empty string of decimal digits is mapped to that integer. -/
theorem tryNumber_digits (ds : List Char) (hne : ds ≠ []) (h : ∀ c ∈ ds, c.isDigit = true) :
    tryNumber ds = .int (Int.ofNat (natOfDigits ds)) := by
  cases ds with
  | nil => exact absurd rfl hne
  | cons c r =>
    have hs := stripSign_digit c r (h c (by simp))
    have hu := usOK_digits '\x00' (by decide) (c :: r) h
    have hall : (c :: r).all (fun c => c.isDigit || c == '_') = true := by
      rw [List.all_eq_true]; intro x hx; simp [h x hx]
    simp [tryNumber, pyInt?, pyStrip_digits (c :: r) h, hs, intBody, hu, hall]

/-! ## AS-IS section: the defect of the pinned tree (DEFECT, not part of the claimed behaviour)

`hot` iterates over the live `observers` list; the first observer unsubscribes itself when it
receives a terminal notification, and the second one is skipped — it never sees the terminal. -/

/-- counter-example on the as-is loop: two observers, a terminal notification, only the first is called -/
theorem hot_loop_asis_skips_second_subscriber : calledAsIs true [1, 2] = [1] := by decide +kernel

theorem hot_loop_asis_counter : ∃ obs, calledAsIs true obs ≠ obs :=
  ⟨[1, 2], by rw [hot_loop_asis_skips_second_subscriber]; decide⟩

def cfg0 : Cfg Elem :=
  { timespan := 10, shift := 5, raiseStopped := true, lookup := fun _ => none, embed := id, err := "E" }

/-- `--12-(a,,3)-|` : a well-formed list with a multi-character value, a group with an empty item, a terminal -/
def toks0 : List Tok :=
  [.ticks 2, .elem ['1', '2'], .ticks 1, .group [['a'], [], ['3']], .ticks 1, .completed]

example : WF toks0 = true := by decide +kernel
example : render toks0 = "--12-(a,,3)-|".toList := by decide +kernel
example : spec cfg0 toks0 =
    .ok [(25, .next (.int 12)), (55, .next (.str ['a'])), (55, .next (.int 3)), (125, .completed)] := by
  rfl
example : parse cfg0 "- -1 2-( a,,3)- |".toList = spec cfg0 toks0 :=
  parse_render_spaced cfg0 toks0 (by decide +kernel) _ (by decide +kernel)
/-- unbalanced parentheses: `a)b(c` — three separate marbles at frames 0, 1, 2 -/
example : WF [.elem ['a'], .strayClose, .elem ['b'], .strayOpen, .elem ['c']] = true := by decide +kernel
example : spec cfg0 [.elem ['a'], .strayClose, .elem ['b'], .strayOpen, .elem ['c']] =
    .ok [(5, .next (.str ['a'])), (15, .next (.str ['b'])), (25, .next (.str ['c']))] := by rfl
/-- hypotheses of `parse_rejects_after_terminal` are satisfiable: `a|(,)` -/
example : parse cfg0 (render [.elem ['a'], .completed, .group [[], []]]) = .error .stopped :=
  parse_rejects_after_terminal cfg0 rfl _ (by decide +kernel) (by decide +kernel) [['a']] ['|'] [[], []] (by decide +kernel) (by decide +kernel) (by simp)
example : noComma toks0 = true ∧
    (((allMarbles toks0 0).map (·.2)).dropLast.all (fun m => !isTerm m)) = true := by decide +kernel
example : tryNumber ['0', '4', '2'] = .int 42 := by decide +kernel

end C38
