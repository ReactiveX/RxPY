import RxProofs.Lemmas.CombHO
/-!
# C12 — switching forwards only the latest inner sequence

Trace machine `swM` of `switch_latest` (switch_map / switch_map_indexed / flat_map_latest = map ∘ switch_latest),
started with only the outer source (id 0) subscribed, fed an ARBITRARY event list.
-/
open Comb

namespace C12

/-- **switch_only_latest.** The values that go out are exactly the accepted inner elements whose inner is, at that
moment, the most recently arrived one (`swSpec` walks the accepted notifications keeping only "the latest arrival");
each is emitted by the step that delivers it. -/
theorem switch_only_latest {α} (es : List (Ev (HV α))) :
    outVals (run (swM (α := α)) (hoInit {}) es) = swSpec none (accepted (swM (α := α)) (hoInit {}) es) := by
  rw [swSpec_eq]; exact swRefines.outVals es _ (WF_of_not_done _ rfl) trivial

/-- **switch_unsub_prev_at_arrival.** In any state reachable or not (plumbing well-formed), the step that delivers a new
inner `j` unsubscribes the previous inner (if it is still open) and then subscribes the new one — exactly these
effects, in this order, in this step. -/
theorem switch_unsub_prev_at_arrival {α} (st : St SwSt) (h : st.p.WF) (j : Nat) (h0 : 0 ∈ st.p.live) :
    (step (swM (α := α)) st (.src 0 (.next (.obs j)))).2
      = (match st.s.cur with
         | some o => if o ∈ st.p.live then [Eff.unsub o] else []
         | none => []) ++ [Eff.sub (j + 1)] ∧
    (step (swM (α := α)) st (.src 0 (.next (.obs j)))).1.s.cur = some (j + 1) := by
  refine ⟨?_, by rw [step_src_state _ _ _ _ h0]; rfl⟩
  rw [step_src_live _ _ _ _ h h0]
  cases hc : st.s.cur with
  | none => simp [swM, swHandler, hc, Notif.isTerminal]
  | some o => by_cases ho : o ∈ st.p.live <;> simp [swM, swHandler, hc, ho, Notif.isTerminal]

/-- **switch_stale_error_ignored.** A notification of an inner that is not the latest one — an error included — changes
nothing downstream or in the operator: nothing is emitted, nothing is subscribed, and the operator state is untouched. -/
theorem switch_stale_error_ignored {α} (st : St SwSt) (k : Nat) (n : Notif (HV α)) (hk0 : k ≠ 0)
    (hstale : st.s.cur ≠ some k) :
    emits (step (swM (α := α)) st (.src k n)).2 = [] ∧ subsOf (step (swM (α := α)) st (.src k n)).2 = [] ∧
    (step (swM (α := α)) st (.src k n)).1.s = st.s := by
  -- the handler ignores it (the `latest[0] == _id` guard), so the invocation is empty
  have hh : swHandler st.s k n = (st.s, []) := by
    fun_cases swHandler st.s k n <;> first | rfl | contradiction
  have hf : fired (swM (α := α)) st (.src k n) = (st.s, []) := by
    by_cases hk : k ∈ st.p.live
    · rw [fired_src _ _ _ _ hk]; exact hh
    · exact fired_src_not_live _ _ _ _ hk
  rw [emits_step, subsOf_step, step_state, hf]
  exact ⟨by split <;> rfl, rfl, rfl⟩

/-- **switch_completes_iff.** Walk the delivered notifications remembering the latest arrived inner, whether it has completed
since it arrived, and whether the outer completed (`swTStep`). The output completes if and only if, at the end of the
delivered notifications, the outer has completed and there is no latest inner or the latest inner has completed
(`swRule`) — and then it completes in the very step that makes this true (the notifications delivered stop there). In
particular a completion of a stale inner, or of the latest inner while the outer is still running, does not complete. -/
theorem switch_completes_iff {α} (es : List (Ev (HV α))) :
    Notif.completed ∈ emits (run (swM (α := α)) (hoInit {}) es)
      ↔ swRule ((accepted (swM (α := α)) (hoInit {}) es).foldl swTStep {}) := by
  have h := (swCompletes.run es (hoInit {}) _ (WF_of_not_done _ rfl) ⟨fun _ => rfl⟩ rfl (by simp [swRule, swAbs, hoInit])).1
  simpa [swAbs, hoInit] using h

/-- non-vacuity: inner 1 is replaced by inner 2 while still open; a late element and a late error of inner 1 are ignored -/
example :
    run (swM (α := Nat) ) (hoInit {})
      [.src 0 (.next (.obs 0)), .src 1 (.next (.val 7)), .src 0 (.next (.obs 1)), .src 1 (.next (.val 8)), .src 1 (.error "stale"),
       .src 2 (.next (.val 9)), .src 0 .completed, .src 2 .completed]
      = [.sub 1, .emit (.next 7), .unsub 1, .sub 2, .emit (.next 9), .unsub 0, .emit .completed, .unsub 2] := by
  decide

end C12
