import RxProofs.Lemmas.ThrELSys
/-!
# C31 — EventLoopScheduler: serial on one thread, in order, cancellation, dispose, exit_if_empty

Model: `RxModel/ThrEL.lean` (atomic-step model).  Every theorem is about
`(Sys.init progs clock).run xie sched`: ANY number of client threads with ANY programs (finite trees of
schedule / schedule_relative / schedule_absolute / cancel / dispose / tick, also executed from inside
actions on the loop thread), both settings of `exit_if_empty` unless said otherwise, and EVERY schedule
`sched` (a list of (thread, µs elapsed before its step); unbounded).  Events are read off the global
log (`newest first`).

**Linearisation point of "an action starts"**: the loop thread's `is_cancelled()` read when it takes the
item from its batch (the `loop exec` step, which logs `start` or `skip`).  The gap between that read and
the action's first instruction cannot be closed by a lock-free implementation (DESIGN.md §8); "cancelled
before it starts" means: the `cancel` step precedes that read.
-/
namespace C31
open Thr Thr.EL

theorem reach (xie : Bool) (progs : List (List Op)) (clock : Int) (sched : List (Nat × Nat)) :
    EInv ((Sys.init progs clock).run xie sched) :=
  einv_run xie _ sched ⟨e1_init progs clock, e2_init progs clock⟩

/-- **All actions run on a single dedicated thread, never two at once.**  In every reachable state at
most one loop thread is alive (inside `run`), at most one action is executing, and actions execute only
on a loop thread (per thread: #executing actions ≤ #loop frames ≤ 1). -/
theorem loop_single_thread_serial (xie : Bool) (progs : List (List Op)) (clock : Int) (sched : List (Nat × Nat)) :
    let s := (Sys.init progs clock).run xie sched
    sumBy nLoopT s.ths ≤ 1 ∧ sumBy nRunT s.ths ≤ 1 ∧ ∀ th ∈ s.ths, nRun th.stack ≤ nLoop th.stack ∧ nLoop th.stack ≤ 1 := by
  have inv := (reach xie progs clock sched).e1
  have := sumBy_le_sumBy nRunT nLoopT _ fun th hth => (shape_counts (inv.shapes th hth)).1
  exact ⟨inv.mx.1, by have := inv.mx.1; omega, fun th hth => shape_counts (inv.shapes th hth)⟩

/-- without `exit_if_empty` the scheduler creates at most one thread in its whole life -/
theorem single_thread_ever (progs : List (List Op)) (clock : Int) (sched : List (Nat × Nat)) :
    nSpawn ((Sys.init progs clock).run false sched).sh.log ≤ 1 := by
  have := spawn_run (Sys.init progs clock) sched (e1_init progs clock) (by simp [Sys.init, nSpawn])
  rw [this]; exact Bool.toNat_le _

/-- **Immediately-due actions run in submission order.**  Conservation: the sequence of immediately-due
submissions (in the order of their locked `enq` sections) = those already taken by the loop (started or
found cancelled) ++ those in the loop's current batch ++ those still in `_ready_list` — so they are taken
strictly in submission order, none overtaken, none lost, none duplicated. -/
theorem ready_fifo (xie : Bool) (progs : List (List Op)) (clock : Int) (sched : List (Nat × Nat)) :
    let s := (Sys.init progs clock).run xie sched
    immEnq s.sh.log = immPop s.sh.log ++ ((readyAll s.ths).filter (·.imm)).map (·.seq) ++ s.sh.readyList.map (·.seq) ∧
    immPop s.sh.log <+: immEnq s.sh.log := by
  have := (reach xie progs clock sched).e2.fifo
  refine ⟨this, ?_⟩
  rw [this, List.append_assoc]; exact List.prefix_append _ _

/-- **Timed actions: no earlier than their due time, and in due-time order** (first-submitted-first among
equal due times).  Every `start` (timed or not) is logged at a clock ≥ the item's due time; the timed items
taken by the loop, in the order taken, are sorted by due time and, for equal due times, by submission. -/
theorem timed_not_early_in_order (xie : Bool) (progs : List (List Op)) (clock : Int) (sched : List (Nat × Nat)) :
    let s := (Sys.init progs clock).run xie sched
    (∀ t id due seq imm clk, Ev.start t id due seq imm clk ∈ s.sh.log → due ≤ clk) ∧
    (tPop s.sh.log).Pairwise (fun a b => a.1 ≤ b.1) ∧
    (tPop s.sh.log).Pairwise (fun a b => a.1 = b.1 → a.2 < b.2) := by
  have inv := (reach xie progs clock sched).e2
  exact ⟨inv.logs.nb, inv.tq.taken_lo trivial, inv.tq.taken_eo⟩

/-- **Cross order of timed and immediately-due actions within one gathering** ("in due-time order"): whenever
the loop gathers (at any clock `c`, in any reachable state), no immediately-due item is placed before a timed
item with an earlier due time — a pending timed action that is due earlier is never overtaken by an
immediate one. -/
theorem gather_cross_due_order (xie : Bool) (progs : List (List Op)) (clock : Int) (sched : List (Nat × Nat)) (c : Int) :
    let s := (Sys.init progs clock).run xie sched
    (merge c s.sh.queue s.sh.readyList).1.Pairwise CrossOk := by
  have inv := (reach xie progs clock sched).e2
  exact (merge_spec c _ _ inv.kinds.1 inv.kinds.2).cross inv.tq.qs

/-- **An action cancelled before it starts never runs**: no `start id` is logged after a `cancel id` by
any thread — "starts" being the loop's `is_cancelled()` read (see the header). -/
theorem cancelled_before_check_never_runs (xie : Bool) (progs : List (List Op)) (clock : Int) (sched : List (Nat × Nat)) :
    okCancel ((Sys.init progs clock).run xie sched).sh.log :=
  (reach xie progs clock sched).e2.logs.oc

/-- **After dispose() returned**: (1) the flag is set from the dispose step on; (2) no later `schedule*`
call passes the `_is_disposed` test — `okDisp`: no `passed` event after the dispose event, i.e. every such
call raises DisposedException and submits nothing; (3) the loop gathers nothing any more (`okDisp`: no `collect`
after the dispose event); that an item starts only out of a batch gathered before is how the model's loop works, and is not stated. -/
theorem after_dispose_raises_and_nothing_runs (xie : Bool) (progs : List (List Op)) (clock : Int) (sched : List (Nat × Nat)) :
    let s := (Sys.init progs clock).run xie sched
    (∀ t, Ev.dispose t true ∈ s.sh.log → s.sh.disposed = true) ∧ okDisp s.sh.log :=
  ⟨(reach xie progs clock sched).e2.logs.dl, (reach xie progs clock sched).e2.logs.od⟩

/-- the `_is_disposed` test of a `schedule*` call made once the flag is set: raises, submits nothing. -/
theorem disposed_schedule_raises (xie : Bool) (me nth : Nat) (sh : Sh) (id : Option Nat) (it : Item) (ops : List Op)
    (rest : List Frame) (hd : sh.disposed = true) :
    let r := thStep xie me nth sh { stack := .chk id it ops :: rest }
    r.1.log = Ev.raised me it.id :: sh.log ∧ r.1.readyList = sh.readyList ∧ r.1.queue = sh.queue ∧
      r.2.1.stack = .act id ops :: rest := by
  simp [thStep, hd]

/-- **exit_if_empty: the thread exits when idle and a later schedule starts a new one — nothing is
stranded.**  In every reachable state: (1) if anything is pending (`_ready_list` or `_queue` non-empty)
then `_thread` is set; (2) if `_thread` is set and the scheduler is not disposed, that thread exists and
is inside its loop (so pending work always has a live loop thread); (3) no lost wake-up: a loop thread
blocked in the untimed `wait()` that has not been notified sees both containers empty. -/
theorem exit_if_empty_restarts (xie : Bool) (progs : List (List Op)) (clock : Int) (sched : List (Nat × Nat)) :
    let s := (Sys.init progs clock).run xie sched
    (s.sh.readyList ≠ [] ∨ s.sh.queue ≠ [] → s.sh.thread ≠ none) ∧
    (∀ t, s.sh.thread = some t → s.sh.disposed = false → ∃ th, s.ths[t]? = some th ∧ nLoop th.stack = 1) ∧
    (s.sh.wstate = .waitingU → s.sh.readyList = [] ∧ s.sh.queue = []) := by
  have inv := (reach xie progs clock sched).e1
  exact ⟨inv.pt, inv.al, inv.w⟩

/-- client 0: schedules A (which schedules a timed B, due +10, and an immediate C), then cancels A's
sibling D (scheduled and cancelled before the loop reaches it); later schedules E when the thread has
exited. -/
private def prog0 : List Op :=
  [.sched 1 [.schedRel 2 10 [], .sched 3 []], .sched 4 [], .cancel 4, .tick 50, .sched 5 []]

private def evName : Ev → Option (String × Nat)
  | .start _ id _ _ _ _ => some ("start", id)
  | .skip _ id _ _ _ => some ("skip", id)
  | .enq _ id _ _ (some t) => some ("spawn", t)
  | .exitEmpty t => some ("exit", t)
  | _ => none

-- client runs its first three ops (7 steps), loop thread 1 drains (A, skip D, C, timed wait, 10 µs pass, B, exit), client ticks
-- and schedules E: a second loop thread (2) is created and runs it.
private def sch0 : List (Nat × Nat) :=
  List.replicate 7 (0, 0) ++ List.replicate 16 (1, 0) ++ [(1, 10)] ++ List.replicate 8 (1, 0) ++ List.replicate 6 (0, 0) ++
    List.replicate 8 (2, 0)

set_option maxRecDepth 100000 in
example : ((Sys.init [prog0]).run true sch0).sh.log.reverse.filterMap evName =
    [("spawn", 1), ("start", 1), ("skip", 4), ("start", 3), ("start", 2), ("exit", 1), ("spawn", 2), ("start", 5), ("exit", 2)] := by
  decide
set_option maxRecDepth 100000 in
example : ((Sys.init [prog0]).run true sch0).sh.thread = none ∧ ((Sys.init [prog0]).run true sch0).ths.length = 3 := by decide

end C31
