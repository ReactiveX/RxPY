import RxModel.StructOps
import RxModel.OpsElem
import RxGen.Captures
import RxProofs.Lemmas.StructCatalogue
/-!
# C44 — an operator function can be applied to many sources independently

The frame theorem of C04 one level up: instances are the *applications* of one operator function to
sources, the shared state is what the factory call allocated.
-/

namespace C44
open Struct.Captures Struct.Frame Struct.Ops

/-- **captures_factory_ok.** Kernel `decide` over the regenerated capture table: in `reactivex/operators`
nothing created when the operator function is built (level 0) is mutated/consumed when it is
applied, subscribed or run, nor escapes into an operator constructor (allow-list:
the idempotent `to_timedelta` write of `skip_last_with_time_`). -/
theorem captures_factory_ok :
    (RxGen.Captures.table.all factoryOk && (staleAllow RxGen.Captures.table factoryAllow factoryBad).isEmpty) = true := by
  decide +kernel

/-- **apply_independent.** If the state allocated by the factory call is never written, each application
behaves — under any interleaving of subscriptions, connections and events of all applications — exactly
like the only application of a fresh operator function.  `g` is that state (`ops.x(args)`); a fresh
operator function built with the same arguments starts from the same `g`.  The right-hand side is
application `i` alone on such a fresh operator. -/
theorem apply_independent {G L A O : Type} (s : Sys G L A O) (h : Framed s) (g : G)
    (acts : List (Act A)) (i : Nat) :
    outputsOf i (runG s g [] acts) = runI s g none (restrict i acts) :=
  frame_local s h i acts g []

theorem refcount_framed : Framed refCount := ⟨fun _ => rfl, fun _ _ _ => rfl⟩

/-- `ref_count_` after the fix: every application connects at its own 0→1 edge and disconnects at
its own →0 edge, whatever happens to the other applications of the same operator function. -/
theorem refcount_apply_independent (acts : List (Act RcAct)) (i : Nat) :
    outputsOf i (runG refCount () [] acts) = runI refCount () none (restrict i acts) :=
  apply_independent refCount refcount_framed () acts i

/-- Non-vacuity: two applications, interleaved subscribers; each connects and disconnects once. -/
example :
    runG refCount () [] [.create 0, .create 1, .act 0 (.sub 0), .act 1 (.sub 0), .act 0 (.unsub 0), .act 1 (.unsub 0)]
    = [(0, .srcSubscribe 0), (0, .connect), (1, .srcSubscribe 0), (1, .connect),
       (0, .srcUnsubscribe 0), (0, .disconnect), (1, .srcUnsubscribe 0), (1, .disconnect)] := by decide +kernel

/-- **refcount_asis_leaks.** Before the fix (count in the factory closure) the second application
never connects its source, and the first one is not disconnected when its last subscriber leaves
(replayed on the real code by the oracle). -/
theorem refcount_asis_leaks :
    let acts : List (Act RcAct) :=
      [.create 0, .create 1, .act 0 (.sub 0), .act 1 (.sub 0), .act 0 (.unsub 0), .act 1 (.unsub 0)]
    outputsOf 1 (runG refCountAsIs (0, false) [] acts) = [.srcSubscribe 0, .srcUnsubscribe 0, .disconnect] ∧
    outputsOf 0 (runG refCountAsIs (0, false) [] acts) = [.srcSubscribe 0, .connect, .srcUnsubscribe 0] ∧
    outputsOf 1 (runG refCount () [] acts) = [.srcSubscribe 0, .connect, .srcUnsubscribe 0, .disconnect] := by
  decide +kernel

/-! ### The catalogue, one level up: applications of one operator function

An application of an operator to a source, with all the subscriptions made to the result, is one
instance (`Sys.lift`); the operator function's own state is the shared state.  For the handler
records of the element-wise (`Ops.Op`) and aggregating (`Agg.Op`) families (the list is in
`RxProofs/C04.lean`) that state is trivial, so `apply_independent` applies to every one of them. -/
section catalogue
open Struct.Catalogue

/-- **catalogue_apply_independent.** For every `Ops.Op` record: what application `j` (all its
subscriptions together) emits under any interleaving with the other applications of the same operator
function is what it emits alone on a fresh operator. -/
theorem catalogue_ops_apply_independent {α β : Type} (lag : Bool) (op : Ops.Op α β)
    (acts : List (Act (Act (Notif α)))) (j : Nat) :
    outputsOf j (runG (ofOps lag op).lift () [] acts) = runI (ofOps lag op).lift () none (restrict j acts) :=
  apply_independent _ (lift_framed _ (ofOps_framed lag op)) () acts j

theorem catalogue_agg_apply_independent {α β : Type} (lag : Bool) (op : Agg.Op α β)
    (acts : List (Act (Act (Notif α)))) (j : Nat) :
    outputsOf j (runG (ofAgg lag op).lift () [] acts) = runI (ofAgg lag op).lift () none (restrict j acts) :=
  apply_independent _ (lift_framed _ (ofAgg_framed lag op)) () acts j

theorem refcount_lift_framed : Framed refCount.lift := lift_framed _ refcount_framed

/-- two applications of one `skip(1)` operator function, one subscription each, interleaved -/
example :
    runG (ofOps false (Ops.skipOp (α := Nat) 1)).lift () []
      [.create 0, .create 1, .act 0 (.create 0), .act 1 (.create 0), .act 0 (.act 0 (.next 5)), .act 1 (.act 0 (.next 6)),
       .act 0 (.act 0 (.next 7)), .act 1 (.act 0 (.next 8))]
    = [(0, (0, .next 7)), (1, (0, .next 8))] := by decide +kernel
end catalogue

example : factoryOk ⟨"operators/_x.py", "x_", "x_", "count", .cell, 0, some 2, false, true⟩ = false := by decide +kernel
example : factoryOk ⟨"operators/_x.py", "x_", "x_", "rs", .subject, 0, none, true, true⟩ = false := by decide +kernel
example : factoryOk ⟨"operators/_x.py", "x_", "x_/x", "count", .cell, 1, some 3, false, true⟩ = true := by decide +kernel
example : factoryOk ⟨"observable/x.py", "x_", "x_", "it", .oneshot, 0, some 3, false, false⟩ = true := by decide +kernel

end C44
