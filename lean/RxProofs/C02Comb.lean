import RxProofs.Lemmas.CombN
import RxProofs.Lemmas.CombHO
import RxProofs.Lemmas.CombSeq
/-!
# C02Comb — release statements for the L2 trace machines of the Comb family

`Plumb.live` is the list of source subscriptions the operator currently holds, in the order in which the disposable it
returned disposes them.  Two facts hold for EVERY machine of the frame (`RxModel/Comb.lean`), every state with well-formed
plumbing (all reachable states are) and every event:

* `terminal_releases_all` — in the step in which a terminal goes out downstream the live set becomes empty, and every
  subscription that was open before that step or opened during it gets its `unsub` effect in that very step (at the
  emission the live ones are closed in container order: `Plumb.act`);
* `dispose_releases_all` — a `dispose` event closes every live subscription in container order, and from then on the
  live set stays empty, nothing is emitted and (when the operator's scheduled action does nothing once cancelled —
  true of all machines here) nothing is subscribed.

The per-machine instances (zip, combine_latest, with_latest_from, fork_join, amb, merge_all, merge(max_concurrent), switch,
the sequential machines and catch(handler); not `ambNestedM`, not the `phased` machines) quantify over every event list
from the machine's subscription state.
-/
open Comb

namespace C02Comb

theorem acts_release {β} (as : List (Act β)) (p : Plumb) (hwf : p.WF) (hd : (p.acts as).1.done = true) (k : Nat)
    (hk : k ∈ p.live ∨ Eff.sub k ∈ (p.acts as).2) : Eff.unsub k ∈ (p.acts as).2 := by
  cases hp : p.done
  · rw [acts_open as p hp] at hd hk ⊢
    exact unsub_mem_openEffs as k _ hd hk
  · rw [(late_subscriptions_closed as p hwf hp).1] at hk ⊢
    exact unsub_mem_lateEffs as k (hk.resolve_left (by rw [hwf hp]; exact nofun))

/-- within the step that emits the terminal: once the terminal went out, the rest of the handler's subscriptions are
subscribe+unsubscribe pairs (`pre` = the actions up to and including the terminal emission) -/
theorem subscriptions_after_terminal_closed {β} (p : Plumb) (hwf : p.WF) (pre post : List (Act β))
    (hd : (p.acts pre).1.done = true) :
    (p.acts (pre ++ post)).2 = (p.acts pre).2 ++ lateEffs post := by
  rw [acts_append]
  simp only
  rw [(late_subscriptions_closed post _ (acts_WF p pre hwf) hd).1]

/-- **terminal_releases_all** (any machine, any well-formed state, any event). -/
theorem terminal_releases_all {σ ι β} (m : Machine σ ι β) (st : St σ) (e : Ev ι) (h : st.p.WF)
    (ht : (emits (step m st e).2).any Notif.isTerminal = true) :
    (step m st e).1.p.live = [] ∧ (step m st e).1.p.done = true ∧
    ∀ k, (k ∈ st.p.live ∨ Eff.sub k ∈ (step m st e).2) → Eff.unsub k ∈ (step m st e).2 := by
  obtain ⟨x, hx, hxt⟩ := List.any_eq_true.mp ht
  have hd := done_of_emits_terminal m st e x hx hxt
  refine ⟨step_WF m st e h hd, hd, ?_⟩
  by_cases he : e = .dispose
  · subst he; rw [step_dispose, emits_map_unsub] at hx; cases hx
  · rw [step_eq m st e he] at hd ⊢
    exact acts_release _ st.p h hd

/-- **dispose_releases_all** (any machine, any state): after a `dispose` the live set is empty and stays empty
whatever follows, nothing is emitted, and — if the machine's scheduled action does nothing once cancelled — no source is
subscribed or unsubscribed any more. -/
theorem dispose_releases_all {σ ι β} (m : Machine σ ι β) (st : St σ) (post : List (Ev ι)) :
    (step m st .dispose).2 = st.p.live.map Eff.unsub ∧
    (final m (step m st .dispose).1 post).p.live = [] ∧
    emits (run m st (.dispose :: post)) = [] ∧
    ((∀ s, (m.tick s true).2 = []) →
      subsOf (run m (step m st .dispose).1 post) = [] ∧ unsubsOf (run m (step m st .dispose).1 post) = []) := by
  have hwf : Plumb.WF ⟨true, []⟩ := fun _ => rfl
  rw [run_cons, step_dispose]
  refine ⟨rfl, by rw [run_stopped m post _ hwf rfl], ?_, fun htick => by
    rw [run_stopped_silent m htick post _ hwf rfl]; exact ⟨rfl, rfl⟩⟩
  rw [emits_append, emits_map_unsub, emits_run_done m post _ rfl]; rfl

/-- the statement of `terminal_releases_all` for one machine, over every event list from its start state -/
def TerminalReleases {σ ι β} (m : Machine σ ι β) (init : St σ) : Prop :=
  ∀ (es : List (Ev ι)) (e : Ev ι), (emits (step m (final m init es) e).2).any Notif.isTerminal = true →
    (step m (final m init es) e).1.p.live = [] ∧
    ∀ k, (k ∈ (final m init es).p.live ∨ Eff.sub k ∈ (step m (final m init es) e).2) →
      Eff.unsub k ∈ (step m (final m init es) e).2

/-- the statement of `dispose_releases_all` for one machine: a dispose anywhere in any event list closes the live
subscriptions in container order; afterwards nothing is live, emitted or subscribed -/
def DisposeReleases {σ ι β} (m : Machine σ ι β) (init : St σ) : Prop :=
  ∀ (pre post : List (Ev ι)),
    (step m (final m init pre) .dispose).2 = (final m init pre).p.live.map Eff.unsub ∧
    (final m init (pre ++ .dispose :: post)).p.live = [] ∧
    emits (run m init (pre ++ .dispose :: post)) = emits (run m init pre) ∧
    subsOf (run m init (pre ++ .dispose :: post)) = subsOf (run m init pre)

theorem terminal_releases_all_run {σ ι β} (m : Machine σ ι β) (init : St σ) (hi : init.p.WF) : TerminalReleases m init :=
  fun es e ht =>
    let r := terminal_releases_all m _ e (final_WF m init es hi) ht
    ⟨r.1, r.2.2⟩

theorem dispose_releases_all_run {σ ι β} (m : Machine σ ι β) (init : St σ)
    (htick : ∀ s, (m.tick s true).2 = []) : DisposeReleases m init := by
  intro pre post
  have r := dispose_releases_all m (final m init pre) post
  refine ⟨r.1, ?_, ?_, ?_⟩
  · rw [final_append]; exact r.2.1
  · rw [run_append, emits_append, r.2.2.1, List.append_nil]
  · rw [run_append, run_cons, subsOf_append, subsOf_append, (r.2.2.2 htick).1, r.1]; simp

section
variable {α : Type}

theorem terminal_releases_all_zip (n : Nat) : TerminalReleases (zipM (α := α) n) (zipInit n) :=
  terminal_releases_all_run (zipM (α := α) n) (zipInit n) (WF_of_not_done _ rfl)

theorem dispose_releases_all_zip (n : Nat) : DisposeReleases (zipM (α := α) n) (zipInit n) :=
  dispose_releases_all_run (zipM (α := α) n) (zipInit n) (fun _ => rfl)

theorem terminal_releases_all_combine_latest (n : Nat) : TerminalReleases (clM (α := α) n) (clInit n) :=
  terminal_releases_all_run (clM (α := α) n) (clInit n) (WF_of_not_done _ rfl)

theorem dispose_releases_all_combine_latest (n : Nat) : DisposeReleases (clM (α := α) n) (clInit n) :=
  dispose_releases_all_run (clM (α := α) n) (clInit n) (fun _ => rfl)

theorem terminal_releases_all_with_latest_from (m : Nat) : TerminalReleases (wlfM (α := α) m) (wlfInit m) :=
  terminal_releases_all_run (wlfM (α := α) m) (wlfInit m) (WF_of_not_done _ rfl)

theorem dispose_releases_all_with_latest_from (m : Nat) : DisposeReleases (wlfM (α := α) m) (wlfInit m) :=
  dispose_releases_all_run (wlfM (α := α) m) (wlfInit m) (fun _ => rfl)

theorem terminal_releases_all_fork_join (n : Nat) : TerminalReleases (fjM (α := α) n) (fjInit n) :=
  terminal_releases_all_run (fjM (α := α) n) (fjInit n) (WF_of_not_done _ rfl)

theorem dispose_releases_all_fork_join (n : Nat) : DisposeReleases (fjM (α := α) n) (fjInit n) :=
  dispose_releases_all_run (fjM (α := α) n) (fjInit n) (fun _ => rfl)

theorem terminal_releases_all_amb (n : Nat) : TerminalReleases (ambM (α := α) n) (ambInit n) :=
  terminal_releases_all_run (ambM (α := α) n) (ambInit n) (amb_init_inv n).wf

theorem dispose_releases_all_amb (n : Nat) : DisposeReleases (ambM (α := α) n) (ambInit n) :=
  dispose_releases_all_run (ambM (α := α) n) (ambInit n) (fun _ => rfl)

theorem terminal_releases_all_amb2 : TerminalReleases (ambM (α := α) 2) amb2Init :=
  terminal_releases_all_run (ambM (α := α) 2) amb2Init amb2_init_inv.wf

theorem dispose_releases_all_amb2 : DisposeReleases (ambM (α := α) 2) amb2Init :=
  dispose_releases_all_run (ambM (α := α) 2) amb2Init (fun _ => rfl)

theorem terminal_releases_all_merge_all : TerminalReleases (maM (α := α)) (hoInit {}) :=
  terminal_releases_all_run (maM (α := α)) (hoInit {}) (WF_of_not_done _ rfl)

theorem dispose_releases_all_merge_all : DisposeReleases (maM (α := α)) (hoInit {}) :=
  dispose_releases_all_run (maM (α := α)) (hoInit {}) (fun _ => rfl)

theorem terminal_releases_all_merge_maxc (maxc : Nat) : TerminalReleases (mcM (α := α) maxc) (hoInit {}) :=
  terminal_releases_all_run (mcM (α := α) maxc) (hoInit {}) (WF_of_not_done _ rfl)

theorem dispose_releases_all_merge_maxc (maxc : Nat) : DisposeReleases (mcM (α := α) maxc) (hoInit {}) :=
  dispose_releases_all_run (mcM (α := α) maxc) (hoInit {}) (fun _ => rfl)

theorem terminal_releases_all_switch : TerminalReleases (swM (α := α)) (hoInit {}) :=
  terminal_releases_all_run (swM (α := α)) (hoInit {}) (WF_of_not_done _ rfl)

theorem dispose_releases_all_switch : DisposeReleases (swM (α := α)) (hoInit {}) :=
  dispose_releases_all_run (swM (α := α)) (hoInit {}) (fun _ => rfl)

/-! `seq` = concat / catch / on_error_resume_next and every derived form (`items` arbitrary: repeat(n), retry(n), while_do,
for_in, …); the `subsOf` clause of its dispose theorem is the cancellation of the pending scheduled action. -/

theorem terminal_releases_all_seq (kind : SeqKind) (items : Nat → Item) : TerminalReleases (seqM (α := α) kind items) seqInit :=
  terminal_releases_all_run (seqM (α := α) kind items) seqInit seq_init_inv.wf

theorem dispose_releases_all_seq (kind : SeqKind) (items : Nat → Item) : DisposeReleases (seqM (α := α) kind items) seqInit :=
  dispose_releases_all_run (seqM (α := α) kind items) seqInit (seqTick_done kind items)

theorem terminal_releases_all_seq_inline (kind : SeqKind) (items : Nat → Item) : TerminalReleases (seqInlineM (α := α) kind items) seqInit :=
  terminal_releases_all_run (seqInlineM (α := α) kind items) seqInit seq_init_inv.wf

theorem dispose_releases_all_seq_inline (kind : SeqKind) (items : Nat → Item) : DisposeReleases (seqInlineM (α := α) kind items) seqInit :=
  dispose_releases_all_run (seqInlineM (α := α) kind items) seqInit (seqTick_done kind items)

theorem terminal_releases_all_catch_handler (res : Except Err Unit) : TerminalReleases (chM (α := α) res) chInit :=
  terminal_releases_all_run (chM (α := α) res) chInit ch_init_inv.wf

theorem dispose_releases_all_catch_handler (res : Except Err Unit) : DisposeReleases (chM (α := α) res) chInit :=
  dispose_releases_all_run (chM (α := α) res) chInit (fun _ => rfl)

end

/-- non-vacuity: zip of 3, source 1 errors: the error goes out and 0, 1, 2 are closed in container order in that step -/
example : (step (zipM (α := Nat) 3) (zipInit 3) (.src 1 (.error "e"))).2
    = [.emit (.error "e"), .unsub 0, .unsub 1, .unsub 2] := by decide

/-- non-vacuity: merge(max_concurrent=1) with a queued inner, disposed: outer and the live inner closed, the queued one never starts -/
example : run (mcM (α := Nat) 1) (hoInit {})
    [.src 0 (.next (.obs 0)), .src 0 (.next (.obs 1)), .dispose, .src 1 .completed, .src 0 .completed]
    = [.sub 1, .unsub 0, .unsub 1] := by decide

end C02Comb
