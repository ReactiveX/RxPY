import RxProofs.Lemmas.Thr2Lock
import RxProofs.Lemmas.Thr2Merge
import RxProofs.Lemmas.Thr2Amb
import RxGen.Locks
/-!
# C43 — combinators serialize concurrently emitting sources

The system: any number of threads (`progs : Nat → TProg σ α`, all but finitely many `halt` in practice,
but nothing depends on that), one shared operator state, one lock, one downstream
`AutoDetachObserver`.  A schedule is any list of thread indices (`runSched`).  Handler programs are
resumable and state-dependent, so the theorems hold for every operator whose handlers have the
stated locking shape — which `locks_table_ok` checks for the real combinators, row by row of the table
regenerated on every run (no theorem maps a table row to a program).
-/

namespace C43
open Thr2

/-- **locked_calls_exclusive.** If no thread ever calls the downstream observer outside the lock
(state steps outside the lock are allowed), then for every number of threads and every schedule:
at no time are two threads inside a downstream callback, and the subscriber has seen
`next* (error|completed)?` — although the observer's `is_stopped` test and its update are separate
atomic steps. -/
theorem locked_calls_exclusive {σ α} (s0 : σ) (progs : Nat → TProg σ α) (hp : ∀ i, NoUCall (progs i))
    (sch : List Nat) :
    (runSched (init s0 progs) sch).maxActive ≤ 1 ∧ Grammar (runSched (init s0 progs) sch).delivered :=
  serial_of_inv LInv LInv_excl step_LInv s0 progs (init_LInv s0 progs hp) sch

/-- **locked_paths_serialize.** If every handler is a locked block (every downstream call *and* every
state step under the one lock), then after any schedule of any number of threads the operator state
and the sequence of downstream calls are those of the *sequential* machine that runs whole handlers
atomically in the order in which the threads acquired the lock, completed by what the block in
progress (if any) still does.  (`locked_calls_exclusive` applies to such programs by
`AllLocked.noUCall`.) -/
theorem locked_paths_serialize {σ α} (s0 : σ) (progs : Nat → TProg σ α) (hp : ∀ i, AllLocked (progs i))
    (sch : List Nat) :
    let S := runSched (init s0 progs) sch
    let q := Seq.run { st := s0, calls := [], thr := progs } S.acq
    q.st = (pending S).1 ∧ q.calls = S.calls ++ (pending S).2 ∧
      (S.lock = none → q.st = S.st ∧ q.calls = S.calls) := by
  intro S q
  have h := runSched_inv (SInv { st := s0, calls := [], thr := progs }) (step_SInv _) sch (init s0 progs)
    (init_SInv s0 progs hp)
  refine ⟨h.st, h.calls, fun hl => ?_⟩
  have hp' : pending S = (S.st, []) := pending_free hl
  exact ⟨h.st.trans (by rw [hp']), h.calls.trans (by rw [hp', List.append_nil])⟩

/-- **serialized_grammar.** Hence: if the operator's *sequential* handler machine only ever produces
well-formed call sequences (whatever the order of the handlers), so does every concurrent run.  (`hseq` holds
only for operators that test their own done-flag; `Grammar delivered` holds regardless, by `locked_calls_exclusive`.) -/
theorem serialized_grammar {σ α} (s0 : σ) (progs : Nat → TProg σ α) (hp : ∀ i, AllLocked (progs i))
    (hseq : ∀ lin, Grammar (Seq.run { st := s0, calls := [], thr := progs } lin).calls)
    (sch : List Nat) : Grammar (runSched (init s0 progs) sch).calls := by
  have h := (locked_paths_serialize s0 progs hp sch).2.1
  exact Grammar.prefix _ _ (h ▸ hseq _)

/-- **amb_serial.** `amb` calls downstream *outside* the lock; still, for any two notification
sequences of the sides (conforming or not, the loser may go on emitting) and any schedule, no two
threads are ever inside a downstream callback and the subscriber sees a well-formed sequence:
the choice is made once, under the lock, and only the chosen side passes the test. -/
theorem amb_serial {α} (ls rs : List (Notif α)) (sch : List Nat) :
    (runSched (init none (ambProgs ls rs)) sch).maxActive ≤ 1 ∧
      Grammar (runSched (init none (ambProgs ls rs)) sch).delivered :=
  token_serial BUpd BW BW_excl BW_stable _ _ (tok_ambProgs ls rs) sch

/-- **guarded_terminal_final.** Programs may mix locked blocks, atomic steps OUTSIDE the lock (operations on a
self-synchronised container such as `group.add`) and unlocked calls.  If, as a property of the program text,
(`HQT`) from any state satisfying `Q` no step makes a downstream call and `Q` is kept, and (`EMT`) every step
that makes the call `c` lands in `Q`, then for any number of threads and any schedule the call `c` is made at
most once and nothing is called after it (operator level, before the downstream observer filters anything),
and once it has been made `Q` holds. -/
theorem guarded_terminal_final {σ α} (Q : σ → Prop) (c : Notif α) (s0 : σ) (progs : Nat → TProg σ α)
    (h1 : ∀ i, HQT Q (progs i)) (h2 : ∀ i, EMT Q c (progs i)) (sch : List Nat) :
    Final c (runSched (init s0 progs) sch).calls ∧
      (c ∈ (runSched (init s0 progs) sch).calls → Q (runSched (init s0 progs) sch).st) := by
  have h := runSched_inv (FInv Q c) (step_FInv Q c) sch (init s0 progs)
    (init_FInv Q c s0 progs h1 h2)
  exact ⟨h.final, h.inQ⟩

/-- **merge_all_grammar.** `merge_all` / `flat_map` (outer `on_next` = `group.add` as an atomic step outside the
lock, everything else under `source.lock`): for every sequence of outer events, any number of inner sources
with arbitrary notification sequences, and every schedule,
(1) no two threads are ever inside a downstream callback and the subscriber sees `next* terminal?`;
(2) at operator level `on_completed` is called at most once, nothing is called after it, and it is called only
when the outer has completed and no inner subscription is left. -/
theorem merge_all_grammar {α} (outer : List OEv) (inners : Nat → List (Notif α)) (sch : List Nat) :
    let S := runSched (init ({} : MS) (mergeProgs outer inners)) sch
    (S.maxActive ≤ 1 ∧ Grammar S.delivered) ∧
      Final .completed S.calls ∧ (Notif.completed ∈ S.calls → S.st.oc = true ∧ S.st.live = []) := by
  intro S
  have h := mshape_mergeProgs outer inners
  exact ⟨locked_calls_exclusive _ _ (fun i => (h i).noUCall) sch,
    guarded_terminal_final mDone .completed _ _ (fun i => (h i).hqt) (fun i => (h i).emt) sch⟩

/-- **amb_n_serial.** n-ary `amb` (`rx.amb(s₀ … sₙ₋₁)` = the fold of the binary operator: stage `j` has source
`j` on the left and the output of stage `j-1` on the right, its own lock and its own choice cell; each
`with lock: choice_side()` is one atomic test-and-set): for every `n`, all notification sequences (losers
may go on emitting) and every schedule, no two threads are ever inside a downstream callback and the
subscriber sees a well-formed sequence — the source that is the choice of every stage it passes through is
unique. -/
theorem amb_n_serial {α} (n : Nat) (srcs : Nat → List (Notif α)) (sch : List Nat) :
    (runSched (init (fun _ => none) (ambNProgs n srcs)) sch).maxActive ≤ 1 ∧
      Grammar (runSched (init (fun _ => none) (ambNProgs n srcs)) sch).delivered :=
  token_serial AUpd (fun i => AK n i n) (AK_excl n) (fun i => AK_stable n i n) _ _ (tok_ambNProgs n srcs) sch

/-! The hypothesis is necessary — this is the defect of the unfixed `zip` / `combine_latest` /
`with_latest_from` / `merge`: thread 0 delivers `on_next` under the lock, thread 1 calls `on_error`
without it. -/

def unlockedDemo : Nat → TProg Unit Nat
  | 0 => .crit (.step id (fun _ => some (.next 1)) (fun _ => .done)) .halt
  | 1 => .ucall (fun _ => some (.error "x")) .halt
  | _ => .halt

/-- **unlocked_call_overlaps.** Two threads inside the downstream observer at once. -/
theorem unlocked_call_overlaps :
    (runSched (init () unlockedDemo) [0, 0, 0, 1, 1]).maxActive = 2 := by decide +kernel

/-- **unlocked_call_breaks_grammar.** Thread 0 has passed the `is_stopped` test, thread 1 delivers the
error, thread 0 then delivers its element: the subscriber sees `error, next`. -/
theorem unlocked_call_breaks_grammar :
    (runSched (init () unlockedDemo) [0, 0, 1, 1, 1, 0]).delivered = [.error "x", .next 1] ∧
      ¬ Grammar (runSched (init () unlockedDemo) [0, 0, 1, 1, 1, 0]).delivered := by decide +kernel

/-- **locks_table_ok.** On the working tree: for every listed combinator the regenerated table
exercises downstream `on_next`, `on_error` and `on_completed`, and one lock is held at every
downstream call and every write to operator state of every handler path (for `amb`: the choice is
written under the lock and every call is made by the chosen side). -/
theorem locks_table_ok : tableOk RxGen.Locks.table = true := by decide +kernel

-- a locked two-thread system: the hypotheses of `locked_calls_exclusive` / `locked_paths_serialize` hold
def lockedDemo : Nat → TProg Nat Nat
  | 0 => .crit (.step (· + 1) (fun s => some (.next s)) (fun _ => .done)) .halt
  | 1 => .crit (.step (· + 10) (fun s => some (.next s)) (fun _ => .step id (fun _ => some .completed) (fun _ => .done))) .halt
  | _ => .halt

example : ∀ i, AllLocked (lockedDemo i) := by
  intro i; match i with
  | 0 => exact .crit .halt
  | 1 => exact .crit .halt
  | _ + 2 => exact .halt
example : ∀ i, NoUCall (lockedDemo i) := by
  intro i; match i with
  | 0 => exact (AllLocked.crit .halt).noUCall
  | 1 => exact (AllLocked.crit .halt).noUCall
  | _ + 2 => exact .halt
-- thread 1 wins the lock while thread 0 tries in between: 0 is blocked, then runs after the release
example : (runSched (init 0 lockedDemo) [1, 1, 0, 1, 0, 1, 1, 1, 1, 1, 0, 0, 0, 0, 0]).delivered
    = [.next 0, .completed] := by decide +kernel
example : (runSched (init 0 lockedDemo) [1, 1, 0, 1, 0, 1, 1, 1, 1, 1, 0, 0, 0, 0, 0]).calls
    = [.next 0, .completed, .next 10] := by decide +kernel
example : (runSched (init 0 lockedDemo) [1, 1, 0, 1, 0, 1, 1, 1, 1, 1, 0, 0, 0, 0, 0]).acq = [1, 0] := by decide +kernel
-- amb: both sides race; the right side is chosen, the left is silenced
example : (runSched (init none (ambProgs [Notif.next 1, .completed] [Notif.next 2, .error "e"]))
    [1, 0, 1, 1, 0, 0, 0, 1, 1, 1, 1, 1, 1, 1, 1, 1, 0, 0, 0, 0, 0]).delivered = [.next 2, .error "e"] := by decide +kernel

-- merge_all: the outer emits inner 0 and completes, inner 0 emits and completes on its own thread:
-- `completed` is called by the inner's handler (the last subscription leaving the group), once
example : (runSched (init ({} : MS) (mergeProgs [.inner 0, .comp] (fun _ => [Notif.next 7, .completed])))
    [0, 1, 1, 1, 1, 1, 1, 0, 0, 0, 1, 1, 1, 1, 1, 1]).calls = [.next 7, .completed] := by decide +kernel
-- the outer completes with no inner subscribed: `completed` is called by the outer's own handler
example : (runSched (init ({} : MS) (mergeProgs [.comp] (fun _ => [])))
    [0, 0, 0, 0, 0, 0]).calls = [Notif.completed (α := Nat)] := by decide +kernel
-- three-way amb: source 1 wins its own stage and stage 2; sources 0 and 2 are silenced
example : (runSched (init (fun _ => none) (ambNProgs 3 (fun i => [Notif.next i, .completed])))
    [1, 1, 0, 2, 0, 1, 1, 1, 1, 1, 1, 1, 1, 2, 0]).delivered = [.next 1, .completed] := by decide +kernel

end C43
