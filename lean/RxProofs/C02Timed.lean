import RxProofs.Lemmas.TimedMap
import RxProofs.Lemmas.TimedDelay
import RxProofs.Lemmas.TimedSim
/-!
# C02/C03 support for the timed operators — a terminal or a dispose leaves nothing live

Subject: the small-step scheduler simulation `simStep` of `RxModel/TimedSim.lean` (queue of scheduled items, the
operators' own handler functions) with the resources explicit: `srcLive` (the source subscription), `timersOf queue`
(scheduled, not cancelled actions), `otherLive` (timeout's fallback subscription).  `SimSt.dispose held` is the dispose
of what `subscribe` returned — `CompositeDisposable(source subscription, timer container)` in debounce, timeout,
take/skip(_until)_with_time —: it releases the source, the fallback and the action *held by the container*.

Every statement is about ONE step of `simStep`, or one dispose, from a state satisfying `SimSt.Owned` (at most one scheduled
action, the one the container holds); the initial states are owned (`initial_owned`) and a step keeps a state owned
(`owned_step`).  The induction over a run is not stated, and no theorem relates `simStep` to `simRun`, the machine of the
`*_sim_bridge` theorems of C16/C17.  For the trace machines (`*_with_mapper`) "released" is `done`.
-/

namespace C02Timed
open Timed

variable {σ α β P : Type}

theorem timersOf_cons_src (t : Nat) (n : Notif α) (q : SQueue α P) : timersOf ((t, SItem.src n) :: q) = timersOf q := rfl
theorem timersOf_cons_timer (t : Nat) (p : P) (q : SQueue α P) : timersOf ((t, SItem.timer p) :: q) = p :: timersOf q := rfl

theorem timersOf_cancel (q : SQueue α P) : timersOf (cancelTimers q) = [] := by
  induction q with
  | nil => rfl
  | cons a q ih =>
    obtain ⟨t, it⟩ := a
    cases it with
    | src n => rw [cancelTimers_cons_src, timersOf_cons_src, ih]
    | timer p => rw [cancelTimers_cons_timer, ih]

theorem timersOf_insert (due : Nat) (p : P) (q : SQueue α P) (h : timersOf q = []) :
    timersOf (insertEv (due, SItem.timer p) q) = [p] := by
  induction q with
  | nil => rfl
  | cons a q ih =>
    obtain ⟨t, it⟩ := a
    cases it with
    | src n =>
      rw [timersOf_cons_src] at h
      by_cases hlt : due < t
      · simp only [insertEv, hlt, if_true, timersOf_cons_timer, timersOf_cons_src, h]
      · simp only [insertEv, hlt, if_false, timersOf_cons_src, ih h]
    | timer p' => rw [timersOf_cons_timer] at h; cases h

theorem timersOf_applyEff (eff : TEff P) (q : SQueue α P) :
    timersOf (applyEff eff q) =
      match eff with
      | .keep => timersOf q
      | .cancel => []
      | .arm _ p => [p] := by
  cases eff with
  | keep => rfl
  | cancel => exact timersOf_cancel q
  | arm due p => exact timersOf_insert due p _ (timersOf_cancel q)

theorem timersOf_dispose [DecidableEq P] (held : σ → Option P) (x : SimSt σ α P)
    (h : ∀ p ∈ timersOf x.queue, held x.st = some p) : timersOf (x.dispose held).queue = [] := by
  unfold SimSt.dispose
  simp only
  generalize held x.st = hv at h ⊢
  generalize x.queue = q at h
  induction q with
  | nil => rfl
  | cons a q ih =>
    obtain ⟨t, it⟩ := a
    cases it with
    | src n =>
      simp only [List.filter_cons, if_true, timersOf_cons_src]
      exact ih h
    | timer p =>
      have hp : hv = some p := h p (by rw [timersOf_cons_timer]; exact List.mem_cons_self ..)
      have hd : decide (hv = some p) = true := by simp [hp]
      simp only [List.filter_cons, hd, Bool.not_true, Bool.false_eq_true, if_false]
      exact ih (fun p' hp' => h p' (by rw [timersOf_cons_timer]; exact List.mem_cons_of_mem _ hp'))

theorem owned_dispose [DecidableEq P] (held : σ → Option P) (x : SimSt σ α P) (h : x.Owned held) :
    (x.dispose held).Owned held := by
  have := timersOf_dispose held x h.2
  exact ⟨by rw [this]; simp, by rw [this]; intro p hp; cases hp⟩

/-- **dispose_cancels_timers.**  Disposing the disposable returned by `subscribe`, in any state satisfying `Owned`, leaves no
source subscription, no fallback subscription and no scheduled action. -/
theorem dispose_cancels_timers [DecidableEq P] (held : σ → Option P) (x : SimSt σ α P) (h : x.Owned held) :
    (x.dispose held).liveCount = 0 := by
  have := timersOf_dispose held x h.2
  unfold SimSt.liveCount
  rw [this]
  simp [SimSt.dispose]

/-- A step is: the handler reaches an owned state `y` with calls `l`, and the result is `y` disposed iff `l` holds a terminal
(a source item met after the source subscription was stopped is the case `l = []`). -/
theorem simStep_owned [DecidableEq P] (op : SimOp σ α β P) (held : σ → Option P) (laws : HeldLaws op held)
    (x x' : SimSt σ α P) (out : TL β) (h : x.Owned held) (hs : simStep op held x = some (x', out)) :
    ∃ (y : SimSt σ α P) (t : Nat) (l : List (Notif β)),
      y.Owned held ∧ out = at_ t l ∧ x' = if hasTerm l then y.dispose held else y := by
  obtain ⟨hlen, hheld⟩ := h
  unfold simStep at hs
  cases hq : x.queue with
  | nil => rw [hq] at hs; cases hs
  | cons a q =>
    obtain ⟨due, it⟩ := a
    rw [hq] at hs hlen hheld
    cases it with
    | src n =>
      rw [timersOf_cons_src] at hlen hheld
      simp only at hs
      cases hl : x.srcLive with
      | false =>
        simp only [hl, Bool.false_eq_true, if_false, Option.some.injEq, Prod.mk.injEq] at hs
        obtain ⟨rfl, rfl⟩ := hs
        exact ⟨_, 0, [], ⟨hlen, hheld⟩, rfl, rfl⟩
      | true =>
        simp only [hl, if_true, Option.some.injEq, Prod.mk.injEq] at hs
        obtain ⟨rfl, rfl⟩ := hs
        refine ⟨_, _, _, ?_, rfl, rfl⟩
        show (timersOf (applyEff (op.onSrc (max x.clk due) x.st n).2.2 q)).length ≤ 1 ∧
            ∀ p ∈ timersOf (applyEff (op.onSrc (max x.clk due) x.st n).2.2 q), held (op.onSrc (max x.clk due) x.st n).1 = some p
        rw [timersOf_applyEff]
        cases heff : (op.onSrc (max x.clk due) x.st n).2.2 with
        | keep => exact ⟨hlen, fun p hp => laws.keep _ _ _ p heff (hheld p hp)⟩
        | cancel => exact ⟨Nat.zero_le _, fun p hp => nomatch hp⟩
        | arm d p =>
          refine ⟨Nat.le_refl _, fun p' hp' => ?_⟩
          obtain rfl := List.mem_singleton.1 hp'
          exact laws.arm _ _ _ d p' heff
    | timer p =>
      -- the action that runs was the only one scheduled
      rw [timersOf_cons_timer] at hlen
      have hnil : timersOf q = [] := List.eq_nil_of_length_eq_zero (Nat.le_zero.1 (Nat.le_of_succ_le_succ hlen))
      simp only [Option.some.injEq, Prod.mk.injEq] at hs
      obtain ⟨rfl, rfl⟩ := hs
      refine ⟨_, _, _, ?_, rfl, rfl⟩
      show (timersOf q).length ≤ 1 ∧ ∀ p' ∈ timersOf q, held (op.onTimer (max x.clk due) x.st p).1 = some p'
      rw [hnil]
      exact ⟨Nat.zero_le _, fun p hp => nomatch hp⟩

theorem owned_step [DecidableEq P] (op : SimOp σ α β P) (held : σ → Option P) (laws : HeldLaws op held)
    (x x' : SimSt σ α P) (out : TL β) (h : x.Owned held) (hs : simStep op held x = some (x', out)) : x'.Owned held := by
  obtain ⟨y, _, l, hy, -, rfl⟩ := simStep_owned op held laws x x' out h hs
  split
  · exact owned_dispose held y hy
  · exact hy

/-- **terminal_releases_all.**  The step in which the operator sends a terminal downstream (so that the subscriber's
`AutoDetachObserver` disposes what `subscribe` returned) leaves no live source subscription, no fallback subscription and
no scheduled action. -/
theorem terminal_releases_all [DecidableEq P] (op : SimOp σ α β P) (held : σ → Option P) (laws : HeldLaws op held)
    (x x' : SimSt σ α P) (out : TL β) (h : x.Owned held) (hs : simStep op held x = some (x', out))
    (hterm : hasTerm (out.map (·.2)) = true) : x'.liveCount = 0 := by
  obtain ⟨y, t, l, hy, rfl, rfl⟩ := simStep_owned op held laws x x' out h hs
  rw [map_snd_at] at hterm
  rw [if_pos hterm]
  exact dispose_cancels_timers held y hy

/-- **released_is_silent.**  Once nothing is live, whatever is still in the queue (the hot source's remaining messages)
produces no output and nothing becomes live again. -/
theorem released_is_silent [DecidableEq P] (op : SimOp σ α β P) (held : σ → Option P) (x x' : SimSt σ α P) (out : TL β)
    (h : x.liveCount = 0) (hs : simStep op held x = some (x', out)) : out = [] ∧ x'.liveCount = 0 := by
  unfold SimSt.liveCount at h
  have hsrc : x.srcLive = false := by cases hh : x.srcLive <;> simp [hh] at h ⊢
  have hoth : x.otherLive = false := by cases hh : x.otherLive <;> simp [hh] at h ⊢
  have htm : timersOf x.queue = [] := by
    cases hh : timersOf x.queue with
    | nil => rfl
    | cons b l => rw [hh] at h; simp at h
  unfold simStep at hs
  cases hq : x.queue with
  | nil => rw [hq] at hs; cases hs
  | cons a q =>
    obtain ⟨due, it⟩ := a
    rw [hq] at hs htm
    cases it with
    | src n =>
      rw [timersOf_cons_src] at htm
      simp only [hsrc, Bool.false_eq_true, if_false, Option.some.injEq, Prod.mk.injEq] at hs
      obtain ⟨rfl, rfl⟩ := hs
      exact ⟨rfl, by simp [SimSt.liveCount, hoth, htm]⟩
    | timer p => rw [timersOf_cons_timer] at htm; cases htm

theorem debounce_held_laws (d : Nat) : HeldLaws (debOp (α := α) d) debHeld where
  arm now s n due p h := by
    cases n with
    | next x => rw [debOp_onSrc_next] at h ⊢; cases h; rfl
    | error e => cases h
    | completed => cases h
  keep now s n p h := by
    cases n with
    | next x => rw [debOp_onSrc_next] at h; cases h
    | error e => cases h
    | completed => cases h

theorem timeout_held_laws (mode : Due) : HeldLaws (toOp (α := α) mode) toHeld where
  arm now s n due p h := by
    cases hsw : s.switched
    · cases n with
      | next v => rw [toOp_onSrc_next mode now s v hsw] at h ⊢; cases h; rfl
      | error e => cases h
      | completed => cases h
    · rw [toOp_onSrc_switched mode now s n hsw] at h; cases h
  keep now s n p h hp := by
    cases hsw : s.switched
    · cases n with
      | next v => rw [toOp_onSrc_next mode now s v hsw] at h; cases h
      | error e => rw [toOp_onSrc_terminal mode now s _ hsw rfl]; exact hp
      | completed => rw [toOp_onSrc_terminal mode now s _ hsw rfl]; exact hp
    · rw [toOp_onSrc_switched mode now s n hsw]; exact hp

/-- take/skip(_until)_with_time: the one timer is a member of the returned CompositeDisposable itself -/
theorem unit_held_laws (op : SimOp σ α β Unit) : HeldLaws op (fun _ => some ()) where
  arm _ _ _ _ _ _ := rfl
  keep _ _ _ _ _ _ := rfl

theorem take_with_time_held_laws : HeldLaws (twtOp (α := α)) (fun _ => some ()) := unit_held_laws _

theorem skip_with_time_held_laws : HeldLaws (swtOp (α := α)) (fun _ => some ()) := unit_held_laws _

/-- the initial states are owned: only the source's messages and (timeout, take/skip) the one initial timer -/
theorem initial_owned (held : σ → Option P) (clk : Nat) (msgs : TL α) (s : σ) (tm : Option (Nat × P))
    (h : ∀ due p, tm = some (due, p) → held s = some p) :
    SimSt.Owned held ({ clk := clk, queue := simQueue msgs tm, st := s } : SimSt σ α P) := by
  have hsrc : timersOf (srcItems (P := P) msgs) = [] := by rw [← cancelTimers_srcItems msgs]; exact timersOf_cancel _
  cases tm with
  | none => exact ⟨by simp [simQueue, hsrc], by simp [simQueue, hsrc]⟩
  | some dp =>
    obtain ⟨due, p⟩ := dp
    have := timersOf_insert due p _ hsrc
    refine ⟨by simp [simQueue, this], ?_⟩
    intro p' hp'
    simp only [simQueue, this, List.mem_singleton] at hp'
    subst hp'
    exact h due p' rfl

/-- a machine that is `done` (a terminal went downstream, or it was disposed) reacts to no event: every subscription it
made — source, inner observables, subscription delay — is released in the sense of the trace semantics -/
theorem machine_done_silent {τ} (step : τ → MEv α → Step τ β) (isDone : τ → Bool) (other : Nat → TL β) (s : τ)
    (h : isDone s = true) (tr : List (Nat × MEv α)) : runTrace step isDone other s tr = [] :=
  runTrace_done step isDone other s h tr

theorem hasTerm_twmEmit_if (s : TwmSt α) (c : Bool) : hasTerm (if c then twmEmit s else []) = false := by
  cases c
  · rfl
  · unfold twmEmit; cases s.value <;> rfl

theorem twm_terminal_sets_done (raises : Nat → α → Option Err) (s : TwmSt α) (ev : MEv α)
    (h : hasTerm (twmStep raises s ev).out = true) : (twmStep raises s ev).st.done = true := by
  cases ev with
  | src n =>
    cases n with
    | next x => cases hr : raises s.count x <;> simp [timeline_simp, twmStep, hr] at h ⊢
    | error e => simp [twmStep]
    | completed => simp [twmStep]
  | inner k sig =>
    cases hl : s.live with
    | none => simp [timeline_simp, twmStep, hl] at h
    | some kc =>
      obtain ⟨k', cur⟩ := kc
      by_cases hk : k' = k
      · cases sig with
        | error e => simp [twmStep, hl, hk]
        | next => simp only [twmStep, hl, hk, if_true, hasTerm_twmEmit_if] at h; cases h
        | completed => simp only [twmStep, hl, hk, if_true, hasTerm_twmEmit_if] at h; cases h
      · simp [timeline_simp, twmStep, hl, hk] at h
  | sub sg => simp [timeline_simp, twmStep] at h

theorem dwm_terminal_sets_done (raises : Nat → α → Option Err) (s : DwmSt α) (ev : MEv α)
    (h : hasTerm (dwmStep raises s ev).out = true) : (dwmStep raises s ev).st.done = true := by
  rcases dwmStep_cases raises s ev with ⟨s', hs⟩ | ⟨s', e, hs, hd⟩ | ⟨s', o, hs, ho⟩
  · rw [hs] at h; cases h
  · rw [hs]; exact hd
  · -- the terminal can only be the completion that `dwmFinish` appends
    rw [hs] at h ⊢
    cases hd : dwmDone s' with
    | nil => rcases ho with rfl | ⟨x, rfl⟩ <;> simp [timeline_simp, dwmFinish, hd] at h
    | cons b l => simp [dwmFinish, hd]

/-- delay: when the scheduled action has delivered everything that was queued (in particular the completion, which is
the last entry) no action is pending and `active` is off -/
theorem delay_drained_no_timer (s : DelaySt α) (now : Nat) (hexc : s.exc = none)
    (h : s.queue.dropWhile (fun q => decide (q.1 ≤ now)) = []) :
    (delayAction now s).1.timer = none ∧ (delayAction now s).1.active = false ∧ (delayAction now s).1.queue = [] := by
  rw [delayAction_nil s now hexc h]
  exact ⟨rfl, rfl, rfl⟩

end C02Timed
