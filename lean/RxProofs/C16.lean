import RxProofs.Lemmas.TimedRate
import RxProofs.Lemmas.TimedMap
import RxProofs.Lemmas.TimedSim
import RxProofs.Lemmas.TimedSimSample
import RxProofs.Lemmas.TimedFeedback
import RxProofs.Lemmas.TimedFeedbackDeb
/-!
# C16 — rate-limiting operators follow their timing rules

Models: `RxModel/TimedRate.lean`, `RxModel/TimedMap.lean` (throttle_with_mapper), `RxModel/TimedSim.lean` (the scheduler queue,
feedback).  Each `…Run` mirrors the operator's handlers and timer against the source timeline with the
virtual-time scheduler's `(due, seq)` rule inlined (the source wins a tie against a timer armed in `on_next`); each
`…Spec` is the rule of the property text, looking only at neighbouring notifications.  The run = rule theorems hold for **all**
timelines (no sortedness is needed: both sides consume the list in order), all due times and all element types; the
bridges to the scheduler queue and the feedback rule are for timelines with non-decreasing times (`Mono`).
-/

namespace C16
open Timed

/-- **throttle_first_rule.**  An emitted element opens a window of `w` ticks; elements arriving inside the window are
dropped; the first element at or after its end (`t ≥ last emitted + w`) is emitted and opens the next window; a
terminal passes at once.  (Equivalently: an element is emitted iff at least `w` passed since the last *emitted* one.) -/
theorem throttle_first_rule {α} (w : Nat) (msgs : TL α) : tfRun w none msgs = tfSpec w msgs :=
  tf_run_eq_spec w none msgs

/-- the handler-level reading of the same rule: with the last emission at `l`, an element at `t` is emitted iff `l + w ≤ t` -/
theorem throttle_first_handler {α} (w l t : Nat) (x : α) :
    (tfOnNext w t (some l) x).2 = (if l + w ≤ t then [Notif.next x] else []) ∧
    (tfOnNext w t none x).2 = [Notif.next x] := by
  by_cases h : l + w ≤ t <;> simp [tfOnNext, h]

example : tfRun 10 none [(201, Notif.next 1), (205, .next 2), (210, .next 3), (211, .next 4), (221, .next 5), (222, .completed)]
    = [(201, .next 1), (211, .next 4), (221, .next 5), (222, .completed)] := by decide

/-- **debounce_emits_iff_quiet.**  For an element at `t` look at the next source notification: if it is later than
`t + d` (or there is none) the element is emitted at `t + d`; if it is a completion at `t' ≤ t + d` the element is
flushed at `t'`, just before the completion; if it is another element or an error at `t' ≤ t + d` the element is dropped.
Terminals pass at once. -/
theorem debounce_emits_iff_quiet {α} (d : Nat) (msgs : TL α) : debRun d {} msgs = debSpec d msgs :=
  deb_run_eq_spec d msgs {} none ⟨rfl, rfl⟩

/-- right after `on_next` the timer held by the SerialDisposable is the one created for the current `_id`, and a value is
pending.  One handler call; the invariant of the run is `Timed.DebPending`. -/
theorem debounce_timer_current {α} (d t : Nat) (s : DebSt α) (x : α) :
    (debOnNext d t s x).timer = some (t + d, (debOnNext d t s x).id) ∧ (debOnNext d t s x).hasValue = true := by
  simp [debOnNext]

/-- gap exactly `d`: the newer element arrives at the instant the timer is due and wins the tie — the older one is dropped -/
example : debRun 10 {} [(201, Notif.next 1), (211, .next 2), (222, .next 3), (225, .completed)]
    = [(221, .next 2), (225, .next 3), (225, .completed)] := by decide
example : debRun 10 {} [(201, Notif.next 1), (205, .error "e")] = [(205, .error "e")] := by decide

/-- **sample_latest_unsampled.**  At every sampler tick `k` the latest source element that arrived since the previous
tick (source first at equal instants; `tf` = the sampler's events were scheduled first) is emitted, if there is one;
a source error is delivered at its own time; after the source completed the next tick emits the pending element (if
any) and completes.  `ticks` is any list of sampler events — `interval(period)` or an arbitrary sampler observable. -/
theorem sample_latest_unsampled {α} (tf : Bool) (msgs : TL α) (ticks : List (Nat × SampEv)) :
    sampRun tf {} msgs ticks = sampSpec tf none msgs ticks := by
  have := samp_run_eq_spec tf ticks msgs {} rfl
  simpa [pendOf] using this

/-- an element is sampled at most once: right after a tick nothing is pending -/
theorem sample_once {α} (s : SampSt α) : pendOf (sampTick s).1 = none := pendOf_tick s

example : sampRun false {} [(205, Notif.next 1), (210, .next 2), (211, .next 3), (235, .completed)]
      [(210, .tick), (220, .tick), (230, .tick), (240, .tick), (250, .tick)]
    = [(210, .next 2), (220, .next 3), (240, .completed)] := by rw [sample_latest_unsampled]; decide

/-- **twm_pending_on_fire** (throttle_with_mapper).  For every event trace — any interleaving of source notifications and
signals of the throttle observables, stale or not — the code (has_value / value / `_id` / SerialDisposable) behaves as
the rule `twmSpec`: a source element becomes the pending element, replacing the previous one; the first signal (element
or completion) of the pending element's own throttle observable emits it and nothing is pending afterwards; signals of
other throttle observables are ignored; source completion flushes the pending element, an error (of the source, of the
mapper, of the pending element's throttle observable) ends the sequence and drops it. -/
theorem twm_pending_on_fire {α} (raises : Nat → α → Option Err) (tr : List (Nat × MEv α)) :
    twmRun raises tr = twmSpec raises tr :=
  (runTrace_map (step1 := twmStep raises) (step2 := twmAbsStep raises) (d1 := (·.done)) (d2 := (·.done)) (fun _ => [])
    (f := twmAbs) (Inv := TwmOk) (fun _ => rfl) (fun s ev h _ => twm_step_abs raises s ev h) tr {} rfl).symm

/-- the emitting step of the rule, spelled out: only the pending element's own throttle observable emits it -/
theorem twm_fire_rule {α} (raises : Nat → α → Option Err) (a : TwmAbs α) (k : Nat) (x : α) (j : Nat)
    (hp : a.pend = some (k, x)) :
    (twmAbsStep raises a (.inner j .next)).out = (if k = j then [Notif.next x] else []) ∧
    (twmAbsStep raises a (.inner j .completed)).out = (if k = j then [Notif.next x] else []) := by
  by_cases h : k = j <;> simp [twmAbsStep, hp, h]

/-- element "a" is superseded by "b" before its throttle fires (the stale signal at 220 is ignored); "b" is emitted
when throttle 1 fires; "c" is flushed by the completion -/
example : twmRun (fun _ _ => none)
    [(210, MEv.src (.next "a")), (215, .src (.next "b")), (220, .inner 0 .next), (225, .inner 1 .completed),
     (230, .src (.next "c")), (231, .src .completed)]
    = [(225, .next "b"), (231, .next "c"), (231, .completed)] := by decide

/-! ## The bridge: the scheduler's `(due, seq)` rule is derived, not assumed

`simStart` / `sampSim` (`RxModel/TimedSim.lean`) run a queue of scheduled items ordered by (due time, insertion order):
the hot source's messages are scheduled first, the operator's actions are scheduled by its handlers when they run, and
the handlers are the same functions as in the two-stream runs.  The theorems below say that this simulation produces
exactly the two-stream run, for every timeline with non-decreasing times. -/

/-- **debounce_sim_bridge.**  Subscribed at clock `sub`, hot source. -/
theorem debounce_sim_bridge {α} (d sub lo : Nat) (msgs : TL α) (h : Mono lo msgs) (hs : sub ≤ lo) :
    simStart (debOp d) (fun _ => []) sub none {} msgs = debRun d {} msgs := by
  have h1 := sim_eq_twoStream (debOp d) (fun _ => ([] : TL α)) (4 * msgs.length) msgs none sub {} (by simp; omega)
  have h2 := deb_fb_run d (fun _ => []) (fun _ => none) (fun _ => false) (fun _ _ h => nomatch h) (4 * msgs.length) msgs none 0
    sub {} (h.weaken hs) (Nat.le_refl _) ⟨rfl, rfl⟩ (fun _ _ h => nomatch h)
  rw [simStart_eq_twoStream, ← h1, ← simRunFb_no_echo _ _ (fun _ => false) _ 0]
  exact h2.trans ((debSpecFb_no_echo d _ msgs 0 none).trans (debounce_emits_iff_quiet d msgs).symm)

/-- **throttle_first_sim_bridge** (no timer: the handler reads the clock of the item being run). -/
theorem throttle_first_sim_bridge {α} (w sub lo : Nat) (msgs : TL α) (h : Mono lo msgs) (hs : sub ≤ lo) :
    simStart (tfOp w) (fun _ => []) sub none none msgs = tfRun w none msgs := by
  rw [simStart_eq_twoStream]
  exact tf_twoStream_eq_run w _ msgs none sub (h.weaken hs)

/-- **sample_tie_rule_derived.**  The source's messages and the sampler's events are two blocks of pre-scheduled items.
If the source's block was scheduled first (hot source created before the sampler, or both cold: the source is
subscribed first) the queue is their stable merge with the source winning ties and the run is `sampRun false`; if the
sampler's block was scheduled first (cold source — scheduled at subscription — against a hot sampler) the sampler wins
ties and the run is `sampRun true`.  This is the rule found by the correspondence, as a theorem about the queue. -/
theorem sample_tie_rule_derived {α} (lo : Nat) (msgs : TL α) (ticks : List (Nat × SampEv)) (h : Mono lo msgs)
    (ht : SortedT (sampTickItems (α := α) ticks)) :
    sampSim (mergeStable (sampSrcItems msgs ++ sampTickItems ticks)) true {} = sampRun false {} msgs ticks
    ∧ sampSim (mergeStable (sampTickItems ticks ++ sampSrcItems msgs)) true {} = sampRun true {} msgs ticks := by
  have hsrc : SortedQ (sampSrcItems msgs) := sortedQ_map_of_mono SampItem.src h
  constructor
  · rw [mergeStable_append _ _ hsrc ht]
    exact sampSim_eq_run false ticks msgs {}
  · rw [mergeStable_append _ _ ht hsrc]
    exact sampSim_eq_run true ticks msgs {}

/-- a tie at 220: source first when it was scheduled first, sampler first otherwise -/
example : sampSim (mergeStable (sampSrcItems [(220, Notif.next 1)] ++ sampTickItems [(220, .tick), (240, .tick)])) true {}
      = [(220, .next 1)]
    ∧ sampSim (mergeStable (sampTickItems [(220, .tick), (240, .tick)] ++ sampSrcItems [(220, Notif.next 1)])) true {}
      = [(240, .next 1)] := by decide

/-! ## Re-entrant feedback: the consumer pushes an element into the source from inside `on_next`

`tfRunFb` / `sampSimFb` run the nested `on_next` in the state the operator is in when it calls downstream.  The theorems
say that this is the plain run over the COMBINED arrival sequence (`tfCombined`, `sampCombinedQ`: every echo placed where
it arrives), for every timeline, every echo set and every delivery counter — so the rules above apply to it. -/

/-- **throttle_first_feedback_rule.**  With feedback, throttle_first obeys the window rule on the combined arrival
sequence. -/
theorem throttle_first_feedback_rule {α} (w : Nat) (echo : Nat → Option α) (msgs : TL α) :
    tfRunFb w echo 0 none msgs = tfSpec w (tfCombined w echo 0 none msgs) := by
  rw [tf_feedback_eq_combined, throttle_first_rule]

/-- **throttle_first_feedback_inert.**  For a positive window an echo arrives 0 ticks after the element just emitted, so
it is always dropped: feedback changes nothing. -/
theorem throttle_first_feedback_inert {α} (w : Nat) (hw : 0 < w) (echo : Nat → Option α) (msgs : TL α) :
    tfRunFb w echo 0 none msgs = tfRun w none msgs :=
  tf_feedback_inert w hw echo msgs 0 none

/-- **sample_feedback_combined_partial.**  With feedback, `sample` is the scheduler run (`sampSim`) over the combined
queue, in which an echo is the source's next message right behind the tick at which it was pushed; hence it is the
pending element of the following tick unless a newer source element arrives first (`sampOnNext` overwrites `value`).
*Partial*: the closed form `sampSpec` is proved for queues that are merges of the two pre-scheduled blocks
(`sample_tie_rule_derived`); an echo sits behind a tick of its own instant, which is not such a merge, so the window form
of the rule over the combined sequence is not stated — only the queue semantics. -/
theorem sample_feedback_combined_partial {α} (echo : Nat → Option α) (isEcho : α → Bool) (q : List (Nat × SampItem α))
    (k : Nat) (srcLive : Bool) (s : SampSt α) :
    sampSimFb echo isEcho k q srcLive s = sampSim (sampCombinedQ echo isEcho k q srcLive s) srcLive s := by
  induction q generalizing k srcLive s with
  | nil => rfl
  | cons a q ih =>
    obtain ⟨t, it⟩ := a
    cases it with
    | src n =>
      cases srcLive with
      | false => simp only [sampSimFb, sampCombinedQ, sampSim, Bool.false_eq_true, if_false]; exact ih _ _ _
      | true =>
        cases n with
        | next v => simp only [sampSimFb, sampCombinedQ, sampSim, if_true]; exact ih _ _ _
        | error e => simp [sampSimFb, sampCombinedQ, sampSim]
        | completed => simp only [sampSimFb, sampCombinedQ, sampSim, if_true]; exact ih _ _ _
    | samp ev =>
      cases ev with
      | err e => simp [sampSimFb, sampCombinedQ, sampSim]
      | tick =>
        simp only [sampSimFb, sampCombinedQ]
        cases hc : ((s.hasValue && s.value.isSome) && srcLive &&
            (match s.value with | some v => !isEcho v | none => false)) with
        | false =>
          simp only [Bool.false_eq_true, if_false, sampSim]
          cases s.atEnd
          · simp only [Bool.false_eq_true, if_false]; rw [ih]
          · simp
        | true =>
          have hl : srcLive = true := by
            cases srcLive
            · simp at hc
            · rfl
          subst hl
          simp only [if_true]
          cases he : echo k with
          | none =>
            simp only [sampSim]
            cases s.atEnd
            · simp only [Bool.false_eq_true, if_false]; rw [ih]
            · simp
          | some e =>
            simp only [sampSim]
            cases s.atEnd
            · simp only [Bool.false_eq_true, if_false, if_true]; rw [ih]
            · simp

/-- **debounce_feedback_rule** (debounce after 576f241: the pending flag is cleared before the downstream call).
The scheduler simulation with a consumer that pushes echoes into the source from inside `on_next` (`simRunFb (debOp d)`:
queue ordered by (due, insertion), the echo is the source's next item) equals the rule `debSpecFb` over the combined
arrival sequence: an element is emitted `d` after its arrival iff the next source notification is later; the echo pushed
at that emission arrives at that instant and is itself emitted `d` later under the same condition — after its own quiet
period —; a completion flushes what is pending, an error drops it.  For every non-decreasing timeline, every echo
assignment (echoes are recognisable, `hE`, and do not echo), every delivery counter start; `fuel` only has to be large
enough (`4·messages`). -/
theorem debounce_feedback_rule {α} (d : Nat) (other : Nat → TL α) (echo : Nat → Option α) (isEcho : α → Bool)
    (hE : ∀ k e, echo k = some e → isEcho e = true) (sub lo fuel : Nat) (msgs : TL α) (h : Mono lo msgs) (hs : sub ≤ lo)
    (hf : 4 * msgs.length ≤ fuel) :
    simRunFb (debOp d) other echo isEcho fuel 0 sub (srcItems msgs) {} = debSpecFb d echo isEcho 0 none msgs :=
  deb_fb_run d other echo isEcho hE fuel msgs none 0 sub {} (h.weaken hs) hf ⟨rfl, rfl⟩ (fun _ _ h => nomatch h)

/-- a@210 is emitted at 230; its echo arrives then and is emitted at 250; b@300 → 320, its echo (delivery 2) → 340 -/
example : debSpecFb 20 (fun k => if k = 0 ∨ k = 2 then some ("echo", k) else none) (fun v => v.1 == "echo") 0 none
      [(210, Notif.next ("a", 0)), (300, .next ("b", 0)), (400, .next ("c", 0)), (500, .completed)]
    = [(230, .next ("a", 0)), (250, .next ("echo", 0)), (320, .next ("b", 0)), (340, .next ("echo", 2)),
       (420, .next ("c", 0)), (500, .completed)] := by decide

example : tfRunFb 100 (fun k => if k = 0 then some "a-echo" else none) 0 none
      [(300, Notif.next "a"), (350, .next "b"), (400, .next "c"), (450, .next "d")]
    = [(300, .next "a"), (400, .next "c")] := by decide

end C16
