import RxProofs.Lemmas.WinFinSim
/-!
# C40 — resources and finally-actions are released exactly once

A *history* of one subscription is `(sp, evs)`: what the source does inside its `subscribe` body
(`sp : SyncPhase`: inline emissions, then return or raise; adversarial or ordinary emitter) followed by any
list `evs` of source notifications (conforming or not) and `dispose` calls on the returned handle, at any
position and any number of times.  User callbacks raise at arbitrary invocation indices
(`c.subRaises`, `c.actRaises`).  All theorems are for every history — no bound.
-/

namespace C40
open WinFin

/-- **using_resource_at_most_once.** Whatever the history and whichever callbacks raise, `using` calls
`dispose()` on the resource it created at most once; with no resource (factory returned `None` or raised)
it never does. -/
theorem using_resource_at_most_once {α} (c : Cfg) (hc : c.oper = .using) (hsd : c.srcDisposeRaises = false) (sp : SyncPhase α) (evs : List (Ev α)) :
    resCount (run c sp evs).log ≤ 1 ∧ (c.resf ≠ .some → resCount (run c sp evs).log = 0) := by
  obtain ⟨w, ⟨h, -⟩ | ⟨hf, e⟩⟩ := run_inv (hooks_using c hsd hc) sp evs (by simp [hc]) (by simp [hc])
  · rw [h.res, cnt_nr hc]
    constructor
    · cases (run c sp evs).d.sad <;> cases c.hasRes <;> simp
    · intro hne
      have : c.hasRes = false := by cases hr : c.resf <;> simp_all [Cfg.hasRes]
      simp [this]
  · rw [e, hf.shape.res]; simp [Ph.res]

/-- **using_resource_once.** If `subscribe` returned (did not raise — see `using_leaks_when_subscribe_raises`)
and a resource was created, then after *any* history the resource has been disposed exactly once iff a
terminal notification was delivered to the subscriber or the history contains a `dispose` — and zero times
otherwise.  Since this holds for every history it holds for every prefix of one: the disposal happens at
the first such event ("whichever comes first", `using_released_at_first_trigger`).  The observable-factory
failure path is included: there the subscribed source is `throw(exception)` (`c.obsfRaises`). -/
theorem using_resource_once {α} (c : Cfg) (hc : c.oper = .using) (hsd : c.srcDisposeRaises = false) (sp : SyncPhase α) (evs : List (Ev α))
    (hres : c.resf = .some) (hh : (subscribePhase c sp : St α).d.handle = true) :
    (resCount (run c sp evs).log = 1 ↔ (hasTerm (run c sp evs).log = true ∨ hasDispose evs = true)) ∧
    (resCount (run c sp evs).log = 0 ↔ ¬ (hasTerm (run c sp evs).log = true ∨ hasDispose evs = true)) := by
  obtain ⟨w, ⟨h, -⟩ | ⟨hf, -⟩⟩ := run_inv (hooks_using c hsd hc) sp evs (by simp [hc]) (by simp [hc])
  · have hr : c.hasRes = true := by simp [Cfg.hasRes, hres]
    rw [h.res, cnt_nr hc, h.sad_eq, hr]
    cases hasTerm (run c sp evs).log <;> cases hasDispose evs <;> simp
  · rw [hf.frz.hdl] at hh; cases hh

/-- **using_released_on_source_terminal.** Syntactic sufficient condition: if the history contains a
terminal notification of the source or a `dispose`, the resource has been disposed exactly once. -/
theorem using_released_on_source_terminal {α} (c : Cfg) (hc : c.oper = .using) (hsd : c.srcDisposeRaises = false) (sp : SyncPhase α)
    (evs : List (Ev α)) (hres : c.resf = .some) (hh : (subscribePhase c sp : St α).d.handle = true)
    (ht : hasSrcTerminal evs = true ∨ hasDispose evs = true) :
    resCount (run c sp evs).log = 1 := by
  obtain ⟨w, ⟨h, hsad⟩ | ⟨hf, -⟩⟩ := run_inv (hooks_using c hsd hc) sp evs (by simp [hc]) (by simp [hc])
  · have hs : (run c sp evs).d.sad = true := by
      rcases ht with ht | ht
      · exact hsad ht
      · rw [h.sad_eq]; simp [ht]
    have hr : c.hasRes = true := by simp [Cfg.hasRes, hres]
    rw [h.res, cnt_nr hc, hs, hr]; rfl
  · rw [hf.frz.hdl] at hh; cases hh

theorem run_append {α} (c : Cfg) (sp : SyncPhase α) (a b : List (Ev α)) :
    run c sp (a ++ b) = runFrom c (run c sp a) b := by
  simp only [run]
  generalize subscribePhase c sp = s
  induction a generalizing s with
  | nil => rfl
  | cons e es ih => simp [runFrom, ih]

/-- **using_released_at_first_trigger.** "Whichever comes first": if after the prefix `pre` the resource is
still held, and the next event is a `dispose` or a terminal notification of the source, then right after that
event it has been disposed (once), and nothing later changes that. -/
theorem using_released_at_first_trigger {α} (c : Cfg) (hc : c.oper = .using) (hsd : c.srcDisposeRaises = false) (sp : SyncPhase α)
    (pre post : List (Ev α)) (e : Ev α) (hres : c.resf = .some)
    (hh : (subscribePhase c sp : St α).d.handle = true)
    (he : (match e with | .src n => n.isTerminal | .dispose => true) = true) :
    resCount (run c sp (pre ++ [e])).log = 1 ∧ resCount (run c sp (pre ++ e :: post)).log = 1 := by
  have key : ∀ l : List (Ev α), resCount (run c sp (pre ++ e :: l)).log = 1 := by
    intro l
    apply using_released_on_source_terminal c hc hsd sp _ hres hh
    cases e with
    | src n => left; simp [hasSrcTerminal]; exact Or.inr (Or.inl he)
    | dispose => right; simp [hasDispose]
  exact ⟨key [], key post⟩

/-- The hypothesis `handle = true` of `using_resource_once` is needed: when `source.subscribe` itself raises
(here: the source completes inside `subscribe` and its body then raises) `using_`'s `subscribe` raises
before the `CompositeDisposable` holding the resource exists — the resource is never disposed. -/
theorem using_leaks_when_subscribe_raises :
    let r := run (α := Nat) { oper := .using } { emits := [.completed], exn := some "boom" } [.dispose]
    r.d.handle = false ∧ hasTerm r.log = true ∧ resCount r.log = 0 := by decide

example : (run (α := Nat) { oper := .using } {} [.src (.next 1), .src .completed, .dispose, .src (.next 2)]).log =
    [.act .resf none false, .act .obsf none false, .emit (.next 1) false, .emit .completed false, .srcDispose, .resDispose] := by decide
example : (run (α := Nat) { oper := .using } {} [.src (.next 1), .dispose, .dispose, .src .completed]).log =
    [.act .resf none false, .act .obsf none false, .emit (.next 1) false, .srcDispose, .resDispose] := by decide
example : (run (α := Nat) { oper := .using, obsfRaises := true } { emits := [.error "obsf"], propagate := true } [.dispose]).log =
    [.act .resf none false, .act .obsf none true, .emit (.error "obsf") false, .srcDispose, .resDispose] := by decide
example : (subscribePhase (α := Nat) { oper := .using, subRaises := fun k => k == 1 } { emits := [.next 1, .completed] }).d.handle = true := by decide
example : (run (α := Nat) { oper := .using, resf := .none } {} [.src .completed]).log =
    [.act .resf none false, .act .obsf none false, .emit .completed false, .srcDispose] := by decide

/-- **finally_action_exactly_once_after.** `finally_action`: for every history and whichever callbacks raise
(the action itself included), the action is invoked at most once; exactly once iff a terminal notification was
delivered to the subscriber or the history contains a `dispose`, zero times otherwise; and no downstream callback
runs after it (so it runs *after* the terminal callback).  Includes termination inside `subscribe`, the
`except: action(); raise` path, and the fault "`dispose()` of the inner subscription raises"
(`c.srcDisposeRaises` arbitrary: `try: subscription.dispose() finally: action()`). -/
theorem finally_action_exactly_once_after {α} (c : Cfg) (hc : c.oper = .finallyAction) (sp : SyncPhase α)
    (evs : List (Ev α)) :
    actCount .fin (run c sp evs).log ≤ 1 ∧
    (actCount .fin (run c sp evs).log = 1 ↔ (hasTerm (run c sp evs).log = true ∨ hasDispose evs = true)) ∧
    noEmitAfterAct .fin (run c sp evs).log = true := by
  rcases run_phase (hooks_fin c hc) sp evs (fin_subscribePhase c hc sp) with ⟨h, -⟩ | ⟨hf, e⟩
  · have h1 := h.once h.fin (cnt_nf (Or.inl hc))
    exact ⟨h1.1, by simpa using h1.2, h.shape.ordf⟩
  · simp only [e, hf.shape.fin, hf.trm, hf.shape.ordf]; simp [Ph.fin, cnt_nf (Or.inl hc)]

/-- **do_finally_exactly_once_after.** `do_finally` (with `fix: do_finally marks its action as invoked before calling
it`), `subscribe` having returned a handle: for every history and whichever callbacks raise — the finally action
itself included — the action is invoked at most once; exactly once iff a terminal notification was delivered to the
subscriber or the history contains a `dispose`, zero times otherwise; and no downstream callback runs after it. -/
theorem do_finally_exactly_once_after {α} (c : Cfg) (hc : c.oper = .doFinally) (hfx : c.doFinallyAsIs = false)
    (hsd : c.srcDisposeRaises = false)
    (sp : SyncPhase α) (evs : List (Ev α)) (hh : (subscribePhase c sp : St α).d.handle = true) :
    actCount .fin (run c sp evs).log ≤ 1 ∧
    (actCount .fin (run c sp evs).log = 1 ↔ (hasTerm (run c sp evs).log = true ∨ hasDispose evs = true)) ∧
    noEmitAfterAct .fin (run c sp evs).log = true := by
  obtain ⟨w, ⟨h, -⟩ | ⟨hf, -⟩⟩ := run_inv (hooks_dofin c hsd hc (Or.inl hfx)) sp evs (by simp [hc]) (by simp [hc])
  · have h1 := h.once h.fin (cnt_nf (Or.inr hc))
    exact ⟨h1.1, h1.2, h.shape.ordf⟩
  · rw [hf.frz.hdl] at hh; cases hh

/-- **do_finally_at_most_once.** `do_finally` (fixed), also when `subscribe` itself raised and whichever callbacks
raise: at most one invocation, after every downstream callback. -/
theorem do_finally_at_most_once {α} (c : Cfg) (hc : c.oper = .doFinally) (hfx : c.doFinallyAsIs = false)
    (hsd : c.srcDisposeRaises = false)
    (sp : SyncPhase α) (evs : List (Ev α)) :
    actCount .fin (run c sp evs).log ≤ 1 ∧ noEmitAfterAct .fin (run c sp evs).log = true := by
  obtain ⟨w, ⟨h, -⟩ | ⟨hf, e⟩⟩ := run_inv (hooks_dofin c hsd hc (Or.inl hfx)) sp evs (by simp [hc]) (by simp [hc])
  · exact ⟨(h.once h.fin (cnt_nf (Or.inr hc))).1, h.shape.ordf⟩
  · rw [e, hf.shape.fin]; exact ⟨by cases w <;> simp [Ph.fin, cnt_nf (Or.inr hc)], hf.shape.ordf⟩

/-- **finally_exactly_once_after** (the DESIGN.md statement, both operators). -/
theorem finally_exactly_once_after {α} (c : Cfg) (sp : SyncPhase α) (evs : List (Ev α))
    (hc : c.oper = .finallyAction ∨
      (c.oper = .doFinally ∧ c.doFinallyAsIs = false ∧ c.srcDisposeRaises = false ∧
        (subscribePhase c sp : St α).d.handle = true)) :
    (actCount .fin (run c sp evs).log = 1 ↔ (hasTerm (run c sp evs).log = true ∨ hasDispose evs = true)) ∧
    (actCount .fin (run c sp evs).log = 0 ↔ ¬ (hasTerm (run c sp evs).log = true ∨ hasDispose evs = true)) ∧
    (∀ pre post e, (run c sp evs).log = pre ++ e :: post → e.isAct .fin = true → ∀ x ∈ post, x.isEmit = false) := by
  have key : actCount .fin (run c sp evs).log ≤ 1 ∧
      (actCount .fin (run c sp evs).log = 1 ↔ (hasTerm (run c sp evs).log = true ∨ hasDispose evs = true)) ∧
      noEmitAfterAct .fin (run c sp evs).log = true := by
    rcases hc with hc | ⟨hc, hfx, hsd, hh⟩
    · exact finally_action_exactly_once_after c hc sp evs
    · exact do_finally_exactly_once_after c hc hfx hsd sp evs hh
  obtain ⟨h1, h2, h3⟩ := key
  refine ⟨h2, ?_, fun pre post e hl he => noEmitAfterAct_spec .fin _ pre post e h3 hl he⟩
  rw [← h2]; omega

/-- The defect repaired by `fix: do_finally marks its action as invoked before calling it`: in the handler as it
was (`Cfg.doFinallyAsIs := true`, `WinFin.finGuardAsIs`) `was_invoked[0] = True` is only reached when the action
returned, so an action that raises on its first invocation (here from the terminal handler, the source having
completed inside `subscribe`) is invoked a second time by the `OnDispose` hook.  Same history, fixed handler: once. -/
theorem do_finally_twice_when_action_raises :
    actCount .fin (run (α := Nat) { oper := .doFinally, doFinallyAsIs := true, actRaises := fun k => k == 0 }
      { emits := [.completed] } []).log = 2 ∧
    actCount .fin (run (α := Nat) { oper := .doFinally, actRaises := fun k => k == 0 }
      { emits := [.completed] } []).log = 1 := by
  decide

/-- Why `do_finally` needs "`subscribe` returned": if the source fails inside `subscribe` and the subscriber's
`on_error` raises, `do_finally`'s `subscribe` raises before its `CompositeDisposable` is returned — the
action never runs although a terminal notification was delivered. -/
theorem do_finally_lost_when_subscribe_raises :
    let r := run (α := Nat) { oper := .doFinally, subRaises := fun k => k == 0 } { exn := some "boom" } [.dispose]
    r.d.handle = false ∧ hasTerm r.log = true ∧ actCount .fin r.log = 0 := by decide

example : (run (α := Nat) { oper := .doFinally } {} [.src (.next 1), .src .completed, .dispose]).log =
    [.emit (.next 1) false, .emit .completed false, .act .fin none false, .srcDispose] := by decide
example : (run (α := Nat) { oper := .doFinally } { emits := [.next 1, .completed] } [.dispose]).log =
    [.emit (.next 1) false, .emit .completed false, .act .fin none false, .srcDispose] := by decide
example : (run (α := Nat) { oper := .finallyAction } {} [.src (.next 1), .dispose, .src .completed, .dispose]).log =
    [.emit (.next 1) false, .srcDispose, .act .fin none false] := by decide
example : (run (α := Nat) { oper := .finallyAction } { emits := [.completed], exn := some "boom" } []).log =
    [.emit .completed false, .act .fin none false, .escape "boom"] := by decide
example : (subscribePhase (α := Nat) { oper := .doFinally } { emits := [.completed] }).d.handle = true := by decide
/-- the inner subscription's `dispose()` raises: the action still runs, the exception reaches the disposer -/
example : (run (α := Nat) { oper := .finallyAction, srcDisposeRaises := true } {} [.src (.next 1), .dispose]).log =
    [.emit (.next 1) false, .srcDispose, .act .fin none false, .escape "srcd"] := by decide
example : (run (α := Nat) { oper := .finallyAction, srcDisposeRaises := true } {} [.src .completed]).log =
    [.emit .completed false, .srcDispose, .act .fin none false, .escape "srcd"] := by decide

/-- **do_transparent_unless_raise.** For every operator of the family (`do_action` with any subset of callbacks,
`do(observer)`, `do_after_next`, `do_on_subscribe`, `do_on_dispose`, `do_on_terminate`, `do_after_terminate`,
and also `do_finally`, `finally_action`, `using` with succeeding factories), if no callback of the operator raises
(`Quiet c`), then for every history the run with the operator and the run of the same history *without* it
(`c.ident`: source → subscriber) agree on everything they have in common, in order: every delivery to the subscriber
with its value and whether the subscriber's callback raised, every disposal of the source subscription, every
exception that escapes to the emitter or to the caller of `subscribe`/`dispose`; and `subscribe` raises in one iff
it raises in the other.  The subscriber's callbacks may raise arbitrarily. -/
theorem do_transparent_unless_raise {α} (c : Cfg) (q : Quiet c) (sp : SyncPhase α) (evs : List (Ev α)) :
    view (run c sp evs).log = view (run c.ident sp evs).log ∧
    delivered (run c sp evs).log = delivered (run c.ident sp evs).log ∧
    (run c sp evs).d = (run c.ident sp evs).d := by
  have h := sim_run c q sp evs
  refine ⟨h.v, ?_, h.d⟩
  rw [← delivered_view, h.v, delivered_view]

/-- **do_callbacks_once_in_order.** `do_action` (any subset of callbacks) / `do(observer)`, `do_after_next`,
`do_on_terminate`, `do_after_terminate`, `do_on_subscribe`, no callback raising (`Quiet c`): for every history the
deliveries and callback invocations in the log are exactly, in order, each delivery accompanied by the invocation
of the corresponding callback with the same notification (`expect c`: immediately before the delivery for
`do_action`/`do_on_terminate`, immediately after it for `do_after_next`/`do_after_terminate`, there only if the
subscriber's callback returned) — every callback sees every corresponding notification once, in order, and nothing
else.  `do_on_subscribe`'s action runs exactly once, before everything else. -/
theorem do_callbacks_once_in_order {α} (c : Cfg) (hp : Plain c) (q : Quiet c) (sp : SyncPhase α) (evs : List (Ev α)) :
    cbShape c (run c sp evs).log ∧
    (c.oper = .doOnSubscribe → actCount .subscribe (run c sp evs).log = 1 ∧
      (run c sp evs).log.head? = some (.act .subscribe none false)) := by
  have key : ∀ {p} {l : List (Eff α)}, Facts c c.cnt c.opPre p l → cbShape c l ∧ (c.oper = .doOnSubscribe →
      actCount .subscribe l = 1 ∧ l.head? = some (.act .subscribe none false)) :=
    fun h => by obtain ⟨l1, rfl, hm⟩ := h.pre; exact ⟨h.cb, fun hop => by simp [Cfg.opPre, hop, hm]⟩
  obtain ⟨w, ⟨h, -⟩ | ⟨hf, e⟩⟩ := run_inv (hooks_quiet c q) sp evs (fun h => by simp [Plain, h] at hp) (fun _ => q.nr 0)
  · exact key h.shape
  · rw [e]; exact key hf.shape

/-- **do_on_dispose_exactly_once.** `do_on_dispose` with a non-raising action, `subscribe` having returned: the
action runs exactly once iff a terminal notification was delivered or the history contains a `dispose`, zero times
otherwise, after every downstream callback. -/
theorem do_on_dispose_exactly_once {α} (c : Cfg) (hc : c.oper = .doOnDispose) (hnr : ∀ k, c.actRaises k = false)
    (hsd : c.srcDisposeRaises = false)
    (sp : SyncPhase α) (evs : List (Ev α)) (hh : (subscribePhase c sp : St α).d.handle = true) :
    actCount .dispose (run c sp evs).log ≤ 1 ∧
    (actCount .dispose (run c sp evs).log = 1 ↔ (hasTerm (run c sp evs).log = true ∨ hasDispose evs = true)) ∧
    noEmitAfterAct .dispose (run c sp evs).log = true := by
  obtain ⟨w, ⟨h, -⟩ | ⟨hf, -⟩⟩ := run_inv (hooks_dod c hsd hc hnr) sp evs (by simp [hc]) (by simp [hc])
  · have h1 := h.once h.dsp (cnt_nd hc)
    exact ⟨h1.1, h1.2, h.shape.ordd⟩
  · rw [hf.frz.hdl] at hh; cases hh

/-- behaviour when a callback *does* raise (`do_action`'s `on_next`): the exception is delivered as `on_error`,
nothing else is delivered afterwards, and the callback keeps being invoked for elements the source pushes before
it is unsubscribed (here: inside `subscribe`). -/
theorem do_action_raise_becomes_error :
    (run (α := Nat) { oper := .doAction, actRaises := fun k => k == 1, actErr := fun _ => "boom" }
      { emits := [.next 1, .next 2, .next 3, .completed] } []).log =
    [.act .next (some (.next 1)) false, .emit (.next 1) false, .act .next (some (.next 2)) true, .emit (.error "boom") false,
     .act .next (some (.next 3)) false, .act .completed none false, .srcDispose] := by decide

/-! non-vacuity: `Quiet` and `Plain` are satisfiable and the runs are non-trivial -/
example : Plain { oper := .doAfterTerminate } := by simp [Plain]
example : (run (α := Nat) { oper := .doAfterTerminate } {} [.src (.next 1), .src .completed]).log =
    [.emit (.next 1) false, .emit .completed false, .srcDispose, .act .afterTerminate none false] := by decide
example : (run (α := Nat) { oper := .doOnDispose } {} [.src (.next 1), .dispose, .src .completed]).log =
    [.emit (.next 1) false, .act .dispose none false, .srcDispose] := by decide
example : Quiet { oper := .doAction } := ⟨fun _ => rfl, fun h => (by cases h), fun h => (by cases h), rfl⟩
example : (run (α := Nat) { oper := .doAction, subRaises := fun k => k == 1 } { emits := [.next 1] }
      [.src (.next 2), .src (.next 3), .dispose, .src (.next 4)]).log =
    [.act .next (some (.next 1)) false, .emit (.next 1) false, .act .next (some (.next 2)) false, .emit (.next 2) true,
     .escape "cb", .act .next (some (.next 3)) false, .emit (.next 3) false, .srcDispose] := by decide
example : view (run (α := Nat) ({ oper := .doAction, subRaises := fun k => k == 1 } : Cfg).ident { emits := [.next 1] }
      [.src (.next 2), .src (.next 3), .dispose, .src (.next 4)]).log =
    [.emit (.next 1) false, .emit (.next 2) true, .escape "cb", .emit (.next 3) false, .srcDispose] := by decide

end C40
