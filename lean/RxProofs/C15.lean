import RxProofs.Lemmas.TimedDelay
import RxProofs.Lemmas.TimedMap
/-!
# C15 — time-shifting operators move notifications by the requested time

Models: `RxModel/TimedShift.lean`, `RxModel/TimedMap.lean` (delay_with_mapper).  `delayRun` mirrors `observable_delay_timespan` (the
materialize+timestamp queue, `active`, `running`, `exception`, the recursive scheduled action) against the source
timeline with the virtual-time `(due, seq)` rule inlined: a source message due at the same instant as the action runs
first.  All theorems hold for every timeline with non-decreasing times (`Mono`) — bursts at one instant included —, every
delay `d ≥ 0` (an absolute due time `D` is `d = D - subscription time`), every element type.
-/

namespace C15
open Timed

/-- **delay_shift.**  Every element and the completion are delivered exactly `d` later, in order; an error is
delivered at its own time and everything not yet delivered by then (due `≥` the error's time) is dropped (`delaySpec`). -/
theorem delay_shift {α} (d lo : Nat) (msgs : TL α) (h : Mono lo msgs) : delayRun d msgs = delaySpec d msgs :=
  delay_run_eq_spec d lo msgs h

theorem delay_shift_completed {α} (d lo tc : Nat) (msgs : TL α) (h : Mono lo msgs)
    (hf : firstTerminal msgs = some (tc, .completed)) :
    delayRun d msgs = (nexts msgs).map (shiftEl d) ++ [(tc + d, .completed)] := by
  rw [delay_shift d lo msgs h]; simp [delaySpec, hf]

/-- **delay_error_immediate.**  A source error at `te` reaches the subscriber at `te`; exactly the elements whose due
time `t + d` is earlier than `te` were delivered before it (each at `t + d`), the pending ones are dropped. -/
theorem delay_error_immediate {α} (d lo te : Nat) (e : Err) (msgs : TL α) (h : Mono lo msgs)
    (hf : firstTerminal msgs = some (te, .error e)) :
    delayRun d msgs = ((nexts msgs).filter (fun x => decide (x.1 + d < te))).map (shiftEl d) ++ [(te, .error e)] := by
  rw [delay_shift d lo msgs h]; simp [delaySpec, hf]

/-- the queue/flag invariant behind it: between handler calls `active` holds and an action is pending exactly when the
queue is non-empty, and that action is due at the head entry's due time -/
theorem delay_invariant {α} (d t lo : Nat) (s : DelaySt α) (n : Notif α) (hI : DInv s (lo + d)) (hlo : lo ≤ t) :
    DInv (delayEnqueue d t (delayAdvance (some t) s).1 n) (t + d) :=
  (enqueue_inv d t (lo + d) _ n (advance_spec (some t) (lo + d) s hI).2.2 (Nat.add_le_add_right hlo d)).2

/-- a burst at one instant, then a gap of exactly `d`, completion with elements pending -/
example : delayRun 10 [(201, Notif.next 1), (201, .next 2), (211, .next 3), (212, .completed)]
    = [(211, .next 1), (211, .next 2), (221, .next 3), (222, .completed)] := by
  rw [delay_shift 10 0 _ (by decide)]; decide
/-- an error exactly when an element is due: the source wins the tie, the element is dropped -/
example : delayRun 10 [(201, Notif.next 1), (205, .next 2), (215, .error "e")] = [(211, .next 1), (215, .error "e")] := by
  rw [delay_shift 10 0 _ (by decide)]; decide
example : delayRun 0 [(201, Notif.next 1), (201, .next 2), (201, .completed)]
    = [(201, .next 1), (201, .next 2), (201, .completed)] := by
  rw [delay_shift 0 0 _ (by decide)]; decide

/-- **delay_subscription_shift.**  `delay_subscription(d)` subscribes the source at `S = sub + d` (what is fed to `dsRun`
is the source as seen from `S`: `Timed.hot S` / `Timed.cold S`), and then relays it unchanged — except that elements
arriving at the very instant of a source error are dropped with it (their zero-length `empty()` delays are still queued
when the error disposes them). -/
theorem delay_subscription_shift {α} (lo : Nat) (msgs : TL α) (h : Mono lo msgs) : dsRun [] msgs = dsSpec msgs := by
  rw [ds_run_eq_G msgs [] lo h List.Pairwise.nil (by simp)]
  unfold dsG dsSpec
  rcases firstTerminal_cases h with hf | ⟨T, -, hf⟩ | ⟨T, e, -, hf⟩ <;> simp [conform_eq, hf]

theorem delay_subscription_relay {α} (lo : Nat) (msgs : TL α) (h : Mono lo msgs)
    (hne : ∀ te e, firstTerminal msgs ≠ some (te, .error e)) : dsRun [] msgs = conform msgs := by
  rw [delay_subscription_shift lo msgs h]
  unfold dsSpec
  rcases firstTerminal_cases h with hf | ⟨T, -, hf⟩ | ⟨T, e, -, hf⟩
  · rw [hf]
  · rw [hf]
  · exact absurd hf (hne T e)

example : dsRun [] (hot 230 [(210, Notif.next 1), (230, .next 2), (231, .next 3), (240, .completed)])
    = [(231, .next 3), (240, .completed)] := by decide

/-- **dwm_emit_on_first_signal.**  In any state of delay_with_mapper, a signal (`next` or `completed`) of the delay
observable of a waiting element `x` delivers `x` at once and stops waiting for it; signals of delay observables that are
not (or no longer) waited for do nothing. -/
theorem dwm_emit_on_first_signal {α} (raises : Nat → α → Option Err) (s : DwmSt α) (k : Nat) :
    (∀ k' x sig, s.delays.find? (fun p => p.1 == k) = some (k', x) → (∀ e, sig ≠ .error e) →
        (dwmStep raises s (.inner k sig)).out.head? = some (.next x)
        ∧ ∀ p ∈ (dwmStep raises s (.inner k sig)).st.delays, p.1 ≠ k)
    ∧ (s.delays.find? (fun p => p.1 == k) = none → ∀ sig,
        (dwmStep raises s (.inner k sig)).out = [] ∧ (dwmStep raises s (.inner k sig)).st = s) := by
  constructor
  · intro k' x sig hf hne
    cases sig with
    | error e => exact absurd rfl (hne e)
    | next =>
      simp only [dwmStep, hf, dwmFinish, List.cons_append, List.nil_append, List.head?_cons, true_and]
      intro p hp; have := (List.mem_filter.1 hp).2; simpa using this
    | completed =>
      simp only [dwmStep, hf, dwmFinish, List.cons_append, List.nil_append, List.head?_cons, true_and]
      intro p hp; have := (List.mem_filter.1 hp).2; simpa using this
  · intro hf sig
    simp [dwmStep, hf]

/-- **dwm_each_element_once.**  Once element `k` is no longer waited for it never is again, whatever happens next: so
only the *first* signal of its delay observable delivers it. -/
theorem dwm_each_element_once {α} (raises : Nat → α → Option Err) (s : DwmSt α) (k : Nat) (h : DwmFired s k)
    (evs : List (MEv α)) : DwmFired (evs.foldl (fun st ev => (dwmStep raises st ev).st) s) k := by
  induction evs generalizing s with
  | nil => exact h
  | cons ev evs ih => exact ih _ (dwm_fired_step raises s ev k h)

/-- **dwm_completes_when_drained.**  Completion goes downstream only from the step after which the source has
completed and no element is waiting. -/
theorem dwm_completes_when_drained {α} (raises : Nat → α → Option Err) (s : DwmSt α) (ev : MEv α)
    (h : Notif.completed ∈ (dwmStep raises s ev).out) :
    (dwmStep raises s ev).st.atEnd = true ∧ (dwmStep raises s ev).st.delays = [] := by
  rcases dwmStep_cases raises s ev with ⟨s', hs⟩ | ⟨s', e, hs, -⟩ | ⟨s', o, hs, ho⟩
  · rw [hs] at h; cases h
  · rw [hs] at h; simp at h
  · rw [hs] at h ⊢
    have ho' : Notif.completed ∉ o := by rcases ho with rfl | ⟨x, rfl⟩ <;> simp
    simp only [dwmFinish, List.mem_append] at h
    rcases h with h | h
    · exact absurd h ho'
    · simp only [dwmDone] at h
      split at h
      · rename_i hc
        simp only [Bool.and_eq_true, List.isEmpty_iff] at hc
        exact ⟨hc.1, hc.2⟩
      · cases h

/-- **dwm_run_eq_spec.**  For every event trace — any interleaving of source notifications, signals of the delay
observables (live, finished, stale, never subscribed) and of the subscription delay — the code (CompositeDisposable
`delays`, `at_end`, Serial `subscription`) behaves as the history rule `dwmSpec`: an element is delivered by the first
signal (element or completion) of its own delay observable and by nothing else; the completion goes out once the source
has completed and every element seen has been delivered; errors end the sequence. -/
theorem dwm_run_eq_spec {α} (raises : Nat → α → Option Err) (hasSubDelay : Bool) (tr : List (Nat × MEv α)) :
    dwmRun raises hasSubDelay tr = dwmSpec raises hasSubDelay tr :=
  Timed.dwm_run_eq_spec raises hasSubDelay tr

/-- the rule read off `dwmSpec`: (1) the first signal of the delay observable of a seen, not yet delivered element
delivers it and records it as fired; (2) a signal for a fired ordinal does nothing — so every element is delivered
exactly once —; (3) `fired` only grows. -/
theorem dwm_spec_exactly_once {α} (raises : Nat → α → Option Err) (a : DwmAbs α) (k : Nat) :
    (∀ k' x sig, a.fired.contains k = false → a.seen.find? (fun p => p.1 == k) = some (k', x) → (∀ e, sig ≠ Sig.error e) →
        (dwmAbsStep raises a (.inner k sig)).out.head? = some (.next x) ∧ k ∈ (dwmAbsStep raises a (.inner k sig)).st.fired)
    ∧ (a.fired.contains k = true → ∀ sig, (dwmAbsStep raises a (.inner k sig)).out = []
        ∧ (dwmAbsStep raises a (.inner k sig)).st.fired = a.fired)
    ∧ (∀ ev, k ∈ a.fired → k ∈ (dwmAbsStep raises a ev).st.fired) := by
  refine ⟨?_, ?_, ?_⟩
  · intro k' x sig hf hs hne
    cases sig with
    | error e => exact absurd rfl (hne e)
    | next => simp only [dwmAbsStep, hf, Bool.false_eq_true, if_false, hs, dwmAbsFinish]; simp
    | completed => simp only [dwmAbsStep, hf, Bool.false_eq_true, if_false, hs, dwmAbsFinish]; simp
  · intro hf sig
    simp only [dwmAbsStep, hf, if_true]; simp
  · exact fun ev hk => (dwmAbsStep_frame raises a ev).fired_mono k hk

/-- element 0 delivered at the first signal of its delay observable; the later signal and the stale one do nothing;
completion once the source completed and nothing waits -/
example : dwmRun (fun _ _ => none) false
    [(210, MEv.src (.next "a")), (215, .src (.next "b")), (220, .inner 0 .next), (222, .inner 0 .completed),
     (225, .src .completed), (230, .inner 1 .completed)]
    = [(220, .next "a"), (230, .next "b"), (230, .completed)] := by decide

/-- **timestamp_is_clock.**  Every element is paired with the clock reading at its delivery. -/
theorem timestamp_is_clock {α} (msgs : TL α) : tsRun msgs = tsSpec msgs := by
  induction msgs with
  | nil => rfl
  | cons a r ih =>
    obtain ⟨t, n⟩ := a
    cases n with
    | next v => simp only [tsSpec] at ih; simp [tsRun, tsSpec, conform, Notif.map, ih]
    | error e => simp [tsRun, tsSpec, conform, Notif.map]
    | completed => simp [tsRun, tsSpec, conform, Notif.map]

/-- **time_interval_diffs.**  Every element is paired with the time since the previous element (since the subscription
for the first one). -/
theorem time_interval_diffs {α} (sub : Nat) (msgs : TL α) : tiRun sub msgs = tiSpec sub msgs := by
  induction msgs generalizing sub with
  | nil => simp [tiRun, tiSpec, nexts, firstTerminal]
  | cons a r ih =>
    obtain ⟨t, n⟩ := a
    cases n with
    | next v =>
      have := ih t
      simp only [tiSpec] at this
      simp [tiRun, tiSpec, nexts, firstTerminal, this]
    | error e => simp [tiRun, tiSpec, nexts, firstTerminal, Notif.map]
    | completed => simp [tiRun, tiSpec, nexts, firstTerminal, Notif.map]

example : tiRun 200 [(210, Notif.next "a"), (210, .next "b"), (225, .next "c"), (230, .completed)]
    = [(210, .next ("a", 10)), (210, .next ("b", 0)), (225, .next ("c", 15)), (230, .completed)] := by decide

end C15
