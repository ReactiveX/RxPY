import RxModel.StructOps
import RxModel.OpsElem
import RxModel.AggOps
import RxGen.Captures
import RxProofs.Lemmas.StructCatalogue
/-!
# C04 — cold observables can be subscribed again with identical results
-/

namespace C04
open Struct.Captures Struct.Frame Struct.Ops

/-- **captures_cold_ok.** Kernel `decide` over the capture table regenerated from `/repo/reactivex` on
this run: no mutable object created above the subscription level is mutated/consumed at or below it,
nor escapes into an observable/operator constructor (multicasting files excluded as the property
says; explicit, justified allow-list in `Struct.Captures.coldAllow`, none of it stale). -/
theorem captures_cold_ok :
    (RxGen.Captures.table.all coldOk && (staleAllow RxGen.Captures.table coldAllow coldBad).isEmpty) = true := by
  decide +kernel

/-- **resubscribe_same.** The frame theorem: if the built-time state is never written, then under any
interleaving of any number of subscriptions every subscription emits exactly what a single subscription
alone emits from its own events (which are relative to its subscription instant).  `s` is an observable:
shared built-time state `G`, per-subscription state `L`; `acts` is any global schedule of subscriptions
(`create i`) and per-subscription events. -/
theorem resubscribe_same {G L A O : Type} (s : Sys G L A O) (h : Framed s) (g : G)
    (acts : List (Act A)) (i : Nat) :
    outputsOf i (runG s g [] acts) = runI s g none (restrict i acts) :=
  frame_local s h i acts g []

/-- two subscriptions — of one run or of two different runs (sequential, overlapping, with any
other subscribers in between) — that receive the same events relative to their subscription emit
the same notifications -/
theorem resubscribe_same_pair {G L A O : Type} (s : Sys G L A O) (h : Framed s) (g : G)
    (acts acts' : List (Act A)) (i j : Nat) (hv : restrict i acts = restrict j acts') :
    outputsOf i (runG s g [] acts) = outputsOf j (runG s g [] acts') := by
  rw [frame_local s h i, frame_local s h j, hv]; rfl

/-- every `OpDef` (state allocated in `subscribe`, parameters only read) satisfies the frame condition -/
theorem opdef_framed {P σ α β : Type} (d : OpDef P σ α β) : Framed d.sys := by
  refine ⟨fun g => rfl, fun g l a => ?_⟩
  simp only [OpDef.sys]
  split
  · rfl
  · cases a <;> rfl

/-- for the operators with per-subscription state (`take`, `skip`, `scan`, `map_indexed`, `zip_with_iterable`,
`distinct_until_changed`, `take_while`, `pairwise`), whose models are run against the real operators by the
correspondence -/
theorem opdef_resubscribe_same {P σ α β : Type} (d : OpDef P σ α β) (p : P)
    (acts : List (Act (Notif α))) (i : Nat) :
    outputsOf i (runG d.sys p [] acts) = runI d.sys p none (restrict i acts) :=
  resubscribe_same d.sys (opdef_framed d) p acts i

/-! Non-vacuity of the hypotheses, and necessity of the frame condition. -/

/-- two overlapping subscriptions to `zip_with_iterable([10,20,30])` (fixed): both start at 10 -/
example :
    runG (zipIter (α := Nat) (γ := Nat)).sys [10, 20, 30] []
      [.create 0, .act 0 (.next 1), .create 1, .act 1 (.next 1), .act 0 (.next 2), .act 1 (.next 2)]
    = [(0, .next (1, 10)), (1, .next (1, 10)), (0, .next (2, 20)), (1, .next (2, 20))] := by decide +kernel

/-- **zip_asis_not_resubscribable.** Before the fix the second subscriber continues where the
first one stopped (replayed on the real code by the oracle: `of(1,2).zip_with_iterable([10,20,30,40])`
subscribed twice gives `(1,10),(2,20)` then `(1,30),(2,40)`). -/
theorem zip_asis_not_resubscribable :
    let acts : List (Act (Notif Nat)) :=
      [.create 0, .act 0 (.next 1), .act 0 (.next 2), .act 0 .completed,
       .create 1, .act 1 (.next 1), .act 1 (.next 2), .act 1 .completed]
    restrict 0 acts = restrict 1 acts ∧
    outputsOf 0 (runG (zipIterAsIs (α := Nat) (γ := Nat)) [10, 20, 30, 40] [] acts) = [.next (1, 10), .next (2, 20), .completed] ∧
    outputsOf 1 (runG (zipIterAsIs (α := Nat) (γ := Nat)) [10, 20, 30, 40] [] acts) = [.next (1, 30), .next (2, 40), .completed] := by
  decide +kernel

theorem zip_asis_not_framed : ¬ Framed (zipIterAsIs (α := Nat) (γ := Nat)) := by
  intro h
  have := h.2 [1] false (.next 0)
  simp [zipIterAsIs] at this

/-! ### Per-subscription budgets -/

-- every branch of `step` returns the shared `n` unchanged
theorem retry_framed {α} : Framed (retry (α := α)) :=
  ⟨fun _ => rfl, fun _ ⟨l, d⟩ x => by rcases l with _ | _ | _ <;> cases d <;> cases x <;> rfl⟩

theorem repeat_framed {α} : Framed (repeat_ (α := α)) :=
  ⟨fun _ => rfl, fun _ ⟨l, d⟩ x => by rcases l with _ | _ | _ <;> cases d <;> cases x <;> rfl⟩

/-- attempts left + resubscriptions made is constant -/
theorem retry_step_budget {α} (n : Option Nat) (k : Nat) (d : Bool) (x : Notif α) :
    ∃ k' d', ((retry (α := α)).step n ⟨some k, d⟩ x).2.1 = ⟨some k', d'⟩ ∧
      k' + countResub ((retry (α := α)).step n ⟨some k, d⟩ x).2.2 = k := by
  cases d <;> cases x <;> (try cases k) <;> exact ⟨_, _, rfl, rfl⟩

theorem retry_budget_local {α} (n : Option Nat) : ∀ (evs : List (Option (Notif α))) (k : Nat) (d : Bool),
    (∀ e ∈ evs, e.isSome) →
    countResub (runI (retry (α := α)) n (some ⟨some k, d⟩) evs) ≤ k := by
  intro evs
  induction evs with
  | nil => intro k d _; simp [runI, countResub]
  | cons e rest ih =>
    intro k d hs
    obtain ⟨x, rfl⟩ := Option.isSome_iff_exists.mp (hs e (by simp))
    obtain ⟨k', d', hst, hle⟩ := retry_step_budget n k d x
    have := ih k' d' (fun e he => hs e (by simp [he]))
    simp only [runI, hst, countResub, List.countP_append] at this hle ⊢
    omega

/-- **retry_fresh.** `retry(n)` (for `n = 0` the model is not the code, see `RxModel/StructOps.lean`)
subscribed any number of times, sequentially or overlapping, in any interleaving: every subscription behaves as if it were alone, and in particular
resubscribes to the source at most `n - 1` times — its budget is its own. -/
theorem retry_fresh {α} (n : Nat) (acts : List (Act (Notif α))) (i : Nat)
    (once : (restrict i acts).head? = some none ∧ ∀ e ∈ (restrict i acts).tail, e.isSome) :
    outputsOf i (runG (retry (α := α)) (some n) [] acts) = runI retry (some n) none (restrict i acts) ∧
    countResub (outputsOf i (runG (retry (α := α)) (some n) [] acts)) ≤ n - 1 := by
  have h1 := resubscribe_same (retry (α := α)) retry_framed (some n) acts i
  refine ⟨h1, ?_⟩
  rw [h1]
  cases hr : restrict i acts with
  | nil => simp [runI, countResub]
  | cons e rest =>
    rw [hr] at once
    simp only [List.head?_cons, Option.some.injEq, List.tail_cons] at once
    rw [once.1]
    simp only [runI]
    exact retry_budget_local (some n) rest (n - 1) false once.2

/-- **repeat_fresh.** `repeat(n)` subscribed any number of times: every subscription behaves as if it were
alone (its rounds are counted in its own state); the number of rounds is not bounded by a theorem. -/
theorem repeat_fresh {α} (n : Option Nat) (acts : List (Act (Notif α))) (i : Nat) :
    outputsOf i (runG (repeat_ (α := α)) n [] acts) = runI repeat_ n none (restrict i acts) :=
  resubscribe_same (repeat_ (α := α)) repeat_framed n acts i

/-- two overlapping subscriptions to `retry(2)`: each gets its one retry -/
example :
    runG (retry (α := Nat)) (some 2) []
      [.create 0, .create 1, .act 0 (.error "a"), .act 1 (.error "b"), .act 0 (.error "c"), .act 1 (.next 5), .act 1 (.error "d")]
    = [(0, .resubscribe), (1, .resubscribe), (0, .emit (.error "c")), (1, .emit (.next 5)), (1, .emit (.error "d"))] := by
  decide +kernel

/-! ### The catalogue: every operator-handler record of the element-wise and aggregating families

`Ops.Op` records (RxModel/OpsElem.lean, OpsSlice.lean — C05/C07/C08): empty, map, filter,
filter_indexed, take, skip, take_while, take_while_indexed, skip_while, skip_while_indexed,
zip_with_iterable, map_indexed, distinct, distinct_until_changed, pairwise, start_with,
default_if_empty, ignore_elements, take_last, skip_last, take_last_buffer, element_at(_or_default),
find, find_index, materialize, dematerialize, scan(seed), slice (stage pipelines), and any
composition built from them.  `Agg.Op` records (RxModel/AggOps.lean — C06): map, filter, scan,
reduce, count, sum, average, min, max, min_by, max_by, first(_or_default), last(_or_default),
single(_or_default), some, all, contains, is_empty, to_list, to_set, to_dict and `⨾`-compositions.
The theorems quantify over **every** record of these types. -/
section catalogue
open Struct.Catalogue

/-- **catalogue_resubscribe_same (element-wise family).** For every `Ops.Op` record, prompt or lagging
disposal, any number of subscriptions under any interleaving: a subscription created once and fed
`evs` emits exactly what the family's own single-subscription semantics `Ops.Op.run` says. -/
theorem catalogue_ops_resubscribe_same {α β : Type} (lag : Bool) (op : Ops.Op α β)
    (acts : List (Act (Notif α))) (i : Nat) (evs : List (Notif α))
    (hv : restrict i acts = none :: evs.map some) :
    outputsOf i (runG (ofOps lag op) () [] acts) = Ops.visible (op.run lag evs) := by
  rw [resubscribe_same (ofOps lag op) (ofOps_framed lag op) () acts i, hv]
  exact ofOps_runI lag op evs

/-- **catalogue_resubscribe_same (aggregating family).** Same for every `Agg.Op` record. -/
theorem catalogue_agg_resubscribe_same {α β : Type} (lag : Bool) (op : Agg.Op α β)
    (acts : List (Act (Notif α))) (i : Nat) (evs : List (Notif α))
    (hv : restrict i acts = none :: evs.map some) :
    outputsOf i (runG (ofAgg lag op) () [] acts) = op.out lag evs := by
  rw [resubscribe_same (ofAgg lag op) (ofAgg_framed lag op) () acts i, hv]
  exact ofAgg_runI lag op evs

/-- the hypotheses are satisfiable and the statement is about real records: two overlapping
subscriptions to `take(2)` and to `count()` -/
example :
    outputsOf 1 (runG (ofOps false (Ops.takeOp (α := Nat) 2)) () []
      [.create 0, .act 0 (.next 7), .create 1, .act 1 (.next 1), .act 0 (.next 8), .act 1 (.next 2), .act 1 (.next 3)])
    = [.next 1, .next 2, .completed] := by decide +kernel
example :
    outputsOf 0 (runG (ofAgg false (Agg.countAllO (α := Nat))) () []
      [.create 0, .create 1, .act 0 (.next 7), .act 1 (.next 1), .act 0 (.next 8), .act 0 .completed])
    = [.next 2, .completed] := by decide +kernel
end catalogue

/-! The row check is not vacuous: it rejects the shapes it is meant to reject. -/
example : coldOk ⟨"operators/_x.py", "x_", "x_", "it", .oneshot, 1, some 3, false, true⟩ = false := by decide +kernel
example : coldOk ⟨"operators/_x.py", "x_", "x_", "it", .oneshot, 0, none, true, true⟩ = false := by decide +kernel
example : coldOk ⟨"operators/_x.py", "x_", "x_/subscribe", "it", .oneshot, 2, some 3, false, true⟩ = true := by decide +kernel
example : coldOk ⟨"operators/_x.py", "x_", "x_", "n", .cell, 1, some 1, false, true⟩ = true := by decide +kernel

end C04
