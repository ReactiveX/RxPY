import RxModel.TimedBase
/-!
# TimedWin — time-window operators (C17)

`_takewithtime.py`, `_takeuntilwithtime.py`, `_skipwithtime.py`, `_skipuntilwithtime.py`,
`_takelastwithtime.py`, `_skiplastwithtime.py`, `_timeout.py`.

Each `…Run` is the two-stream run of the operator: the source messages that its subscription sees
(`Timed.hot` / `Timed.cold` of the recorded timeline) against the operator's pending timer, with the
scheduler's `(due, seq)` rule inlined through `timerBefore`.  A downstream terminal disposes the whole
subscription (the subscriber's `AutoDetachObserver`), so every run stops after it has emitted one.
-/

namespace Timed

/-! ## take_with_time / take_until_with_time
`disp = _scheduler.schedule_relative(duration, action)` (or `schedule_absolute(end_time)`) with
`action = observer.on_completed()`, THEN `source.subscribe(observer)`: the source is passed through
untouched and the timer was armed first.  `due` is the time the timer is queued at, `fireAt = max due sub`
the clock reading when it runs (a due time in the past runs at once). -/
def twtRun {α} (timerFirst : Bool) (due fireAt : Nat) : TL α → TL α
  | [] => [(fireAt, .completed)]                       -- the timer's action: observer.on_completed()
  | (t, n) :: rest =>
    if timerBefore timerFirst due t then [(fireAt, .completed)]
    else match n with
      | .next v => (t, .next v) :: twtRun timerFirst due fireAt rest
      | n => [(t, n)]                                   -- source terminal passes; the timer is disposed with it

/-! ## skip_with_time / skip_until_with_time
`open = [False]`; the timer's action sets `open[0] = True`; `on_next` forwards iff `open[0]`;
`on_error` / `on_completed` are the observer's own.  skip_with_time arms the timer before subscribing the
source, skip_until_with_time after. -/
def swtOnNext {α} (isOpen : Bool) (x : α) : List (Notif α) := if isOpen then [.next x] else []

def swtRun {α} (timerFirst : Bool) (due : Nat) : Bool → TL α → TL α
  | _, [] => []
  | isOpen, (t, n) :: rest =>
    let isOpen' := isOpen || timerBefore timerFirst due t      -- the timer's action ran before this message
    match n with
    | .next v => at_ t (swtOnNext isOpen' v) ++ swtRun timerFirst due isOpen' rest
    | n => [(t, n)]

/-! ## take_last_with_time
`q` is the list of `{"interval": now, "value": x}`.
```
on_next:       q.append(now, x); while q and now - q[0].interval >= duration: q.pop(0)
on_completed:  while q: n = q.pop(0); if now - n.interval <  duration: observer.on_next(n.value)     # FIXED (`<`)
               observer.on_completed()
```
The comparison at completion is a parameter so that the code as it is on the pinned tree (`<=`) can be
stated too (section "as-is" of `RxProofs/C17.lean`). `now - t >= d` is written `t + d ≤ now`. -/
def popOld {α} (d now : Nat) : List (Nat × α) → List (Nat × α)
  | [] => []
  | (t, v) :: q => if t + d ≤ now then popOld d now q else (t, v) :: q

def tlwtOnNext {α} (d now : Nat) (q : List (Nat × α)) (x : α) : List (Nat × α) :=
  popOld d now (q ++ [(now, x)])

/-- `keepFixed now t d`: `now - t < d` — the repaired comparison. -/
def keepFixed (now t d : Nat) : Bool := decide (now < t + d)
/-- `keepAsIs now t d`: `now - t <= d` — the comparison on the pinned tree. -/
def keepAsIs (now t d : Nat) : Bool := decide (now ≤ t + d)

def tlwtOnCompleted {α} (keep : Nat → Nat → Nat → Bool) (d now : Nat) (q : List (Nat × α)) : List (Notif α) :=
  (q.filter (fun e => keep now e.1 d)).map (fun e => Notif.next e.2) ++ [.completed]

def tlwtRun {α} (keep : Nat → Nat → Nat → Bool) (d : Nat) : List (Nat × α) → TL α → TL α
  | _, [] => []
  | q, (t, .next x) :: rest => tlwtRun keep d (tlwtOnNext d t q x) rest
  | _, (t, .error e) :: _ => [(t, .error e)]
  | q, (t, .completed) :: _ => at_ t (tlwtOnCompleted keep d t q)

/-! ## skip_last_with_time
```
on_next:       q.append(now, x); while q and now - q[0].interval >= duration: observer.on_next(q.pop(0).value)
on_completed:  while q and now - q[0].interval >= duration: observer.on_next(q.pop(0).value)
               observer.on_completed()
``` -/
def slwtDrain {α} (d now : Nat) : List (Nat × α) → List (Notif α) × List (Nat × α)
  | [] => ([], [])
  | (t, v) :: q =>
    if t + d ≤ now then ((Notif.next v) :: (slwtDrain d now q).1, (slwtDrain d now q).2)
    else ([], (t, v) :: q)

def slwtRun {α} (d : Nat) : List (Nat × α) → TL α → TL α
  | _, [] => []
  | q, (t, .next x) :: rest =>
    at_ t (slwtDrain d t (q ++ [(t, x)])).1 ++ slwtRun d (slwtDrain d t (q ++ [(t, x)])).2 rest
  | _, (t, .error e) :: _ => [(t, .error e)]
  | q, (t, .completed) :: _ => at_ t ((slwtDrain d t q).1 ++ [.completed])

/-! ## timeout
```
switched=[False]; _id=[0]; timer = SerialDisposable()
create_timer(): my_id=_id[0]; timer.disposable = schedule_relative(duetime, action) | schedule_absolute(duetime, action)
   action: switched[0] = (_id[0] == my_id); if switched[0]: subscription.disposable = obs.subscribe(observer)
on_next(v):    if not switched[0]: _id[0] += 1; observer.on_next(v); create_timer()
on_error(e):   if not switched[0]: _id[0] += 1; observer.on_error(e)
on_completed:  if not switched[0]: _id[0] += 1; observer.on_completed()
```
`create_timer()` runs once before `source.subscribe` (so that first timer may win a tie against a cold source)
and once per element.  Assigning `timer.disposable` disposes the previous timer (SerialDisposable), so at most
one timer is pending.  `other S` is what the fallback observable delivers when subscribed at `S`
(default `throw(Exception("Timeout"))`: an error at `S`). -/
inductive Due where
  | rel (d : Nat)        -- relative due time: `schedule_relative(d)`
  | abs (at_ : Nat)      -- absolute (datetime) due time: `schedule_absolute(D)`, the same `D` for every timer
deriving Repr, DecidableEq

def Due.at : Due → Nat → Nat
  | .rel d, now => now + d
  | .abs D, _ => D

structure ToTimer where
  due : Nat
  fireAt : Nat
  myId : Nat
  first : Bool
deriving Repr, DecidableEq

structure ToSt where
  id : Nat := 0
  switched : Bool := false
  timer : Option ToTimer := none
deriving Repr, DecidableEq

def toCreateTimer (mode : Due) (now : Nat) (first : Bool) (s : ToSt) : ToSt :=
  { s with timer := some { due := mode.at now, fireAt := max (mode.at now) now, myId := s.id, first := first } }

def toOnNext {α} (mode : Due) (now : Nat) (s : ToSt) (v : α) : ToSt × List (Notif α) :=
  if !s.switched then (toCreateTimer mode now false { s with id := s.id + 1 }, [.next v]) else (s, [])

def toOnTerminal {α} (s : ToSt) (n : Notif α) : ToSt × List (Notif α) :=
  if !s.switched then ({ s with id := s.id + 1 }, [n]) else (s, [])

/-- the timer's action; returns the new state (the timer slot is now empty) and whether it switched -/
def toAction (s : ToSt) (tm : ToTimer) : ToSt :=
  { s with switched := s.id == tm.myId, timer := none }

def toHandle {α} (mode : Due) (now : Nat) (s : ToSt) : Notif α → ToSt × List (Notif α)
  | .next v => toOnNext mode now s v
  | n => toOnTerminal s n

/-- the pending timer, if the scheduler runs it before a source message at `t` -/
def toFire (cold1 : Bool) (s : ToSt) (t : Nat) : Option ToTimer :=
  match s.timer with
  | some tm => if timerBefore (tm.first && cold1) tm.due t then some tm else none
  | none => none

def toRun {α} (mode : Due) (cold1 : Bool) (other : Nat → TL α) : ToSt → TL α → TL α
  | s, [] =>
    match s.timer with
    | none => []
    | some tm => if (toAction s tm).switched then other tm.fireAt else []
  | s, (t, n) :: rest =>
    match toFire cold1 s t with
    | some tm =>
      if (toAction s tm).switched then other tm.fireAt       -- source disposed; the fallback takes over
      else                                                    -- (a stale timer: excluded by the run's invariant `Timed.ToOk`)
        at_ t (toHandle mode t (toAction s tm) n).2 ++
          (if isNext n then toRun mode cold1 other (toHandle mode t (toAction s tm) n).1 rest else [])
    | none =>
      at_ t (toHandle mode t s n).2 ++
        (if isNext n then toRun mode cold1 other (toHandle mode t s n).1 rest else [])

/-- the state after `create_timer()` at subscription time -/
def toInit (mode : Due) (sub : Nat) : ToSt := toCreateTimer mode sub true {}


/-! ## Declarative rules (the right-hand sides of the C17 theorems; also exposed by the driver so that
every correspondence case checks `run = spec` on the concrete timeline as well) -/

def hasTerminal {α} (l : TL α) : Bool := l.any (fun m => !isNext m.2)

/-- take: exactly the source notifications the timer does not precede; then the timer's completion
unless the source ended first. -/
def twtSpec {α} (timerFirst : Bool) (due fireAt : Nat) (msgs : TL α) : TL α :=
  let pre := conform (msgs.filter (fun m => !timerBefore timerFirst due m.1))
  if hasTerminal pre then pre else pre ++ [(fireAt, .completed)]

/-- skip: exactly the elements the timer precedes; terminals always. -/
def swtSpec {α} (timerFirst : Bool) (due : Nat) (msgs : TL α) : TL α :=
  (conform msgs).filter (fun m => !isNext m.2 || timerBefore timerFirst due m.1)

/-- take_last_with_time: at completion `T`, the elements with `T - t < d`, then completion. -/
def tlwtSpec {α} (d : Nat) (msgs : TL α) : TL α :=
  match firstTerminal msgs with
  | none => []
  | some (T, .completed) =>
    ((nexts msgs).filter (fun e => decide (T < e.1 + d))).map (fun e => (T, Notif.next e.2)) ++ [(T, .completed)]
  | some (T, n) => [(T, n)]

/-- skip_last_with_time, timed form: at a notification at `τ` (element or completion) the elements that
arrived earlier and whose age reached `d` in `(P, τ]` (`P` = time of the previous notification) are emitted,
oldest first; with `d = 0` an element is emitted on arrival.  `E` = the elements seen so far. -/
def slwtSpec {α} (d : Nat) : List (Nat × α) → Nat → TL α → TL α
  | _, _, [] => []
  | E, P, (τ, .next x) :: rest =>
    ((E.filter (fun e => decide (P < e.1 + d) && decide (e.1 + d ≤ τ))) ++ (if d = 0 then [(τ, x)] else [])).map
        (fun e => (τ, Notif.next e.2))
      ++ slwtSpec d (E ++ [(τ, x)]) τ rest
  | _, _, (τ, .error e) :: _ => [(τ, .error e)]
  | E, P, (τ, .completed) :: _ =>
    (E.filter (fun e => decide (P < e.1 + d) && decide (e.1 + d ≤ τ))).map (fun e => (τ, Notif.next e.2))
      ++ [(τ, .completed)]

/-- timeout: a deadline that every element moves; the first source notification the deadline precedes is
replaced by the fallback, subscribed at the deadline. -/
def toSpec {α} (mode : Due) (cold1 : Bool) (other : Nat → TL α) : (due fireAt : Nat) → (first : Bool) → TL α → TL α
  | _, fireAt, _, [] => other fireAt
  | due, fireAt, first, (t, n) :: rest =>
    if timerBefore (first && cold1) due t then other fireAt
    else match n with
      | .next v => (t, .next v) :: toSpec mode cold1 other (mode.at t) (max (mode.at t) t) false rest
      | n => [(t, n)]

end Timed
