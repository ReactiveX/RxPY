/-!
# Thr.SO — atomic-step model of `ScheduledObserver` / `ObserveOnObserver`

Mirrors `reactivex/observer/scheduledobserver.py`, `observeonobserver.py` and the base class
`Observer.on_next/on_error/on_completed` (`observer.py`), one transition per atomic step:

producer thread, one call `on_next(v)` / `on_error(e)` / `on_completed()`:
  * `check`   `if not self.is_stopped:`                      (unlocked read)
  * `mark`    `self.is_stopped = True`                       (terminal calls only; unlocked write)
  * `append`  `self.queue.append(action)`                    (unlocked, one list operation)
  * `ea`      `with self.lock: if not has_faulted and queue: is_owner = not is_acquired; is_acquired = True`
  * `sched`   `if is_owner: self.disposable.disposable = self.scheduler.schedule(self.run)`

consumer thread (any thread of the target scheduler that picks up a scheduled `run`):
  * `runBegin` the scheduler starts one pending `run` action
  * `pop`/`release`  `with self.lock: if queue: work = queue.pop(0) else: is_acquired = False; return`
  * `dstart`  `work()` enters the downstream observer's callback           (unlocked)
  * `dend`    the callback returns or raises
  * `fault`   `with self.lock: queue = []; has_faulted = True` then re-raise (run is not re-scheduled)
  * `resched` `self.scheduler.schedule(self.run)`

The target scheduler is abstracted as a counter of pending `run` actions that ANY consumer thread
may start at any time (this covers an event loop = one consumer, and thread pools / new-thread
schedulers = many consumers).  Any number of producers, any number of consumers; a schedule is a
list of thread ids; a step of a thread that is not enabled is a no-op.
The `assign` step stores the scheduled run's disposable without disposing the one held before, which `SerialDisposable` does: with two
producer threads the real code can lose a run this way, so what is proved for several producers is tied to the code for one producer
thread only (DESIGN.md §8).

`ScheduledObserver.dispose()` (used by ReplaySubject on unsubscribe; never called on the observe_on path) is modelled by
"disposer" threads: `is_stopped = True`, then `self.disposable.dispose()` — the SerialDisposable that holds the disposable of
the run scheduled by `ensure_active` (NOT of the runs re-scheduled by `run` itself): a still-pending owner-scheduled run is
cancelled (and one scheduled later is cancelled as soon as it is assigned), after which nothing is ever delivered again.

Ghost state (not in the code, used to state the theorems): `received` (append order),
`delivered` (order in which downstream callbacks were entered), `raisedG` (a delivery raised).
-/

namespace Thr.SO

/-- one producer call: the queued item and whether the call is terminal (`on_error`/`on_completed`). -/
structure Call (α : Type) where
  item : α
  terminal : Bool
deriving Repr, BEq, DecidableEq

inductive PPc where
  | ready | needMark | toAppend | appended | owing
  | assign (rid : Nat)      -- `self.disposable.disposable = d` (d = disposable of run `rid`): SerialDisposable's locked test-and-store
  | cancelRun (rid : Nat)   -- the SerialDisposable was already disposed: `d.dispose()` (cancels run `rid` if it is still pending)
deriving Repr, BEq, DecidableEq

/-- a thread calling `ScheduledObserver.dispose()`: `is_stopped = True`, then `self.disposable.dispose()` =
locked `is_disposed = True; old = current; current = None`, then `old.dispose()` -/
inductive DPc where
  | start | stopped | flagged (old : Option Nat) | done
deriving Repr, BEq, DecidableEq

structure Prod (α : Type) where
  calls : List (Call α)
  pc : PPc
deriving Repr

inductive CPc (α : Type) where
  | idle
  | atLock
  | popped (x : α)
  | delivering (x : α)
  | faulting
  | resched
deriving Repr, BEq, DecidableEq

inductive Tid where
  | prod (i : Nat)
  | cons (j : Nat)
  | disp (k : Nat)
deriving Repr, BEq, DecidableEq

/-- what a step did (compared with the events observed on the real code). -/
inductive Lbl (α : Type) where
  | noop
  | skip            -- call dropped: is_stopped was set
  | check           -- is_stopped read false
  | mark
  | append (x : α)
  | ea (owner : Bool)
  | sched
  | runBegin
  | pop (x : α)
  | release
  | dstart (x : α)
  | dend (raised : Bool)
  | fault
  | resched
  | assign (disposed : Bool)      -- SerialDisposable.set_disposable's locked section; disposed = it was already disposed
  | cancelRun (cancelled : Bool)  -- `d.dispose()` on the scheduled run's disposable; cancelled = the run was still pending
  | dstop                         -- dispose(): `is_stopped = True`
  | dflag                         -- dispose(): SerialDisposable.dispose's locked section
deriving Repr, BEq, DecidableEq

structure Sys (α : Type) where
  queue : List α := []
  isAcquired : Bool := false
  hasFaulted : Bool := false
  isStopped : Bool := false
  pendingRuns : Nat := 0
  pendingId : Nat := 0           -- identity of the pending run (meaningful while pendingRuns ≥ 1)
  nextRun : Nat := 0             -- fresh run identities
  heldId : Option Nat := none    -- the run whose disposable the SerialDisposable currently holds
  serialDisposed : Bool := false -- `self.disposable` (SerialDisposable) has been disposed
  lostToken : Bool := false      -- ghost: a pending run was cancelled by dispose: the ownership token is gone for good
  prods : List (Prod α) := []
  cons : List (CPc α) := []
  disps : List DPc := []
  received : List α := []
  delivered : List α := []
  raisedG : Bool := false
deriving Repr

variable {α : Type}

/-- one atomic step of producer `p` (its own record is returned updated). -/
def prodStep (s : Sys α) (p : Prod α) : Sys α × Prod α × Lbl α :=
  match p.calls with
  | [] => (s, p, .noop)
  | c :: rest =>
    match p.pc with
    | .ready =>
      if s.isStopped then (s, { calls := rest, pc := .ready }, .skip)
      else (s, { p with pc := if c.terminal then .needMark else .toAppend }, .check)
    | .needMark => ({ s with isStopped := true }, { p with pc := .toAppend }, .mark)
    | .toAppend =>
      ({ s with queue := s.queue ++ [c.item], received := s.received ++ [c.item] },
        { p with pc := .appended }, .append c.item)
    | .appended =>
      if !s.hasFaulted && !s.queue.isEmpty then
        if s.isAcquired then (s, { calls := rest, pc := .ready }, .ea false)
        else ({ s with isAcquired := true }, { p with pc := .owing }, .ea true)
      else (s, { calls := rest, pc := .ready }, .ea false)
    | .owing =>
      ({ s with pendingRuns := s.pendingRuns + 1, pendingId := s.nextRun, nextRun := s.nextRun + 1 },
        { p with pc := .assign s.nextRun }, .sched)
    | .assign rid =>
      if s.serialDisposed then (s, { p with pc := .cancelRun rid }, .assign true)
      else ({ s with heldId := some rid }, { calls := rest, pc := .ready }, .assign false)
    | .cancelRun rid =>
      -- (this pc is only reached after `serialDisposed` was read true and the flag is never reset; the guard repeats it)
      if s.pendingRuns ≥ 1 ∧ s.pendingId = rid ∧ s.serialDisposed = true then
        ({ s with pendingRuns := 0, lostToken := true }, { calls := rest, pc := .ready }, .cancelRun true)
      else (s, { calls := rest, pc := .ready }, .cancelRun false)

/-- one atomic step of a consumer at `pc`; `raises k` = the k-th downstream callback raises. -/
def consStep (raises : Nat → Bool) (s : Sys α) (pc : CPc α) : Sys α × CPc α × Lbl α :=
  match pc with
  | .idle =>
    match s.pendingRuns with
    | 0 => (s, .idle, .noop)
    | n + 1 => ({ s with pendingRuns := n }, .atLock, .runBegin)
  | .atLock =>
    match s.queue with
    | x :: q => ({ s with queue := q }, .popped x, .pop x)
    | [] => ({ s with isAcquired := false }, .idle, .release)
  | .popped x => ({ s with delivered := s.delivered ++ [x] }, .delivering x, .dstart x)
  | .delivering _ =>
    if raises (s.delivered.length - 1) then ({ s with raisedG := true }, .faulting, .dend true)
    else (s, .resched, .dend false)
  | .faulting => ({ s with queue := [], hasFaulted := true }, .idle, .fault)
  | .resched => ({ s with pendingRuns := s.pendingRuns + 1, pendingId := s.nextRun, nextRun := s.nextRun + 1 }, .idle, .resched)

/-- one atomic step of a thread executing `dispose()` -/
def dispStep (s : Sys α) (pc : DPc) : Sys α × DPc × Lbl α :=
  match pc with
  | .start => ({ s with isStopped := true }, .stopped, .dstop)
  | .stopped => ({ s with serialDisposed := true, heldId := none }, .flagged s.heldId, .dflag)
  | .flagged none => (s, .done, .cancelRun false)
  | .flagged (some rid) =>
    if s.pendingRuns ≥ 1 ∧ s.pendingId = rid ∧ s.serialDisposed = true then
      ({ s with pendingRuns := 0, lostToken := true }, .done, .cancelRun true)
    else (s, .done, .cancelRun false)
  | .done => (s, .done, .noop)

def stepL (raises : Nat → Bool) (s : Sys α) : Tid → Sys α × Lbl α
  | .prod i =>
    match s.prods[i]? with
    | none => (s, .noop)
    | some p =>
      let (s', p', l) := prodStep s p
      ({ s' with prods := s.prods.set i p' }, l)
  | .cons j =>
    match s.cons[j]? with
    | none => (s, .noop)
    | some pc =>
      let (s', pc', l) := consStep raises s pc
      ({ s' with cons := s.cons.set j pc' }, l)
  | .disp k =>
    match s.disps[k]? with
    | none => (s, .noop)
    | some pc =>
      let (s', pc', l) := dispStep s pc
      ({ s' with disps := s.disps.set k pc' }, l)

def step (raises : Nat → Bool) (s : Sys α) (t : Tid) : Sys α := (stepL raises s t).1

def run (raises : Nat → Bool) (s : Sys α) (sched : List Tid) : Sys α := sched.foldl (step raises) s

/-- run a schedule collecting the labels. -/
def runL (raises : Nat → Bool) (s : Sys α) : List Tid → Sys α × List (Lbl α)
  | [] => (s, [])
  | t :: ts =>
    let (s1, l) := stepL raises s t
    let (s2, ls) := runL raises s1 ts
    (s2, l :: ls)

/-- initial system: producers with their call lists, `nc` idle consumers. -/
def init (progs : List (List (Call α))) (nc : Nat) (nd : Nat := 0) : Sys α :=
  { prods := progs.map fun cs => { calls := cs, pc := .ready }, cons := List.replicate nc .idle,
    disps := List.replicate nd .start }

def prodDone (p : Prod α) : Bool := p.calls.isEmpty

def CPc.isIdle : CPc α → Bool
  | .idle => true
  | _ => false

/-- nothing left to do anywhere: every producer finished all its calls, no `run` is pending on the
scheduler and no consumer is inside `run`. -/
def quiescent (s : Sys α) : Bool :=
  s.prods.all prodDone && s.pendingRuns == 0 && s.cons.all CPc.isIdle && s.disps.all (· == .done)

end Thr.SO
