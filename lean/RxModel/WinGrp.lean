import RxModel.Core
/-!
# WinGrp — `group_by_until` / `group_by` / `partition` as trace machines (L2)

Mirrors, handler by handler,
* `reactivex/operators/_groupbyuntil.py` (`writers` ordered map, `expire()`, the three mapper
  `try` blocks, `group_disposable` + `RefCountDisposable`),
* `reactivex/operators/_groupby.py` (= `group_by_until` with `never()` durations: no `dur` events),
* `reactivex/observable/groupedobservable.py` (a group subscription takes one reference of the
  `RefCountDisposable` and subscribes to the writer `Subject`),
* what they rely on: `Subject` (`is_stopped`, replay of the terminal to late subscribers),
  `RefCountDisposable` (`is_primary_disposed`, `count`, `is_disposed`, `.disposable` getter),
  `CompositeDisposable.add/remove/dispose`, `ops.take(1)` on the duration, the
  `AutoDetachObserver` of every `subscribe` (events addressed to a stopped one are ignored),
* `reactivex/operators/_partition.py`: `publish()` + `ref_count()` + two `filter`s
  (`ConnectableObservable.connect`, `_refcount.py`, `_filter.py`).

One run = one finite list of tagged input events; the machine decides itself which sources are
subscribed.  Output = ordered log of observable effects (`St.out`) plus ghost logs per group.
-/

namespace WinGrp

/-- state of the single subscriber the environment attaches to a group / partition output -/
inductive SubSt where
  | none | active | ended
deriving Repr, DecidableEq, Inhabited

/-- the subscription to a group's duration observable (`sad` + the `take(1)` observer) -/
inductive DurSt where
  | unsub | live | closed
deriving Repr, DecidableEq, Inhabited

/-- One created group: the writer `Subject`, its duration subscription, its (single) subscriber. -/
structure Grp (κ β : Type) where
  key : κ
  stopped : Bool := false          -- writer.is_stopped
  exc : Option Err := none         -- writer.exception (replayed to late subscribers)
  wlog : List (Notif β) := []      -- ghost: notifications accepted by the writer, in order
  expired : Bool := false          -- ghost: `expire()` deleted this group's entry of `writers`
  announced : Bool := false        -- ghost: `observer.on_next(group)` reached the outer subscriber
  dur : DurSt := .unsub
  sub : SubSt := .none
  holdsRef : Bool := false         -- the subscriber holds an `InnerDisposable` of the RefCountDisposable
  seen : List (Notif β) := []      -- what the subscriber was delivered
  dcnt : Nat := 0                  -- group-derived duration `g.pipe(skip n)`: elements still to be skipped
  subLate : Bool := false          -- the subscriber subscribed after the duration observer (late subscription)
deriving Repr

/-- Observable effects, in the order they happen. -/
inductive Eff (κ β : Type) where
  | outer (n : Notif (Nat × κ))        -- delivered to the outer subscriber (`next (g, key)` = group #g)
  | tap (g : Nat) (n : Notif β)        -- accepted by writer #g (what an observer attached at creation sees)
  | grp (g : Nat) (n : Notif β)        -- delivered to the subscriber of group #g
  | subDur (g : Nat)
  | unsubDur (g : Nat)
  | unsubSrc
  | escaped (e : Err)                  -- exception escaping to the emitter (`writers[key]` KeyError in expire)
deriving Repr

/-- Tagged input events. -/
inductive Ev (α : Type) where
  | src (n : Notif α)                  -- the source emits n
  | dur (g : Nat) (n : Notif Unit)     -- the duration observable of group #g emits n (its value is ignored)
  | disposeOuter                       -- the outer subscription is disposed
  | subGroup (g : Nat)                 -- a fresh observer subscribes to group #g (late subscription)
  | disposeGroup (g : Nat)             -- the subscriber of group #g disposes its subscription
deriving Repr

structure St (κ β : Type) where
  groups : List (Grp κ β) := []
  writers : List (κ × Nat) := []       -- the OrderedDict key -> writer (writer = group index)
  srcStopped : Bool := false           -- AutoDetachObserver of the source subscription
  srcOpen : Bool := true               -- the source subscription has not been disposed yet
  outStopped : Bool := false           -- AutoDetachObserver of the outer subscriber
  primary : Bool := false              -- RefCountDisposable.is_primary_disposed
  count : Nat := 0                     -- RefCountDisposable.count
  rcdDisposed : Bool := false          -- RefCountDisposable.is_disposed (= group_disposable disposed)
  out : List (Eff κ β) := []
  srcDone : Bool := false              -- ghost: the source's terminal reached the operator (while it was subscribed)
  failed : Bool := false               -- ghost: an error-all ran (raising mapper, failing duration, source error)
deriving Repr

/-- User callbacks and the environment's fixed choices. -/
structure Cfg (α κ β : Type) where
  keyEq : κ → κ → Bool                 -- Python `==`/hash of dict keys
  keyMapper : α → Except Err κ
  elemMapper : α → Except Err β
  subjMapper : Nat → Except Err Unit   -- subject_mapper() for would-be group #g
  durMapper : Nat → Except Err Unit    -- duration_mapper(group #g); the observable it returns is source `dur g`
  dsync : Nat → Option (Notif Unit)    -- what duration #g emits synchronously inside its own subscribe (none: nothing)
  imm : Nat → Bool                     -- the outer subscriber subscribes to group #g inside its on_next
  /-- `some n`: duration #g is derived from the group itself, `g.pipe(skip n)` / `g.pipe(take 1)` (n = 0): its
  observer sits in the writer's observer list (after the subscriber attached inside the outer on_next, before
  later subscribers) and fires on the (n+1)-th element the writer delivers -/
  dgrp : Nat → Option Nat := fun _ => none
  /-- re-entrancy: the elements the outer subscriber pushes into the source (a Subject) synchronously from inside its
  `on_next(group #g)`, after subscribing to the group; groups created by those nested elements trigger no further feedback -/
  nest : Nat → List α := fun _ => []

variable {α κ β : Type}

def emit (s : St κ β) (e : Eff κ β) : St κ β := { s with out := s.out ++ [e] }

def modGrp (s : St κ β) (g : Nat) (f : Grp κ β → Grp κ β) : St κ β :=
  { s with groups := s.groups.modify g f }

/-- dispose the `sad` of group g (if its duration subscription is live the hot duration is unsubscribed) -/
def closeDur (s : St κ β) (g : Nat) : St κ β :=
  match s.groups[g]? with
  | some r => if r.dur = .live then emit (modGrp s g fun r => { r with dur := .closed }) (.unsubDur g) else s
  | none => s

/-- indices (from `i`) of the groups whose duration subscription is live -/
def liveDurs : List (Grp κ β) → Nat → List Nat
  | [], _ => []
  | r :: rs, i => if r.dur = .live then i :: liveDurs rs (i + 1) else liveDurs rs (i + 1)

def closeSrc (s : St κ β) : St κ β :=
  if s.srcOpen then emit { s with srcOpen := false } .unsubSrc else s

/-- `group_disposable.dispose()`: the source subscription (added first), then every `sad` still held. -/
def gdDispose (s : St κ β) : St κ β :=
  let s := closeSrc { s with srcStopped := true }
  (liveDurs s.groups 0).foldl closeDur s

/-- `RefCountDisposable.dispose()` -/
def rcdDispose (s : St κ β) : St κ β :=
  if s.rcdDisposed then s
  else if !s.primary then
    let s := { s with primary := true }
    if s.count == 0 then gdDispose { s with rcdDisposed := true } else s
  else s

/-- `RefCountDisposable.release()` (from an `InnerDisposable`) -/
def rcdRelease (s : St κ β) : St κ β :=
  if s.rcdDisposed then s
  else
    let s := { s with count := s.count - 1 }
    if s.count == 0 && s.primary then gdDispose { s with rcdDisposed := true } else s

/-- the subscription of group g's subscriber is disposed (by its AutoDetachObserver after a terminal,
or by the user): `CompositeDisposable(inner_ref, writer_subscription).dispose()` -/
def subEnd (s : St κ β) (g : Nat) : St κ β :=
  match s.groups[g]? with
  | some r =>
    let s := modGrp s g fun r => { r with sub := .ended, holdsRef := false }
    if r.holdsRef then rcdRelease s else s
  | none => s

/-- `writer.on_next(v)` (Subject) -/
def writerNext (s : St κ β) (g : Nat) (v : β) : St κ β :=
  match s.groups[g]? with
  | some r =>
    if r.stopped then s
    else
      let s := emit (modGrp s g fun r => { r with wlog := r.wlog ++ [.next v] }) (.tap g (.next v))
      if r.sub = .active then
        emit (modGrp s g fun r => { r with seen := r.seen ++ [.next v] }) (.grp g (.next v))
      else s
  | none => s

def excOf : Notif β → Option Err
  | .error e => some e
  | _ => none

/-- `writer.on_error(e)` / `writer.on_completed()` (Subject): n is the terminal -/
def writerTerm (s : St κ β) (g : Nat) (n : Notif β) : St κ β :=
  match s.groups[g]? with
  | some r =>
    if r.stopped then s
    else
      let s := emit (modGrp s g fun r => { r with stopped := true, exc := excOf n, wlog := r.wlog ++ [n] }) (.tap g n)
      if r.sub = .active then
        subEnd (emit (modGrp s g fun r => { r with seen := r.seen ++ [n] }) (.grp g n)) g
      else s
  | none => s

/-- `for wrt in writers.values(): wrt.on_error(e)` / `.on_completed()` -/
def termAll (s : St κ β) (n : Notif β) : St κ β :=
  (s.writers.map (·.2)).foldl (fun s g => writerTerm s g n) s

/-- `observer.on_error(e)` / `observer.on_completed()` on the outer AutoDetachObserver -/
def outerTerm (s : St κ β) (n : Notif (Nat × κ)) : St κ β :=
  if s.outStopped then s
  else rcdDispose (emit { s with outStopped := true } (.outer n))

def errorAll (s : St κ β) (e : Err) : St κ β :=
  outerTerm (termAll { s with failed := true } (.error e)) (.error e)

/-- `group.subscribe(observer)` for an announced group that has no subscriber yet:
`CompositeDisposable(merged_disposable.disposable, writer.subscribe(observer))`. -/
def subscribeGroup (s : St κ β) (g : Nat) : St κ β :=
  match s.groups[g]? with
  | some r =>
    if r.sub ≠ .none ∨ r.announced = false then s
    else
      -- `.disposable` getter: `Disposable()` when the RefCountDisposable is disposed, else count += 1
      let held := !s.rcdDisposed
      let s := { s with count := if held then s.count + 1 else s.count }
      if !r.stopped then modGrp s g fun r => { r with sub := .active, holdsRef := held }
      else
        -- Subject._subscribe_core on a stopped subject: replay the terminal; the observer's
        -- AutoDetachObserver then disposes the subscription as soon as it is assigned
        let n : Notif β := match r.exc with | some e => .error e | none => .completed
        subEnd (emit (modGrp s g fun r => { r with sub := .active, holdsRef := held, seen := r.seen ++ [n] }) (.grp g n)) g
  | none => s

/-- a late subscription (event `subGroup g`): the observer joins the writer's observers after the duration observer -/
def subscribeLate (s : St κ β) (g : Nat) : St κ β :=
  match s.groups[g]? with
  | some r =>
    if r.sub = .none ∧ r.announced = true then modGrp (subscribeGroup s g) g fun r => { r with subLate := true }
    else s
  | none => s

/-- `expire()` of group g -/
def expire (cfg : Cfg α κ β) (s : St κ β) (g : Nat) : St κ β :=
  match s.groups[g]? with
  | some r =>
    match s.writers.find? (fun p => cfg.keyEq p.1 r.key) with
    | none => emit s (.escaped "KeyError")          -- `writers[key]` raises (unreachable from a live duration: `C19.expire_never_keyerror`)
    | some _ =>
      -- `if writers[key]:` is a truthiness test on a Subject object: always true
      let s := modGrp { s with writers := s.writers.eraseP (fun p => cfg.keyEq p.1 r.key) } g
                 fun r => { r with expired := true }            -- del writers[key]
      let s := writerTerm s g .completed                        -- writer.on_completed()  (the closure's writer)
      if s.rcdDisposed then s else closeDur s g                 -- group_disposable.remove(sad)
  | none => s

/-- the `take(1)` observer of duration #g receives n -/
def durFire (cfg : Cfg α κ β) (s : St κ β) (g : Nat) : Notif Unit → St κ β
  | .error e => closeDur (errorAll s e) g          -- on_error: all writers + outer; finally dispose
  | _ => closeDur (expire cfg s g) g               -- on_next → take(1) completes → expire(); on_completed → expire()

def durEvent (cfg : Cfg α κ β) (s : St κ β) (g : Nat) (n : Notif Unit) : St κ β :=
  match s.groups[g]? with
  | some r => if r.dur = .live then durFire cfg s g n else s
  | none => s

/-- `element = element_mapper(x)` … `writer.on_next(element)` -/
def pushElem (cfg : Cfg α κ β) (s : St κ β) (g : Nat) (x : α) : St κ β :=
  match cfg.elemMapper x with
  | .error e => errorAll s e
  | .ok v => writerNext s g v

/-- the part of `on_next` after `duration_mapper` succeeded for the new group g -/
def announce (cfg : Cfg α κ β) (s : St κ β) (g : Nat) (k : κ) : St κ β :=
  -- observer.on_next(group)
  let s := if s.outStopped then s
           else
             let s := emit (modGrp s g fun r => { r with announced := true }) (.outer (.next (g, k)))
             if cfg.imm g then subscribeGroup s g else s
  -- sad = SingleAssignmentDisposable(); group_disposable.add(sad); sad.disposable = duration.pipe(take(1)).subscribe(..)
  match cfg.dsync g with
  | some n => durFire cfg s g n
  | none =>
    let s := emit (modGrp s g fun r => { r with dur := .live }) (.subDur g)
    if s.rcdDisposed then closeDur s g else s

/-- the source's `on_next(x)` handler -/
def srcNext (cfg : Cfg α κ β) (s : St κ β) (x : α) : St κ β :=
  match cfg.keyMapper x with
  | .error e => errorAll s e
  | .ok k =>
    match s.writers.find? (fun p => cfg.keyEq p.1 k) with
    | some p => pushElem cfg s p.2 x        -- `if not writer:` — a Subject is always truthy, so only a missing key creates
    | none =>
      let g := s.groups.length
      match cfg.subjMapper g with
      | .error e => errorAll s e
      | .ok _ =>
        let s := { s with groups := s.groups ++ [{ key := k }], writers := s.writers ++ [(k, g)] }
        match cfg.durMapper g with
        | .error e => errorAll s e
        | .ok _ => pushElem cfg (announce cfg s g k) g x

def step (cfg : Cfg α κ β) (s : St κ β) : Ev α → St κ β
  | .src (.next x) => if s.srcStopped then s else srcNext cfg s x
  | .src (.error e) => if s.srcStopped then s else closeSrc (errorAll { s with srcStopped := true, srcDone := true } e)
  | .src .completed =>
    if s.srcStopped then s
    else closeSrc (outerTerm (termAll { s with srcStopped := true, srcDone := true } .completed) .completed)
  | .dur g n => durEvent cfg s g n
  | .disposeOuter => rcdDispose { s with outStopped := true }
  | .subGroup g => subscribeLate s g
  | .disposeGroup g =>
    match s.groups[g]? with
    | some r => if r.sub = .active then subEnd s g else s
    | none => s

def run (cfg : Cfg α κ β) (s : St κ β) : List (Ev α) → St κ β
  | [] => s
  | e :: es => run cfg (step cfg s e) es

/-- state right after `subscribe` -/
def init : St κ β := {}

/-! ## durations derived from the group itself (`duration_mapper = lambda g: g.pipe(ops.skip(n))`)

The duration observer is one of the writer Subject's observers.  `Subject.on_next/on_error/on_completed` iterate the
observers in subscription order: (tap,) the subscriber attached inside the outer `on_next(group)`, the duration
observer, subscribers attached later.  So the duration fires *inside* `writer.on_next(element)` (re-entrant
`expire()`), and the writer's own terminal reaches the duration observer too (re-entrant `expire()` on completion —
with the loops over `list(writers.values())`, fix `C19_completion_mutates_writers` — and a nested error-all on error).
`step` above is the machine without such durations; `stepD` is the general one and equals `step` when
`cfg.dgrp = fun _ => none` (`C19.stepD_eq_step`). -/

/-- `writer.on_next(v)` when the duration of group g may be derived from the group -/
def writerNextD (cfg : Cfg α κ β) (s : St κ β) (g : Nat) (v : β) : St κ β :=
  match s.groups[g]? with
  | some r =>
    if r.stopped then s
    else if r.dur = .live ∧ (cfg.dgrp g).isSome = true then
      if r.dcnt = 0 then
        -- tap and the early subscriber get v, then the duration observer: skip exhausted → take(1) → on_completed →
        -- expire() completes the writer inside its own on_next; a late subscriber is stopped before its turn comes
        let s := emit (modGrp s g fun r => { r with wlog := r.wlog ++ [.next v] }) (.tap g (.next v))
        let s := if r.sub = .active ∧ r.subLate = false then
                   emit (modGrp s g fun r => { r with seen := r.seen ++ [.next v] }) (.grp g (.next v))
                 else s
        durFire cfg s g (.next ())
      else writerNext (modGrp s g fun r => { r with dcnt := r.dcnt - 1 }) g v
    else writerNext s g v
  | none => s

/-- `writer.on_error(e)` / `writer.on_completed()` when the duration of group g may be derived from the group;
`errAll` is the (nested) `for wrt in writers…: wrt.on_error(e); observer.on_error(e)` of the duration's on_error -/
def writerTermWith (cfg : Cfg α κ β) (errAll : St κ β → Err → St κ β) (s : St κ β) (g : Nat) (n : Notif β) : St κ β :=
  match s.groups[g]? with
  | some r =>
    if r.stopped then s
    else if r.dur = .live ∧ (cfg.dgrp g).isSome = true then
      let s := emit (modGrp s g fun r => { r with stopped := true, exc := excOf n, wlog := r.wlog ++ [n] }) (.tap g n)
      -- the early subscriber
      let s := if r.sub = .active ∧ r.subLate = false then
                 subEnd (emit (modGrp s g fun r => { r with seen := r.seen ++ [n] }) (.grp g n)) g
               else s
      -- the duration observer: completion → take(1) completes → expire(); error → its on_error handler
      let s := match n with
               | .error e => closeDur (errAll s e) g
               | _ => durFire cfg s g .completed
      -- a late subscriber
      if r.sub = .active ∧ r.subLate = true then
        subEnd (emit (modGrp s g fun r => { r with seen := r.seen ++ [n] }) (.grp g n)) g
      else s
    else writerTerm s g n
  | none => s

/-- error-all with nested error-alls of group-derived durations; `fuel` bounds the nesting (each level stops a writer) -/
def errorAllD (cfg : Cfg α κ β) : Nat → St κ β → Err → St κ β
  | 0, s, e => errorAll s e
  | fuel + 1, s, e =>
    outerTerm ((s.writers.map (·.2)).foldl (fun s g => writerTermWith cfg (errorAllD cfg fuel) s g (.error e)) s) (.error e)

def errAllD (cfg : Cfg α κ β) (s : St κ β) (e : Err) : St κ β :=
  errorAllD cfg (s.writers.length + 1) { s with failed := true } e

/-- `for wrt in list(writers.values()): wrt.on_completed()` -/
def completeAllD (cfg : Cfg α κ β) (s : St κ β) : St κ β :=
  (s.writers.map (·.2)).foldl (fun s g => writerTermWith cfg (fun s _ => s) s g .completed) s

def durFireD (cfg : Cfg α κ β) (s : St κ β) (g : Nat) : Notif Unit → St κ β
  | .error e => closeDur (errAllD cfg s e) g
  | _ => closeDur (expire cfg s g) g

def durEventD (cfg : Cfg α κ β) (s : St κ β) (g : Nat) (n : Notif Unit) : St κ β :=
  match s.groups[g]? with
  | some r => if r.dur = .live ∧ (cfg.dgrp g).isSome = false then durFireD cfg s g n else s
  | none => s

def pushElemD (cfg : Cfg α κ β) (s : St κ β) (g : Nat) (x : α) : St κ β :=
  match cfg.elemMapper x with
  | .error e => errAllD cfg s e
  | .ok v => writerNextD cfg s g v

def announceD (cfg : Cfg α κ β) (s : St κ β) (g : Nat) (k : κ) : St κ β :=
  let s := if s.outStopped then s
           else
             let s := emit (modGrp s g fun r => { r with announced := true }) (.outer (.next (g, k)))
             if cfg.imm g then subscribeGroup s g else s
  match cfg.dgrp g with
  | some n =>
    -- duration = group.pipe(skip n): its observer joins the writer's observers now
    let s := emit (modGrp s g fun r => { r with dur := .live, dcnt := n }) (.subDur g)
    if s.rcdDisposed then closeDur s g else s
  | none =>
    match cfg.dsync g with
    | some n => durFireD cfg s g n
    | none =>
      let s := emit (modGrp s g fun r => { r with dur := .live }) (.subDur g)
      if s.rcdDisposed then closeDur s g else s

def srcNextD (cfg : Cfg α κ β) (s : St κ β) (x : α) : St κ β :=
  match cfg.keyMapper x with
  | .error e => errAllD cfg s e
  | .ok k =>
    match s.writers.find? (fun p => cfg.keyEq p.1 k) with
    | some p => pushElemD cfg s p.2 x
    | none =>
      let g := s.groups.length
      match cfg.subjMapper g with
      | .error e => errAllD cfg s e
      | .ok _ =>
        let s := { s with groups := s.groups ++ [{ key := k }], writers := s.writers ++ [(k, g)] }
        match cfg.durMapper g with
        | .error e => errAllD cfg s e
        | .ok _ => pushElemD cfg (announceD cfg s g k) g x

def stepD (cfg : Cfg α κ β) (s : St κ β) : Ev α → St κ β
  | .src (.next x) => if s.srcStopped then s else srcNextD cfg s x
  | .src (.error e) => if s.srcStopped then s else closeSrc (errAllD cfg { s with srcStopped := true, srcDone := true } e)
  | .src .completed =>
    if s.srcStopped then s
    else closeSrc (outerTerm (completeAllD cfg { s with srcStopped := true, srcDone := true }) .completed)
  | .dur g n => durEventD cfg s g n
  | .disposeOuter => rcdDispose { s with outStopped := true }
  | .subGroup g => subscribeLate s g
  | .disposeGroup g =>
    match s.groups[g]? with
    | some r => if r.sub = .active then subEnd s g else s
    | none => s

def runD (cfg : Cfg α κ β) (s : St κ β) : List (Ev α) → St κ β
  | [] => s
  | e :: es => runD cfg (stepD cfg s e) es


/-! ### re-entrant elements: the outer subscriber feeds the source from inside `on_next(group)`

`writers[key] = writer` is executed BEFORE `observer.on_next(group)`: a nested element of the same key finds the writer and is
delivered to the (already subscribed) group before the element that created it; the duration is subscribed only after the
outer `on_next` returned.  `stepN` = `stepD` with this feedback; equal to `stepD` when `cfg.nest = fun _ => []`. -/

def announceN (cfg : Cfg α κ β) (s : St κ β) (g : Nat) (k : κ) : St κ β :=
  let s := if s.outStopped then s
           else
             let s := emit (modGrp s g fun r => { r with announced := true }) (.outer (.next (g, k)))
             let s := if cfg.imm g then subscribeGroup s g else s
             -- the feedback: nested `source.on_next(y)` calls, each through the source's AutoDetachObserver
             (cfg.nest g).foldl (fun s y => if s.srcStopped then s else srcNextD cfg s y) s
  match cfg.dgrp g with
  | some n =>
    let s := emit (modGrp s g fun r => { r with dur := .live, dcnt := n }) (.subDur g)
    if s.rcdDisposed then closeDur s g else s
  | none =>
    match cfg.dsync g with
    | some n => durFireD cfg s g n
    | none =>
      let s := emit (modGrp s g fun r => { r with dur := .live }) (.subDur g)
      if s.rcdDisposed then closeDur s g else s

def srcNextN (cfg : Cfg α κ β) (s : St κ β) (x : α) : St κ β :=
  match cfg.keyMapper x with
  | .error e => errAllD cfg s e
  | .ok k =>
    match s.writers.find? (fun p => cfg.keyEq p.1 k) with
    | some p => pushElemD cfg s p.2 x
    | none =>
      let g := s.groups.length
      match cfg.subjMapper g with
      | .error e => errAllD cfg s e
      | .ok _ =>
        let s := { s with groups := s.groups ++ [{ key := k }], writers := s.writers ++ [(k, g)] }
        match cfg.durMapper g with
        | .error e => errAllD cfg s e
        | .ok _ => pushElemD cfg (announceN cfg s g k) g x

def stepN (cfg : Cfg α κ β) (s : St κ β) : Ev α → St κ β
  | .src (.next x) => if s.srcStopped then s else srcNextN cfg s x
  | e => stepD cfg s e

def runN (cfg : Cfg α κ β) (s : St κ β) : List (Ev α) → St κ β
  | [] => s
  | e :: es => runN cfg (stepN cfg s e) es

/-! ## partition: `publish()` + `ref_count()` + two `filter`s -/
namespace Part

/-- one subscription ("slot") to one of the two outputs -/
structure Slot (α : Type) where
  second : Bool                   -- false: first output `filter(predicate)`, true: `filter(not_predicate)`
  st : SubSt := .none
  idx : Nat := 0                  -- `count` of filter_indexed
  seen : List (Notif α) := []
deriving Repr

inductive Eff (α : Type) where
  | got (j : Nat) (n : Notif α)
  | subSrc
  | unsubSrc
deriving Repr

inductive Ev (α : Type) where
  | src (n : Notif α)
  | sub (j : Nat)
  | disp (j : Nat)
deriving Repr

structure St (α : Type) where
  slots : List (Slot α)
  observers : List Nat := []      -- publish's Subject.observers (slot ids, subscription order)
  subjStopped : Bool := false
  subjExc : Option Err := none
  count : Nat := 0                -- ref_count's `count`
  hasSub : Bool := false          -- ConnectableObservable.has_subscription
  connSome : Bool := false        -- `connectable_subscription is not None`
  connDisposed : Bool := false    -- that CompositeDisposable is disposed (then it is empty, hence falsy)
  connLive : Bool := false        -- AutoDetachObserver between the source and the Subject not stopped
  connOpen : Bool := false        -- source subscription of the current connection not yet disposed
  out : List (Eff α) := []
deriving Repr

variable {α : Type}

def emit (s : St α) (e : Eff α) : St α := { s with out := s.out ++ [e] }
def modSlot (s : St α) (j : Nat) (f : Slot α → Slot α) : St α := { s with slots := s.slots.modify j f }

/-- `connectable_subscription.dispose()`: CompositeDisposable(source subscription, Disposable(has_subscription=False)) -/
def connDispose (s : St α) : St α :=
  if s.connDisposed then s
  else
    let s := { s with connDisposed := true, connLive := false, hasSub := false }
    if s.connOpen then emit { s with connOpen := false } .unsubSrc else s

/-- the `dispose` closure of `ref_count`'s subscribe, for slot j -/
def refDispose (s : St α) (j : Nat) : St α :=
  let s := { s with observers := s.observers.filter (· != j) }   -- subscription.dispose(): InnerSubscription
  let s := { s with count := s.count - 1 }
  -- `if not count and connectable_subscription:` — truthiness of a CompositeDisposable is `len(...) > 0`:
  -- false exactly when it has been disposed (then dispose() would be a no-op anyway)
  if s.count == 0 && s.connSome && !s.connDisposed then connDispose s else s

/-- slot j's chain of AutoDetachObservers ends (terminal delivered, or user dispose) -/
def slotEnd (s : St α) (j : Nat) : St α :=
  refDispose (modSlot s j fun r => { r with st := .ended }) j

def deliverTerm (s : St α) (j : Nat) (n : Notif α) : St α :=
  match s.slots[j]? with
  | some r =>
    if r.st = .active then slotEnd (emit (modSlot s j fun r => { r with seen := r.seen ++ [n] }) (.got j n)) j
    else s
  | none => s

/-- `filter(predicate)` / `filter_indexed` on_next of slot j -/
def filterNext (indexed : Bool) (pred : α → Nat → Except Err Bool) (s : St α) (j : Nat) (v : α) : St α :=
  match s.slots[j]? with
  | some r =>
    if r.st ≠ .active then s
    else
      match pred v r.idx with
      | .error e => deliverTerm s j (.error e)
      | .ok b =>
        let s := if indexed then modSlot s j fun r => { r with idx := r.idx + 1 } else s
        -- second output: `not predicate(x)`
        if (if r.second then !b else b) then
          emit (modSlot s j fun r => { r with seen := r.seen ++ [.next v] }) (.got j (.next v))
        else s
  | none => s

/-- `published.subscribe` for slot j (through the filter) -/
def subscribe (s : St α) (j : Nat) : St α :=
  match s.slots[j]? with
  | some r =>
    if r.st ≠ .none then s
    else
      let s := { s with count := s.count + 1 }
      let shouldConnect := s.count == 1
      -- subscription = source.subscribe(observer)  (the Subject)
      let replay := s.subjStopped
      let s := if !replay then { modSlot s j (fun r => { r with st := .active }) with observers := s.observers ++ [j] }
               else
                 let n : Notif α := match s.subjExc with | some e => .error e | none => .completed
                 emit (modSlot s j fun r => { r with st := .ended, seen := r.seen ++ [n] }) (.got j n)
      -- if should_connect: connectable_subscription = source.connect(scheduler)
      let s := if shouldConnect then
                 if !s.hasSub then
                   emit { s with hasSub := true, connSome := true, connDisposed := false, connLive := true, connOpen := true } .subSrc
                 else { s with connSome := true }
               else s
      -- a replayed terminal already disposed the observer: the returned Disposable is disposed at assignment
      if replay then refDispose s j else s
  | none => s

def step (indexed : Bool) (pred : α → Nat → Except Err Bool) (s : St α) : Ev α → St α
  | .src (.next v) =>
    if !s.connLive then s
    else if s.subjStopped then s
    else s.observers.foldl (fun s j => filterNext indexed pred s j v) s
  | .src n =>    -- terminal
    if !s.connLive then s
    else
      let s := { s with connLive := false }
      let s := if s.subjStopped then s
               else
                 let obs := s.observers
                 let s := { s with subjStopped := true, subjExc := excOf n, observers := [] }
                 obs.foldl (fun s j => deliverTerm s j n) s
      -- finally: the connection's AutoDetachObserver disposes the source subscription
      if s.connOpen then emit { s with connOpen := false } .unsubSrc else s
  | .sub j => subscribe s j
  | .disp j =>
    match s.slots[j]? with
    | some r => if r.st = .active then slotEnd s j else s
    | none => s

def run (indexed : Bool) (pred : α → Nat → Except Err Bool) (s : St α) : List (Ev α) → St α
  | [] => s
  | e :: es => run indexed pred (step indexed pred s e) es

end Part

end WinGrp
