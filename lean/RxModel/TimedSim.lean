import RxModel.TimedWin
import RxModel.TimedRate
import RxModel.TimedMap
/-!
# TimedSim — a small virtual-time scheduler that executes the operators' handler functions

`RxModel/TimedWin.lean` / `TimedRate.lean` define the two-stream runs with the scheduler's `(due, seq)` rule inlined as
a comparison (`due < t`: "the timer runs before a source message at `t`").  Here the rule is *not* inlined: there is a
queue of scheduled items kept in `(due time, insertion order)` order (`insertEv`: a new item goes behind every item whose
due time is not later — `VirtualTimeScheduler` / `PriorityQueue`), the clock is the due time of the item being run (or
stays where it is for an item due in the past), the source's messages are scheduled first (a hot observable schedules
them when it is created), and the operator's timers are scheduled when its handlers run.  The handlers are the SAME
functions the two-stream runs use (`debOnNext`, `debAction`, `toOnNext`, `toAction`, …).
`RxProofs/Lemmas/TimedSim.lean` proves `sim = two-stream run`.
-/

namespace Timed

/-- a scheduled item: a message of the (hot) source, or an action scheduled by the operator (payload `P`) -/
inductive SItem (α P : Type) where
  | src (n : Notif α)
  | timer (p : P)

def SItem.isTimer {α P} : SItem α P → Bool
  | .timer _ => true
  | .src _ => false

/-- what a handler does to the operator's timer container (a `SerialDisposable`, or the one timer it armed):
nothing; dispose it; assign a newly scheduled action (which disposes the previous one) -/
inductive TEff (P : Type) where
  | keep
  | cancel
  | arm (due : Nat) (p : P)

structure SimOp (σ α β P : Type) where
  /-- a source notification at clock `now` -/
  onSrc : Nat → σ → Notif α → σ × List (Notif β) × TEff P
  /-- the scheduled action at clock `now`; the flag asks for the fallback observable to be subscribed -/
  onTimer : Nat → σ → P → σ × List (Notif β) × Bool

abbrev SQueue (α P : Type) := List (Nat × SItem α P)

def cancelTimers {α P} (q : SQueue α P) : SQueue α P := q.filter (fun it => !it.2.isTimer)

def applyEff {α P} : TEff P → SQueue α P → SQueue α P
  | .keep, q => q
  | .cancel, q => cancelTimers q
  | .arm due p, q => insertEv (due, .timer p) (cancelTimers q)

/-- does a list of downstream calls contain a terminal (then the subscriber's `AutoDetachObserver` disposes everything) -/
def hasTerm {β} (out : List (Notif β)) : Bool := out.any (fun n => !isNext n)

/-- the scheduler loop: take the first item of the queue, move the clock, run it.  `fuel` bounds the number of items
run (every source item schedules at most one action and actions schedule nothing, so `2·messages + 2` suffices). -/
def simRun {σ α β P} (op : SimOp σ α β P) (other : Nat → TL β) : Nat → Nat → SQueue α P → σ → TL β
  | 0, _, _, _ => []
  | _ + 1, _, [], _ => []
  | fuel + 1, clk, (due, it) :: q, s =>
    match it with
    | .src n =>
      at_ (max clk due) (op.onSrc (max clk due) s n).2.1 ++
        (if hasTerm (op.onSrc (max clk due) s n).2.1 then []
         else simRun op other fuel (max clk due) (applyEff (op.onSrc (max clk due) s n).2.2 q) (op.onSrc (max clk due) s n).1)
    | .timer p =>
      at_ (max clk due) (op.onTimer (max clk due) s p).2.1 ++
        (if (op.onTimer (max clk due) s p).2.2 then other (max clk due)
         else if hasTerm (op.onTimer (max clk due) s p).2.1 then []
         else simRun op other fuel (max clk due) q (op.onTimer (max clk due) s p).1)

/-- the messages of the source as scheduled items, in scheduling order -/
def srcItems {α P} (msgs : TL α) : SQueue α P := msgs.map (fun m => (m.1, SItem.src m.2))

/-- the queue when the source's messages were scheduled first and then (possibly) one operator action -/
def simQueue {α P} (msgs : TL α) : Option (Nat × P) → SQueue α P
  | none => srcItems msgs
  | some (due, p) => insertEv (due, .timer p) (srcItems msgs)

def simStart {σ α β P} (op : SimOp σ α β P) (other : Nat → TL β) (clk : Nat) (tm : Option (Nat × P)) (s : σ)
    (msgs : TL α) : TL β :=
  simRun op other (2 * msgs.length + 2) clk (simQueue msgs tm) s

/-! ## The generic two-stream run (the comparison `due < t` in place of the queue) -/

structure Pre (σ β P : Type) where
  clk : Nat
  tm : Option (Nat × P)
  s : σ
  out : TL β
  halt : Bool

/-- run the pending action if it precedes a source message at `t` (`none`: no more source messages) -/
def preFire {σ α β P} (op : SimOp σ α β P) (other : Nat → TL β) (clk : Nat) (tm : Option (Nat × P)) (s : σ)
    (t : Option Nat) : Pre σ β P :=
  match tm with
  | some (due, p) =>
    if (match t with | none => true | some t => decide (due < t)) then
      { clk := max clk due, tm := none, s := (op.onTimer (max clk due) s p).1,
        out := at_ (max clk due) (op.onTimer (max clk due) s p).2.1 ++
                 (if (op.onTimer (max clk due) s p).2.2 then other (max clk due) else []),
        halt := (op.onTimer (max clk due) s p).2.2 || hasTerm (op.onTimer (max clk due) s p).2.1 }
    else { clk := clk, tm := tm, s := s, out := [], halt := false }
  | none => { clk := clk, tm := none, s := s, out := [], halt := false }

def effTm {P} : TEff P → Option (Nat × P) → Option (Nat × P)
  | .keep, tm => tm
  | .cancel, _ => none
  | .arm due p, _ => some (due, p)

def twoStream {σ α β P} (op : SimOp σ α β P) (other : Nat → TL β) : Nat → Option (Nat × P) → σ → TL α → TL β
  | clk, tm, s, [] => (preFire op other clk tm s none).out
  | clk, tm, s, (t, n) :: rest =>
    (preFire op other clk tm s (some t)).out ++
      (if (preFire op other clk tm s (some t)).halt then []
       else
        at_ (max (preFire op other clk tm s (some t)).clk t)
            (op.onSrc (max (preFire op other clk tm s (some t)).clk t) (preFire op other clk tm s (some t)).s n).2.1 ++
          (if hasTerm (op.onSrc (max (preFire op other clk tm s (some t)).clk t) (preFire op other clk tm s (some t)).s n).2.1
           then []
           else twoStream op other (max (preFire op other clk tm s (some t)).clk t)
                  (effTm (op.onSrc (max (preFire op other clk tm s (some t)).clk t) (preFire op other clk tm s (some t)).s n).2.2
                     (preFire op other clk tm s (some t)).tm)
                  (op.onSrc (max (preFire op other clk tm s (some t)).clk t) (preFire op other clk tm s (some t)).s n).1 rest))

/-! ## The operators as `SimOp`s — nothing but their handler functions -/

/-- debounce: `on_next` assigns a newly scheduled action to `cancelable`, `on_error`/`on_completed` dispose it -/
def debOp {α} (d : Nat) : SimOp (DebSt α) α α Nat where
  onSrc now s n :=
    match n with
    | .next x =>
      (debOnNext d now s x, [],
        match (debOnNext d now s x).timer with
        | some (due, cur) => .arm due cur
        | none => .keep)
    | .error e => ((debOnError s e).1, (debOnError s e).2, .cancel)
    | .completed => ((debOnCompleted s).1, (debOnCompleted s).2, .cancel)
  onTimer _ s cur := ((debAction s cur).1, (debAction s cur).2, false)

/-- timeout: `create_timer()` assigns a newly scheduled action to `timer`; the action switches to the fallback when
`_id[0] == my_id` -/
def toOp {α} (mode : Due) : SimOp ToSt α α ToTimer where
  onSrc now s n :=
    ((toHandle mode now s n).1, (toHandle mode now s n).2,
      match n with
      | .next _ =>
        (match (toHandle (α := α) mode now s n).1.timer with
         | some tm => if s.switched then TEff.keep else .arm tm.due tm
         | none => .keep)
      | _ => .keep)
  onTimer _ s tm := (toAction s tm, [], (toAction s tm).switched)

/-- take_with_time / take_until_with_time: the timer's action is `observer.on_completed()`, the source is relayed -/
def twtOp {α} : SimOp Unit α α Unit where
  onSrc _ s n := (s, [n], .keep)
  onTimer _ s _ := (s, [.completed], false)

/-- skip_with_time / skip_until_with_time: the timer's action opens the gate -/
def swtOp {α} : SimOp Bool α α Unit where
  onSrc _ isOpen n :=
    match n with
    | .next v => (isOpen, swtOnNext isOpen v, .keep)
    | n => (isOpen, [n], .keep)
  onTimer _ _ _ := (true, [], false)

/-- throttle_first owns no timer: its handler reads the clock -/
def tfOp {α} (w : Nat) : SimOp (Option Nat) α α Unit where
  onSrc now last n :=
    match n with
    | .next x => ((tfOnNext w now last x).1, (tfOnNext w now last x).2, .keep)
    | n => (last, [n], .keep)
  onTimer _ s _ := (s, [], false)

/-! ## sample(observable): two pre-scheduled event lists and no timer -/

inductive SampItem (α : Type) where
  | src (n : Notif α)
  | samp (ev : SampEv)

/-- the scheduler loop for `sample`: `srcLive` = the source subscription's observer is not stopped -/
def sampSim {α} : List (Nat × SampItem α) → Bool → SampSt α → TL α
  | [], _, _ => []
  | (t, .src n) :: q, srcLive, s =>
    if srcLive then
      match n with
      | .next v => sampSim q true (sampOnNext s v)
      | .error e => [(t, .error e)]
      | .completed => sampSim q false (sampOnCompleted s)
    else sampSim q false s
  | (k, .samp ev) :: q, srcLive, s =>
    match ev with
    | .tick => at_ k (sampTick s).2 ++ (if s.atEnd then [] else sampSim q srcLive (sampTick s).1)
    | .err e => [(k, .error e)]

def sampSrcItems {α} (msgs : TL α) : List (Nat × SampItem α) := msgs.map (fun m => (m.1, SampItem.src m.2))
def sampTickItems {α} (ticks : List (Nat × SampEv)) : List (Nat × SampItem α) := ticks.map (fun m => (m.1, SampItem.samp m.2))

/-! ## Resources: what is live, what `dispose` of the returned disposable releases (C02/C03 support)

Small-step version of `simRun` with the resources made explicit: the source subscription (`srcLive`), the scheduled
actions still in the queue (`timersOf`), the fallback subscription of timeout (`otherLive`).  Every one of the operators
here returns `CompositeDisposable(source subscription, timer container)` (`_debounce.py`: `(subscription, cancelable)`,
`_timeout.py`: `(subscription, timer)` with the fallback assigned into `subscription`, `_takewithtime.py` &c.:
`(disp, source subscription)`), so disposing it — which is also what the subscriber's `AutoDetachObserver` does on a
terminal — disposes the source subscription, the fallback, and the action HELD by the timer container (`held st`).
That this is *every* scheduled action is the invariant proved in `RxProofs/C02Timed.lean`. -/

structure SimSt (σ α P : Type) where
  clk : Nat
  queue : SQueue α P
  st : σ
  srcLive : Bool := true
  otherLive : Bool := false

def timersOf {α P} (q : SQueue α P) : List P :=
  q.filterMap (fun it => match it.2 with | .timer p => some p | .src _ => none)

def SimSt.liveCount {σ α P} (x : SimSt σ α P) : Nat :=
  x.srcLive.toNat + (timersOf x.queue).length + x.otherLive.toNat

/-- dispose the disposable returned by `subscribe` -/
def SimSt.dispose {σ α P} [DecidableEq P] (held : σ → Option P) (x : SimSt σ α P) : SimSt σ α P :=
  { x with
    queue := x.queue.filter (fun it => match it.2 with | .timer p => !(decide (held x.st = some p)) | .src _ => true),
    srcLive := false, otherLive := false }

def simStep {σ α β P} [DecidableEq P] (op : SimOp σ α β P) (held : σ → Option P) (x : SimSt σ α P) :
    Option (SimSt σ α P × TL β) :=
  match x.queue with
  | [] => none
  | (due, .src n) :: q =>
    if x.srcLive then
      let r := op.onSrc (max x.clk due) x.st n
      let x' : SimSt σ α P := { x with clk := max x.clk due, queue := applyEff r.2.2 q, st := r.1 }
      some (if hasTerm r.2.1 then x'.dispose held else x', at_ (max x.clk due) r.2.1)
    else some ({ x with clk := max x.clk due, queue := q }, [])       -- the subscription's observer is stopped
  | (due, .timer p) :: q =>
    let r := op.onTimer (max x.clk due) x.st p
    let x' : SimSt σ α P :=
      { x with clk := max x.clk due, queue := q, st := r.1,
               srcLive := x.srcLive && !r.2.2, otherLive := x.otherLive || r.2.2 }   -- the fallback replaces the source
    some (if hasTerm r.2.1 then x'.dispose held else x', at_ (max x.clk due) r.2.1)

/-- what a handler may do to the timer container, in terms of what the container holds afterwards -/
structure HeldLaws {σ α β P} (op : SimOp σ α β P) (held : σ → Option P) : Prop where
  arm : ∀ now s n due p, (op.onSrc now s n).2.2 = TEff.arm due p → held (op.onSrc now s n).1 = some p
  keep : ∀ now s n p, (op.onSrc now s n).2.2 = TEff.keep → held s = some p → held (op.onSrc now s n).1 = some p

/-- at most one scheduled action, and it is the one the timer container holds -/
def SimSt.Owned {σ α P} (held : σ → Option P) (x : SimSt σ α P) : Prop :=
  (timersOf x.queue).length ≤ 1 ∧ ∀ p ∈ timersOf x.queue, held x.st = some p

def debHeld {α} (s : DebSt α) : Option Nat := s.timer.map (·.2)
def toHeld (s : ToSt) : Option ToTimer := s.timer

/-! ## Re-entrant feedback (theorems: `C16.throttle_first_feedback_rule`, `throttle_first_feedback_inert`,
`sample_feedback_combined_partial`)
The consumer, from inside its `on_next` for its `k`-th element, pushes `echo k` into the same hot source.  The nested
`on_next` runs in the state the operator is in when it calls downstream: for throttle_first after `last_on_next = now`,
for sample after `has_value = False` (and before the `at_end` test).  Echoes do not echo. -/

def tfRunFb {α} (w : Nat) (echo : Nat → Option α) : Nat → Option Nat → TL α → TL α
  | _, _, [] => []
  | k, last, (t, .next x) :: rest =>
    match (tfOnNext w t last x).2 with
    | [] => tfRunFb w echo k (tfOnNext w t last x).1 rest
    | out =>
      match echo k with
      | some e =>
        at_ t out ++ at_ t (tfOnNext w t (tfOnNext w t last x).1 e).2 ++
          tfRunFb w echo (k + 1 + (tfOnNext w t (tfOnNext w t last x).1 e).2.length)
            (tfOnNext w t (tfOnNext w t last x).1 e).1 rest
      | none => at_ t out ++ tfRunFb w echo (k + 1) (tfOnNext w t last x).1 rest
  | _, _, (t, n) :: _ => [(t, n)]

def sampSimFb {α} (echo : Nat → Option α) (isEcho : α → Bool) : Nat → List (Nat × SampItem α) → Bool → SampSt α → TL α
  | _, [], _, _ => []
  | k, (t, .src n) :: q, srcLive, s =>
    if srcLive then
      match n with
      | .next v => sampSimFb echo isEcho k q true (sampOnNext s v)
      | .error e => [(t, .error e)]
      | .completed => sampSimFb echo isEcho k q false (sampOnCompleted s)
    else sampSimFb echo isEcho k q false s
  | k, (tk, .samp ev) :: q, srcLive, s =>
    match ev with
    | .tick =>
      let delivered := s.hasValue && s.value.isSome
      let s1 := (sampTick s).1
      let fresh := match s.value with | some v => !isEcho v | none => false
      let s2 := if delivered && srcLive && fresh then (match echo k with | some e => sampOnNext s1 e | none => s1) else s1
      at_ tk (sampTick s).2 ++ (if s.atEnd then [] else sampSimFb echo isEcho (if delivered then k + 1 else k) q srcLive s2)
    | .err e => [(tk, .error e)]

/-! ### feedback on the scheduler simulation (debounce after `fix: debounce clears its pending flag before emitting …`,
throttle_with_mapper after the corresponding fix)
With the flag cleared / the timestamp recorded BEFORE the downstream call, a nested `on_next` from inside the consumer
finds the operator in the state the handler leaves, and nothing of the handler remains to run afterwards: the echo is
simply the next item the source delivers — pushed at the FRONT of the queue. -/

/-- the echoes the consumer pushes while receiving `out` (delivery counter `k`), and the new counter -/
def echoesOf {α β} (echo : Nat → Option α) (isEcho : β → Bool) : Nat → List (Notif β) → List α × Nat
  | k, [] => ([], k)
  | k, .next v :: rest =>
    match (if isEcho v then none else echo k) with
    | some e => (e :: (echoesOf echo isEcho (k + 1) rest).1, (echoesOf echo isEcho (k + 1) rest).2)
    | none => echoesOf echo isEcho (k + 1) rest
  | k, _ :: _ => ([], k)

def simRunFb {σ α β P} (op : SimOp σ α β P) (other : Nat → TL β) (echo : Nat → Option α) (isEcho : β → Bool) :
    Nat → Nat → Nat → SQueue α P → σ → TL β
  | 0, _, _, _, _ => []
  | _ + 1, _, _, [], _ => []
  | fuel + 1, k, clk, (due, it) :: q, s =>
    match it with
    | .src n =>
      let r := op.onSrc (max clk due) s n
      let es := echoesOf echo isEcho k r.2.1
      at_ (max clk due) r.2.1 ++
        (if hasTerm r.2.1 then []
         else simRunFb op other echo isEcho fuel es.2 (max clk due)
                (es.1.map (fun e => (max clk due, SItem.src (Notif.next e))) ++ applyEff r.2.2 q) r.1)
    | .timer p =>
      let r := op.onTimer (max clk due) s p
      let es := echoesOf echo isEcho k r.2.1
      at_ (max clk due) r.2.1 ++
        (if r.2.2 then other (max clk due)
         else if hasTerm r.2.1 then []
         else simRunFb op other echo isEcho fuel es.2 (max clk due)
                (es.1.map (fun e => (max clk due, SItem.src (Notif.next e))) ++ q) r.1)

/-- an observable returned by a mapper: cold (signals relative to its subscription) or signalling inside `subscribe` -/
inductive InnerObs where
  | cold (tl : List (Nat × Sig))
  | inline (sigs : List Sig)

/-- throttle_with_mapper on a dynamic queue: the throttle observable of an element is scheduled when the element is
handled (`inn c` = the observable the `c`-th mapper call returns); the consumer's echoes go to the front of the queue -/
def twmSimFb {α} (raises : Nat → α → Option Err) (echo : Nat → Option α) (isEcho : α → Bool) (inn : Nat → InnerObs) :
    Nat → Nat → TwmSt α → List (Nat × MEv α) → TL α
  | 0, _, _, _ => []
  | _ + 1, _, _, [] => []
  | fuel + 1, k, s, (t, ev) :: rest =>
    if s.done then [] else
      let r := twmStep raises s ev
      let es := echoesOf echo isEcho k r.out
      let rest1 :=
        match ev with
        | .src (.next x) =>
          (match raises s.count x with
           | some _ => rest
           | none =>
             match inn s.count with
             | .cold tl => tl.foldl (fun q m => insertEv (t + m.1, MEv.inner s.count m.2) q) rest
             | .inline sigs => sigs.map (fun sg => (t, MEv.inner s.count sg)) ++ rest)
        | _ => rest
      at_ t r.out ++
        (if hasTerm r.out then []
         else twmSimFb raises echo isEcho inn fuel es.2 r.st
                (es.1.map (fun e => (t, MEv.src (Notif.next e))) ++ rest1))

end Timed
